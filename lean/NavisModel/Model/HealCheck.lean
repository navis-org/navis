import NavisModel.Model.Heal
/-!
C11, second pass (core Lean only, total, computable):

* the candidate edges of `_stitch_mst` AS WRITTEN: one kd-tree query per node of fragment `b`
  (`frag_a.kd.query(coords_b, distance_upper_bound=max_dist)`), then `np.argmin` over the answers
  (`kdPair`, `quotientEdgesKD`) — proved equal to the specification-style `quotientEdges`
  (minimum over ALL node pairs) in `Proofs/HealCandLemmas.lean`;
* master selection of `stitch_skeletons` incl. `master='SOMA'` (`masterIxS`);
* `heal_skeleton(drop_disc=True)` / `drop_fluff` selection helpers used by the new theorems;
* Lean-side property checkers evaluated by the driver on navis' OWN output:
  `healOKPB` (row-order-free variant of `healOKB`), `healMinOKB` (the added edges are allowed connections
  and their lengths are, as a multiset, those of the minimum spanning forest), `stitchOKWith` /
  `stitchOKB` (ids unique, every input preserved under ONE injective id map that fixes root markers,
  parents / connectors / tags remapped with the same map, nothing added or lost).
-/
namespace Navis.Heal
open Navis.Forest

/-! ### candidate edges as written: kd-tree query per node, then argmin -/

/-- One row of `frag_a.kd.query(coords_b, distance_upper_bound=max_dist)`: the nearest node of fragment
`a` for the node `nb` of fragment `b`, `none` (= `inf`) when no node is strictly closer than `max_dist`. -/
def nnQuery (ca : Table) (fa fb : Int) (o : Opts) (nb : Node) : Option CEdge :=
  best ((ca.map fun na => (⟨sqDist na nb, na.id, nb.id, fa, fb⟩ : CEdge)).filter (withinMax o))

/-- `index_b = np.argmin(distances)`; the pair is skipped when every answer is `inf`. -/
def kdPair (ca cb : Table) (fa fb : Int) (o : Opts) : Option CEdge :=
  best (cb.filterMap (nnQuery ca fa fb o))

/-- The fragment quotient graph the way `_stitch_mst` builds it. -/
def quotientEdgesKD (t : Table) (o : Opts) : List CEdge :=
  let c := cands t o
  (pairs (roots t)).filterMap fun p =>
    kdPair (c.filter fun n => fragOf t n.id == p.1) (c.filter fun n => fragOf t n.id == p.2) p.1 p.2 o

/-! ### master selection -/

inductive MasterS where
  | soma
  | largest
  | first
deriving Repr, DecidableEq

/-- `[i for i, n in enumerate(nl) if n.has_soma][0]` -/
def firstTrue : List Bool → Option Nat
  | [] => none
  | b :: rest => if b then some 0 else (firstTrue rest).map (· + 1)

/-- `stitch_skeletons`: `'SOMA'` falls back to `'LARGEST'` when no neuron has a soma, otherwise picks the
FIRST neuron with a soma; `'LARGEST'` the first of the largest; `'FIRST'` index 0. -/
def masterIxS (m : MasterS) (l : List Skel) (hasSoma : List Bool) : Nat :=
  match m with
  | .first => 0
  | .largest => largestIx l
  | .soma =>
    match firstTrue (hasSoma.take l.length) with
    | some i => i
    | none => largestIx l

/-! ### row-order-free heal checker -/

def key (n : Node) : Int × Int × Int × Int := (n.id, n.x, n.y, n.z)

/-- `healOKB` without the demand that the rows keep their order. -/
def healOKPB (t u : Table) (maxD2 : Option Nat) : Bool :=
  (u.map key).isPerm (t.map key) && wfB u &&
  (uedges t).all (fun e => (uedges u).contains e) &&
  decide ((newEdges t u).length + (roots u).length = (roots t).length) &&
  (newEdges t u).all fun e =>
    match maxD2, edgeD2 t e with
    | none, some _ => true
    | some m, some d => decide (d ≤ m)
    | _, none => false

/-! ### minimality checker -/

/-- The new edges of `u` as candidate edges of `t` (length, end nodes, their fragments). -/
def ceOf (t : Table) (e : Int × Int) : Option CEdge :=
  match find? t e.1, find? t e.2 with
  | some a, some b => some ⟨sqDist a b, a.id, b.id, fragOf t a.id, fragOf t b.id⟩
  | _, _ => none

def newCE (t u : Table) : List CEdge := (newEdges t u).filterMap (ceOf t)

/-- Both ends are candidate nodes (method / min_size / mask) of two different fragments, strictly closer
than `max_dist`. -/
def allowedB (t : Table) (o : Opts) (e : Int × Int) : Bool :=
  match find? t e.1, find? t e.2 with
  | some a, some b =>
    isCand t o a && isCand t o b && (fragOf t a.id != fragOf t b.id) &&
      withinMax o ⟨sqDist a b, a.id, b.id, fragOf t a.id, fragOf t b.id⟩
  | _, _ => false

/-- The edges `u` has in addition to `t` are allowed connections and their squared lengths are, as a
multiset, those of the bridging edges of the model (the minimum spanning forest of the quotient graph). -/
def healMinOKB (t u : Table) (o : Opts) : Bool :=
  (newEdges t u).all (allowedB t o) &&
  ((newCE t u).map (·.d2)).isPerm ((healAdded t o).map (·.d2))

/-! ### stitch checker -/

def nkey (n : Node) : Int × Int × Int × Int × Int := (n.id, n.parent, n.x, n.y, n.z)

/-- Id map of one input read off the combined table by ROW POSITION (`pd.concat` keeps list order). -/
def mapByPos (s : Skel) (slice : Table) : List (Int × Int) := (ids s.nodes).zip (ids slice)

def mapsByPos : List Skel → Table → List (List (Int × Int))
  | [], _ => []
  | s :: rest, out => mapByPos s (out.take s.nodes.length) :: mapsByPos rest (out.drop s.nodes.length)

/-- Id map of one input read off the combined table by COORDINATES (for inputs with distinct coordinates). -/
def mapByCoord (s : Skel) (out : Table) : List (Int × Int) :=
  s.nodes.filterMap fun n =>
    (out.find? fun u => u.x == n.x && u.y == n.y && u.z == n.z).map fun u => (n.id, u.id)

def mapsByCoord (l : List Skel) (out : Table) : List (List (Int × Int)) := l.map fun s => mapByCoord s out

def remapAll (l : List Skel) (maps : List (List (Int × Int))) : List Skel :=
  (l.zip maps).map fun p => remapSkel p.2 p.1

/-- `{tag: [ids]}` as a multiset of `(tag, id)` pairs. -/
def tagPairs (tags : List (Int × List Int)) : List (Int × Int) := tags.flatMap fun tg => tg.2.map fun i => (tg.1, i)

/-- The map only renames node ids (keys ≥ 0, so root markers stay), is injective on the input's ids, and is the
identity on the master. -/
def mapOKB (mIx j : Nat) (s : Skel) (m : List (Int × Int)) : Bool :=
  m.all (fun p => decide (0 ≤ p.1)) && decide (((ids s.nodes).map (remapId m)).Nodup) &&
  (j != mIx || (ids s.nodes).all fun a => remapId m a == a)

def mapsOKB (mIx : Nat) : Nat → List Skel → List (List (Int × Int)) → Bool
  | _, [], [] => true
  | j, s :: l, m :: maps => mapOKB mIx j s m && mapsOKB mIx (j + 1) l maps
  | _, _, _ => false

/-- `out` is an admissible result of stitching / combining `l` with the id maps `maps`:
ids unique; every map admissible; the node rows are exactly the remapped input rows (`fused = false`) or an
admissible healing of them (`fused = true`); connectors and tags are exactly the remapped ones. -/
def stitchOKWith (l : List Skel) (maps : List (List (Int × Int))) (mIx : Nat) (out : Skel) (fused : Bool)
    (maxD2 : Option Nat) : Bool :=
  let r := remapAll l maps
  decide ((ids out.nodes).Nodup) &&
  mapsOKB mIx 0 l maps &&
  (if fused then healOKPB (r.flatMap (·.nodes)) out.nodes maxD2
   else (out.nodes.map nkey).isPerm ((r.flatMap (·.nodes)).map nkey)) &&
  out.conns.isPerm (r.flatMap (·.conns)) &&
  (tagPairs out.tags).isPerm (tagPairs (r.flatMap (·.tags)))

/-- The checker the driver evaluates: the id maps are read off navis' table by row position or, failing
that, by coordinates. -/
def stitchOKB (l : List Skel) (mIx : Nat) (out : Skel) (fused : Bool) (maxD2 : Option Nat) : Bool :=
  stitchOKWith l (mapsByPos l out.nodes) mIx out fused maxD2 ||
  stitchOKWith l (mapsByCoord l out.nodes) mIx out fused maxD2

/-! ### `combine_neurons` for meshes: vertex tables stacked, faces shifted by the vertices before them -/

/-- `tm.util.concatenate`: faces of the `k`-th mesh are shifted by the number of vertices of the meshes
before it. A mesh is `(number of vertices, faces)`. -/
def concatFaces : Nat → List (Nat × List (Nat × Nat × Nat)) → List (Nat × Nat × Nat)
  | _, [] => []
  | off, m :: rest => m.2.map (fun f => (f.1 + off, f.2.1 + off, f.2.2 + off)) ++ concatFaces (off + m.1) rest

end Navis.Heal

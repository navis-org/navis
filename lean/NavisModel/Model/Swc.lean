import NavisModel.Model.Forest
import NavisModel.Gen.Swc
/-!
SWC export / import model for C07 (DESIGN §5 "C07").  Core Lean only, total, computable.

* `makeSwcTable` follows `navis.io.swc_io.make_swc_table` line by line: label rules, the ordering
  (`_node_depths` + `sort_values("_depth", kind="stable")` = `sortByDepth`, a stable sort by the number of
  steps to the root: roots first, every parent before its children), `reset_index`,
  `new_ids = dict(zip(node_id, index + 1))`, `node_id.map(new_ids)`, `parent_id.map(lambda x: new_ids.get(x, -1))`,
  `radius.fillna(0)`.
* HISTORICAL: before the fix "write_swc/make_swc_table lists every parent before its children" the rows were
  ordered with `sort_values("parent_id")` (default quicksort, not stable).  `sortByParent`, `IsParentSort` and
  `makeSwcTableHist` keep that ordering in the model only so that the theorems in `Props/C07.lean` can state
  exactly for which inputs it was wrong; nothing in navis corresponds to them any more.
* `Tok` / `Line` are the token level of a file: the character-level lexer lives in the driver
  (`Drv/C07.lean`, trusted); `parseSwc` mirrors `SwcReader.read_buffer` (leading `#` lines are the header,
  the first `# Meta:` header line carries the JSON properties, `#` lines and blank lines between data rows
  are skipped, at least 7 columns) and `readBack` mirrors `SwcReader.read_dataframe` (soma = first row whose
  label equals `soma_label`, connectors from `connector_labels`).
* `matchFmt` models `BaseReader.parse_filename` for literal-and-`{field[,field][:type]}` patterns; `matchSegs` / `searchSegs`
  are proved sound and complete for decompositions of the file name along the pattern (`Proofs/SwcFmtLemmas.lean`), and
  `fmtConsistentB` is the checker the driver evaluates on navis' own `parse_filename` values.
* AS WRITTEN: `labelsAsWritten` (the sequential `swc.loc[sel, "label"] = code` assignments over the translator's rule list),
  `nodeDepthsW` (`_node_depths`: memo dict, walk, assignment along the reversed path), `sortByDepthW`, `makeSwcTableW`; proved
  equal to `autoLabel` / `depth - 1` / `sortByDepth` / `makeSwcTable` in `Proofs/SwcDepthLemmas.lean`.
* `Header` / `writeH` / `noRows`: the `header=` option on the token level (generated header or the user's lines, verbatim);
  the character level of the same (newline termination, cutting the text into lines) is `Model/SwcText.lean`.
* `terminals`: which parser the `read_*` source methods of `BaseReader` end in (over the translator's call table).
-/
namespace Navis.Swc
open Navis.Forest

/-! ### constants re-extracted from the current source by `translator/gen_swc.py` (`Gen/Swc.lean`) -/
def lblUndefined : Int := Gen.Swc.lblUndefined
def lblSoma : Int := Gen.Swc.lblSoma
def lblBranch : Int := Gen.Swc.lblBranch
def lblEnd : Int := Gen.Swc.lblEnd
def lblPre : Int := Gen.Swc.lblPre
def lblPost : Int := Gen.Swc.lblPost
/-- `new_ids.get(x, -1)` -/
def missingParent : Int := Gen.Swc.missingParent
/-- `swc.index.values + 1` -/
def firstId : Int := Gen.Swc.firstId

/-- One row of `x.nodes` as `make_swc_table` sees it. -/
structure SNode where
  id : Int
  parent : Int
  x : Rat := 0
  y : Rat := 0
  z : Rat := 0
  /-- `none` = NaN -/
  radius : Option Rat := some 0
  /-- the stored `type` column (`root`/`end`/`branch`/`slab`) -/
  type : Label := .slab
  /-- value of a user column, for `labels='<column>'` -/
  custom : Int := 0
  /-- DataFrame index label of the row: `labels=<dict>` is applied with `swc.index.map(labels)` -/
  idx : Int := 0
deriving DecidableEq, Inhabited

/-- The part of a `TreeNeuron` that `write_swc` reads. -/
structure Skel where
  nodes : List SNode
  /-- `utils.make_iterable(x.soma)`; `[]` when `x.soma is None` -/
  soma : List Int := []
  /-- `x.connectors` is a DataFrame -/
  hasConn : Bool := false
  /-- `x.presynapses.node_id` / `x.postsynapses.node_id` -/
  pre : List Int := []
  post : List Int := []
  /-- `str(getattr(x, k, None))` for the attributes that can be written to the header -/
  attrs : List (String × String) := []

def nodeIds (t : List SNode) : List Int := t.map (·.id)

/-- The forest (ids and parent links) of a node table, in the shared model of DESIGN §2.4. -/
def forest (t : List SNode) : Table := t.map fun n => ({ id := n.id, parent := n.parent } : Node)

inductive LabelMode where
  /-- `labels=True` -/
  | auto
  /-- `labels=False` / `None` -/
  | zero
  /-- `labels='<column>'` -/
  | column
  /-- `labels={key: label}`: looked up with the row's *index* label; no entry ⇒ NaN -/
  | byIndex (m : List (Int × Int))

structure Opts where
  labels : LabelMode := .auto
  exportConn : Bool := false

/-- `labels=True`: 0, then branch → 5, end → 6, soma → 1, then (export_connectors) pre → 7, post → 8. -/
def autoLabel (sk : Skel) (exportConn : Bool) (n : SNode) : Int :=
  let l0 := if n.type = .branch then lblBranch else if n.type = .end_ then lblEnd else lblUndefined
  let l1 := if n.id ∈ sk.soma then lblSoma else l0
  if exportConn then
    if n.id ∈ sk.post then lblPost else if n.id ∈ sk.pre then lblPre else l1
  else l1

/-- Which rows a rule `swc.loc[<selector>, "label"] = code` selects (selectors as the translator names them). -/
def selects (sk : Skel) (n : SNode) (sel : String) : Bool :=
  if sel = "type:branch" then n.type = .branch
  else if sel = "type:end" then n.type = .end_
  else if sel = "isin:soma" then n.id ∈ sk.soma
  else if sel = "isin:pre_ids" then n.id ∈ sk.pre
  else if sel = "isin:post_ids" then n.id ∈ sk.post
  else false

/-- `labels=True` as written: `swc["label"] = 0`, then the assignments `swc.loc[sel, "label"] = code` one after the other in
source order (a later rule overwrites an earlier one), the gated ones only with `export_connectors`. -/
def labelsAsWritten (rules : List (String × Int × Bool)) (sk : Skel) (exportConn : Bool) (n : SNode) : Int :=
  rules.foldl (fun l r => if (!r.2.2 || exportConn) && selects sk n r.1 then r.2.1 else l) lblUndefined

/-- The `label` column before sorting (`none` = NaN). -/
def labelOf (op : Opts) (sk : Skel) (n : SNode) : Option Int :=
  match op.labels with
  | .auto => some (autoLabel sk op.exportConn n)
  | .zero => some 0
  | .column => some n.custom
  | .byIndex m => (m.find? (fun kv => kv.1 == n.idx)).map (·.2)

/-- `export_connectors=True` reads `x.presynapses`, which raises without a connector table. -/
def writeRaises (op : Opts) (sk : Skel) : Bool :=
  match op.labels with
  | .auto => op.exportConn && !sk.hasConn
  | _ => false

/-! ### ordering -/

/-- Insert before the first element with a larger-or-equal key (so that a right fold is a stable sort). -/
def insertBy {α : Type} (key : α → Int) (a : α) : List α → List α
  | [] => [a]
  | b :: l => if key a ≤ key b then a :: b :: l else b :: insertBy key a l

/-- Stable insertion sort by an integer key. -/
def isortBy {α : Type} (key : α → Int) (l : List α) : List α := l.foldr (insertBy key) []

/-- HISTORICAL ordering `swc.sort_values("parent_id", ascending=True)` (stable representative). -/
def sortByParent (t : List SNode) : List SNode := isortBy (·.parent) t

/-- Number of nodes on the path to the root (1 for a root). -/
def depth (t : List SNode) (i : Int) : Nat := (rootPath (forest t) i).length

/-- `swc["_depth"] = _node_depths(…); swc.sort_values("_depth", kind="stable")`: stable sort by depth. -/
def sortByDepth (t : List SNode) : List SNode :=
  (isortBy (fun p : Int × SNode => p.1) (t.map fun n => (((depth t n.id : Nat) : Int), n))).map (·.2)

/-! #### `_node_depths` as written

```
parents = dict(zip(node_ids, parent_ids)); depths = {}
for node in node_ids:
    path = []; on_path = set()
    while node in parents and node not in depths and node not in on_path:
        path.append(node); on_path.add(node); node = parents[node]
    d = depths.get(node, -1)
    for n in reversed(path): d += 1; depths[n] = d
return [depths[n] for n in node_ids]
```
The memo `depths` is an association list (newest first); the walk carries `reversed(path)`.  `Props.C07.node_depths_as_written`
proves that on a well-formed forest the result is `depth - 1` for every row, so the sort key of `sortByDepth` is the one navis uses. -/

/-- `parents[node]` (`none` = `node not in parents`), for unique ids. -/
def parentOf? (t : List SNode) (i : Int) : Option Int := (t.find? (fun n => n.id == i)).map (·.parent)

def memoGet (m : List (Int × Int)) (i : Int) : Option Int := (m.find? (fun kv => kv.1 == i)).map (·.2)

/-- The `while` loop: returns `(reversed(path), node)` when it stops.  `fuel` = `|t| + 1` is never exhausted (the nodes on the
path are distinct rows of the table). -/
def walkUp (t : List SNode) (m : List (Int × Int)) : Nat → Int → List Int → List Int × Int
  | 0, node, path => (path, node)
  | f + 1, node, path =>
    match parentOf? t node with
    | none => (path, node)
    | some p => if (memoGet m node).isSome || path.contains node then (path, node) else walkUp t m f p (node :: path)

/-- `for n in reversed(path): d += 1; depths[n] = d` -/
def assignDepths (m : List (Int × Int)) (d : Int) : List Int → List (Int × Int)
  | [] => m
  | n :: rest => assignDepths ((n, d + 1) :: m) (d + 1) rest

/-- One iteration of the outer `for node in node_ids` loop. -/
def depthsStep (t : List SNode) (m : List (Int × Int)) (node : Int) : List (Int × Int) :=
  assignDepths m ((memoGet m (walkUp t m (t.length + 1) node []).2).getD (-1)) (walkUp t m (t.length + 1) node []).1

def depthsMemo (t : List SNode) : List (Int × Int) := (nodeIds t).foldl (depthsStep t) []

/-- `_node_depths(swc.node_id.values, swc.parent_id.values)` -/
def nodeDepthsW (t : List SNode) : List Int := (nodeIds t).map fun i => (memoGet (depthsMemo t) i).getD 0

/-- The ordering as written: `swc["_depth"] = _node_depths(…)`, then the stable sort on that column. -/
def sortByDepthW (t : List SNode) : List SNode :=
  (isortBy (fun p : Int × SNode => p.1) ((nodeDepthsW t).zip t)).map (·.2)

/-- HISTORICAL: `o` is an admissible result of `sort_values("parent_id")` on `t` (any tie order). -/
def IsParentSort (t o : List SNode) : Prop :=
  o.Perm t ∧ o.Pairwise (fun a b => a.parent ≤ b.parent)

/-! ### re-indexing -/

/-- The seven SWC columns `PointNo Label X Y Z Radius Parent`. -/
structure SwcRow where
  id : Int
  label : Option Int
  x : Rat
  y : Rat
  z : Rat
  radius : Option Rat
  parent : Int
deriving DecidableEq, Inhabited

/-- `new_ids.get(i, -1)` with `new_ids = dict(zip(swc.node_id, swc.index + 1))` after `reset_index`
(for unique ids; `TreeNeuron` rejects duplicate node ids). -/
def newId (o : List SNode) (i : Int) : Int :=
  if i ∈ nodeIds o then ((nodeIds o).idxOf i : Int) + firstId else missingParent

def rowOf (lab : SNode → Option Int) (o : List SNode) (n : SNode) : SwcRow :=
  { id := newId o n.id, label := lab n, x := n.x, y := n.y, z := n.z,
    radius := some (n.radius.getD 0), parent := newId o n.parent }

/-- Everything after the sort: new ids, parent remap, column selection, `fillna(0)`. -/
def finish (lab : SNode → Option Int) (o : List SNode) : List SwcRow := o.map (rowOf lab o)

/-- `make_swc_table(x, labels, export_connectors)`. -/
def makeSwcTable (op : Opts) (sk : Skel) : List SwcRow := finish (labelOf op sk) (sortByDepth sk.nodes)

/-- The `label` column as written (`labels=True`: the sequential assignments of the source in the translator's order). -/
def labelOfW (op : Opts) (sk : Skel) (n : SNode) : Option Int :=
  match op.labels with
  | .auto => some (labelsAsWritten Gen.Swc.labelRules sk op.exportConn n)
  | .zero => some 0
  | .column => some n.custom
  | .byIndex m => (m.find? (fun kv => kv.1 == n.idx)).map (·.2)

/-- `make_swc_table` with the label assignments and the depth computation as written (`Props.C07.table_as_written`
proves it equal to `makeSwcTable` on well-formed forests). -/
def makeSwcTableW (op : Opts) (sk : Skel) : List SwcRow := finish (labelOfW op sk) (sortByDepthW sk.nodes)

/-- HISTORICAL: the table with the ordering used before the fix (`sort_values("parent_id")`). -/
def makeSwcTableHist (op : Opts) (sk : Skel) : List SwcRow := finish (labelOf op sk) (sortByParent sk.nodes)

/-- The node map returned with `return_node_map=True` (old id → new id), in file order. -/
def nodeMapOf (o : List SNode) : List (Int × Int) := o.map fun n => (n.id, newId o n.id)

def nodeMap (sk : Skel) : List (Int × Int) := nodeMapOf (sortByDepth sk.nodes)

/-! ### validity of an SWC table -/

/-- Specification: ids are `1..N` in row order; every row is a root with parent `-1` or its parent id is
smaller than its own id and is the id of an earlier row (one of the first `k` rows). -/
def SwcValid (s : List SwcRow) : Prop :=
  (∀ k (h : k < s.length), s[k].id = (k : Int) + 1) ∧
  (∀ k (h : k < s.length), s[k].parent = -1 ∨
    (s[k].parent < s[k].id ∧ s[k].parent ∈ (s.take k).map (·.id)))

/-- Checker: walk the rows with the list of ids seen so far and the id expected next. -/
def validFrom : List Int → Int → List SwcRow → Bool
  | _, _, [] => true
  | seen, k, r :: rs =>
    (r.id == k) && ((r.parent == -1) || (decide (r.parent < r.id) && seen.contains r.parent)) &&
      validFrom (r.id :: seen) (k + 1) rs

def swcValidB (s : List SwcRow) : Bool := validFrom [] 1 s

/-! ### token level of a file -/

inductive Tok where
  /-- `[+-]digits` -/
  | int (i : Int)
  /-- decimal / exponent literal -/
  | num (q : Rat)
  /-- `nan`, `NaN`, `None`, empty -/
  | nan
  | word (s : String)
deriving DecidableEq, Inhabited

inductive Line where
  /-- starts with `#`, not a meta line -/
  | comment (s : String)
  /-- `# Meta: {json}` with a flat JSON object; values as text -/
  | props (kv : List (String × String))
  | row (toks : List Tok)
  | blank
deriving DecidableEq, Inhabited

def isHeader : Line → Bool
  | .comment _ => true
  | .props _ => true
  | _ => false

def tokInt? : Tok → Option Int
  | .int i => some i
  | .num q => if q.den = 1 then some q.num else none
  | _ => none

def tokNum? : Tok → Option Rat
  | .int i => some (i : Rat)
  | .num q => some q
  | _ => none

/-- One data row: at least seven tokens, the first seven are the SWC columns; id, parent and the
coordinates must be numbers (`none` = a row `sanitise_nodes` drops). -/
def parseRow (ts : List Tok) : Option SwcRow :=
  match ts with
  | i :: l :: x :: y :: z :: r :: p :: _ =>
    match tokInt? i, tokNum? x, tokNum? y, tokNum? z, tokInt? p with
    | some i, some x, some y, some z, some p =>
      some { id := i, label := tokInt? l, x := x, y := y, z := z, radius := tokNum? r, parent := p }
    | _, _, _, _, _ => none
  | _ => none

structure SwcFile where
  props : Option (List (String × String))
  rows : List SwcRow
deriving DecidableEq

/-- `read_header_rows`: the leading `#` lines. -/
def headerOf (ls : List Line) : List Line := ls.takeWhile isHeader

def metaLine? : Line → Option (List (String × String))
  | .props kv => some kv
  | _ => none

/-- The first `# Meta:` line *of the header*. -/
def metaOf (ls : List Line) : Option (List (String × String)) := (headerOf ls).findSome? metaLine?

def rowLine? : Line → Option (List Tok)
  | .row ts => some ts
  | _ => none

/-- `read_csv(skiprows=len(header), comment='#')`: later comment lines and blank lines are skipped. -/
def dataRows (ls : List Line) : List (List Tok) := (ls.dropWhile isHeader).filterMap rowLine?

/-- Enough columns: `len(nodes.columns) < 7` raises; the column count is that of the first row; a later row
with more fields is a tokenizer error, one with fewer fields is padded with NaN by `read_csv` (and then dropped
by `sanitise_nodes` when a key column is among the missing ones: `parseRow` = `none`). -/
def columnsOK (rs : List (List Tok)) : Bool :=
  match rs with
  | [] => true
  | r :: _ => decide (7 ≤ r.length) && rs.all (fun q => decide (q.length ≤ r.length))

/-- the complete rows -/
def keptRows (rs : List (Option SwcRow)) : List SwcRow := rs.filterMap id

/-- `nodes.loc[~nodes.parent_id.isin(nodes.node_id), "parent_id"] = -1` for one row -/
def reRoot (kept : List SwcRow) (r : SwcRow) : SwcRow :=
  if kept.any (fun q => q.id == r.parent) then r else { r with parent := -1 }

/-- `sanitise_nodes`: drop rows with a NaN in id / parent / x / y / z (`parseRow` = `none`); if any row was
dropped, every remaining row whose parent is not among the remaining ids becomes a root (`parent_id = -1`). -/
def sanitiseRows (rs : List (Option SwcRow)) : List SwcRow :=
  if (keptRows rs).length = rs.length then keptRows rs else (keptRows rs).map (reRoot (keptRows rs))

/-- `SwcReader.read_buffer` up to the node table handed to `TreeNeuron`. -/
def parseSwc (ls : List Line) : Option SwcFile :=
  if columnsOK (dataRows ls) then
    some { props := metaOf ls, rows := sanitiseRows ((dataRows ls).map parseRow) }
  else none

/-! ### writing -/

def numTok (q : Rat) : Tok := .num q

def optIntTok : Option Int → Tok
  | some i => .int i
  | none => .nan

def optNumTok : Option Rat → Tok
  | some q => .num q
  | none => .nan

/-- `csv.writer(delimiter=" ").writerows(swc.astype(str).values)` on the token level. -/
def renderRow (r : SwcRow) : Line :=
  .row [.int r.id, optIntTok r.label, numTok r.x, numTok r.y, numTok r.z, optNumTok r.radius, .int r.parent]

inductive WriteMeta where
  /-- `write_meta=False` -/
  | off
  /-- `write_meta=True`: id, name, units -/
  | default
  /-- `write_meta=[keys]` (or a single key) -/
  | keys (ks : List String)
  /-- `write_meta={…}` -/
  | dict (kv : List (String × String))

def attrOf (sk : Skel) (k : String) : String := ((sk.attrs.find? (fun kv => kv.1 == k)).map (·.2)).getD "None"

def metaProps (wm : WriteMeta) (sk : Skel) : Option (List (String × String)) :=
  match wm with
  | .off => none
  | .default => some (Gen.Swc.metaKeys.map fun k => (k, attrOf sk k))
  | .keys ks => if ks.isEmpty then none else some (ks.map fun k => (k, attrOf sk k))
  | .dict kv => if kv.isEmpty then none else some kv

/-- The generated header of `_write_swc` (texts abbreviated; only their kind matters to the reader). -/
def headerLines (wm : WriteMeta) (op : Opts) (sk : Skel) : List Line :=
  [.comment "SWC format file", .comment "based on specifications at …", .comment "Created on … using navis"] ++
  (match metaProps wm sk with | some kv => [.props kv] | none => []) ++
  [.comment "PointNo Label X Y Z Radius Parent", .comment "Labels:", .comment "0 = undefined, 1 = soma, 5 = fork point, 6 = end point"] ++
  (if op.exportConn then [.comment "7 = presynapses, 8 = postsynapses"] else [])

/-- `_write_swc` for an arbitrary order `o` of the node table. -/
def writeWith (wm : WriteMeta) (op : Opts) (sk : Skel) (o : List SNode) : List Line :=
  headerLines wm op sk ++ (finish (labelOf op sk) o).map renderRow

def write (wm : WriteMeta) (op : Opts) (sk : Skel) : List Line := writeWith wm op sk (sortByDepth sk.nodes)

/-! ### the `header=` option -/

/-- `header=None` (generated header, `write_meta` applies) or a user supplied string, given by its physical lines: it
is written verbatim (navis adds no `#`, only a final line break) and `write_meta` is ignored. -/
inductive Header where
  | generated (wm : WriteMeta)
  | custom (hl : List Line)

def headerFor (hd : Header) (op : Opts) (sk : Skel) : List Line :=
  match hd with
  | .generated wm => headerLines wm op sk
  | .custom hl => hl

/-- No physical line of a header is a data row (every line is a `#` line or blank). -/
def noRows (hl : List Line) : Bool := hl.all fun l => (rowLine? l).isNone

/-- `_write_swc` with either kind of header, for an arbitrary order `o` of the node table. -/
def writeH (hd : Header) (op : Opts) (sk : Skel) (o : List SNode) : List Line :=
  headerFor hd op sk ++ (finish (labelOf op sk) o).map renderRow

/-! ### reading back -/

structure ReadCfg where
  /-- `soma_label` (`None` disables soma detection) -/
  somaLabel : Option Int := some Gen.Swc.readerSomaLabel
  /-- `connector_labels` in dict order -/
  connLabels : List (String × Int) := []
  readMeta : Bool := true

structure ReadSkel where
  nodes : List SwcRow
  soma : Option Int
  /-- `(type, node_id)` in the order of `_extract_connectors` -/
  conns : List (String × Int)
  props : List (String × String)
deriving DecidableEq

def somaOf (cfg : ReadCfg) (rows : List SwcRow) : Option Int :=
  match cfg.somaLabel with
  | none => none
  | some sl => (rows.find? (fun r => r.label == some sl)).map (·.id)

def connsOf (cfg : ReadCfg) (rows : List SwcRow) : List (String × Int) :=
  cfg.connLabels.flatMap fun nv => (rows.filter (fun r => r.label == some nv.2)).map fun r => (nv.1, r.id)

def ofFile (cfg : ReadCfg) (f : SwcFile) : ReadSkel :=
  { nodes := f.rows, soma := somaOf cfg f.rows, conns := connsOf cfg f.rows,
    props := if cfg.readMeta then f.props.getD [] else [] }

/-- `read_swc` of a file's lines. -/
def readBack (cfg : ReadCfg) (ls : List Line) : Option ReadSkel := (parseSwc ls).map (ofFile cfg)

def metaGet (m : List (String × String)) (k : String) : Option String := (m.find? (fun kv => kv.1 == k)).map (·.2)

/-! ### integer width of the ID columns (`SwcReader.read_dataframe`) -/

/-- `np.iinfo(int<b>).min <= lo and hi <= np.iinfo(int<b>).max` -/
def fitsBits (b : Nat) (lo hi : Int) : Bool := decide (-((2 : Int) ^ (b - 1)) ≤ lo) && decide (hi < (2 : Int) ^ (b - 1))

/-- The width `node_id` / `parent_id` are cast to for `precision=p` when their values span `lo..hi`: the first of the requested
width and the translator's `Gen.Swc.idWidening` (32, 64) that holds them, the last candidate when none does. -/
def idBits (p : Nat) (lo hi : Int) : Nat :=
  ((p :: Gen.Swc.idWidening).find? fun b => fitsBits b lo hi).getD ((p :: Gen.Swc.idWidening).getLast?.getD p)

/-! ### source kinds (`BaseReader.read_any*`): which parser every source ends in -/

/-- The methods without an entry of their own that are reachable from `m` in a call table (`fuel` bounds the depth). -/
def terminals (tbl : List (String × List String)) : Nat → String → List String
  | 0, m => [m]
  | f + 1, m =>
    match tbl.lookup m with
    | none => [m]
    | some cs => cs.flatMap (terminals tbl f)

/-! ### file-name patterns (`BaseReader.parse_filename`) -/

inductive Seg where
  | lit (s : List Char)
  /-- `{a,b:type}` → names with optional type -/
  | grp (fields : List (String × Option String))
deriving Inhabited

def isPrefix : List Char → List Char → Bool
  | [], _ => true
  | _, [] => false
  | a :: as, b :: bs => a == b && isPrefix as bs

/-- Greedy backtracking match of the segments against the *whole remaining prefix* (a regex without
anchors matches a prefix; `re.search` then slides the start).  Returns the captured groups.  A group is `(.*)`: the
candidate lengths are tried longest first. -/
def matchSegs : Nat → List Seg → List Char → Option (List (List Char))
  | 0, _, _ => none
  | _ + 1, [], _ => some []
  | f + 1, .lit s :: rest, cs => if isPrefix s cs then matchSegs f rest (cs.drop s.length) else none
  | f + 1, .grp _ :: rest, cs =>
    (List.range (cs.length + 1)).reverse.findSome? fun k => (matchSegs f rest (cs.drop k)).map (cs.take k :: ·)

/-- `re.search`: first start position that matches. -/
def searchSegs (segs : List Seg) (cs : List Char) : Option (List (List Char)) :=
  (List.range (cs.length + 1)).findSome? fun k => matchSegs (segs.length + 2) segs (cs.drop k)

/-- The text a pattern stands for when its groups are filled with `gs` (one entry per `{…}` group, in order). -/
def instSegs : List Seg → List (List Char) → List Char
  | [], _ => []
  | .lit s :: rest, gs => s ++ instSegs rest gs
  | .grp _ :: rest, g :: gs => g ++ instSegs rest gs
  | .grp _ :: rest, [] => instSegs rest []

def groupCount (segs : List Seg) : Nat := (segs.filter fun s => match s with | .grp _ => true | _ => false).length

/-- The pattern with every *named* group replaced by the literal text `val` gives for (one of) its names; anonymous groups
and names without a value stay wildcards. -/
def fixSegs (val : String → Option (List Char)) : List Seg → List Seg
  | [] => []
  | .lit s :: rest => .lit s :: fixSegs val rest
  | .grp fs :: rest =>
    (match fs.findSome? (fun f => val f.1) with
     | some v => .lit v
     | none => .grp fs) :: fixSegs val rest

/-- **Checker** evaluated on navis' own `parse_filename` output: the file name contains the pattern with the named
placeholders replaced by the values navis extracted (`Props.C07.fmt_checker_iff`). -/
def fmtConsistentB (segs : List Seg) (val : String → Option (List Char)) (filename : List Char) : Bool :=
  (searchSegs (fixSegs val segs) filename).isSome

/-- Result of `parse_filename`: properties in assignment order (`file` first), values as text plus the
requested conversion; `none` = no match (`ValueError`). -/
def matchFmt (segs : List Seg) (filename : String) : Option (List (String × String × String)) :=
  match searchSegs segs filename.toList with
  | none => none
  | some gs =>
    let groups := segs.filterMap fun s => match s with | .grp fs => some fs | _ => none
    some (("file", "str", filename) ::
      (groups.zip gs).flatMap fun (fs, g) => fs.map fun (nm, ty) => (nm, ty.getD "str", String.ofList g))

end Navis.Swc

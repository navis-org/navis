import NavisModel.Proofs.DistLemmas
import NavisModel.Proofs.SegmentLemmas
import NavisModel.Proofs.DistXSegLemmas
import NavisModel.Proofs.EdgeDtypeLemmas
import NavisModel.Model.DistGen
/-!
# C05 — tree distances and segment decompositions match their definitions

The model *is* the definition (walk parent links, sum edge lengths).  The first half establishes the internal
consistency of that definition and the meaning of the checkers that the driver evaluates on navis' own `segments` /
`small_segments` lists; `len` is any edge-length function (symmetry is assumed only where a path is reversed,
`geo_eq_path_sum`).  The second half (from "as written") takes the navis code around the definitions — options, labels,
limit, dictionaries, segment builders, the dtype the edge lengths are computed in — parametrised by facts the translator
reads from the current source, and proves that with those facts it computes the definitions.

Defined in `Proofs/` and used in statements below: `DistX.GeoCfg.okB`, `DistX.effLen` (`Proofs/DistXLemmas`).
-/
namespace Navis.Props.C05
open Navis.Forest

/-- Directed distances are finite exactly when the target lies on the source's path to its root
(this is also the `distal_to` relation). -/
theorem geoDir_finite_iff_ancestor (t : Table) (len : Int → Int → Nat) (a b : Int) :
    (geo t len true a b).isSome ↔ b ∈ rootPath t a := geo_directed_isSome_iff t len a b

/-- Every present node is at distance 0 from itself. -/
theorem geo_self_zero (t : Table) (len : Int → Int → Nat) (d : Bool) (a : Int) (ha : a ∈ ids t) :
    geo t len d a a = some 0 := geo_self t len d a ha

/-- `limit` keeps distances equal to the limit and drops only strictly larger ones. -/
theorem limit_keeps_le (l v : Nat) : applyLimit (some l) (some v) = (if v ≤ l then some v else none) := by
  rw [applyLimit_some, Option.filter_some]; simp

/-- Adjacency is the parent relation. -/
theorem adjacency_iff_parent (t : Table) (a b : Int) :
    adjacent t a b = true ↔ ∃ n, find? t a = some n ∧ 0 ≤ n.parent ∧ n.parent = b := adjacent_iff t a b

/-- Cable length is the sum of child–parent distances over the non-root rows. -/
theorem cable_eq_sum_parent_dist (t : Table) (len : Int → Int → Nat) :
    cable t len = ((t.filter fun n => !isRootNode n).map fun n => len n.id n.parent).sum := rfl

/-- **`segmentsOKB` is sound AND complete**: it accepts a list iff the list consists of child → parent paths, covers
every edge exactly once, is ordered longest first and lists exactly the isolated nodes as single-node segments — so the
checker can neither miss a violation of these clauses nor raise an alarm on a list that satisfies them (whatever the
order among ties). -/
theorem segmentsOKB_iff (t : Table) (len : Int → Int → Nat) (segs : List (List Int)) :
    segmentsOKB t len segs = true ↔
      (∀ s ∈ segs, isParentPath t s = true) ∧
      (((segs.filter fun s => s.length > 1).flatMap fun s => s.dropLast).Perm ((t.filter fun n => !isRootNode n).map (·.id))) ∧
      nonIncreasing (segs.map (pathLen len)) = true ∧
      ((segs.filter fun s => s.length == 1).flatten.Perm ((t.filter fun n => isRootNode n && childCount t n.id == 0).map (·.id))) := by
  unfold segmentsOKB
  simp only [Bool.and_eq_true, List.all_eq_true, beq_iff_eq, coversEdgesOnce_iff, sortedInts_eq_iff, and_assoc]

/-- **Meaning of the `segments` checker**: a list accepted by `segmentsOKB` consists of child→parent
paths whose non-last elements are exactly the non-root nodes, each once (so every edge lies in
exactly one segment), ordered longest first, with the isolated nodes as the single-node segments. -/
theorem segmentsOKB_sound (t : Table) (len : Int → Int → Nat) (segs : List (List Int))
    (h : segmentsOKB t len segs = true) :
    (∀ s ∈ segs, s ≠ [] ∧ ∀ k (h1 : k + 1 < s.length), adjacent t (s[k]'(by omega)) (s[k+1]) = true) ∧
    (((segs.filter fun s => s.length > 1).flatMap fun s => s.dropLast).Perm ((t.filter fun n => !isRootNode n).map (·.id))) ∧
    (∀ k (h1 : k + 1 < (segs.map (pathLen len)).length), (segs.map (pathLen len))[k+1] ≤ (segs.map (pathLen len))[k]'(by omega)) ∧
    ((segs.filter fun s => s.length == 1).flatten.Perm ((t.filter fun n => isRootNode n && childCount t n.id == 0).map (·.id))) := by
  obtain ⟨h1, h2, h3, h4⟩ := (segmentsOKB_iff t len segs).mp h
  exact ⟨fun s hs => isParentPath_spec t s (h1 s hs), h2, nonIncreasing_spec _ h3, h4⟩

/-- **Meaning of the `small_segments` checker** (edge-partition clause). -/
theorem smallSegmentsOKB_sound (t : Table) (segs : List (List Int)) (h : smallSegmentsOKB t segs = true) :
    (∀ s ∈ segs, isParentPath t s = true ∧ s.length > 1 ∧
      (∃ l, s.getLast? = some l ∧ isBranchOrRoot t l = true) ∧
      (∀ i ∈ (s.drop 1).dropLast, childCount t i = 1 ∧ isBranchOrRoot t i = false)) ∧
    (((segs.filter fun s => s.length > 1).flatMap fun s => s.dropLast).Perm ((t.filter fun n => !isRootNode n).map (·.id))) := by
  obtain ⟨h1, h2⟩ := (smallSegmentsOKB_iff t segs).mp h
  exact ⟨fun s hs => ⟨(h1 s hs).path, (h1 s hs).long, (h1 s hs).last, (h1 s hs).inner⟩, h2⟩

/-! ### Undirected distances -/

/-- **Undirected distances are symmetric** (for any edge-length function, symmetric or not: both
sides walk *up* to the lowest common ancestor; absent nodes are at distance ∞ either way). -/
theorem geo_symm (t : Table) (hw : WF t) (len : Int → Int → Nat) (a b : Int) :
    geo t len false a b = geo t len false b a := by
  rcases meet_or_disjoint hw a b with h | ⟨l, pa, pb, m⟩
  · rw [geo_of_disjoint len h, geo_of_disjoint len (fun x hx hx' => h x hx' hx)]
  · rw [m.geo_eq, m.symm.geo_eq, Nat.add_comm]

/-- **Unreachable exactly across fragments**: the undirected distance of two present nodes is ∞ iff
they have different roots. -/
theorem geo_inf_iff_diff_tree (t : Table) (hw : WF t) (len : Int → Int → Nat) (a b : Int)
    (ha : a ∈ ids t) (hb : b ∈ ids t) : geo t len false a b = none ↔ rootOf t a ≠ rootOf t b := by
  rcases meet_or_disjoint hw a b with h | ⟨l, pa, pb, m⟩
  · rw [geo_of_disjoint len h]
    refine ⟨fun _ he => ?_, fun _ => rfl⟩
    obtain ⟨ra, _, hla, _, _⟩ := rootPath_ends hw a ha
    obtain ⟨rb, _, hlb, _, _⟩ := rootPath_ends hw b hb
    unfold rootOf at he
    rw [hla, hlb] at he
    simp only [Option.some.injEq] at he
    exact h ra (List.mem_of_getLast? hla) (he ▸ List.mem_of_getLast? hlb)
  · rw [m.geo_eq]
    constructor
    · intro h; simp at h
    · intro h; exact absurd m.rootOf_eq h

/-- **A finite undirected distance is the length of an explicit path**: a duplicate-free node list
from `a` to `b` whose consecutive nodes are adjacent (child→parent on the way up to the lowest
common ancestor, parent→child on the way down), with `d` the sum of its edge lengths. -/
theorem geo_eq_path_sum (t : Table) (hw : WF t) (len : Int → Int → Nat) (hs : ∀ a b, len a b = len b a)
    (a b : Int) (d : Nat) (h : geo t len false a b = some d) :
    ∃ p : List Int, p.head? = some a ∧ p.getLast? = some b ∧ p.Nodup ∧
      (∀ k (h1 : k + 1 < p.length),
        adjacent t (p[k]'(by omega)) (p[k+1]) = true ∨ adjacent t (p[k+1]) (p[k]'(by omega)) = true) ∧
      d = pathLen len p := by
  obtain ⟨p, h1, h2, h3, h4, h5⟩ := geo_path hw hs h
  exact ⟨p, h1, h2, h3, UChain_spec p h4, h5⟩

/-! ### Distance to the root and cable length -/

/-- The root distance of a non-root node is its parent edge plus the parent's root distance. -/
theorem distToRoot_parent (t : Table) (hw : WF t) (len : Int → Int → Nat) (n : Node) (hn : n ∈ t)
    (hp : ¬ n.parent < 0) : distToRoot t len n.id = len n.id n.parent + distToRoot t len n.parent :=
  Navis.Forest.distToRoot_parent hw len hn hp

/-- Roots are at distance 0 from the root. -/
theorem distToRoot_root (t : Table) (len : Int → Int → Nat) (n : Node) (hn : n ∈ t) (hnd : (ids t).Nodup)
    (hp : n.parent < 0) : distToRoot t len n.id = 0 :=
  Navis.Forest.distToRoot_root len (find?_of_mem hnd hn) hp

/-- **Segment lengths add up to the cable length**: any list of child→parent paths whose non-last
nodes are the non-root nodes once each (the soundness clauses of both checkers) has total length
`cable`. -/
theorem segment_lengths_sum_of_partition (t : Table) (hw : WF t) (len : Int → Int → Nat) (segs : List (List Int))
    (hall : ∀ s ∈ segs, isParentPath t s = true)
    (hperm : ((segs.filter fun s => s.length > 1).flatMap fun s => s.dropLast).Perm
      ((t.filter fun n => !isRootNode n).map (·.id))) :
    (segs.map (pathLen len)).sum = cable t len := sum_pathLen_eq_cable hw.1 len segs hall hperm

/-- Every list accepted by the `segments` checker has total length `cable`. -/
theorem segment_lengths_sum_to_cable (t : Table) (hw : WF t) (len : Int → Int → Nat) (segs : List (List Int))
    (h : segmentsOKB t len segs = true) : (segs.map (pathLen len)).sum = cable t len := by
  obtain ⟨h1, h2, _, _⟩ := (segmentsOKB_iff t len segs).mp h
  exact sum_pathLen_eq_cable hw.1 len segs h1 h2

/-- Every list accepted by the `small_segments` checker has total length `cable`. -/
theorem small_segment_lengths_sum_to_cable (t : Table) (hw : WF t) (len : Int → Int → Nat) (segs : List (List Int))
    (h : smallSegmentsOKB t segs = true) : (segs.map (pathLen len)).sum = cable t len := by
  obtain ⟨h1, h2⟩ := smallSegmentsOKB_sound t segs h
  exact sum_pathLen_eq_cable hw.1 len segs (fun s hs => (h1 s hs).1) h2

/-! ### The model's small segments satisfy the property -/

/-- **Every non-root node is a non-last element of exactly one small segment** (⇒ each edge lies in
exactly one small segment). -/
theorem small_segments_partition (t : Table) (hw : WF t) :
    (((smallSegments t).filter fun s => s.length > 1).flatMap fun s => s.dropLast).Perm
      ((t.filter fun n => !isRootNode n).map (·.id)) := smallSegments_cover hw

/-- **`small_segments` is correct**: each segment starts at a non-root leaf/branch point, ends at the
first branch point/root above it, has only slabs in between, and the segments partition the edges. -/
theorem smallSegments_correct (t : Table) (hw : WF t) : smallSegmentsOKB t (smallSegments t) = true :=
  smallSegments_ok hw

/-- **Shape of the model's small segments**, readable form: child→parent paths of ≥ 2 nodes ending at a
branch point/root with only slabs strictly inside. -/
theorem small_segments_shape (t : Table) (hw : WF t) : ∀ s ∈ smallSegments t,
    isParentPath t s = true ∧ s.length > 1 ∧
      (∃ l, s.getLast? = some l ∧ isBranchOrRoot t l = true) ∧
      (∀ i ∈ (s.drop 1).dropLast, childCount t i = 1 ∧ isBranchOrRoot t i = false) :=
  fun s hs => have h := smallSegments_shape hw s hs; ⟨h.path, h.long, h.last, h.inner⟩

/-- The model's small segments add up to the cable length. -/
theorem smallSegments_sum_to_cable (t : Table) (hw : WF t) (len : Int → Int → Nat) :
    ((smallSegments t).map (pathLen len)).sum = cable t len :=
  small_segment_lengths_sum_to_cable t hw len _ (smallSegments_correct t hw)

/-! ### The model's greedy segments satisfy the property -/

/-- **`segments` is sorted longest first** (no hypothesis on the table needed). -/
theorem segments_sorted (t : Table) (len : Int → Int → Nat) :
    ∀ k (h1 : k + 1 < ((segments t len).map (pathLen len)).length),
      ((segments t len).map (pathLen len))[k+1] ≤ ((segments t len).map (pathLen len))[k]'(by omega) :=
  nonIncreasing_spec _ (segments_nonIncreasing t len)

/-- **The single-node segments are exactly the isolated nodes** (childless roots), in table order,
and they come last (no hypothesis on the table needed). -/
theorem segments_isolated (t : Table) (len : Int → Int → Nat) :
    ((segments t len).filter fun s => s.length == 1).flatten =
      (t.filter fun n => isRootNode n && childCount t n.id == 0).map (·.id) ∧
    ∃ long, segments t len = long ++ ((t.filter fun n => isRootNode n && childCount t n.id == 0).map fun n => [n.id]) ∧
      ∀ s ∈ long, s.length > 1 :=
  ⟨segments_eq t len ▸ filter_single_singletons (segments_long_mem t len) _, _, rfl, segments_long_mem t len⟩

/-- **Every non-root node is a non-last element of exactly one segment** (⇒ each edge lies in exactly
one segment). -/
theorem segments_partition (t : Table) (hw : WF t) (len : Int → Int → Nat) :
    (((segments t len).filter fun s => s.length > 1).flatMap fun s => s.dropLast).Perm
      ((t.filter fun n => !isRootNode n).map (·.id)) :=
  (segmentsOKB_sound t len _ (segments_ok hw len)).2.1

/-- **`segments` is correct**: child→parent paths, an edge partition, longest first, isolated nodes
as the single-node segments. -/
theorem segments_correct (t : Table) (hw : WF t) (len : Int → Int → Nat) :
    segmentsOKB t len (segments t len) = true := segments_ok hw len

/-- The model's segments add up to the cable length. -/
theorem segments_sum_to_cable (t : Table) (hw : WF t) (len : Int → Int → Nat) :
    ((segments t len).map (pathLen len)).sum = cable t len :=
  segment_lengths_sum_to_cable t hw len _ (segments_correct t hw len)

/-! ### Non-vacuity -/
def ex : Table := [⟨1, -1, 0, 0, 0, .root⟩, ⟨2, 1, 3, 0, 0, .branch⟩, ⟨3, 2, 6, 0, 0, .end_⟩, ⟨4, 2, 3, 4, 0, .end_⟩, ⟨9, -1, 0, 0, 0, .root⟩]
theorem ex_WF : WF ex := wfB_sound (by decide +kernel)
example : geo ex (coordLen ex) false 3 4 = some 7 := by decide +kernel
example : geo ex (coordLen ex) true 3 4 = none ∧ geo ex (coordLen ex) false 3 9 = none := by decide +kernel
example : segments ex (coordLen ex) = [[4, 2, 1], [3, 2], [9]] := by decide +kernel
example : segmentsOKB ex (coordLen ex) (segments ex (coordLen ex)) = true := segments_correct ex ex_WF _
example : smallSegmentsOKB ex (smallSegments ex) = true := smallSegments_correct ex ex_WF
example : wfB ex = true := by decide +kernel
example : geo ex (coordLen ex) false 4 3 = geo ex (coordLen ex) false 3 4 := geo_symm ex ex_WF _ 4 3
example : rootOf ex 3 = some 1 ∧ rootOf ex 9 = some 9 ∧ geo ex (coordLen ex) false 3 9 = none := by decide +kernel
example : smallSegments ex = [[2, 1], [3, 2], [4, 2]] := by decide +kernel
example : ((segments ex (coordLen ex)).map (pathLen (coordLen ex))).sum = 10 ∧ cable ex (coordLen ex) = 10 ∧
    ((smallSegments ex).map (pathLen (coordLen ex))).sum = 10 := by decide +kernel
example : distToRoot ex (coordLen ex) 4 = coordLen ex 4 2 + distToRoot ex (coordLen ex) 2 ∧
    distToRoot ex (coordLen ex) 4 = 7 := by decide +kernel

/-! ## The navis code around the definitions, as written, tied to the current source

`Model/DistX.lean` models the option handling, row selection, labelling, limit cut-off, fancy-index assignment,
dictionaries and sort keys of `navis/graph/graph_utils.py` / `navis/morpho/mmetrics.py` parametrised by facts;
`Gen/Dist.lean` holds the facts the translator extracts from the CURRENT source; `Model/DistGen.lean`
instantiates the models with them (that is what the driver runs against navis).  The theorems below state that
these instances ARE the definitions above, for all inputs; an edit of one of the facts (comparison operator,
guard, label expression, type set, sort direction, forwarded keyword …) makes the corresponding theorem stop
checking. -/
section AsWritten
open Navis.DistX

/-! ### `limit` -/

/-- No limit (`None`, `inf`): every distance is kept. -/
theorem limit_none_keeps_all (d : Option Nat) : applyLimit none d = d := applyLimit_none d

/-- **`limit` honoured, both directions**: an entry survives iff it was finite and `≤ limit`. -/
theorem limit_some_iff (l : Nat) (d : Option Nat) (v : Nat) : applyLimit (some l) d = some v ↔ d = some v ∧ v ≤ l :=
  by rw [applyLimit_some, Option.filter_eq_some_iff, decide_eq_true_eq]

/-- … and becomes infinite iff it was infinite or strictly above the limit. -/
theorem limit_inf_iff (l : Nat) (d : Option Nat) : applyLimit (some l) d = none ↔ d = none ∨ ∃ v, d = some v ∧ l < v := by
  rw [applyLimit_some, Option.filter_eq_none_iff]
  cases d <;> simp

/-- `limit = 0` is a limit: only zero distances (the node itself, coincident nodes) survive. -/
theorem limit_zero (v : Nat) : applyLimit (some 0) (some v) = (if v = 0 then some 0 else none) := by
  rw [limit_keeps_le]
  by_cases h : v = 0
  · subst h; rfl
  · rw [if_neg h, if_neg (by omega)]

/-- **The cut-off of the fastcore branch, with the guard and the comparison read from the source**
(`if limit is not None and limit is not np.inf: dmat[dmat > limit] = np.inf`), is the limit of the definition for
every kind of limit value (`None`, `np.inf`, another infinite float, any number incl. `0`) and every entry.
A truthiness guard (`if limit:`) or `>=` makes this theorem fail. -/
theorem limit_as_written :
    ∃ g c, Gen.Dist.fcLimitGuard.mapM GuardAtom.ofName = some g ∧ Cmp.ofName Gen.Dist.fcLimitCmp = some c ∧
      Gen.Dist.fcLimitValue = "np.inf" ∧ Gen.Dist.limitMapUnits = true ∧
      ∀ lim d, applyLimitW g c lim d = applyLimit lim.toOpt d :=
  ⟨_, _, rfl, rfl, rfl, rfl, applyLimitW_sound _ _ (by decide +kernel) rfl⟩

/-- What a truthiness guard (`if limit:`) would do: the limit `0` is ignored. -/
theorem limit_truthy_guard_ignores_zero (v : Nat) (hv : 0 < v) :
    applyLimitW [.truthy] .gt (.num 0) (some v) ≠ applyLimit (LimitV.num 0).toOpt (some v) := by
  rw [applyLimitW_truthy_zero]
  have : v > 0 := hv
  simp [LimitV.toOpt, applyLimit, this]

/-- **Sentinel decoding as written** (`dmat[dmat < 0] = np.inf`, unconditionally, before the limit): the
accelerator's `-1` becomes infinite, every real distance — including `0` — is kept. -/
theorem sentinel_as_written :
    ∃ c k, fcSentinel? = some (c, k) ∧ (∀ raw : Int, raw < 0 → decodeFc c k raw = none) ∧ ∀ n : Nat, decodeFc c k n = some n := by
  refine ⟨.lt, 0, rfl, fun raw h => ?_, fun n => ?_⟩
  · simp [decodeFc, Cmp.evalInt, h]
  · have : ¬ ((n : Int) < 0) := by omega
    simp [decodeFc, Cmp.evalInt, this]

/-! ### `geodesic_matrix`: `from_`, `directed`, `weight`, `limit`, labels -/

/-- Both branches of `geodesic_matrix`, as configured by the current source, honour the options.  The checker is evaluated on
the extracted configurations, whatever they are: a guard spelt differently that `LimitImpl.okB` still admits, or the other
admissible pair of row selection and labels, leaves this and everything below checking. -/
theorem geo_cfgs_ok : fcCfg?.map GeoCfg.okB = some true ∧ spCfg?.map GeoCfg.okB = some true := by decide +kernel

theorem fcCfg_ok {c : GeoCfg} (h : fcCfg? = some c) : c.okB = true := by
  have := geo_cfgs_ok.1; rw [h] at this; simpa using this

theorem spCfg_ok {c : GeoCfg} (h : spCfg? = some c) : c.okB = true := by
  have := geo_cfgs_ok.2; rw [h] at this; simpa using this

/-- **`geodesic_matrix(x, from_=…, directed=…, weight=…, limit=…)` as written, either branch (navis-fastcore or
scipy on the igraph / networkx graph)**, for any table with unique ids, any `from_` (scalar or list, duplicates,
any order) inside the table, both values of `directed` and `weight`, every limit value: the call succeeds, the
columns are the node ids in table order, the row labels are duplicate-free and are exactly the requested ids, and the
entry under labels `(a, b)` is the defined distance `geo` with the limit applied. -/
theorem geodesic_matrix_from_labelled (c : GeoCfg) (hc : fcCfg? = some c ∨ spCfg? = some c)
    (t : Table) (hnd : (ids t).Nodup) (len : Int → Int → Nat) (weighted directed : Bool) (lim : LimitV)
    (from_ : FromV) (hgiven : from_.toList ≠ [] ∨ ∃ l, from_ = .list l) (hsub : ∀ i ∈ from_.toList, i ∈ ids t) :
    ∃ M, geoMatW c t len weighted directed lim from_ = some M ∧ M.cols = ids t ∧ M.rows.Nodup ∧
      (∀ a, a ∈ M.rows ↔ a ∈ from_.toList) ∧
      ∀ a ∈ from_.toList, ∀ b ∈ ids t,
        M.get? a b = some (applyLimit lim.toOpt (geo t (effLen len weighted) directed a b)) :=
  geoMatW_from (hc.elim fcCfg_ok spCfg_ok) t len weighted directed lim from_ hgiven hnd hsub

/-- **All rows** (`from_` not given): rows and columns are the node ids in table order, entries as above. -/
theorem geodesic_matrix_all_labelled (c : GeoCfg) (hc : fcCfg? = some c ∨ spCfg? = some c)
    (t : Table) (len : Int → Int → Nat) (weighted directed : Bool) (lim : LimitV) :
    ∃ M, geoMatW c t len weighted directed lim .none = some M ∧ M.rows = ids t ∧ M.cols = ids t ∧
      ∀ a ∈ ids t, ∀ b ∈ ids t,
        M.get? a b = some (applyLimit lim.toOpt (geo t (effLen len weighted) directed a b)) :=
  geoMatW_all (hc.elim fcCfg_ok spCfg_ok) t len weighted directed lim

/-- **An id that is not in the table is refused** (`ValueError`) on both branches. -/
theorem geodesic_matrix_missing_id (c : GeoCfg) (hc : fcCfg? = some c ∨ spCfg? = some c)
    (t : Table) (len : Int → Int → Nat) (weighted directed : Bool) (lim : LimitV) (from_ : FromV) (i : Int)
    (hi : i ∈ from_.toList) (hn : i ∉ ids t) : geoMatW c t len weighted directed lim from_ = none :=
  geoMatW_missing (hc.elim fcCfg_ok spCfg_ok) t len weighted directed lim from_ hi hn

/-- **The two branches return the same labelled matrix** (they differ in row order only: sorted ids versus
table order): equal entries under equal labels. -/
theorem geodesic_matrix_branches_agree (cf cs : GeoCfg) (hf : fcCfg? = some cf) (hs : spCfg? = some cs)
    (t : Table) (hnd : (ids t).Nodup) (len : Int → Int → Nat) (weighted directed : Bool) (lim : LimitV)
    (from_ : FromV) (hgiven : from_.toList ≠ [] ∨ ∃ l, from_ = .list l) (hsub : ∀ i ∈ from_.toList, i ∈ ids t) :
    ∃ Mf Ms, geoMatW cf t len weighted directed lim from_ = some Mf ∧ geoMatW cs t len weighted directed lim from_ = some Ms ∧
      Mf.rows.Perm Ms.rows ∧ Mf.cols = Ms.cols ∧ ∀ a ∈ from_.toList, ∀ b ∈ ids t, Mf.get? a b = Ms.get? a b := by
  obtain ⟨Mf, h1, h2, h3, h4, h5⟩ := geoMatW_from (fcCfg_ok hf) t len weighted directed lim from_ hgiven hnd hsub
  obtain ⟨Ms, g1, g2, g3, g4, g5⟩ := geoMatW_from (spCfg_ok hs) t len weighted directed lim from_ hgiven hnd hsub
  refine ⟨Mf, Ms, h1, g1, ?_, by rw [h2, g2], fun a ha b hb => by rw [h5 a ha b hb, g5 a ha b hb]⟩
  exact (List.perm_ext_iff_of_nodup h3 g3).mpr fun a => by rw [h4, g4]

/-- What `index = np.unique(from_)` on the scipy branch would do: rows computed in table order but
labelled in sorted order — a wrong label as soon as the table is not sorted. -/
example : computedRows .whereIsin [5, 3, 9] [3, 5] = [5, 3] ∧ rowLabels .fromArg [5, 3, 9] [3, 5] = [3, 5] := by decide +kernel

/-- **`directed` honoured**: on ancestor pairs the directed distance is the undirected one; on all other pairs it is
infinite (`geoDir_finite_iff_ancestor`). -/
theorem directed_eq_undirected_on_ancestors (t : Table) (hw : WF t) (len : Int → Int → Nat) (a b : Int)
    (h : b ∈ rootPath t a) : geo t len true a b = geo t len false a b := by
  -- the meeting point of a node and its ancestor is the ancestor
  have hb := rootPath_head_mem (rootPath_sub h)
  obtain ⟨l, hl⟩ := lca_isSome h hb
  obtain ⟨_, lb, lmin⟩ := lca_spec hw hl
  obtain rfl : l = b := anc_antisymm hw lb (lmin b h hb)
  obtain ⟨d, hd⟩ := Option.isSome_iff_exists.mp ((geo_directed_isSome_iff t len a l).mpr h)
  unfold geo at hd ⊢
  rw [if_pos rfl] at hd ⊢
  simp only [Bool.false_eq_true, if_false, hl, hd, distUp_self len (rootPath_sub h)]
  rfl

/-! ### `distal_to` -/

/-- **`distal_to` as written** (`None` = all nodes, ids de-duplicated, matrix or scalar form): the entry under
labels `(x, y)` is "`y` lies on `x`'s path to the root". -/
theorem distal_to_labelled (t : Table) (a b : FromV) (x y : Int) (hx : x ∈ axisLabels t a) (hy : y ∈ axisLabels t b) :
    (distalW t a b).get? x y = some ((rootPath t x).contains y) := by
  unfold distalW
  rw [get?_build _ _ (fun x y => (geo t (fun _ _ => 1) true x y).isSome) hx hy, geoDir_isSome_eq_contains]

/-- Labels: all ids (table order) when the argument is `None`, else exactly the given ids, without repetition. -/
theorem distal_to_labels (t : Table) (hnd : (ids t).Nodup) (f : FromV) :
    (axisLabels t f).Nodup ∧ (axisLabels t .none = ids t) ∧
    ((f.toList ≠ [] ∨ ∃ l, f = .list l) → ∀ x, x ∈ axisLabels t f ↔ x ∈ f.toList) := by
  refine ⟨?_, rfl, fun h x => ?_⟩
  · cases f with
    | none => exact hnd
    | scalar i => exact npUnique_nodup _
    | list l => exact npUnique_nodup _
  · cases f with
    | none => rcases h with h | ⟨l, h⟩ <;> simp [FromV.toList] at h
    | scalar i => simp [axisLabels, FromV.toList, mem_npUnique]
    | list l => simp [axisLabels, FromV.toList, mem_npUnique]

/-- Two single ids: a scalar. -/
theorem distal_to_scalar (t : Table) (i j : Int) :
    distalOut (distalW t (.scalar i) (.scalar j)) = .inl ((rootPath t i).contains j) := by
  simp only [distalW, axisLabels, npUnique_singleton, List.map_cons, List.map_nil, distalOut, geoDir_isSome_eq_contains]

/-- **A node is distal to itself** (the definition "lies on the path to the root" includes the start; navis'
docstring says the same). -/
theorem distal_self (t : Table) (a : Int) (ha : a ∈ ids t) : (rootPath t a).contains a = true :=
  List.contains_iff_mem.mpr (rootPath_head_mem ha)

/-- **Unreachable pairs are `False`**: nodes of different trees are never distal to one another. -/
theorem distal_false_across_trees (t : Table) (hw : WF t) (a b : Int) (h : rootOf t a ≠ rootOf t b) :
    (rootPath t a).contains b = false :=
  Bool.eq_false_iff.mpr fun hc => h (rootOf_of_mem_rootPath hw (List.contains_iff_mem.mp hc)).symm

/-- Distal-to is antisymmetric: two different nodes are never distal to each other. -/
theorem distal_antisymm (t : Table) (hw : WF t) (a b : Int) (h1 : (rootPath t a).contains b = true)
    (h2 : (rootPath t b).contains a = true) : a = b :=
  anc_antisymm hw (List.contains_iff_mem.mp h2) (List.contains_iff_mem.mp h1)

/-- Distal-to is the finiteness of the directed distance (any weight). -/
theorem distal_iff_directed_finite (t : Table) (len : Int → Int → Nat) (a b : Int) :
    (rootPath t a).contains b = true ↔ (geo t len true a b).isSome :=
  ⟨fun h => (geoDir_finite_iff_ancestor t len a b).mpr (List.contains_iff_mem.mp h),
   fun h => List.contains_iff_mem.mpr ((geoDir_finite_iff_ancestor t len a b).mp h)⟩

/-! ### adjacency matrix -/

/-- **Every non-root filter in the code that decides which rows carry an edge** (`skeleton_adjacency_matrix`,
`neuron2nx`, `neuron2igraph`, `cable_length`, `TreeNeuron.edges`) **is `parent_id >= 0`** — the model's
`!isRootNode`.  (`> 0` would drop the children of node 0.) -/
theorem nonroot_filters_as_written :
    ∃ l, nonRootTests? = some l ∧ l.length ≥ 5 ∧ ∀ e ∈ l, ∀ n : Node, e.2.1.evalInt n.parent e.2.2 = !isRootNode n := by
  refine ⟨_, rfl, by decide +kernel, ?_⟩
  intro e he n
  have hb : nonRootCmpB e.2.1 e.2.2 = true := by
    revert e
    decide +kernel
  exact evalInt_eq_not_isRoot hb n

/-- **`skeleton_adjacency_matrix(sort=False)` as written** (mask `parent_id >= 0`, rows = positions of the filtered
nodes, columns = positions of their parents through the id → position map, both axes labelled by node id): the entry
under labels `(a, b)` is the parent relation. -/
theorem adjacency_matrix_labelled (t : Table) (hnd : (ids t).Nodup) (a b : Int) (ha : a ∈ ids t) (hb : b ∈ ids t) :
    ∃ c k, adjCmp? = some (c, k) ∧ adjShapeOK = true ∧ (adjMatW c k t).rows = ids t ∧ (adjMatW c k t).cols = ids t ∧
      (adjMatW c k t).get? a b = some (adjacent t a b) :=
  have hshape : adjShapeOK = true := by
    -- as in `point_queries_and_weights_as_written`: split, then each extracted text is literally the one demanded
    simp only [adjShapeOK, Bool.and_eq_true, beq_iff_eq, Gen.Dist.adjRowIx, Gen.Dist.adjColIx, Gen.Dist.adjMaskName,
      String.reduceAppend, true_and]
    and_intros <;> rfl
  ⟨_, _, rfl, hshape, rfl, rfl, adjMatW_get (by decide +kernel) t hnd ha hb⟩

/-- **`sort=True` / `x.adjacency_matrix`**: re-indexing both axes by any label order that contains the ids shows
the same relation (the order itself, `node_label_sorting`, is not part of the property). -/
theorem adjacency_matrix_sorted_labelled (t : Table) (hnd : (ids t).Nodup) (p : List Int) (a b : Int)
    (ha : a ∈ p) (hb : b ∈ p) (ha' : a ∈ ids t) (hb' : b ∈ ids t) :
    ∃ c k, adjCmp? = some (c, k) ∧ (adjSorted c k t p).rows = p ∧ (adjSorted c k t p).cols = p ∧
      (adjSorted c k t p).get? a b = some (adjacent t a b) :=
  ⟨_, _, rfl, rfl, rfl, adjSorted_get (by decide +kernel) t hnd p ha hb ha' hb'⟩

/-! ### `dist_to_root`, `parent_dist`, `cable_length`, `segment_length` -/

/-- **`dist_to_root` as written** (shortest-path lengths to each root, merged over the roots): every node is mapped
to its root distance — also in forests, whichever root comes last. -/
theorem dist_to_root_dict (t : Table) (hw : WF t) (len : Int → Int → Nat) (i : Int) (hi : i ∈ ids t) :
    dictGet (distToRootW t len) i = some (distToRoot t len i) :=
  dictGet_of_unique _ i _ ((mem_distToRootW hw len i _).mpr ⟨hi, rfl⟩) fun w hw' => ((mem_distToRootW hw len i w).mp hw').2

/-- Every entry of that dictionary belongs to a node and carries its root distance (no stray keys). -/
theorem dist_to_root_entries (t : Table) (hw : WF t) (len : Int → Int → Nat) (i : Int) (d : Nat) :
    (i, d) ∈ distToRootW t len ↔ i ∈ ids t ∧ d = distToRoot t len i := mem_distToRootW hw len i d

/-- `igraph_indices=True`: the same values under the row positions. -/
theorem dist_to_root_by_position (t : Table) (hw : WF t) (len : Int → Int → Nat) (i : Int) (hi : i ∈ ids t) :
    (Int.ofNat ((ids t).idxOf i), distToRoot t len i) ∈ distToRootIdxW t len :=
  List.mem_map.mpr ⟨(i, distToRoot t len i), (mem_distToRootW hw len i _).mpr ⟨hi, rfl⟩, rfl⟩

/-- **`parent_dist(root_dist=0)` sums to the cable length**; entry `i` is the parent edge of row `i` (`root_dist`
for roots). -/
theorem parent_dist_as_written (t : Table) (len : Int → Int → Nat) :
    ∃ c k, adjCmp? = some (c, k) ∧
      ((parentDistW c k t len (some 0)).map fun o => o.getD 0).sum = cable t len ∧
      ∀ rd i (h : i < t.length), (parentDistW c k t len rd)[i]? =
        some (if isRootNode t[i] then rd else some (len t[i].id t[i].parent)) :=
  ⟨_, _, rfl, parentDistW_sum (by decide +kernel) t len, fun rd i h => parentDistW_entry (by decide +kernel) t len rd i h⟩

/-- **`cable_length(mask=…)`**: the cable length of the masked table with orphans re-rooted; without a mask the
cable length. -/
theorem cable_length_masked (t : Table) (hw : WF t) (len : Int → Int → Nat) (mask : List Bool) :
    ∃ c k, adjCmp? = some (c, k) ∧
      cableMaskedW c k t len mask = cable (orphansToRoots (maskRows t mask)) len ∧
      cableMaskedW c k t len (List.replicate t.length true) = cable t len :=
  ⟨_, _, rfl, cableMaskedW_eq (by decide +kernel) t len mask, cableMaskedW_all (by decide +kernel) hw len⟩

/-- **`segment_length` as written** (sum of the weights of the consecutive `(child, parent)` edges; `KeyError`
otherwise): defined exactly on child → parent paths, where it is the path length. -/
theorem segment_length_as_written (t : Table) (len : Int → Int → Nat) (s : List Int) (hs : s ≠ []) (d : Nat) :
    segLenW t len s = some d ↔ isParentPath t s = true ∧ d = pathLen len s := segLenW_eq_some_iff t len s d hs

/-- The segments navis returns can be measured: every segment accepted by the checker has a `segment_length`, and
the lengths add up to the cable length. -/
theorem segment_length_of_segments (t : Table) (hw : WF t) (len : Int → Int → Nat) (segs : List (List Int))
    (h : segmentsOKB t len segs = true) :
    (∀ s ∈ segs, segLenW t len s = some (pathLen len s)) ∧ (segs.map (pathLen len)).sum = cable t len := by
  refine ⟨fun s hs => ?_, segment_lengths_sum_to_cable t hw len segs h⟩
  have hpp := ((segmentsOKB_iff t len segs).mp h).1 s hs
  exact (segLenW_eq_some_iff t len s _ (by rintro rfl; exact Bool.noConfusion hpp)).mpr ⟨hpp, rfl⟩

/-! ### the segment builders -/

/-- **`_generate_segments` (Python path) with the facts of the current source** — leaf filter `type == "end"`,
leafs sorted by root distance in descending order, the walk, the `len(sequence) > 1` filter, the final
`sorted(zip(lengths, sequences), reverse=True)`, isolated nodes appended last — **is the model's `segments`**,
hence an edge partition ordered longest first (`segments_correct`).  Not tied: the order among leafs at EQUAL root
distance.  `segmentsW` and `segments` both take them in reverse table order (the insertion sort `sortBy` with a non-strict
test), Python's stable `sorted(…, reverse=True)` in table order; on such tables navis returns the list of C04's
`SegVar.genNx`, which passes the same checker (`SegVar.genNx_ok`). -/
theorem generate_segments_as_written (t : Table) (len : Int → Int → Nat) :
    ∃ c, segCfg? = some c ∧ segmentsW c t len = segments t len :=
  ⟨_, rfl, segmentsW_eq (by decide +kernel) t len⟩

/-- … so what the source describes satisfies the property. -/
theorem generate_segments_as_written_correct (t : Table) (hw : WF t) (len : Int → Int → Nat) :
    ∃ c, segCfg? = some c ∧ segmentsOKB t len (segmentsW c t len) = true := by
  obtain ⟨c, h1, h2⟩ := generate_segments_as_written t len
  exact ⟨c, h1, h2 ▸ segments_correct t hw len⟩

/-- What sorting the leafs in ASCENDING order (`reverse=False`) would do: the short twig is walked first and takes the
trunk, the result is no longer longest-first maximal — the decomposition differs from the model's. -/
example : segmentsW (SegCfg.mk .end_ true false true .gt 1 true true true true) ex (coordLen ex) ≠ segments ex (coordLen ex) := by
  decide +kernel

/-- **`_break_segments` (networkx branch) with the type sets of the current source** (seeds `branch`/`end`, stops
`branch`/`root`) **is the model's `smallSegments`**; loop condition, segment start and the igraph branch's degree
selectors / seed and stop formulas are the ones `Model/SegmentVariants.lean` (C04) models as written. -/
theorem break_segments_as_written (t : Table) :
    ∃ seeds stops, brkSeeds? = some seeds ∧ brkStops? = some stops ∧ brkShapeOK = true ∧
      smallSegmentsW seeds stops t = smallSegments t := by
  have hshape : brkShapeOK = true := by
    simp only [brkShapeOK, Bool.and_eq_true, beq_iff_eq]
    and_intros <;> rfl
  exact ⟨_, _, rfl, rfl, hshape, smallSegmentsW_eq (by decide +kernel) (by decide +kernel) t⟩

/-! ### point queries, edge weights of the graph builders, cached views -/

/-- Graph modes, weights, normalisations of the point queries; Euclidean edge weights in all graph builders; the
cached views call the functions above with default options. -/
theorem point_queries_and_weights_as_written : pointShapeOK = true ∧ weightShapeOK = true ∧ viewsOK = true := by
  -- every conjunct compares an extracted fact with the text it is defined to be: split first, since evaluating
  -- `==` on long strings character by character is slow to check
  simp only [pointShapeOK, weightShapeOK, viewsOK, Bool.and_eq_true, beq_iff_eq]
  and_intros <;> rfl

/-! ### edge lengths -/

/-- **Edge lengths are Euclidean**: whenever the child–parent distance is an integer `w` (`w² = dx² + dy² + dz²`; the
driver checks this for every edge of every generated case) the model's `coordLen` is `w`. -/
theorem edge_length_is_euclidean (t : Table) (a b : Int) (na nb : Node) (ha : find? t a = some na) (hb : find? t b = some nb)
    (w : Nat) (hw : sqDist na nb = w * w) : coordLen t a b = w := coordLen_exact ha hb w hw

/-- The integer square root used for it: `r² ≤ n < (r+1)²`, exact on perfect squares. -/
theorem isqrt_correct (n : Nat) : isqrt n * isqrt n ≤ n ∧ n < (isqrt n + 1) * (isqrt n + 1) ∧ isqrt (n * n) = n :=
  ⟨(isqrt_spec n).1, (isqrt_spec n).2, isqrt_sq n⟩

/-- **`weight=None` counts edges**: with unit weights the length of a path is its number of edges, the root
distance is the depth. -/
theorem unweighted_counts_edges (t : Table) (p : List Int) (i : Int) :
    pathLen (fun _ _ => 1) p = p.length - 1 ∧ distToRoot t (fun _ _ => 1) i = (rootPath t i).length - 1 :=
  ⟨pathLen_unit p, pathLen_unit _⟩

/-! ### the `small_segments` checker: the clause about the first node -/

/-- **Start of a small segment** (the clause `smallSegmentsOKB_sound` leaves out): every accepted segment starts at
a non-root node that is a leaf or a branch point (not a slab). -/
theorem smallSegmentsOKB_sound_head (t : Table) (segs : List (List Int)) (h : smallSegmentsOKB t segs = true) :
    ∀ s ∈ segs, ∃ hd n, s.head? = some hd ∧ find? t hd = some n ∧ ¬ n.parent < 0 ∧ childCount t hd ≠ 1 :=
  fun s hs => (((smallSegmentsOKB_iff t segs).mp h).1 s hs).head

end AsWritten

/-! ### edge weights and integer-typed coordinate columns -/
section EdgeDtypes
open Navis.EdgeDtype Navis.DistX

/-- **Every Python site that computes an edge length takes the child − parent difference in float** (`neuron2nx`,
`neuron2igraph`, the node-table path of `cable_length`: both operands `.astype(float)`; `parent_dist`: the parent operand is
float by construction), as read from the current source — **and therefore computes the model's `coordLen` whatever the dtype of
the coordinate columns** (float, signed or unsigned integers of any width).  Dropping a cast makes this theorem fail. -/
theorem edge_weights_in_float_as_written :
    ([nxSite?, igSite?, clSite?, pdSite?].filterMap id).length = 4 ∧
      ∀ s ∈ [nxSite?, igSite?, clSite?, pdSite?].filterMap id, ∀ (col : Dt) (t : Table) (a b : Int),
        edgeLenAt s col t a b = coordLen t a b := by
  refine ⟨by decide +kernel, ?_⟩
  intro s hs col t a b
  have hall : ([nxSite?, igSite?, clSite?, pdSite?].filterMap id).all siteInFloatB = true := by decide +kernel
  exact edgeLenAt_eq_coordLen (List.all_eq_true.mp hall s hs) col t a b

/-- … hence the Euclidean distance whenever that is an integer `w` (`w² = dx² + dy² + dz²`), for every column dtype. -/
theorem edge_length_is_euclidean_as_written (t : Table) (a b : Int) (na nb : Node) (ha : find? t a = some na) (hb : find? t b = some nb)
    (w : Nat) (hw : sqDist na nb = w * w) (col : Dt) :
    ∀ s ∈ [nxSite?, igSite?, clSite?, pdSite?].filterMap id, edgeLenAt s col t a b = w := by
  intro s hs
  rw [edge_weights_in_float_as_written.2 s hs col t a b]
  exact coordLen_exact ha hb w hw

/-- The cast is REQUIRED, witness 1 (`cable_length`'s node-table path before navis commit 12b2794: difference of the raw
columns, `np.linalg.norm` squares in float): uint32 columns, child at x = 3, parent at x = 5 — the difference wraps to
2³² − 2 and that is the "length" (the Euclidean one is 2). -/
theorem uncast_unsigned_difference_wraps :
    edgeLenAt ⟨.raw, .raw, false⟩ (.uint 32) [⟨1, -1, 5, 0, 0, .root⟩, ⟨2, 1, 3, 0, 0, .end_⟩] 2 1 = 4294967294 ∧
    coordLen [⟨1, -1, 5, 0, 0, .root⟩, ⟨2, 1, 3, 0, 0, .end_⟩] 2 1 = 2 := by
  constructor
  · have e : (sqLenIn (diffDt .raw .raw (.uint 32)) false ⟨2, 1, 3, 0, 0, .end_⟩ ⟨1, -1, 5, 0, 0, .root⟩).toNat = 4294967294 * 4294967294 := by decide +kernel
    show isqrt (sqLenIn (diffDt .raw .raw (.uint 32)) false ⟨2, 1, 3, 0, 0, .end_⟩ ⟨1, -1, 5, 0, 0, .root⟩).toNat = 4294967294
    rw [e, isqrt_sq]
  · decide +kernel

/-- Witness 2 (`neuron2igraph` before navis commit 67e95bf, `neuron2nx` without its cast: difference AND squares in the
columns' dtype): uint16 columns, an edge of length 300 — 300² = 90000 overflows to 24464, the "length" is 156; int32 columns,
an edge of length 50000 — the square overflows to a negative number (numpy: NaN; here 0). -/
theorem uncast_squares_overflow :
    edgeLenAt ⟨.raw, .raw, true⟩ (.uint 16) [⟨1, -1, 0, 0, 0, .root⟩, ⟨2, 1, 300, 0, 0, .end_⟩] 2 1 = 156 ∧
    coordLen [⟨1, -1, 0, 0, 0, .root⟩, ⟨2, 1, 300, 0, 0, .end_⟩] 2 1 = 300 ∧
    edgeLenAt ⟨.raw, .raw, true⟩ (.sint 32) [⟨1, -1, 0, 0, 0, .root⟩, ⟨2, 1, 50000, 0, 0, .end_⟩] 2 1 = 0 ∧
    coordLen [⟨1, -1, 0, 0, 0, .root⟩, ⟨2, 1, 50000, 0, 0, .end_⟩] 2 1 = 50000 := by
  refine ⟨by decide +kernel, by decide +kernel, by decide +kernel, ?_⟩
  show isqrt (sqDist ⟨2, 1, 50000, 0, 0, .end_⟩ ⟨1, -1, 0, 0, 0, .root⟩) = 50000
  have e : sqDist ⟨2, 1, 50000, 0, 0, .end_⟩ ⟨1, -1, 0, 0, 0, .root⟩ = 50000 * 50000 := by decide +kernel
  rw [e, isqrt_sq]

/-- Small unsigned differences with the squares taken in the same dtype are benign (arithmetic modulo 2ᵇ squares
correctly): the wrap only shows once a square overflows — which is why the igraph weights were right on small uint32 tables
while `cable_length` was not. -/
example : edgeLenAt ⟨.raw, .raw, true⟩ (.uint 32) [⟨1, -1, 5, 0, 0, .root⟩, ⟨2, 1, 3, 0, 0, .end_⟩] 2 1 = 2 := by decide +kernel

/-- Every call that hands coordinates to the compiled accelerator's `parent_dist` — in `parent_dist`, `cable_length`,
`geodesic_matrix(weight='weight')` and `_generate_segments(weight='weight')` — casts them to a floating dtype first (facts
re-extracted from the current source).  The accelerator computes in the dtype it is handed, so integer columns overflowed
or wrapped there while the igraph / networkx sites (theorems above) were right: repaired defect ece9888.  Dropping the cast
at any of the four sites stops this theorem from checking, and the integer-dtype stream then exhibits the failing table. -/
theorem fastcore_parent_dist_receives_float_coordinates :
    Navis.Gen.Dist.pdFcCoords = ["cast"] ∧ Navis.Gen.Dist.clFcCoords = ["cast"] ∧
      Navis.Gen.Dist.gmFcCoords = ["cast"] ∧ Navis.Gen.Dist.sgFcCoords = ["cast"] := ⟨rfl, rfl, rfl, rfl⟩

end EdgeDtypes

/-! ### Non-vacuity of the as-written theorems -/
section ExamplesX
open Navis.DistX
def exCfg : GeoCfg := (fcCfg?).getD ⟨.truthy, false, false, .sourcesArg, .fromArg, false, false, false, false, .ignored⟩
/-- The extracted fastcore configuration is there and passes the checker; nothing else about it is used below: on these inputs
both admissible ways of selecting and labelling the rows give the same frame. -/
private theorem exCfg_ok : fcCfg? = some exCfg ∧ exCfg.okB = true := by
  obtain ⟨c, hc, hok⟩ := Option.map_eq_some_iff.mp geo_cfgs_ok.1
  have : exCfg = c := by rw [exCfg, hc]; rfl
  exact this ▸ ⟨hc, hok⟩
example : fcCfg? = some exCfg := exCfg_ok.1
example : (geoMatW exCfg ex (coordLen ex) true false (.num 3) (.list [4, 2, 4])).map (fun m => (m.rows, m.cols, m.vals)) =
    some ([2, 4], [1, 2, 3, 4, 9], [[some 3, some 0, some 3, none, none], [none, none, none, some 0, none]]) := by
  rw [geoMatW_of_ok exCfg_ok.2]
  generalize exCfg.lab = l
  cases l <;> decide +kernel
example : ((spCfg?).bind fun c => geoMatW c ex (coordLen ex) true true .npInf (.scalar 3)).map (fun m => (m.rows, m.vals)) =
    some ([3], [[some 6, some 3, some 0, none, none]]) := by
  obtain ⟨c, hc, hok⟩ := Option.map_eq_some_iff.mp geo_cfgs_ok.2
  rw [hc, Option.bind_some, geoMatW_of_ok hok]
  generalize c.lab = l
  cases l <;> decide +kernel
example : geoMatW exCfg ex (coordLen ex) true false .pyNone (.list [7]) = none :=
  geodesic_matrix_missing_id exCfg (Or.inl exCfg_ok.1) ex _ true false .pyNone (.list [7]) 7 (by decide) (by decide)
example : ((adjMatW .ge 0 ex).get? 3 2, (adjMatW .ge 0 ex).get? 2 3, (adjMatW .ge 0 ex).get? 9 9) = (some true, some false, some false) := by decide +kernel
/-- `sort=True` on a forest (two roots; navis sorts tree by tree since the `node_label_sorting` fix): same relation. -/
example : ((adjSorted .ge 0 ex [1, 2, 4, 3, 9]).rows, (adjSorted .ge 0 ex [1, 2, 4, 3, 9]).get? 4 2, (adjSorted .ge 0 ex [1, 2, 4, 3, 9]).get? 9 1) =
    ([1, 2, 4, 3, 9], some true, some false) := by decide +kernel
example : (distalW ex (.list [4, 3]) .none).vals = [[true, true, true, false, false], [true, true, false, true, false]] := by decide +kernel
example : dictGet (distToRootW ex (coordLen ex)) 4 = some 7 ∧ dictGet (distToRootW ex (coordLen ex)) 9 = some 0 := by decide +kernel
example : segLenW ex (coordLen ex) [4, 2, 1] = some 7 ∧ segLenW ex (coordLen ex) [4, 3] = none := by decide +kernel
example : cableMaskedW .ge 0 ex (coordLen ex) [true, false, true, true, true] = 0 ∧
    cableMaskedW .ge 0 ex (coordLen ex) [true, true, false, true, true] = 7 := by decide +kernel
end ExamplesX

end Navis.Props.C05

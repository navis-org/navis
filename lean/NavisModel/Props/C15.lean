import NavisModel.Proofs.UnitsLemmas
import NavisModel.Proofs.UnitsHistLemmas
import NavisModel.Proofs.UnitsEuclid
import NavisModel.Proofs.UnitsSpecLemmas
/-!
# C15 — coordinate arithmetic and units keep physical quantities consistent

Everything is over `Rat` (exact): on the real code the statements hold up to IEEE rounding.  How to read the model's names:

* `u.phys` = metres per coordinate step per axis.  `Units.compact u p` is pint's `to_compact()` with the prefix `10^p` m;
  `p` is pint's choice and universally quantified in every theorem.
* `mul n f p`, `div n f p`, `add n o`, `sub n o : Option Neuron`: `none` = the call raises (unsupported operand shape) or, for
  `mul` / `div`, the operand has a zero component (outside the model: navis raises `ZeroDivisionError` or returns `inf` / zero units).
* `physPts n`, `physConns n`, `physRadii n` — coordinates / connectors / radii × units (metres): what the property says is kept.
* `applyOp n ids op` — the `(units, name, id)` flow of the non-scaling operations (`ids` are the fresh uuids
  `BaseNeuron.__init__` draws on the way); `assignUnits` = the guarded `self.units = units` (navis 4ae0b05).
* Defined in `Proofs/`, next to their lemmas: `enorm v` (`Proofs/UnitsEuclid`: the Euclidean length in `ℝ`, the reference the
  executable `elen` is compared with), `backTo b p'` (`Proofs/UnitsLemmas`: a `to_compact` to
  prefix `p'` returns to base unit `b`; `True` when `b` is dimensionless), `GenFacts` (`Proofs/UnitsHistLemmas`: by `clearsAllB`, the final clear of
  `* /` deletes every distance and coordinate view, that of `+ -` every coordinate view), `LinearObs g`
  (`Proofs/UnitsHistLemmas`: `g (w.map (c * ·)) = c * g w`), `RadiiOnlyOnTrees n` (`Proofs/UnitsSpecLemmas`).  `Coherent s` (`Model/UnitsHist`): every cached view reflects the current
  node table.

**VoxelNeuron.** Its arithmetic is a different design: the integer voxel indices cannot be scaled, so `x * k`
multiplies the *units* (the voxel size), the offset and the connectors.  The consistency that holds is
`voxel_scale_world` (navis 881c0e3: the scaled voxel size is not re-expressed by `to_compact`); physical invariance and `convert_units` do **not** hold for voxels
(`voxel_scale_not_invariant`, `voxel_convert_units_wrong`) — the harness reports these as known findings.
-/

namespace Navis.Props.C15
open Navis.Units

/-! ## 1. scaling keeps physical quantities -/

/-- **scale_physical_invariant.** For every skeleton, mesh or dotprops `n`, every operand `f` (number,
per-axis 3-vector, x/y/z/radius 4-vector) that `__mul__` accepts with all components non-zero (that is what
`mul n f p = some m` says, see `mul_defined_iff`) and every prefix `p` that `to_compact` may pick:
coordinates × units and connectors × units are unchanged, per axis. -/
theorem scale_physical_invariant {n m : Neuron} {f : Factor} {p : Int} (hk : n.kind ≠ .voxel)
    (h : mul n f p = some m) : physPts m = physPts n ∧ physConns m = physConns n := by
  have hnz := (mul_accepted h).2
  obtain rfl := mul_nonvoxel hk h
  rw [physPts_nonvoxel hk, physConns_nonvoxel hk, physPts_nonvoxel (by exact hk), physConns_nonvoxel (by exact hk)]
  exact ⟨map_mul_phys_div n.units f.xyz p (xyz_nz hnz) n.pts, map_mul_phys_div n.units f.xyz p (xyz_nz hnz) n.conns⟩

/-- The same for division. -/
theorem scale_physical_invariant_div {n m : Neuron} {f : Factor} {p : Int} (hk : n.kind ≠ .voxel)
    (h : div n f p = some m) : physPts m = physPts n ∧ physConns m = physConns n := by
  rw [div_eq_mul] at h
  exact scale_physical_invariant hk h

/-- Hence every quantity computed from physical coordinates (cable length × units, bounding box × units …)
is unchanged by scaling. -/
theorem scale_derived_invariant {α : Type} (g : List V3 → α) {n m : Neuron} {f : Factor} {p : Int}
    (hk : n.kind ≠ .voxel) (h : mul n f p = some m ∨ div n f p = some m) : g (physPts m) = g (physPts n) := by
  rcases h with h | h
  · rw [(scale_physical_invariant hk h).1]
  · rw [(scale_physical_invariant_div hk h).1]

/-- Radii × units are unchanged too whenever the radius factor equals the x factor (numbers; x/y/z 3-vectors, whose
radius factor is x; 4-vectors `(a, b, c, a)`). -/
theorem scale_physical_radii {n m : Neuron} {f : Factor} {p : Int} (hk : n.kind ≠ .voxel)
    (h : mul n f p = some m ∨ div n f p = some m) (hr : f.rad = f.xyz.x) : physRadii m = physRadii n := by
  rcases h with h | h
  · exact mul_physRadii hk h hr
  · rw [div_eq_mul] at h
    refine mul_physRadii hk h ?_
    rw [Factor.rad_inv, Factor.xyz_inv, hr]
    rfl

/-- When the operation is defined (non-vacuity of the hypotheses above): exactly when the neuron type accepts
the operand shape and no component is zero. -/
theorem mul_defined_iff (n : Neuron) (f : Factor) (p : Int) :
    ((mul n f p).isSome = true ↔ acceptsScale n.kind f = true ∧ f.nz = true) ∧
    ((div n f p).isSome = true ↔ acceptsScale n.kind f = true ∧ f.nz = true) :=
  ⟨mul_isSome_iff n f p, div_isSome_iff n f p⟩

/-- `to_compact` (any prefix) never changes the physical value of the unit. -/
theorem compact_keeps_physical (u : Units) (p : Int) : (u.compact p).phys = u.phys :=
  compact_phys u p

/-! ## 2. `x * f / f = x`, `x + o - o = x` -/

/-- **mul_div_cancel.** For every neuron type (voxels included), operand and prefixes: `x * f / f` has the
coordinates, radii, connectors, offset, name and id of `x` and units of the same physical value; when the last
`to_compact` returns to the original prefix (`backTo`: always true for dimensionless units) it *is* `x`. -/
theorem mul_div_cancel {n m n' : Neuron} {f : Factor} {p p' : Int}
    (h1 : mul n f p = some m) (h2 : div m f p' = some n') :
    n'.kind = n.kind ∧ n'.pts = n.pts ∧ n'.radii = n.radii ∧ n'.conns = n.conns ∧ n'.offset = n.offset ∧
      n'.name = n.name ∧ n'.id = n.id ∧ n'.units.phys = n.units.phys ∧ (backTo n.units.base p' → n' = n) := by
  rw [div_eq_mul] at h2
  exact mul_mul_inv_cancel h1 h2

theorem div_mul_cancel {n m n' : Neuron} {f : Factor} {p p' : Int}
    (h1 : div n f p = some m) (h2 : mul m f p' = some n') :
    n'.kind = n.kind ∧ n'.pts = n.pts ∧ n'.radii = n.radii ∧ n'.conns = n.conns ∧ n'.offset = n.offset ∧
      n'.name = n.name ∧ n'.id = n.id ∧ n'.units.phys = n.units.phys ∧ (backTo n.units.base p' → n' = n) := by
  rw [div_eq_mul] at h1
  rw [← Factor.inv_inv f] at h2
  exact mul_mul_inv_cancel h1 h2

/-- If `x * f` is defined so is `(x * f) / f` (the guard of `mul_div_cancel` is satisfiable). -/
theorem mul_then_div_defined {n m : Neuron} {f : Factor} {p : Int} (h : mul n f p = some m) (p' : Int) :
    (div m f p').isSome = true := by
  rw [div_isSome_iff, (mul_meta h).1]
  exact mul_accepted h

/-- **add_sub_cancel.** `x + o - o = x` and `x - o + o = x`, every type, every accepted offset. -/
theorem add_sub_cancel {n m : Neuron} {o : Factor} :
    (add n o = some m → sub m o = some n) ∧ (sub n o = some m → add m o = some n) :=
  ⟨fun h => (sub_eq_add m o).trans (add_add_neg h),
    fun h => Factor.neg_neg o ▸ add_add_neg ((sub_eq_add n o).symm.trans h)⟩

theorem shift_defined_iff (n : Neuron) (o : Factor) :
    ((add n o).isSome = true ↔ acceptsShift o = true) ∧ ((sub n o).isSome = true ↔ acceptsShift o = true) :=
  ⟨add_isSome_iff n o, by rw [sub_eq_add, add_isSome_iff, acceptsShift_neg]⟩

/-! ## 3. connectors follow the coordinates; radii only scale -/

/-- **connectors_follow (scaling).** Skeletons / meshes / dotprops: nodes and connectors are mapped by the
*same* per-axis function. -/
theorem connectors_follow_scale {n m : Neuron} {f : Factor} {p : Int} (hk : n.kind ≠ .voxel) :
    (mul n f p = some m → m.pts = n.pts.map (fun c => c.mul f.xyz) ∧ m.conns = n.conns.map (fun c => c.mul f.xyz)) ∧
    (div n f p = some m → m.pts = n.pts.map (fun c => c.div f.xyz) ∧ m.conns = n.conns.map (fun c => c.div f.xyz)) := by
  constructor
  · intro h; obtain rfl := mul_nonvoxel hk h; exact ⟨rfl, rfl⟩
  · intro h; obtain rfl := div_nonvoxel hk h; exact ⟨rfl, rfl⟩

/-- **connectors_follow (shifts).** Every type: world coordinates (for voxels `index × voxel size + offset`)
and connectors are shifted by the same vector; units, radii, name, id untouched. -/
theorem connectors_follow_shift {n m : Neuron} {o : Factor} :
    (add n o = some m → worldPts m = (worldPts n).map (fun c => c.add o.xyz) ∧
        m.conns = n.conns.map (fun c => c.add o.xyz) ∧ m.units = n.units ∧ m.radii = n.radii ∧
        m.name = n.name ∧ m.id = n.id) ∧
    (sub n o = some m → worldPts m = (worldPts n).map (fun c => c.sub o.xyz) ∧
        m.conns = n.conns.map (fun c => c.sub o.xyz) ∧ m.units = n.units ∧ m.radii = n.radii ∧
        m.name = n.name ∧ m.id = n.id) := by
  have key : ∀ o' : Factor, add n o' = some m → worldPts m = (worldPts n).map (fun c => c.add o'.xyz) ∧
      m.conns = n.conns.map (fun c => c.add o'.xyz) ∧ m.units = n.units ∧ m.radii = n.radii ∧
      m.name = n.name ∧ m.id = n.id := by
    intro o' h
    obtain ⟨_, rfl⟩ := add_eq_some.mp h
    by_cases hk : n.kind = .voxel
    · rw [if_pos hk, worldPts_voxel (by exact hk), worldPts_voxel hk, List.map_map]
      exact ⟨List.map_congr_left fun v _ => V3.ext' (add_assoc _ _ _).symm (add_assoc _ _ _).symm (add_assoc _ _ _).symm,
        rfl, rfl, rfl, rfl, rfl⟩
    · rw [if_neg hk, worldPts_nonvoxel (by exact hk), worldPts_nonvoxel hk]
      exact ⟨rfl, rfl, rfl, rfl, rfl, rfl⟩
  refine ⟨key o, fun h => ?_⟩
  have hs := key o.neg ((sub_eq_add n o).symm.trans h)
  simpa only [Factor.xyz_neg, ← V3.sub_eq_add_neg] using hs

/-- **voxel_scale_world.** VoxelNeuron: world coordinates `index × voxel size + offset` and connectors are multiplied
by the same per-axis factor, and the voxel size keeps its SI prefix (since navis 881c0e3 the scaled voxel size is not
passed through `to_compact`, which would re-express it in a new prefix while offset and connectors stay in the old
one). -/
theorem voxel_scale_world {n m : Neuron} {f : Factor} {p : Int} (hk : n.kind = .voxel)
    (h : mul n f p = some m) :
    worldPts m = (worldPts n).map (fun c => c.mul f.xyz) ∧ m.conns = n.conns.map (fun c => c.mul f.xyz) ∧
      m.units.base = n.units.base := by
  obtain rfl := mul_voxel hk h
  have hd : ∀ v s o g : Rat, v * (s * g) + o * g = (v * s + o) * g := fun v s o g => by rw [add_mul, mul_assoc]
  rw [worldPts_voxel (by exact hk), worldPts_voxel hk, List.map_map]
  exact ⟨List.map_congr_left fun v _ => V3.ext' (hd _ _ _ _) (hd _ _ _ _) (hd _ _ _ _), rfl, rfl⟩

/-- **radius_scales_only_on_mul_div.** The radius column is multiplied / divided by the radius factor
(`k` for a number, the x entry of a 3-vector, the 4th entry of a 4-vector) when scaling and is untouched by
`+` / `-`. -/
theorem radius_scales_only_on_mul_div {n m : Neuron} {f : Factor} {p : Int} (hk : n.kind ≠ .voxel) :
    (mul n f p = some m → m.radii = n.radii.map (fun r => r * f.rad)) ∧
    (div n f p = some m → m.radii = n.radii.map (fun r => r / f.rad)) ∧
    (add n f = some m → m.radii = n.radii) ∧ (sub n f = some m → m.radii = n.radii) := by
  refine ⟨?_, ?_, ?_, ?_⟩
  · intro h; obtain rfl := mul_nonvoxel hk h; rfl
  · intro h; obtain rfl := div_nonvoxel hk h; rfl
  · intro h; exact (connectors_follow_shift.1 h).2.2.2.1
  · intro h; exact (connectors_follow_shift.2 h).2.2.2.1

/-! ## 4. convert_units -/

/-- **convert_units_spec.** For skeletons, meshes, dotprops with a length unit (isometric or per axis): the resulting
unit has the physical value of exactly one target unit on every axis — and is literally `1 <target>` when
`to_compact` lands on the target prefix —, physical coordinates and connectors are preserved, radii too (radius ×
x-unit: for per-axis units the radius column is converted like x, navis 549685a), name and id are kept. -/
theorem convert_units_spec {n m : Neuron} {tgt p : Int} (hk : n.kind ≠ .voxel)
    (h : convertUnits n tgt p = some m) :
    m.units.phys = V3.rep (pow10 tgt) ∧ (p = tgt → m.units = ⟨V3.rep 1, .metre tgt⟩) ∧
      physPts m = physPts n ∧ physConns m = physConns n ∧
      physRadii m = physRadii n ∧ m.name = n.name ∧ m.id = n.id := by
  obtain ⟨e, c, hb, rfl, hmul⟩ := convert_eq_mul h
  have hnz := (mul_accepted hmul).2
  have hm := mul_nonvoxel hk hmul
  have hc := xyz_nz hnz
  rw [convArg_xyz] at hc
  -- per axis `mag · 10^e / (mag · (10^e / 10^tgt)) = 10^tgt`
  have key : ∀ a : Rat, a * (pow10 e / pow10 tgt) ≠ 0 → a * pow10 e / (a * (pow10 e / pow10 tgt)) = pow10 tgt :=
    fun a ha => by rw [mul_div_mul_left _ _ (left_ne_zero_of_mul ha), div_div_cancel₀ (pow10_ne_zero e)]
  have hu : m.units.phys = V3.rep (pow10 tgt) := by
    rw [mul_units_phys hk hmul, convArg_xyz, phys_metre hb]
    exact V3.ext' (key _ hc.1) (key _ hc.2.1) (key _ hc.2.2)
  refine ⟨hu, fun hp => ?_, (scale_physical_invariant hk hmul).1, (scale_physical_invariant hk hmul).2,
    mul_physRadii hk hmul (convArg_rad _), (mul_meta hmul).2.1, (mul_meta hmul).2.2⟩
  refine units_eq_of_phys ?_ (hu.trans (V3.ext' (one_mul _).symm (one_mul _).symm (one_mul _).symm))
  rw [hm, ← hp]
  exact compact_base_metre _ e p hb

set_option linter.unusedVariables false in
/-- `convert_units` is defined for every skeleton, mesh and dotprops with non-zero length units, per-axis units
included (skeletons since navis 549685a: `TreeNeuron.__mul__` accepts the x/y/z array of conversion factors). -/
theorem convert_units_defined {n : Neuron} {tgt p e : Int} (hk : n.kind ≠ .voxel)
    (hb : n.units.base = .metre e) (hnz : n.units.mag.nz = true) :
    (convertUnits n tgt p).isSome = true := by
  -- `hk` is not used: the conversion factors are an operand every neuron type accepts
  have hr : pow10 e / pow10 tgt ≠ 0 := div_ne_zero (pow10_ne_zero e) (pow10_ne_zero tgt)
  obtain ⟨h1, h2, h3⟩ := (nz_iff _).mp hnz
  unfold convertUnits convFactor
  simp only [hb]
  rw [mul_isSome_iff]
  exact convArg_accepted n.kind ((nz_iff _).mpr ⟨mul_ne_zero h1 hr, mul_ne_zero h2 hr, mul_ne_zero h3 hr⟩)

/-- Dimensionless neurons cannot be converted (pint raises `DimensionalityError`). -/
theorem convert_units_dimensionless (n : Neuron) (tgt p : Int) (h : n.units.base = .dimless) :
    convertUnits n tgt p = none := by
  simp [convertUnits, convFactor, h]

/-! ## 5. round_smart, map_units -/

/-- `round_smart` is defined for every number (navis 0b634c2) and stays within half a unit of the last decimal it
keeps. -/
theorem round_smart_bound {q r : Rat} (h : roundSmart q = some r) :
    q - 1 / (2 * (10 : Rat) ^ smartDecimals q) ≤ r ∧ r ≤ q + 1 / (2 * (10 : Rat) ^ smartDecimals q) := by
  have hpos := ten_pow_pos (smartDecimals q)
  have hT : 1 / (2 * (10 : Rat) ^ smartDecimals q) * (10 : Rat) ^ smartDecimals q = 1 / 2 := by
    rw [one_div_mul_eq_div, mul_comm, ← div_div, div_self (ne_of_gt hpos)]
  cases Option.some.inj h
  constructor
  · rw [le_div_iff₀ hpos, sub_mul, hT]
    exact sub_le_comm.mp (halfEven.lower _)
  · rw [div_le_iff₀ hpos, add_mul, hT]
    exact sub_le_iff_le_add'.mp (halfEven.upper _)

theorem round_smart_total (q : Rat) : (roundSmart q).isSome = true ∧ roundSmart (-q) = (roundSmart q).map (fun r => -r) :=
  ⟨rfl, roundSmart_neg q⟩

/-- **map_units_physical.** For a neuron with isometric units `m × 10^en` metres, `m > 0`, and a length
`a × 10^e` metres: the mapped number times the neuron's unit is the given length, up to `round_smart`'s
rounding of the ratio to `d = smartDecimals ratio` decimals (half a unit of the last kept decimal). -/
theorem map_units_physical {n : Neuron} {a r : Rat} {e : Int} (h : mapUnits n (.qty a (.metre e)) = some r)
    (hm : 0 < n.units.mag.x) :
    let d := smartDecimals (mapRatio n.units a e)
    a * pow10 e - n.units.phys.x / (2 * (10 : Rat) ^ d) ≤ r * n.units.phys.x ∧
      r * n.units.phys.x ≤ a * pow10 e + n.units.phys.x / (2 * (10 : Rat) ^ d) := by
  intro d
  obtain ⟨en, hb, _, hr⟩ := mapUnits_qty h
  obtain ⟨h1, h2⟩ := round_smart_bound hr
  have hP : 0 < n.units.phys.x := mul_pos hm (scale_pos _)
  have hq := mapRatio_mul_phys hb hm a e
  constructor
  · have := mul_le_mul_of_nonneg_right h1 (le_of_lt hP)
    rwa [sub_mul, hq, one_div_mul_eq_div] at this
  · have := mul_le_mul_of_nonneg_right h2 (le_of_lt hP)
    rwa [add_mul, hq, one_div_mul_eq_div] at this

/-- **map_units_exact.** When the exact ratio has no more decimals than `round_smart` keeps (the usual case:
`'5 microns'` on an `8 nm` neuron is `625`), the mapping is exact: result × neuron unit = the length. -/
theorem map_units_exact {n : Neuron} {a : Rat} {e en : Int} (hb : n.units.base = .metre en)
    (hiso : n.units.iso = true) (hm : 0 < n.units.mag.x) (z : Int)
    (hz : mapRatio n.units a e * (10 : Rat) ^ smartDecimals (mapRatio n.units a e) = z) :
    ∃ r, mapUnits n (.qty a (.metre e)) = some r ∧ r * n.units.phys.x = a * pow10 e := by
  refine ⟨mapRatio n.units a e, ?_, mapRatio_mul_phys hb hm a e⟩
  rw [mapUnits_metre hb hiso]
  exact roundSmart_exact z hz

/-- **map_units_unit_independent.** The mapping depends on the neuron only through the *physical* value of
its unit: neurons in `1 um`, `1000 nm`, `0.001 mm` map every length to the same number. -/
theorem map_units_unit_independent {n1 n2 : Neuron} {e1 e2 : Int} (h1 : n1.units.base = .metre e1)
    (h2 : n2.units.base = .metre e2) (hiso : n1.units.iso = n2.units.iso) (hp : n1.units.phys.x = n2.units.phys.x)
    (a : MapArg) : mapUnits n1 a = mapUnits n2 a := by
  cases a with
  | number v => rfl
  | qty a b =>
    cases b with
    | dimless => simp [mapUnits, Units.dimensionless, h1, h2, hiso]
    | metre e =>
      simp only [mapUnits, Units.dimensionless, h1, h2, hiso, mapRatio_metre h1, mapRatio_metre h2, hp]

/-- **map_units_nonpositive.** On every neuron with isometric length units a length string / quantity of *any* sign
is mapped: zero of any unit is `0` — the same as the plain number `0` —, and a negative length maps like the
positive one with the sign kept (so `heal_skeleton(max_dist='0 nm')`, `prune_twigs(x, '0 um')` … reach their code).
Up to navis df8a1f3 `utils.round_smart` began with `math.log10(num)` and `to_neuron_space` raised `ValueError: math domain
error` for every length of zero or below, although the plain numbers pass through; repaired in navis 0b634c2. -/
theorem map_units_nonpositive {n : Neuron} {e en : Int} (hb : n.units.base = .metre en) (hiso : n.units.iso = true)
    (a : Rat) :
    (mapUnits n (.qty a (.metre e))).isSome = true ∧
    mapUnits n (.qty 0 (.metre e)) = some 0 ∧ mapUnits n (.number 0) = some 0 ∧
    mapUnits n (.qty (-a) (.metre e)) = (mapUnits n (.qty a (.metre e))).map (fun r => -r) := by
  have hneg : mapRatio n.units (-a) e = -(mapRatio n.units a e) := by
    simp only [mapRatio, hb]; ring
  have hz : mapRatio n.units 0 e = 0 := by simp [mapRatio, hb]
  simp only [mapUnits_metre hb hiso, hz, hneg]
  exact ⟨rfl, roundSmart_zero, rfl, roundSmart_neg _⟩

/-- Plain numbers pass through; dimensionless or non-isometric neurons reject quantities. -/
theorem map_units_guards (n : Neuron) (v a : Rat) (b : Base) :
    mapUnits n (.number v) = some v ∧
    (n.units.dimensionless = true → mapUnits n (.qty a b) = none) ∧
    (n.units.iso = false → mapUnits n (.qty a b) = none) := by
  refine ⟨rfl, ?_, ?_⟩
  · intro h; simp [mapUnits, h]
  · intro h; simp [mapUnits, h]

/-! ## 6. unit spellings are normalised equivalently -/

/-- **units_normalised.** One unit and the same unit given per axis coincide; `None` is `1 dimensionless`; a
number `v` is `v dimensionless`; per-axis units with different base units are rejected.  (Strings, `pint.Unit`
and `pint.Quantity` all reach the model as `parsed mag base` — pint's parser is external.) -/
theorem units_normalised (a : UnitArg) (v : Rat) :
    setUnits [a, a, a] = setUnits [a] ∧
    setUnits [.none] = setUnits [.parsed 1 .dimless] ∧
    setUnits [.number v] = setUnits [.parsed v .dimless] ∧
    setUnits [.none] = some Units.none ∧
    (∀ b c : UnitArg, a.q.2 ≠ b.q.2 → setUnits [a, b, c] = none) := by
  refine ⟨?_, rfl, rfl, rfl, ?_⟩
  · simp [setUnits, V3.rep]
  · intro b c h; simp [setUnits, h]

/-- Handing a neuron's own units back to the setter (as `units=x.units`) reproduces them. -/
theorem units_roundtrip (u : Units) : setUnits (unitsAsArg u) = some u := by
  unfold unitsAsArg
  split
  · next h => exact congrArg (fun v => some (⟨v, u.base⟩ : Units)) (rep_x_of_iso h)
  · exact if_pos ⟨rfl, rfl⟩

/-! ## 7. non-scaling operations keep (units, name, id) -/

/-- **metadata_preserved.** Every non-scaling operation class — copying, functions and methods working on a
copy (reroot, cut, subset, prune_*, heal, stitch, re- and downsample …), construction with passed-on metadata
(make_dotprops …), pickling, re-wrapping in the own class, re-initialisation after a cut
(`prune_distal_to` / `prune_proximal_to`) — is defined and returns a neuron with the units, name and id of its
input: for all neurons, all data edits, all fresh uuids drawn on the way.  Up to navis 37e0d53 `TreeNeuron.__init__` /
`MeshNeuron.__init__` ended with an unconditional `self.units = units`, so `TreeNeuron(x)`, `MeshNeuron(x)`,
`prune_distal_to`, `prune_proximal_to` returned `1 dimensionless`; navis 4ae0b05 guards the assignment (`assignUnits`). -/
theorem metadata_preserved (n : Neuron) (ids : Int × Int × Int) (op : Op) :
    ∃ m, applyOp n ids op = some m ∧ m.metadata = n.metadata := by
  cases op with
  | construct k e =>
    -- the one class where the units pass through the setter
    simp only [applyOp, units_roundtrip]
    exact ⟨_, rfl, rfl⟩
  | _ => exact ⟨_, rfl, rfl⟩

/-- **reinit_explicit_units_override.** `cls(x, units=u)` still overrides: the result carries exactly the
units the setter makes of the argument, and the name and id of `x`. -/
theorem reinit_explicit_units_override (n : Neuron) (a : List UnitArg) (u : Units) (i j : Int)
    (h : setUnits a = some u) :
    ∃ m, reinit n (some a) i j = some m ∧ m.units = u ∧ m.name = n.name ∧ m.id = n.id ∧ m.pts = n.pts := by
  simp only [reinit, assignUnits, h]
  exact ⟨_, rfl, rfl, rfl, rfl, rfl⟩

/-- **from_table_units.** Construction from a bare table: the default gives `1 dimensionless`, an explicit
`units=` gives what the setter makes of it, `name=` / `id=` are taken over. -/
theorem from_table_units (k : Kind) (pts : List V3) (radii : List Rat) (conns : List V3) (name : String) (id : Int) :
    (∃ m, fromTable k pts radii conns none name id = some m ∧ m.units = Units.none ∧ m.name = name ∧ m.id = id) ∧
    (∀ a u, setUnits a = some u →
      ∃ m, fromTable k pts radii conns (some a) name id = some m ∧ m.units = u ∧ m.name = name ∧ m.id = id) := by
  constructor
  · exact ⟨_, rfl, rfl, rfl, rfl⟩
  · intro a u h
    simp only [fromTable, assignUnits, h]
    exact ⟨_, rfl, rfl, rfl, rfl⟩

/-! ## 8. the driver's exact comparison is sound -/

/-- `samePhysB 0` (what the driver evaluates on navis' own output for dyadic data) decides equality of the
physical observables. -/
theorem samePhysB_sound (radii : Bool) (a b : Neuron) :
    samePhysB 0 radii a b = true ↔
      physPts a = physPts b ∧ physConns a = physConns b ∧ (radii = true → physRadii a = physRadii b) := by
  unfold samePhysB
  cases radii <;> simp [closeL_zero, closeRL_zero, and_assoc]

/-! ## 9. physical quantities after a *history* (cached distance views, path sums)

`Skel` = skeleton + parent rows + cached views (`Model/UnitsHist.lean`); `step` / `runHist` = warming views,
`* / *= /= + - += -=` with any accepted operand, `convert_units`, in any order and number.  Which cached attributes an
operator deletes is read from the **generated** `Gen.Units.opFacts` / `Gen.Units.treeTempAttr` (the literals of the
current source): `gen_clears_distance_caches` is the proof obligation that stops checking when an operator starts
to keep a distance-carrying view (e.g. `exclude=[…, '_igraph', '_graph_nx']`).
-/

/-- **gen_clears_distance_caches** (over the generated operator table).  In the current source, the
`_clear_temp_attr` that ends `TreeNeuron.__mul__ / __truediv__` is applied to the returned object and deletes every
cached view whose content depends on edge lengths or coordinates (`_igraph`, `_graph_nx`, `_geodesic_matrix`,
`_cable_length`, `_segments`, `_adjacency_matrix`, `_simple`: each is in `TEMP_ATTR` and not in the literal
`exclude`); the one that ends `__add__ / __sub__` deletes the coordinate-carrying `_simple`. -/
theorem gen_clears_distance_caches : GenFacts :=
  -- one evaluation: the four rows look the same attribute names up in the same `TEMP_ATTR`
  have ⟨a, b, c, d⟩ : _ ∧ _ ∧ _ ∧ _ := by decide +kernel
  ⟨a, b, c, d⟩

theorem fresh_coherent (n : Neuron) (par : List Int) : Coherent ⟨n, par, []⟩ := by
  intro e he
  cases he

/-- **history_invariant.** For every skeleton, every history (any number of steps; numbers, 3- and 4-vectors, offsets,
any `to_compact` prefix, `convert_units`, views warmed at any point): if the history is defined, the cached views
of the result all reflect the result's node table, and the *physical* edge vectors (child − parent) × units — per
axis — are those of the neuron the history started from; topology, name and id are untouched. -/
theorem history_invariant {s s' : Skel} {h : List Step} (hk : s.nrn.kind ≠ .voxel) (hc : Coherent s)
    (hr : runHist s h = some s') :
    Coherent s' ∧ physEdges s' = physEdges s ∧ s'.par = s.par ∧ s'.nrn.name = s.nrn.name ∧ s'.nrn.id = s.nrn.id := by
  have i := runHist_inv gen_clears_distance_caches hk hr
  exact ⟨i.coherent hc, i.phys, i.par, i.name, i.id⟩

/-- **history_distance_views.** Edge weights seen through *any* distance view (`.igraph`, `.graph`,
`.geodesic_matrix`, `.cable_length`, `.segments`, cached before, during or after the history) of the result, times
the result's unit, equal the weights of the original times its unit — for every edge-length function `len` that is
homogeneous on the edges (`len (k·d) = k · len d`, `k` = the unit: the Euclidean norm, see `history_euclid`), whenever
both ends of the history have isometric units. -/
theorem history_distance_views {α : Type} [Semiring α] (cast : Rat → α) (len : V3 → α) {s s' : Skel} {h : List Step}
    (hk : s.nrn.kind ≠ .voxel) (hc : Coherent s) (hr : runHist s h = some s')
    (hiso : s.nrn.units.iso = true) (hiso' : s'.nrn.units.iso = true)
    (hlen : ∀ d ∈ edgeVecs s.nrn.pts s.par, len (d.mul (V3.rep s.nrn.units.phys.x)) = cast s.nrn.units.phys.x * len d)
    (hlen' : ∀ d ∈ edgeVecs s'.nrn.pts s'.par, len (d.mul (V3.rep s'.nrn.units.phys.x)) = cast s'.nrn.units.phys.x * len d)
    {a b : String} (ha : a ∈ weightViews) (hb : b ∈ weightViews) :
    (viewW len s' a).map (fun w => cast s'.nrn.units.phys.x * w) = (viewW len s b).map (fun w => cast s.nrn.units.phys.x * w) := by
  obtain ⟨hc', hp, _⟩ := history_invariant hk hc hr
  rw [viewW_of_coherent len hc' ha, viewW_of_coherent len hc hb, ← weights_phys cast len s' hlen' hiso',
    ← weights_phys cast len s hlen hiso, hp]

/-- **history_path_sums.** Hence every *linear* distance observable `g` (sums of edge weights along paths:
`dist_to_root`, `dist_between`, rows of the geodesic matrix, segment lengths, cable length —
`path_sums_are_linear`; closed under `+` and `−`: `LinearObs.add`, `LinearObs.sub`) of the result, times the result's unit, equals that of the original times
its unit. -/
theorem history_path_sums {α : Type} [Semiring α] (cast : Rat → α) (len : V3 → α) {s s' : Skel} {h : List Step}
    (hk : s.nrn.kind ≠ .voxel) (hc : Coherent s) (hr : runHist s h = some s')
    (hiso : s.nrn.units.iso = true) (hiso' : s'.nrn.units.iso = true)
    (hlen : ∀ d ∈ edgeVecs s.nrn.pts s.par, len (d.mul (V3.rep s.nrn.units.phys.x)) = cast s.nrn.units.phys.x * len d)
    (hlen' : ∀ d ∈ edgeVecs s'.nrn.pts s'.par, len (d.mul (V3.rep s'.nrn.units.phys.x)) = cast s'.nrn.units.phys.x * len d)
    {a b : String} (ha : a ∈ weightViews) (hb : b ∈ weightViews) (g : List α → α) (hg : LinearObs g) :
    cast s'.nrn.units.phys.x * g (viewW len s' a) = cast s.nrn.units.phys.x * g (viewW len s b) := by
  rw [← hg, ← hg, history_distance_views cast len hk hc hr hiso hiso' hlen hlen' ha hb]

/-- distance to the root of every row and the cable length are such observables -/
theorem path_sums_are_linear {α : Type} [Semiring α] (par : List Int) (fuel i : Nat) :
    LinearObs (fun w : List α => pathToRoot w par fuel i) ∧ LinearObs (cable (α := α)) := by
  constructor
  · intro c w
    -- `induction fuel`: `pathToRoot` on `w` and on `w.map (c * ·)` at equal fuel
    induction fuel generalizing i with
    | zero => simp [pathToRoot]
    | succ n ih =>
      simp only [pathToRoot]
      cases par[i]? with
      | none => simp
      | some p =>
        simp only
        split
        · have h := ih p.toNat
          simp only at h
          rw [getD_map_mul, h, mul_add]
        · simp
  · intro c w
    induction w with
    | nil => simp [cable]
    | cons x xs ih =>
      simp only [cable, List.map_cons, List.foldr_cons] at ih ⊢
      rw [ih, mul_add]

/-- **history_euclid.** The statement for the real Euclidean edge length: for units of positive size the
homogeneity hypotheses hold, so after any history `√(Δx²+Δy²+Δz²)`-path sums × units are unchanged. -/
theorem history_euclid {s s' : Skel} {h : List Step} (hk : s.nrn.kind ≠ .voxel) (hc : Coherent s)
    (hr : runHist s h = some s') (hiso : s.nrn.units.iso = true) (hiso' : s'.nrn.units.iso = true)
    (hpos : 0 < s.nrn.units.phys.x) (hpos' : 0 < s'.nrn.units.phys.x)
    {a b : String} (ha : a ∈ weightViews) (hb : b ∈ weightViews) (g : List ℝ → ℝ) (hg : LinearObs g) :
    (s'.nrn.units.phys.x : ℝ) * g (viewW enorm s' a) = (s.nrn.units.phys.x : ℝ) * g (viewW enorm s b) :=
  history_path_sums (fun q : Rat => (q : ℝ)) enorm hk hc hr hiso hiso'
    (fun d _ => enorm_homog d hpos) (fun d _ => enorm_homog d hpos') ha hb g hg

/-- **scale_euclid_any_sign.** One multiplication by a number `k ≠ 0` of *either sign* (a negative factor mirrors the
neuron and makes the unit negative): every Euclidean edge length — hence every path sum — times the *absolute* unit
is unchanged. -/
theorem scale_euclid_any_sign {n m : Neuron} {k : Rat} {p : Int} (hk : n.kind ≠ .voxel) (h : mul n (.s k) p = some m)
    (par : List Int) :
    (weights enorm ⟨m, par, []⟩).map (fun w => w * |((m.units.phys.x : Rat) : ℝ)|) =
      (weights enorm ⟨n, par, []⟩).map (fun w => w * |((n.units.phys.x : Rat) : ℝ)|) := by
  have hnz := (mul_accepted h).2
  obtain rfl := mul_nonvoxel hk h
  have hk0 : (k : ℝ) ≠ 0 := Rat.cast_ne_zero.mpr (bne_iff_ne.mp hnz)
  -- `|k| · ‖d‖ · |unit / k| = ‖d‖ · |unit|`
  have key : ∀ d : V3, enorm (d.mul (V3.rep k)) * |((n.units.phys.x / k : Rat) : ℝ)| =
      enorm d * |((n.units.phys.x : Rat) : ℝ)| := fun d => by
      rw [enorm_abs_homog, Rat.cast_div, abs_div, mul_right_comm, mul_div_cancel₀ _ (abs_ne_zero.mpr hk0), mul_comm]
  unfold weights
  rw [edgeVecs_mul, List.map_map, List.map_map, List.map_map, compact_phys, phys_mag_div]
  exact List.map_congr_left fun d _ => key d

/-- The executable edge length `elen` (exact rational root) is the Euclidean norm on vectors of rational length
and is homogeneous there — this is what the driver evaluates on the harness' integer-length edges. -/
theorem elen_is_euclid {v : V3} {r : Rat} (hr : 0 ≤ r) (hv : normSq v = r * r) :
    enorm v = ((elen v : Rat) : ℝ) ∧ ∀ k : Rat, 0 < k → elen (v.mul (V3.rep k)) = k * elen v :=
  ⟨by
    rw [enorm_eq_sqrt_normSq, elen, hv, sqrtQ_mul_self hr]
    push_cast
    exact Real.sqrt_mul_self (by exact_mod_cast hr),
  fun _ hk => elen_homog hr hv hk⟩

/-- **histPhysB_sound.** The checker the driver evaluates on navis' own edge weights `w` (tolerance 0) says exactly:
`w × unit of the result` = lengths of the physical edge vectors of the original. -/
theorem histPhysB_sound (s0 : Skel) (u : Units) (w : List Rat) :
    histPhysB 0 s0 u w = true ↔ w.map (fun x => x * u.phys.x) = (physEdges s0).map elen := by
  unfold histPhysB; exact allClose_zero _ _

theorem histPathB_sound (s0 : Skel) (u : Units) (d : List Rat) :
    histPathB 0 s0 u d = true ↔ d.map (fun x => x * u.phys.x) =
      (List.range s0.par.length).map (pathToRoot ((physEdges s0).map elen) s0.par s0.par.length) := by
  unfold histPathB; exact allClose_zero _ _

theorem histCableB_sound (s0 : Skel) (u : Units) (c : Rat) :
    histCableB 0 s0 u c = true ↔ c * u.phys.x = cable ((physEdges s0).map elen) := by
  unfold histCableB; exact relClose_zero _ _

/-- **model_passes_histPhysB.** The model's own views pass the checker after every history: for a coherent start
and a result with rational edge lengths and isometric positive units, the weights any distance view of
the result returns satisfy `histPhysB 0` against the start. -/
theorem model_passes_histPhysB {s s' : Skel} {h : List Step} (hk : s.nrn.kind ≠ .voxel) (hc : Coherent s)
    (hr : runHist s h = some s') (hiso' : s'.nrn.units.iso = true) (hpos' : 0 < s'.nrn.units.phys.x)
    (hx' : exactEdges s' = true) {a : String} (ha : a ∈ weightViews) :
    histPhysB 0 s s'.nrn.units (viewW elen s' a) = true := by
  obtain ⟨hc', hp, _⟩ := history_invariant hk hc hr
  rw [histPhysB_sound, viewW_of_coherent elen hc' ha, ← hp,
    weights_phys (fun q => q) elen s' (elen_homog_on_exact hx' hpos') hiso']
  exact List.map_congr_left fun w _ => mul_comm _ _

/-! ## 10. the operators as extracted from the current source are the model operators

`Gen.Units.opFacts` is regenerated from `navis/core/{skeleton,mesh,dotprop,voxel}.py` on every check: per class and
operator, which data are rewritten with which arithmetic operator, what is done to the connector columns and to
`.units` (`n.units = (n.units <op> other).to_compact()`), the operand-length guard, `other = other[:3]`, the returned
object.  `applyFact` (Model/UnitsSpec.lean) interprets a row on the C15 neuron model. -/

/-- **gen_operator_table.** The semantic fields of the 16 extracted rows are exactly the table that the
hand-written `mul / div / add / sub` implement: coordinates (and `radius` for skeletons when scaling) and
connectors rewritten with the operator, units rescaled with the *inverse* operator and compacted (voxels: the same
operator — the known deviation), `+`/`-` leave radii and units alone, skeletons demand 4 (scaling) / 3 (shift)
components — 3 scaling components are padded with the x component for the radius (navis 549685a) — and drop the 4th
before the connectors. -/
theorem gen_operator_table : Gen.Units.opFacts.map factCore = expectedTable := by decide +kernel

/-- **operators_as_extracted.** For every extracted row `f` of class `k` and operator `op`, every neuron of that
class (with a radius column only on skeletons), every operand and prefix: interpreting the row gives exactly the model
operator — so sections 1–4 and 9 are statements about the operators as written in the current source. -/
theorem operators_as_extracted {f : Gen.Units.OpFact} (hf : f ∈ Gen.Units.opFacts) {k : Kind} {op : OpK}
    (hc : f.cls = clsOf k) (ho : f.op = op.name) (n : Neuron) (a : Factor) (p : Int) (hk : n.kind = k)
    (hr : RadiiOnlyOnTrees n) : applyFact f n a p = modelOp op n a p :=
  table_rows_are_model gen_operator_table hf hc ho n a p hk hr

/-- every (class, operator) pair has a row (the statement above is not vacuous) -/
theorem operator_rows_complete (k : Kind) (op : OpK) :
    ∃ f ∈ Gen.Units.opFacts, f.cls = clsOf k ∧ f.op = op.name := by
  have hm := expectedCore_mem k op
  rw [← gen_operator_table] at hm
  obtain ⟨f, hf, he⟩ := List.mem_map.mp hm
  obtain ⟨e1, e2⟩ := expectedCore_cls k op
  exact ⟨f, hf, (congrArg OpCore.cls he).trans e1, (congrArg OpCore.op he).trans e2⟩

/-- **gen_dotprops_drop_kdtree.** Every `Dotprops` operator deletes the cached KD-tree (`delattr(n, '_tree')`) of the
object it returns — `Dotprops` has no content hash that would catch a stale tree after `x *= k`. -/
theorem gen_dotprops_drop_kdtree : ∀ f ∈ Gen.Units.opFacts, f.cls = "Dotprops" → f.dropsKdTree = true := by decide +kernel

/-! ## 11. `config.add_units = True`: unit-carrying properties -/

/-- **gen_add_units.** In the current source the `add_units` wrapper multiplies the raw value by
`np.power(self.units, power)` — the *quantity* (magnitude included), not the bare unit —, only for neurons with
non-dimensionless units, and compacts under `if compact:`; the decorated properties carry the power of their
dimension: cable length 1, surface area 2, volumes 3.  `VoxelNeuron.volume` returns a quantity by itself and is *not*
decorated (since navis afa4901; before, the units were applied twice: length⁶). -/
theorem gen_add_units :
    Gen.Units.addUnitsFactor = "np.power(self.units, power)" ∧
    Gen.Units.addUnitsGuard = "config.add_units and self.has_units and (not self.units.dimensionless)" ∧
    Gen.Units.addUnitsCompactsWhenAsked = true ∧
    addUnitsPower "TreeNeuron" "cable_length" = some 1 ∧ addUnitsPower "TreeNeuron" "surface_area" = some 2 ∧
    addUnitsPower "TreeNeuron" "volume" = some 3 ∧ addUnitsPower "MeshNeuron" "volume" = some 3 ∧
    addUnitsPower "VoxelNeuron" "volume" = none := ⟨rfl, rfl, rfl, by decide +kernel⟩

/-- **add_units_scale_invariant.** A quantity of dimension length^`d` (its raw value scales with `k^d` when the
coordinates are multiplied / divided by a number `k ≠ 0`) is reported by an `@add_units(power=d)` property as the same
physical quantity before and after scaling — per axis too —, for every prefix `to_compact` picks. -/
theorem add_units_scale_invariant {n m : Neuron} {k : Rat} {p : Int} (hk : n.kind ≠ .voxel) (d : Nat) (raw : Rat) :
    (mul n (.s k) p = some m → addUnitsPhys d m.units (raw * k ^ d) = addUnitsPhys d n.units raw) ∧
    (div n (.s k) p = some m → addUnitsPhys d m.units (raw / k ^ d) = addUnitsPhys d n.units raw) :=
  ⟨fun h => addUnitsPhys_mul hk h d raw, fun h => by
    rw [div_eq_mul] at h
    rw [div_eq_mul_inv, ← inv_pow]
    exact addUnitsPhys_mul hk h d raw⟩

/-- **voxel_volume_spec.** With the axes the current source multiplies (`[0, 1, 2]`, each once) the volume of a
VoxelNeuron is `nnz · ux · uy · uz` in metres³ — per-axis voxel sizes included —, the property carries exactly three
powers of length and is independent of `config.add_units` (it is not an `add_units` site).  Up to navis 3dcd5b6 the product
was `units_xyz[0] * units_xyz[2] * units_xyz[2]` (y ignored, z twice) and the property was wrapped in `@add_units(power=3)` on
top of the quantity it returns (length⁶ with `config.add_units = True`); repaired in navis b141c1f and afa4901. -/
theorem voxel_volume_spec (u : Units) (nnz : Nat) :
    Gen.Units.voxelVolumeAxes = [0, 1, 2] ∧ Gen.Units.voxelVolumeCount = "self.nnz" ∧
    voxelVolume u nnz = (nnz : Rat) * u.phys.x * u.phys.y * u.phys.z ∧
    addUnitsPower "VoxelNeuron" "volume" = none := by
  exact ⟨rfl, rfl, rfl, by decide +kernel⟩

/-- `x * k` on a VoxelNeuron (which scales the voxel size, see `voxel_scale_world`) multiplies the volume by `k³`. -/
theorem voxel_volume_scales {n m : Neuron} {k : Rat} {p : Int} (hk : n.kind = .voxel) (h : mul n (.s k) p = some m)
    (nnz : Nat) : voxelVolume m.units nnz = k ^ 3 * voxelVolume n.units nnz := by
  obtain rfl := mul_voxel hk h
  rw [(voxel_volume_spec _ nnz).2.2.1, (voxel_volume_spec _ nnz).2.2.1]
  simp only [Units.phys, V3.mul, V3.rep, Factor.xyz]
  ring

/-- the checker the driver evaluates on the reported voxel volume is exact at tolerance 0 -/
theorem voxelVolumeB_sound (u : Units) (nnz dim : Nat) (q : Rat) :
    voxelVolumeB 0 u nnz dim q = true ↔ dim = 3 ∧ q = (nnz : Rat) * u.phys.x * u.phys.y * u.phys.z := by
  unfold voxelVolumeB
  rw [(voxel_volume_spec u nnz).2.2.1]
  simp [relClose_zero, Gen.Units.voxelVolumeAxes]

-- one voxel of `(4, 8, 40) nm`: 1280 nm³ (was 6400 with x·z·z)
example : voxelVolume ⟨⟨4, 8, 40⟩, .metre (-9)⟩ 1 = 1280 * pow10 (-9) ^ 3 := by decide +kernel

/-- the checker the driver evaluates on the reported quantity (converted to base units by pint) is exact at tolerance 0 -/
theorem addUnitsB_sound (d : Nat) (u : Units) (raw : Rat) (q : V3) :
    addUnitsB 0 d u raw q = true ↔ q = addUnitsPhys d u raw := by
  unfold addUnitsB
  simp only [Bool.and_eq_true, relClose_zero, and_assoc]
  exact (V3.eq_iff q _).symm

-- a wrapper that multiplied by the bare unit (`res * self.units.units ** power`) would report, for an `8 nm` skeleton with raw
-- cable length 5, 5 nm instead of 40 nm
example : addUnitsPhys 1 ⟨V3.rep 8, .metre (-9)⟩ 5 = V3.rep (40 * pow10 (-9)) ∧
    addUnitsPhys 1 ⟨V3.rep 1, .metre (-9)⟩ 5 ≠ addUnitsPhys 1 ⟨V3.rep 8, .metre (-9)⟩ 5 := by decide +kernel

/-- **gen_make_dotprops_metadata.** In `make_dotprops` every neuron branch hands `name` and `id` (and `units`, for
skeletons, meshes and dotprops; the voxel branch re-expresses the unit) to the new Dotprops *before* its first `return`
— the `k = 0 / None` early return of the skeleton branch included — which is the `construct` class of
`metadata_preserved`. -/
theorem gen_make_dotprops_metadata :
    (∀ c ∈ ["TreeNeuron", "MeshNeuron", "Dotprops"], ∃ e ∈ Gen.Units.makeDotpropsMeta,
      e.1 = c ∧ e.2.1 = true ∧ "units" ∈ e.2.2 ∧ "name" ∈ e.2.2 ∧ "id" ∈ e.2.2) ∧
    (∃ e ∈ Gen.Units.makeDotpropsMeta, e.1 = "VoxelNeuron" ∧ e.2.1 = true ∧ "name" ∈ e.2.2 ∧ "id" ∈ e.2.2) := by
  decide +kernel

/-- **gen_unit_handling.** Further literals of the current source that the model hard-wires and the property depends
on: `convert_units` multiplies by `n.units.to(to).magnitude`; `to_neuron_space` converts the length to
`neuron.units`, divides by `neuron.units.magnitude` and rounds with `round_smart` (default precision 8), and rejects
dimensionless and non-isometric neurons; the units setter accepts 1 or 3 entries, rewrites `micron(s)` to `um` (in any order:
pint reads `ums` as the plural) and turns a number `v` into `"v dimensionless"`; `TreeNeuron.__init__` / `MeshNeuron.__init__` assign `units` last and
only when given or not yet present (navis 4ae0b05). -/
theorem gen_unit_handling :
    Gen.Units.convertOp = "*" ∧ Gen.Units.convertFactor = "n.units.to(to).magnitude" ∧
    Gen.Units.mapToTarget = "neuron.units" ∧ Gen.Units.mapDivisor = "neuron.units.magnitude" ∧
    Gen.Units.mapRounding = "round_smart" ∧ Gen.Units.roundSmartPrec = 8 ∧
    Gen.Units.mapDimlessGuard = true ∧ Gen.Units.mapIsoGuard = true ∧
    Gen.Units.unitsAllowedLens = [1, 3] ∧ ("micron", "um") ∈ Gen.Units.unitsSpellingFix ∧
    (∀ kv ∈ Gen.Units.unitsSpellingFix, kv.2 = "um" ∧ (kv.1 = "micron" ∨ kv.1 = "microns")) ∧
    Gen.Units.unitsNumberTemplate = "{} dimensionless" ∧
    (∀ e ∈ Gen.Units.initUnits, (e.1 = "TreeNeuron" ∨ e.1 = "MeshNeuron") →
      e.2.1 = true ∧ e.2.2.1 = true ∧ e.2.2.2 = "units is not None or not hasattr(self, '_unit_str')") :=
  have ⟨a, b, c⟩ : _ ∧ _ ∧ _ := by decide +kernel
  ⟨rfl, rfl, rfl, rfl, rfl, rfl, rfl, rfl, rfl, a, b, rfl, c⟩

/-! ## 12. non-vacuity and witnesses (concrete data, evaluated by the kernel) -/

section Examples

/-- 3-node skeleton in `8 nm`, one connector, radii 1/100. -/
def exTree : Neuron :=
  ⟨.tree, [⟨0, 0, 0⟩, ⟨4, 0, 0⟩, ⟨4, 3, 5⟩], [1/100, 1/100, 1/50], [⟨4, 1, 0⟩], V3.rep 0,
   ⟨V3.rep 8, .metre (-9)⟩, "n", 77⟩

def exMeshAniso : Neuron :=
  ⟨.mesh, [⟨0, 0, 0⟩, ⟨4, 0, 0⟩, ⟨0, 4, 0⟩, ⟨0, 0, 4⟩], [], [⟨4, 1, 0⟩], V3.rep 0,
   ⟨⟨4, 4, 40⟩, .metre (-9)⟩, "m", 78⟩

def exVoxel : Neuron :=
  ⟨.voxel, [⟨0, 0, 0⟩, ⟨1, 0, 0⟩, ⟨0, 2, 3⟩], [], [⟨4, 1, 0⟩], ⟨10, 20, 30⟩,
   ⟨V3.rep 8, .metre (-9)⟩, "v", 80⟩

-- the operations are defined on these inputs (hypotheses of the theorems above are satisfiable)
example : (mul exTree (.s (5/2)) (-9)).isSome = true := by decide +kernel
example : (mul exTree (.v4 ⟨2, 4, 8⟩ 2) (-9)).isSome = true := by decide +kernel
example : (mul exMeshAniso (.v3 ⟨2, 4, 8⟩) (-9)).isSome = true := by decide +kernel
example : (div exTree (.s 1000) (-6)).isSome = true := by decide +kernel
example : (add exTree (.v3 ⟨1, 2, 3⟩)).isSome = true := by decide +kernel
example : (convertUnits exTree (-6) (-6)).isSome = true := by decide +kernel
example : (convertUnits exMeshAniso (-6) (-6)).isSome = true := by decide +kernel
-- '5 microns' on the 8 nm skeleton is 625
example : mapUnits exTree (.qty 5 (.metre (-6))) = some 625 := by decide +kernel
-- `8 nm` → `um`: unit is `1 um`, x of node 2 is 4·8/1000
example : (convertUnits exTree (-6) (-6)).map (fun m => (m.units, m.pts.map (·.x))) =
    some (⟨V3.rep 1, .metre (-6)⟩, [0, 4 * 8 / 1000, 4 * 8 / 1000]) := by decide +kernel
-- operand shapes that raise: 4-vectors on meshes, zero factors, 4-vector offsets
example : mul exMeshAniso (.v4 ⟨2, 4, 8⟩ 2) (-9) = none ∧ mul exTree (.s 0) (-9) = none ∧
    add exTree (.v4 ⟨1, 2, 3⟩ 4) = none := by decide +kernel
-- x/y/z operands on a skeleton (navis 549685a): the radius follows x
example : (mul exTree (.v3 ⟨2, 4, 8⟩) (-9)).map (fun m => (m.radii, m.units.mag)) =
    some ([2 / 100, 2 / 100, 2 / 50], ⟨4, 2, 1⟩) := by decide +kernel

/-- **convert_units_tree_anisotropic (witness).** A skeleton with units `(4, 4, 40) nm` converts to `1 um` on every
axis: `z` is scaled ten times as much as `x`, `y`; the radius like `x`.  Up to navis df8a1f3 `TreeNeuron.__mul__` accepted
only numbers and 4-vectors, so `convert_units` (which multiplies by the x/y/z array of conversion factors) raised for every
skeleton with per-axis units; repaired in navis 549685a. -/
theorem convert_units_tree_anisotropic :
    (convertUnits { exTree with units := ⟨⟨4, 4, 40⟩, .metre (-9)⟩ } (-6) (-6)).map
      (fun m => (m.units, m.pts, m.radii)) =
    some (⟨V3.rep 1, .metre (-6)⟩, [⟨0, 0, 0⟩, ⟨4 * 4 / 1000, 0, 0⟩, ⟨4 * 4 / 1000, 3 * 4 / 1000, 5 * 40 / 1000⟩],
          [1 / 100 * (4 / 1000), 1 / 100 * (4 / 1000), 1 / 50 * (4 / 1000)]) := by decide +kernel

/-- **rewrap_witness.** On the `8 nm` skeleton: `TreeNeuron(x)` and the `prune_distal_to` flow keep `8 nm`;
`TreeNeuron(x, units='1 um')` gives `1 um`; a bare table gives `1 dimensionless`, a table with
`units='8 nm'` gives `8 nm`. -/
theorem rewrap_witness :
    (applyOp exTree (1, 2, 3) .rewrap).map (·.units) = some exTree.units ∧
    (applyOp exTree (1, 2, 3) (.reinitAfterCut ⟨fun l => l.take 2, fun l => l.take 2, id⟩)).map (·.units)
      = some exTree.units ∧
    (reinit exTree (some [.parsed 1 (.metre (-6))]) 1 2).map (·.units) = some ⟨V3.rep 1, .metre (-6)⟩ ∧
    (fromTable .tree exTree.pts exTree.radii [] none "t" 5).map (·.units) = some Units.none ∧
    (fromTable .tree exTree.pts exTree.radii [] (some [.parsed 8 (.metre (-9))]) "t" 5).map (·.units)
      = some exTree.units := by decide +kernel

/-- **voxel_scale_not_invariant (witness, known finding).** For a `VoxelNeuron`, `x * 2` doubles the physical
world coordinates (units `8 nm → 16 nm`, same indices) instead of keeping them. -/
theorem voxel_scale_not_invariant :
    (mul exVoxel (.s 2) (-9)).map physPts ≠ some (physPts exVoxel) ∧
    (mul exVoxel (.s 2) (-9)).map (fun m => m.units.mag) = some (V3.rep 16) := by decide +kernel

/-- **voxel_convert_units_wrong (witness, known finding).** `convert_units('um')` on an `8 nm` VoxelNeuron
yields a voxel size of `0.064 nm` (64 pm) — neither `um` nor the original voxel size. -/
theorem voxel_convert_units_wrong :
    (convertUnits exVoxel (-6) (-12)).map (fun m => m.units) = some ⟨V3.rep (64 / 1000), .metre (-9)⟩ := by decide +kernel

/-- **voxel_scale_keeps_prefix (witness).** `x * 1000` on the `8 nm` VoxelNeuron with offset `(10, 20, 30)`: voxel size
`8000 nm`, offset `(10000, 20000, 30000)` nm, world coordinates exactly the old ones times 1000.  Up to navis df8a1f3
`VoxelNeuron.__mul__/__truediv__` passed the scaled voxel size through `to_compact()`: the voxel size became `8 um` with offset
and connectors still numerically in nm; repaired in navis 881c0e3. -/
theorem voxel_scale_keeps_prefix :
    (mul exVoxel (.s 1000) (-6)).map (fun m => (m.units, m.offset)) =
      some (⟨V3.rep 8000, .metre (-9)⟩, ⟨10000, 20000, 30000⟩) ∧
    (mul exVoxel (.s 1000) (-6)).map worldPts = some ((worldPts exVoxel).map (fun c => c.mul (V3.rep 1000))) := by
  decide +kernel

end Examples

end Navis.Props.C15

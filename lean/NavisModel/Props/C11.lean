import NavisModel.Proofs.HealLemmas
import NavisModel.Proofs.HealMstLemmas
import NavisModel.Proofs.HealStitchWfLemmas
import NavisModel.Proofs.HealCheckerLemmas
import NavisModel.Gen.Heal
/-!
# C11 — healing and stitching connect fragments minimally and lose nothing

`heal_skeleton` (`_stitch_mst`) joins the trees of a fragmented skeleton by new edges between allowed nodes.  The model
takes, for every pair of fragments, the nearest pair of allowed nodes strictly closer than `max_dist`, runs Kruskal on that
fragment graph and re-derives the parent column by a traversal (`rewire`).  Proved: every node and every old edge is kept and
the result is a forest; the new edges form a spanning forest of the fragment graph — one per merged fragment, one tree when
nothing limits the search — of minimal total weight, for every monotone weight of the length, against ANY list of allowed
connections, and each is lightest across a cut; `max_dist` is strict and `0` is a limit.  `break_fragments`, `drop_fluff` and
`drop_disc` return whole components — `drop_fluff` a prefix of the size-sorted list, `drop_disc` a largest one.  `stitch_skeletons` / `combine_neurons` make the ids unique by ONE
injective map per input that fixes the master; parents, connectors and tags follow the same map.  Then, in file order: the
candidate search as `_stitch_mst` writes it finds the same edges; the checkers the driver runs on navis' output are sound, and
`healOKB` / `healMinOKB` accept the model's own output; what was re-extracted from the source; histories of healing calls; examples.

Defined in `Proofs/` and used in the statements below: `Conn`, `Acyc` (`UConnLemmas`), `qE` (`HealKruskalLemmas`), `Allowed`
(`HealCandLemmas`), `fluffSel` (`HealFragLemmas`), `healSeq` (`HealLemmas`), `SkelOK` (`HealStitchLemmas`).

All statements hold for every table `t` (any size, labelling and row order) that is a well-formed
forest, every method / `max_dist` / `min_size` / `mask`, every list of skeletons.  Distances are
SQUARED integer distances (`sqDist`); "shorter" is the same for squared and true lengths.
-/
namespace Navis.Props.C11
open Navis.Forest Navis.Heal

/-! ### healing -/

/-- Healing never removes, adds, reorders or moves a node: ids and coordinates are unchanged, row by row. -/
theorem heal_keeps_nodes (t : Table) (o : Opts) :
    (heal t o).map (fun n => (n.id, n.x, n.y, n.z)) = t.map (fun n => (n.id, n.x, n.y, n.z)) :=
  coords_heal t o

/-- The healed table is a well-formed forest (no cycle, no dangling parent, unique ids). -/
theorem heal_wf (t : Table) (hw : WF t) (o : Opts) : WF (heal t o) := WF_heal hw o

/-- `rewire` yields a well-formed, correctly labelled forest on the same rows for EVERY undirected edge
list — cyclic ones included; edges with an end outside the table are dropped by the model's `rewire` before the traversal. -/
theorem rewire_wf (t : Table) (hw : WF t) (E : List (Int × Int)) :
    WF (rewire t E) ∧ labelsOKB (rewire t E) = true ∧
      (rewire t E).map (fun n => (n.id, n.x, n.y, n.z)) = t.map (fun n => (n.id, n.x, n.y, n.z)) :=
  ⟨WF_rewire hw E, labelsOKB_rewire t E, coords_rewire t E⟩

/-- For an acyclic edge list over the table's nodes, `rewire` realises exactly that edge list. -/
theorem rewire_exact (t : Table) (hw : WF t) (E : List (Int × Int))
    (hends : ∀ e ∈ E, e.1 ∈ ids t ∧ e.2 ∈ ids t) (hnorm : ∀ e ∈ E, uedge e.1 e.2 = e) (hac : Acyc E) :
    (uedges (rewire t E)).Perm E :=
  rewire_spec hw hends hnorm hac

/-- Every undirected edge of the input is an undirected edge of the output. -/
theorem heal_keeps_edges (t : Table) (hw : WF t) (o : Opts) : ∀ e ∈ uedges t, e ∈ uedges (heal t o) := by
  intro e he
  exact (heal_spec hw o).mem_iff.mpr (List.mem_append_left _ he)

/-- The undirected edges of the output are the old ones plus the bridging edges, each exactly once;
hence #new edges = #bridging edges = #fragments before − #fragments after; and an edge of the output
is new iff it is one of the bridging edges. -/
theorem heal_adds_one_per_merge (t : Table) (hw : WF t) (o : Opts) :
    (uedges (heal t o)).Perm (uedges t ++ addedU (healAdded t o)) ∧
    (uedges (heal t o)).length = (uedges t).length + (healAdded t o).length ∧
    (roots (heal t o)).length + (healAdded t o).length = (roots t).length ∧
    ∀ e, (e ∈ uedges (heal t o) ∧ e ∉ uedges t) ↔ e ∈ addedU (healAdded t o) := by
  have hp := (heal_spec hw o)
  exact ⟨hp, by simpa [addedU] using hp.length_eq, heal_roots_count hw o,
    fun _ => mem_newEdges.symm.trans (newEdges_heal hw o).mem_iff⟩

/-- With no `max_dist`, `min_size`, `mask` or node list, healing a non-empty forest yields exactly one
root — for `ALL` and for `LEAFS`. -/
theorem heal_single_tree (t : Table) (hw : WF t) (hne : t ≠ []) (o : Opts) (hmax : o.maxD2 = none)
    (hmin : o.minSize = none) (hmask : o.mask = none) (hmeth : o.method = .all ∨ o.method = .leafs) :
    (roots (heal t o)).length = 1 := by
  by_cases hle : (roots t).length ≤ 1
  · rw [heal_of_single hle]
    have := List.length_pos_iff.mpr (roots_ne_nil hw hne)
    omega
  · -- every pair of roots has a candidate edge, and the accepted edges connect the ends of every candidate edge
    have hall : ∀ ra ∈ roots t, ∀ rb ∈ roots t, Conn (qE (healAdded t o)) ra rb := by
      intro ra hra rb hrb
      rw [healAdded_of_many hle]
      by_cases hab : ra = rb
      · rw [hab]; exact .refl _
      · obtain ⟨na, hna, hia, hpa⟩ := mem_roots.mp hra
        obtain ⟨nb, hnb, hib, hpb⟩ := mem_roots.mp hrb
        have fa : fragOf t na.id = ra := by rw [hia]; exact fragOf_root hw hra
        have fb : fragOf t nb.id = rb := by rw [hib]; exact fragOf_root hw hrb
        obtain ⟨e, he, _, hf⟩ := quotientEdges_exists_sym hw hna hnb (root_isCand hmin hmask hmeth hpa)
          (root_isCand hmin hmask hmeth hpb) (by rw [fa, fb]; exact hab) fun m hm => nomatch hmax ▸ hm
        have := kruskal_spans _ e he
        rw [fa, fb] at hf
        rcases hf with ⟨h1, h2⟩ | ⟨h1, h2⟩
        · rw [h1, h2] at this; exact this
        · rw [h1, h2] at this; exact this.symm
    apply one_root_of_connected (WF_heal hw o)
    · intro he
      exact hne (List.map_eq_nil_iff.mp ((ids_heal t o).symm.trans (congrArg ids he)))
    · intro i hi j hj
      rw [ids_heal] at hi hj
      exact (heal_conn_iff hw o hi hj).mpr (hall _ (fragOf_mem_roots hw hi) _ (fragOf_mem_roots hw hj))

/-- Every bridging edge joins two ALLOWED nodes (size limit, `LEAFS` / node list, mask) of two different
original fragments, its recorded length is their squared distance, it is the shortest allowed connection
between those two fragments, and it is strictly shorter than `max_dist`. -/
theorem heal_maxdist (t : Table) (o : Opts) : ∀ e ∈ healAdded t o,
    (∃ na ∈ t, ∃ nb ∈ t, na.id = e.a ∧ nb.id = e.b ∧ isCand t o na = true ∧ isCand t o nb = true ∧
      fragOf t na.id = e.fa ∧ fragOf t nb.id = e.fb ∧ e.d2 = sqDist na nb) ∧
    (∀ na ∈ t, ∀ nb ∈ t, isCand t o na = true → isCand t o nb = true →
      fragOf t na.id = e.fa → fragOf t nb.id = e.fb → e.d2 ≤ sqDist na nb) ∧
    (∀ m, o.maxD2 = some m → e.d2 < m) := by
  intro e he
  have hq := healAdded_quot he
  obtain ⟨na, ha, nb, hb, ca, cb, fa, fb, heq⟩ := hq.ex
  exact ⟨⟨na, ha, nb, hb, by rw [heq], by rw [heq], ca, cb, fa, fb, by rw [heq]⟩, hq.nearest,
    withinMax_iff.mp hq.within⟩

/-- **`max_dist = 0` is a limit like any other**: no pair of nodes is strictly closer than 0, so healing adds no edge
and the result has exactly the edges (and roots) of the input. -/
theorem heal_zero_limit (t : Table) (hw : WF t) (o : Opts) (h0 : o.maxD2 = some 0) :
    healAdded t o = [] ∧ (uedges (heal t o)).Perm (uedges t) ∧ (roots (heal t o)).length = (roots t).length := by
  have hnil : healAdded t o = [] := by
    apply List.eq_nil_iff_forall_not_mem.mpr
    intro e he
    have := (heal_maxdist t o e he).2.2 0 h0
    omega
  have hp := (heal_spec hw o)
  have hr := heal_roots_count hw o
  rw [hnil] at hp hr
  exact ⟨hnil, by simpa [addedU] using hp, by simpa using hr⟩

/-- The bridging edges form a spanning forest of the fragment quotient graph: they are candidate edges,
acyclic on the fragments (Kruskal's union–find invariant), and they connect the two fragments of every
candidate edge (no further candidate edge could be added). -/
theorem heal_is_spanning_forest_of_quotient (t : Table) (o : Opts) (h : 1 < (roots t).length) :
    (∀ e ∈ healAdded t o, e ∈ quotientEdges t o) ∧ Acyc (qE (healAdded t o)) ∧
    ∀ c ∈ quotientEdges t o, Conn (qE (healAdded t o)) c.fa c.fb := by
  rw [healAdded_of_many (by omega)]
  exact ⟨kruskal_sub _, kruskal_acyc _, kruskal_spans _⟩

/-- … and, together with the old edges, an acyclic edge set on the nodes. -/
theorem heal_edges_acyclic (t : Table) (hw : WF t) (o : Opts) : Acyc (uedges (heal t o)) :=
  Acyc_uedges (WF_heal hw o)

/-- **Minimal total length (MST optimality).**  Take ANY list `T` of allowed connections (pairs of allowed
nodes of two different fragments, strictly closer than `max_dist`) that joins whatever fragments the
allowed connections can join.  Then the bridging edges of `heal` weigh at most as much as `T`, for EVERY
monotone weight `w` of the squared length — e.g. `w = id` (sum of squared lengths), `w x = ⌊2ᵏ·√x⌋` for every
`k` (hence the sum of the true lengths), or `w x = [θ ≤ x]` (number of edges at least `θ` long).
Proof: union–find class counting gives the rank lemma of the graphic matroid (`acyclic_le_spanning`), the
sorted scan gives domination on every threshold (`kruskal_dominates`), summing layer by layer gives the total. -/
theorem kruskal_minimal (t : Table) (hw : WF t) (o : Opts) (T : List CEdge) (hT : ∀ e ∈ T, Allowed t o e)
    (hspan : ∀ c ∈ quotientEdges t o, Conn (qE T) c.fa c.fb) (w : Nat → Nat) (hmono : ∀ x y, x ≤ y → w x ≤ w y) :
    ((healAdded t o).map fun e => w e.d2).sum ≤ (T.map fun e => w e.d2).sum := by
  unfold healAdded
  split
  · simp
  · obtain ⟨T0, h1, h2, h3⟩ := allowed_list_to_quot hw w hmono T hT
    refine Nat.le_trans (kruskal_sum_le _ T0 h1 ?_ w hmono) h3
    intro c hc
    exact (hspan c hc).through fun x hx => .single (h2 x hx)

/-- … in particular against every spanning subset of the quotient graph's candidate edges, and on every
threshold: for every length `θ`, `heal` adds at most as many edges of squared length ≥ `θ` as `T` has. -/
theorem kruskal_minimal_thresholds (t : Table) (o : Opts) (T : List CEdge) (hT : ∀ e ∈ T, e ∈ quotientEdges t o)
    (hspan : ∀ c ∈ quotientEdges t o, Conn (qE T) c.fa c.fb) (θ : Nat) :
    (healAdded t o).countP (fun e => decide (θ ≤ e.d2)) ≤ T.countP (fun e => decide (θ ≤ e.d2)) := by
  unfold healAdded
  split
  · simp
  · apply kruskal_dominates _ T hT hspan
    intro e f hef he
    simp only [decide_eq_true_eq] at he ⊢
    omega

/-- **Cut property.** For every bridging edge there is a cut of the fragments that it
crosses such that NO pair of allowed nodes on different sides of the cut (and closer than `max_dist`) is
closer than the bridging edge. -/
theorem heal_cut_property (t : Table) (hw : WF t) (o : Opts) : ∀ e ∈ healAdded t o,
    ∃ S : Int → Prop, S e.fa ∧ ¬ S e.fb ∧
      ∀ na ∈ t, ∀ nb ∈ t, isCand t o na = true → isCand t o nb = true →
        S (fragOf t na.id) → ¬ S (fragOf t nb.id) →
        withinMax o ⟨sqDist na nb, na.id, nb.id, fragOf t na.id, fragOf t nb.id⟩ = true →
        e.d2 ≤ sqDist na nb := by
  intro e he
  obtain ⟨S, h1, h2, h3⟩ := kruskal_cut _ e (mem_healAdded he)
  refine ⟨S, h1, h2, fun na ha nb hb ca cb sa sb hmax => ?_⟩
  obtain ⟨c, hc, hle, hf⟩ := quotientEdges_exists_sym hw ha hb ca cb (fun h => sb (h ▸ sa)) (withinMax_iff.mp hmax)
  have hcross : S c.fa ↔ ¬ S c.fb := by
    rcases hf with ⟨f1, f2⟩ | ⟨f1, f2⟩
    · rw [f1, f2]; exact ⟨fun _ => sb, fun _ => sa⟩
    · rw [f1, f2]; exact ⟨fun h => absurd h sb, fun h => absurd sa h⟩
  exact Nat.le_trans (CEdge.le_d2 (h3 c hc hcross)) hle

/-! ### fragments -/

/-- The fragments partition the node set (every id in exactly one fragment); two nodes are in the same
fragment iff they have the same root iff they are connected; `break_fragments` returns one well-formed,
single-rooted piece per fragment, and every edge lies in exactly the piece of its fragment. -/
theorem break_fragments_partition (t : Table) (hw : WF t) :
    (fragments t).flatten.Perm (ids t) ∧
    (∀ i ∈ ids t, ∀ j ∈ ids t, ((∃ f ∈ fragments t, i ∈ f ∧ j ∈ f) ↔ rootOf t i = rootOf t j) ∧
      (rootOf t i = rootOf t j ↔ Conn (uedges t) i j)) ∧
    (∀ k p, p ∈ breakFragments t k ↔ ∃ r ∈ roots t, k ≤ (fragment t r).length ∧ p = subsetIds t (fragment t r)) ∧
    (∀ r ∈ roots t, WF (subsetIds t (fragment t r)) ∧ ids (subsetIds t (fragment t r)) = fragment t r ∧
      ∀ x, x ∈ roots (subsetIds t (fragment t r)) ↔ x = r) ∧
    (∀ e, e ∈ edges t ↔ ∃ r ∈ roots t, e ∈ edges (subsetIds t (fragment t r))) :=
  ⟨fragments_perm hw,
   fun _ hi _ hj => ⟨same_fragment_iff hw hi hj, (Conn_iff_rootOf hw hi hj).symm⟩,
   fun _ _ => mem_breakFragments,
   fun r hr => ⟨WF_subset hw _, ids_piece r, roots_piece hw hr⟩,
   break_edges hw⟩

/-- **`break_fragments(min_size=k)`: the size test is the source's `len(cc) >= min_size`** (`Gen.Heal.breakKeeps`,
re-extracted): a piece is returned iff its component has AT LEAST `k` nodes — a component of exactly `k` nodes is
kept — and the number of pieces is the number of such components. -/
theorem break_fragments_min_size (t : Table) (k : Nat) :
    (∀ p, p ∈ breakFragments t k ↔
      ∃ r ∈ roots t, Gen.Heal.breakKeeps (fragment t r).length k = true ∧ p = subsetIds t (fragment t r)) ∧
    (∀ r ∈ roots t, (fragment t r).length = k → subsetIds t (fragment t r) ∈ breakFragments t k) ∧
    (breakFragments t k).length = ((roots t).filter fun r => Gen.Heal.breakKeeps (fragment t r).length k).length := by
  refine ⟨?_, ?_, ?_⟩
  · intro p
    rw [mem_breakFragments]
    constructor
    · rintro ⟨r, hr, hk, rfl⟩; exact ⟨r, hr, decide_eq_true hk, rfl⟩
    · rintro ⟨r, hr, hk, rfl⟩; exact ⟨r, hr, of_decide_eq_true hk, rfl⟩
  · intro r hr hk
    exact mem_breakFragments.mpr ⟨r, hr, by omega, rfl⟩
  · exact breakFragments_length t k

/-! ### stitching and combining -/

/-- After the id-clash remap all node ids of the combined table are distinct — for any number of
skeletons, any clashes, any master. -/
theorem stitch_ids_unique (mIx : Nat) (l : List Skel) (hok : ∀ s ∈ l, SkelOK s) :
    (ids (combine mIx l).nodes).Nodup :=
  nodup_flatMap_ids (stitchRemap_inv mIx l hok).1 (stitchRemap_inv mIx l hok).2

/-- Each input reappears at its position under ONE id map that is injective on its ids, fixes root
markers and leaves the master untouched: same rows and coordinates, and a node is the parent of another
after the remap iff it was before. -/
theorem stitch_preserves_each_input (mIx : Nat) (l : List Skel) (hok : ∀ s ∈ l, SkelOK s) (k : Nat) (s : Skel)
    (hk : l[k]? = some s) :
    ∃ out m, (stitchRemap mIx l)[k]? = some out ∧ (k = mIx → out = s) ∧
      (∀ a ∈ ids s.nodes, ∀ b ∈ ids s.nodes, remapId m a = remapId m b → a = b) ∧
      out.nodes = s.nodes.map (remapNode m) ∧
      out.nodes.map (fun n => (n.x, n.y, n.z)) = s.nodes.map (fun n => (n.x, n.y, n.z)) ∧
      ids out.nodes = (ids s.nodes).map (remapId m) ∧
      edges out.nodes = (edges s.nodes).map (fun e => (remapId m e.1, remapId m e.2)) ∧
      (roots out.nodes) = (roots s.nodes).map (remapId m) := by
  obtain ⟨_, m, h1, ⟨rfl, hinj, hneg, hnn⟩, h3⟩ := stitchRemap_get mIx l hok hk
  exact ⟨_, m, h1, fun hkm => by rw [h3 hkm]; exact remapSkel_nil s, hinj, rfl, coords_remapSkel m s,
    ids_remapSkel m s, edges_remap hneg hnn, roots_remap hneg hnn⟩

/-- Parents, connectors and tags follow the SAME id map as the node ids. -/
theorem stitch_remap_consistent (mIx : Nat) (l : List Skel) (hok : ∀ s ∈ l, SkelOK s) (k : Nat) (s : Skel)
    (hk : l[k]? = some s) :
    ∃ out m, (stitchRemap mIx l)[k]? = some out ∧
      out.nodes.map (fun n => (n.id, n.parent)) = s.nodes.map (fun n => (remapId m n.id, remapId m n.parent)) ∧
      out.conns = s.conns.map (fun c => (c.1, remapId m c.2)) ∧
      out.tags = s.tags.map (fun tg => (tg.1, tg.2.map (remapId m))) ∧
      (∀ a, a < 0 → remapId m a = a) := by
  obtain ⟨_, m, h1, ⟨rfl, _, hneg, _⟩, _⟩ := stitchRemap_get mIx l hok hk
  refine ⟨_, m, h1, ?_, rfl, rfl, hneg⟩
  simp [remapSkel, remapNode, List.map_map, Function.comp_def]

/-- The combined table (`method = 'NONE'`, `combine_neurons`) and the stitched table are well-formed
forests whenever every input is. -/
theorem stitch_wf (mIx : Nat) (l : List Skel) (hw : ∀ s ∈ l, WF s.nodes) (o : Opts) :
    WF (combine mIx l).nodes ∧ WF (stitch mIx l o).nodes :=
  ⟨combine_WF mIx l hw, stitch_WF mIx l hw o⟩

/-- `method = 'NONE'` / `combine_neurons`: the combined tables are the concatenation of the remapped inputs. -/
theorem combine_is_concat (mIx : Nat) (l : List Skel) :
    (combine mIx l).nodes = (stitchRemap mIx l).flatMap (·.nodes) ∧
    (combine mIx l).conns = (stitchRemap mIx l).flatMap (·.conns) ∧
    (stitchRemap mIx l).length = l.length :=
  ⟨rfl, rfl, stitchRemap_length mIx l⟩

/-! ### the interface as navis writes it: the kd-tree candidate search and the remaining options -/

/-- **Candidate edges as written.**  `_stitch_mst` asks the kd-tree of fragment `a` for the nearest node of every
node of fragment `b` (`distance_upper_bound=max_dist`: strictly closer) and takes the `argmin` of the answers.
The pair it finds is an admissible pair that is minimal among ALL admissible node pairs of the two fragments, it
finds none exactly when no pair is admissible, and the quotient graph built this way IS the specification-style
quotient graph (`quotientEdges`: minimum over all node pairs, then the `max_dist` test) — hence every theorem above
about `healAdded` (spanning forest, `kruskal_minimal` against arbitrary allowed connections, cut property) speaks of
the algorithm as written. -/
theorem kd_candidates_refine (t : Table) (o : Opts) :
    quotientEdgesKD t o = quotientEdges t o ∧
    healAdded t o = (if (roots t).length ≤ 1 then [] else kruskal (quotientEdgesKD t o)) ∧
    (∀ ca cb fa fb r, kdPair ca cb fa fb o = some r →
      r ∈ pairEdges ca cb fa fb ∧ withinMax o r = true ∧
        ∀ e ∈ pairEdges ca cb fa fb, withinMax o e = true → r.d2 ≤ e.d2) ∧
    (∀ ca cb fa fb, kdPair ca cb fa fb o = none → ∀ e ∈ pairEdges ca cb fa fb, withinMax o e = false) := by
  refine ⟨quotientEdgesKD_eq t o, by rw [quotientEdgesKD_eq]; rfl, ?_, fun ca cb fa fb h => kdPair_none h⟩
  intro ca cb fa fb r h
  obtain ⟨h1, h2, h3⟩ := kdPair_some h
  exact ⟨h1, h2, fun e he hw => CEdge.le_d2 (h3 e he hw)⟩

/-- **The lightest edge between two fragments is the only one a minimum spanning forest needs**: any list of allowed
connections can be replaced, edge by edge, by nearest-pair (quotient) edges that are at most as long and join the
same fragments — so restricting the MST to one nearest pair per fragment pair loses nothing. -/
theorem nearest_pairs_suffice (t : Table) (hw : WF t) (o : Opts) (T' : List CEdge) (hT' : ∀ e ∈ T', Allowed t o e)
    (w : Nat → Nat) (hmono : ∀ x y, x ≤ y → w x ≤ w y) :
    ∃ T, (∀ q ∈ T, q ∈ quotientEdges t o) ∧ (∀ a b, Conn (qE T') a b → Conn (qE T) a b) ∧
      (T.map fun e => w e.d2).sum ≤ (T'.map fun e => w e.d2).sum := by
  obtain ⟨T, h1, h2, h3⟩ := allowed_list_to_quot hw w hmono T' hT'
  exact ⟨T, h1, fun a b h => h.through fun x hx => .single (h2 x hx), h3⟩

/-- `drop_disc=True`: the result is a well-formed forest with at most one root; it is the healed neuron when that is
one tree, otherwise the piece of a LARGEST remaining fragment. -/
theorem heal_drop_disc (t : Table) (hw : WF t) (o : Opts) :
    WF (healDrop t o) ∧ (roots (healDrop t o)).length ≤ 1 ∧
    ((roots (heal t o)).length ≤ 1 → healDrop t o = heal t o) ∧
    (1 < (roots (heal t o)).length → ∃ r ∈ roots (heal t o),
      healDrop t o = subsetIds (heal t o) (fragment (heal t o) r) ∧
      ∀ r' ∈ roots (heal t o), (fragment (heal t o) r').length ≤ (fragment (heal t o) r).length) := by
  have hwh : WF (heal t o) := WF_heal hw o
  have hlen : (sortBySize (fragments (heal t o))).length = (roots (heal t o)).length := by
    rw [(sortBySize_perm _).length_eq, fragments, List.length_map]
  unfold healDrop
  simp only
  split
  · rename_i hle
    exact ⟨hwh, hle, fun _ => rfl, fun h => by omega⟩
  · rename_i hgt
    split
    · rename_i hnil
      rw [hnil, List.length_nil] at hlen
      omega
    · rename_i f rest hcons
      obtain ⟨hf, hmax⟩ := sortBySize_head hcons
      obtain ⟨r, hr, rfl⟩ := mem_fragments.mp hf
      have hroots := roots_piece hwh hr
      have hwp : WF (subsetIds (heal t o) (fragment (heal t o) r)) := WF_subset hwh _
      refine ⟨hwp, ?_, fun h => by omega, fun _ => ⟨r, hr, rfl, ?_⟩⟩
      · exact (roots_nodup hwp.1).length_le_of_subset (l₂ := [r]) fun a ha =>
          List.mem_singleton.mpr ((hroots a).mp ha)
      · intro r' hr'
        exact hmax _ (mem_fragments.mpr ⟨r', hr', rfl⟩)

/-- `drop_fluff` keeps WHOLE connected components: each meets `keep_size`, they form a prefix of the eligible
components in decreasing size (no dropped eligible component is larger than a kept one), `n_largest` bounds their
number and the default keeps exactly the first. -/
theorem drop_fluff_whole_fragments (t : Table) (hw : WF t) (keep : Option (Nat × Nat)) (nl : Option Nat) :
    dropFluff t keep nl = subsetIds t (fluffSel t keep nl).flatten ∧ WF (dropFluff t keep nl) ∧
    (∀ f ∈ fluffSel t keep nl, f ∈ fragments t) ∧
    (∀ k, keep = some k → ∀ f ∈ fluffSel t keep nl, k.1 ≤ f.length * k.2) ∧
    (∃ n, fluffSel t keep nl =
      ((sortBySize (fragments t)).filter fun c => match keep with
        | some k => decide (k.1 ≤ c.length * k.2) | none => true).take n ∧
      (nl = none → keep = none → n = 1) ∧ (∀ m, nl = some m → n = m)) ∧
    (sortBySize (fragments t)).Pairwise (fun a b => b.length ≤ a.length) := by
  have hsel : ∃ n, fluffSel t keep nl =
      ((sortBySize (fragments t)).filter fun c => match keep with
        | some k => decide (k.1 ≤ c.length * k.2) | none => true).take n ∧
      (nl = none → keep = none → n = 1) ∧ (∀ m, nl = some m → n = m) := by
    unfold fluffSel
    cases keep <;> cases nl <;> simp only
    · exact ⟨1, by rw [List.filter_eq_self.mpr fun _ _ => rfl], fun _ _ => rfl, fun _ h => (nomatch h)⟩
    · rename_i m; exact ⟨m, by rw [List.filter_eq_self.mpr fun _ _ => rfl], fun h => (nomatch h), fun _ h => Option.some.inj h⟩
    · rename_i k
      exact ⟨_, (List.take_length).symm, fun _ h => (nomatch h), fun _ h => (nomatch h)⟩
    · rename_i k m; exact ⟨m, rfl, fun h => (nomatch h), fun _ h => Option.some.inj h⟩
  have ⟨n, hn, _⟩ := hsel
  refine ⟨dropFluff_eq t keep nl, by rw [dropFluff_eq]; exact WF_subset hw _, fun f hf => ?_, fun k hk f hf => ?_, hsel,
    sortBySize_sorted _⟩
  · rw [hn] at hf
    exact mem_sortBySize.mp (List.mem_filter.mp (List.mem_of_mem_take hf)).1
  · subst hk
    rw [hn] at hf
    exact of_decide_eq_true (List.mem_filter.mp (List.mem_of_mem_take hf)).2

/-- Master selection of `stitch_skeletons`: `'FIRST'` is index 0; `'LARGEST'` (and `'SOMA'` when no neuron has a
soma) is the FIRST neuron of maximal node count; `'SOMA'` is the FIRST neuron with a soma. -/
theorem master_selection (m : MasterS) (l : List Skel) (hs : List Bool) (hne : l ≠ []) (hlen : hs.length = l.length) :
    ∃ s, l[masterIxS m l hs]? = some s ∧
      (m = .first → masterIxS m l hs = 0) ∧
      ((m = .largest ∨ (m = .soma ∧ ∀ b ∈ hs, b = false)) →
        (∀ x ∈ l, x.nodes.length ≤ s.nodes.length) ∧
        ∀ k x, k < masterIxS m l hs → l[k]? = some x → x.nodes.length < s.nodes.length) ∧
      ((m = .soma ∧ ∃ b ∈ hs, b = true) →
        hs[masterIxS m l hs]? = some true ∧ ∀ k, k < masterIxS m l hs → hs[k]? = some false) := by
  have htake : hs.take l.length = hs := by rw [← hlen]; exact List.take_length
  obtain ⟨sl, hl1, hl2, hl3⟩ := largestIx_spec l hne
  cases m with
  | first =>
    cases l with
    | nil => exact absurd rfl hne
    | cons s rest =>
      refine ⟨s, by simp [masterIxS], fun _ => rfl, ?_, ?_⟩
      · rintro (h | ⟨h, _⟩) <;> cases h
      · rintro ⟨h, _⟩; cases h
  | largest =>
    refine ⟨sl, hl1, fun h => (by cases h), fun _ => ⟨hl2, hl3⟩, ?_⟩
    rintro ⟨h, _⟩; cases h
  | soma =>
    cases hf : firstTrue hs with
    | none =>
      have hm : masterIxS .soma l hs = largestIx l := by simp [masterIxS, htake, hf]
      rw [hm]
      refine ⟨sl, hl1, fun h => (by cases h), fun _ => ⟨hl2, hl3⟩, ?_⟩
      rintro ⟨_, b, hb, rfl⟩
      exact nomatch firstTrue_none hf true hb
    | some i =>
      have hm : masterIxS .soma l hs = i := by simp [masterIxS, htake, hf]
      rw [hm]
      obtain ⟨h1, h2⟩ := firstTrue_some hf
      have hi : i < l.length := by
        rw [← hlen]
        exact (List.getElem?_eq_some_iff.mp h1).1
      refine ⟨l[i], by simp [hi], fun h => (by cases h), ?_, fun _ => ⟨h1, h2⟩⟩
      rintro (h | ⟨_, hall⟩)
      · cases h
      · exact nomatch hall true (List.mem_of_getElem? h1)

/-- `combine_neurons` on meshes (`trimesh.util.concatenate`): the faces of the `k`-th mesh reappear shifted by the
number of vertices of the meshes before it, and no face is added. -/
theorem combine_mesh_faces (meshes : List (Nat × List (Nat × Nat × Nat))) (k : Nat) (m : Nat × List (Nat × Nat × Nat))
    (hk : meshes[k]? = some m) :
    (∀ f ∈ m.2, (f.1 + ((meshes.take k).map (·.1)).sum, f.2.1 + ((meshes.take k).map (·.1)).sum,
        f.2.2 + ((meshes.take k).map (·.1)).sum) ∈ concatFaces 0 meshes) ∧
    (concatFaces 0 meshes).length = (meshes.map (·.2.length)).sum := by
  refine ⟨?_, length_concatFaces meshes 0⟩
  exact fun f hf => mem_concatFaces meshes 0 k m hk f hf _ (Nat.zero_add _).symm

/-! ### the checkers the driver evaluates on navis' own output: sound; `healOKB` and `healMinOKB` accept what the model computes -/

/-- `healOKPB` (no demand on the row order) is sound. -/
theorem healOKPB_checker_sound (t u : Table) (m : Option Nat) (h : healOKPB t u m = true) :
    (u.map key).Perm (t.map key) ∧ WF u ∧
    (∀ e ∈ uedges t, e ∈ uedges u) ∧
    (newEdges t u).length + (roots u).length = (roots t).length ∧
    ∀ e ∈ newEdges t u, ∃ d, edgeD2 t e = some d ∧ ∀ k, m = some k → d ≤ k := by
  unfold healOKPB at h
  simp only [Bool.and_eq_true, List.all_eq_true, decide_eq_true_eq, List.contains_eq_mem] at h
  obtain ⟨⟨⟨⟨h1, h2⟩, h3⟩, h4⟩, h5⟩ := h
  refine ⟨List.isPerm_iff.mp h1, wfB_sound h2, h3, h4, ?_⟩
  intro e he
  have := h5 e he
  cases hd : edgeD2 t e with
  | none => rw [hd] at this; cases m <;> simp at this
  | some d =>
    rw [hd] at this
    refine ⟨d, rfl, ?_⟩
    intro k hk
    rw [hk] at this
    simpa using this

/-- The Lean-side checker evaluated on navis' own output is sound: if it accepts `(t, u)`, then `u` has
the same rows, is a well-formed forest, keeps every old edge, has one new edge per merged fragment, and
no new edge is longer than `max_dist`. -/
theorem healOKB_sound (t u : Table) (m : Option Nat) (h : healOKB t u m = true) :
    u.map (fun n => (n.id, n.x, n.y, n.z)) = t.map (fun n => (n.id, n.x, n.y, n.z)) ∧ WF u ∧
    (∀ e ∈ uedges t, e ∈ uedges u) ∧
    (newEdges t u).length + (roots u).length = (roots t).length ∧
    ∀ e ∈ newEdges t u, ∃ d, edgeD2 t e = some d ∧ ∀ k, m = some k → d ≤ k := by
  obtain ⟨heq, hP⟩ := healOKB_parts h
  exact ⟨heq, (healOKPB_checker_sound t u m hP).2⟩


/-- **Minimality on navis' own output.**  If `healMinOKB` accepts navis' table `u` for the input `t`, then every edge
`u` has in addition to `t` is an allowed connection (allowed nodes of two different fragments, strictly closer than
`max_dist`), and their total weight is minimal — for every monotone weight of the squared length — among ALL lists of
allowed connections that join whatever the allowed connections can join. -/
theorem healMinOKB_checker_sound (t u : Table) (hw : WF t) (o : Opts) (h : healMinOKB t u o = true) :
    (∀ e ∈ newCE t u, Allowed t o e) ∧ (newCE t u).length = (newEdges t u).length ∧
    ((newCE t u).map (·.d2)).Perm ((healAdded t o).map (·.d2)) ∧
    ∀ (T : List CEdge), (∀ e ∈ T, Allowed t o e) → (∀ c ∈ quotientEdges t o, Conn (qE T) c.fa c.fb) →
      ∀ w : Nat → Nat, (∀ x y, x ≤ y → w x ≤ w y) →
        ((newCE t u).map fun e => w e.d2).sum ≤ (T.map fun e => w e.d2).sum := by
  unfold healMinOKB at h
  simp only [Bool.and_eq_true, List.all_eq_true] at h
  obtain ⟨h1, h2⟩ := h
  have hp := List.isPerm_iff.mp h2
  have hce : ∀ e ∈ newEdges t u, ∃ c, ceOf t e = some c ∧ Allowed t o c := fun e he => allowedB_spec (h1 e he)
  refine ⟨?_, ?_, hp, ?_⟩
  · intro c hc
    obtain ⟨e, he, hec⟩ := List.mem_filterMap.mp hc
    obtain ⟨c', hc', hal⟩ := hce e he
    exact Option.some.inj (hc'.symm.trans hec) ▸ hal
  · apply List.filterMap_length_eq_length.mpr
    intro e he
    obtain ⟨c', hc', _⟩ := hce e he
    rw [hc']
    rfl
  · intro T hT hspan w hmono
    have hs : ((newCE t u).map fun e => w e.d2).sum = ((healAdded t o).map fun e => w e.d2).sum := by
      have := (hp.map w).sum_nat
      simpa [List.map_map, Function.comp_def] using this
    rw [hs]
    exact kruskal_minimal t hw o T hT hspan w hmono

/-- **Stitch / combine on navis' own output** (`method='NONE'`, `combine_neurons`).  If `stitchOKB` accepts navis'
combined skeleton `out` for the inputs `l`, then there is ONE id map per input such that: all ids of `out` are
distinct; each map is injective on its input's ids, fixes root markers and is the identity on the master; every
input row reappears with its coordinates, its id and its parent under that map, every connector and every tag entry
under the same map; and `out` contains nothing else (its rows / connectors / tag entries are exactly the remapped
inputs'). -/
theorem stitchOKB_sound (l : List Skel) (mIx : Nat) (out : Skel) (md : Option Nat)
    (h : stitchOKB l mIx out false md = true) :
    ∃ maps : List (List (Int × Int)),
      (ids out.nodes).Nodup ∧ maps.length = l.length ∧
      (∀ k s m, l[k]? = some s → maps[k]? = some m →
        (∀ a ∈ ids s.nodes, ∀ b ∈ ids s.nodes, remapId m a = remapId m b → a = b) ∧
        (∀ a, a < 0 → remapId m a = a) ∧ (k = mIx → ∀ a ∈ ids s.nodes, remapId m a = a) ∧
        (∀ n ∈ s.nodes, (remapId m n.id, remapId m n.parent, n.x, n.y, n.z) ∈ out.nodes.map nkey) ∧
        (∀ c ∈ s.conns, (c.1, remapId m c.2) ∈ out.conns) ∧
        (∀ tg ∈ s.tags, ∀ i ∈ tg.2, (tg.1, remapId m i) ∈ tagPairs out.tags)) ∧
      (out.nodes.map nkey).Perm (((remapAll l maps).flatMap (·.nodes)).map nkey) ∧
      out.conns.Perm ((remapAll l maps).flatMap (·.conns)) ∧
      (tagPairs out.tags).Perm (tagPairs ((remapAll l maps).flatMap (·.tags))) := by
  obtain ⟨maps, hm⟩ := stitchOKB_maps h
  obtain ⟨h1, h2, h3, h4, h5, h6⟩ := stitchOKWith_sound hm
  rw [if_neg Bool.false_ne_true] at h4
  refine ⟨maps, h1, h2, fun k s m hs hmm => ?_, h4, h5, h6⟩
  obtain ⟨i1, i2, i3⟩ := h3 k s m hs hmm
  -- the remapped input is one of the skeletons whose rows, connectors and tags make up `out`
  have hmem := mem_remapAll hs hmm
  refine ⟨i1, i2, i3, fun n hn => ?_, fun c hc => ?_, fun tg htg i hi => ?_⟩
  · exact h4.mem_iff.mpr (List.mem_map.mpr
      ⟨remapNode m n, List.mem_flatMap.mpr ⟨_, hmem, List.mem_map.mpr ⟨n, hn, rfl⟩⟩, rfl⟩)
  · exact h5.mem_iff.mpr (List.mem_flatMap.mpr ⟨_, hmem, List.mem_map.mpr ⟨c, hc, rfl⟩⟩)
  · apply h6.mem_iff.mpr
    unfold tagPairs
    exact List.mem_flatMap.mpr ⟨(tg.1, tg.2.map (remapId m)),
      List.mem_flatMap.mpr ⟨_, hmem, List.mem_map.mpr ⟨tg, htg, rfl⟩⟩,
      List.mem_map.mpr ⟨remapId m i, List.mem_map.mpr ⟨i, hi, rfl⟩, rfl⟩⟩

/-- … and for `method ≠ 'NONE'`: the node table is an admissible healing (same rows, well-formed forest, every edge
of every input kept under its map, one new edge per merged fragment, no new edge longer than `max_dist`) of the
remapped inputs; connectors and tags as above. -/
theorem stitchOKB_sound_fused (l : List Skel) (mIx : Nat) (out : Skel) (md : Option Nat)
    (h : stitchOKB l mIx out true md = true) :
    ∃ maps : List (List (Int × Int)),
      (ids out.nodes).Nodup ∧ maps.length = l.length ∧
      (∀ k s m, l[k]? = some s → maps[k]? = some m →
        (∀ a ∈ ids s.nodes, ∀ b ∈ ids s.nodes, remapId m a = remapId m b → a = b) ∧
        (∀ a, a < 0 → remapId m a = a) ∧ (k = mIx → ∀ a ∈ ids s.nodes, remapId m a = a)) ∧
      ((out.nodes.map Heal.key).Perm (((remapAll l maps).flatMap (·.nodes)).map Heal.key) ∧ WF out.nodes ∧
        (∀ e ∈ uedges ((remapAll l maps).flatMap (·.nodes)), e ∈ uedges out.nodes) ∧
        (newEdges ((remapAll l maps).flatMap (·.nodes)) out.nodes).length + (roots out.nodes).length =
          (roots ((remapAll l maps).flatMap (·.nodes))).length ∧
        ∀ e ∈ newEdges ((remapAll l maps).flatMap (·.nodes)) out.nodes,
          ∃ d, edgeD2 ((remapAll l maps).flatMap (·.nodes)) e = some d ∧ ∀ k, md = some k → d ≤ k) ∧
      out.conns.Perm ((remapAll l maps).flatMap (·.conns)) ∧
      (tagPairs out.tags).Perm (tagPairs ((remapAll l maps).flatMap (·.tags))) := by
  obtain ⟨maps, hm⟩ := stitchOKB_maps h
  obtain ⟨h1, h2, h3, h4, h5, h6⟩ := stitchOKWith_sound hm
  refine ⟨maps, h1, h2, fun k s m hs hmm => ?_, healOKPB_checker_sound _ _ _ h4, h5, h6⟩
  obtain ⟨i1, i2, i3⟩ := h3 k s m hs hmm
  exact ⟨i1, i2, i3⟩

/-- The edges the model's result has in addition to the input are exactly the bridging edges. -/
theorem heal_new_edges (t : Table) (hw : WF t) (o : Opts) :
    (newEdges t (heal t o)).Perm (addedU (healAdded t o)) :=
  newEdges_heal hw o

/-- **Checker completeness on the model**: `healOKB` accepts the table the modelled algorithm computes, for every
well-formed forest and all options (so the checker is satisfiable on every input and never rejects the algorithm as
written). -/
theorem healOKB_complete_on_model (t : Table) (hw : WF t) (o : Opts) : healOKB t (heal t o) o.maxD2 = true := by
  have hne := heal_new_edges t hw o
  unfold healOKB
  simp only [Bool.and_eq_true, List.all_eq_true, decide_eq_true_eq, List.contains_eq_mem]
  refine ⟨⟨⟨⟨?_, (wfB_iff _).mpr (WF_heal hw o)⟩, heal_keeps_edges t hw o⟩, ?_⟩, ?_⟩
  · unfold sameCoords
    rw [coords_heal t o]
    simp
  · have hl := hne.length_eq
    simp only [addedU, List.length_map] at hl
    have := heal_roots_count hw o
    omega
  · intro e he
    have he' := hne.mem_iff.mp he
    unfold addedU at he'
    obtain ⟨ce, hce, rfl⟩ := List.mem_map.mp he'
    have hq := healAdded_quot hce
    obtain ⟨na, ha, nb, hb, _, _, _, _, heq⟩ := hq.ex
    have hd : edgeD2 t (uedge ce.a ce.b) = some ce.d2 := by
      rw [heq]; exact edgeD2_uedge hw.1 ha hb
    rw [hd]
    cases hm : o.maxD2 with
    | none => rfl
    | some m =>
      have : ce.d2 < m := withinMax_iff.mp hq.within m hm
      simp only [decide_eq_true_eq]
      omega

/-- … and so does the minimality checker `healMinOKB`: every bridging edge of the model passes the "allowed
connection" test and the length multiset test, for every well-formed forest and all options. Together with
`healMinOKB_checker_sound` the checker accepts the algorithm as written and only minimal healings. -/
theorem healMinOKB_complete_on_model (t : Table) (hw : WF t) (o : Opts) : healMinOKB t (heal t o) o = true := by
  have hne := heal_new_edges t hw o
  unfold healMinOKB
  simp only [Bool.and_eq_true, List.all_eq_true]
  constructor
  · intro e he
    have he' := hne.mem_iff.mp he
    unfold addedU at he'
    obtain ⟨ce, hce, rfl⟩ := List.mem_map.mp he'
    exact (bridge_checks hw hce).1
  · apply List.isPerm_iff.mpr
    unfold newCE
    refine ((hne.filterMap (ceOf t)).map _).trans ?_
    rw [filterMap_bridges _ (fun ce hce => (bridge_checks hw hce).2)]

/-! ### facts re-extracted from the current source (`translator/gen_heal.py` → `Gen/Heal.lean`) -/

/-- `heal_skeleton`: the accepted methods (upper-cased first), the defaults, which `_stitch_mst` keyword receives
which argument (healing is done in place on the copy), `max_dist` is mapped through the neuron's units, `drop_disc`
keeps `x.subtrees[0]` when more than one tree is left. -/
theorem gen_heal_options :
    Gen.Heal.healMethods = ["LEAFS", "ALL"] ∧ Gen.Heal.healMethodUpper = true ∧
    Gen.Heal.healDefaults = [("method", "'ALL'"), ("max_dist", "None"), ("min_size", "None"), ("drop_disc", "False"),
      ("mask", "None"), ("inplace", "False")] ∧
    Gen.Heal.healForward = [("inplace", "True"), ("mask", "mask"), ("max_dist", "max_dist"), ("min_size", "min_size"),
      ("nodes", "method")] ∧
    Gen.Heal.healCopiesUnlessInplace = true ∧ Gen.Heal.healMaxDistMapUnits = true ∧
    Gen.Heal.dropDiscSource = "x.subtrees" ∧ Gen.Heal.dropDiscIndex = 0 ∧ Gen.Heal.dropDiscGuard = ">1" :=
  ⟨rfl, rfl, rfl, rfl, rfl, rfl, rfl, rfl, rfl⟩

/-- `_stitch_mst`: a boolean mask is turned into node IDS (not row positions), mask and node list are matched against
the `node_id` column, `'LEAFS'` means `type ∈ {end, root}`. -/
theorem gen_mask_and_methods :
    Gen.Heal.boolMaskColumn = "node_id" ∧ Gen.Heal.maskFilterColumn = "node_id" ∧
    Gen.Heal.listFilterColumn = "node_id" ∧ Gen.Heal.leafsLiteral = "LEAFS" ∧ Gen.Heal.leafColumn = "type" ∧
    Gen.Heal.leafTypes = ["end", "root"] ∧ Gen.Heal.leafsLiteral ∈ Gen.Heal.healMethods :=
  ⟨rfl, rfl, rfl, rfl, rfl, rfl, by decide +kernel⟩

/-- The `min_size` test of the source is the model's (`isCand`: `min_size ≤ size of the node's fragment`), sizes
are counted on all nodes before the method / mask filters. -/
theorem gen_min_size (t : Table) (o : Opts) (n : Node) (k : Nat) (hk : o.minSize = some k)
    (h : isCand t o n = true) :
    Gen.Heal.minSizeKeeps (fragSize t (fragOf t n.id)) k = true ∧ Gen.Heal.minSizeCountsAllNodes = true := by
  refine ⟨?_, rfl⟩
  unfold isCand at h
  rw [hk] at h
  simp only [Bool.and_eq_true, decide_eq_true_eq] at h
  unfold Gen.Heal.minSizeKeeps
  exact decide_eq_true h.1.1

theorem gen_min_size_iff (s k : Nat) : Gen.Heal.minSizeKeeps s k = decide (k ≤ s) := rfl

/-- The kd-tree query is bounded by `max_dist`, the pair is the `argmin` over the query distances with consistent
index bookkeeping, the quotient graph has one edge per fragment pair weighted by that distance, the MST runs on it,
and the added node-level edges are the recorded node pairs; a single component is returned untouched; only the
non-numeric sentinels `True` / `False` / `None` mean "no limit" — every number, 0 included, is a limit. -/
theorem gen_candidate_generation :
    Gen.Heal.queryUpperBound = "max_dist" ∧ Gen.Heal.argminOverQueryDistances = true ∧
    Gen.Heal.pairIndexing = true ∧ Gen.Heal.allFragmentPairs = true ∧ Gen.Heal.mstWeightIsDistance = true ∧
    Gen.Heal.addedEdgesFromPairNodes = true ∧ Gen.Heal.singleComponentReturnsInput = true ∧
    Gen.Heal.unlimitedMaxDist = ["True", "False", "None"] ∧ Gen.Heal.numericMaxDistIsLimit = true ∧
    Gen.Heal.rewireInplaceArg = "inplace" :=
  ⟨rfl, rfl, rfl, rfl, rfl, rfl, rfl, rfl, rfl, rfl⟩

/-- **The id-clash remap of the source is the model's `clashMap`**: clashing ids are `seen ∩ this`, the neuron's own
ids are united into the seen set BEFORE `max(seen)` is taken, the fresh ids are `max + 1, max + 2, …`, and the fresh
ids (not the clashing ones) are added to the seen set afterwards. -/
theorem gen_stitch_clash (seen this : List Int) :
    clashMap seen this =
      ((this.filter fun i => seen.contains i).zipIdx.map fun ck =>
        (ck.1, Gen.Heal.freshId (maxOf (seen ++ this)) ck.2)) ∧
    Gen.Heal.clashSet = "seen & this" ∧ Gen.Heal.ownIdsSeenBeforeMax = true ∧ Gen.Heal.freshMaxOf = "seen_tn" ∧
    Gen.Heal.freshCount = "len(non_unique)" ∧ Gen.Heal.newMap = "dict(zip(non_unique, new_tn))" ∧
    Gen.Heal.freshAddedToSeen = ["new_tn"] ∧ Gen.Heal.freshAddedAfterFormula = true ∧
    Gen.Heal.seenInit = "set(m.nodes.node_id)" ∧ Gen.Heal.skipMaster = true ∧
    Gen.Heal.duplicateGuardColumnIsNodeId = true := by
  refine ⟨?_, rfl, rfl, rfl, rfl, rfl, rfl, rfl, rfl, rfl, rfl⟩
  unfold clashMap
  apply List.map_congr_left
  intro ck _
  unfold Gen.Heal.freshId
  congr 1
  omega

/-- Node ids, connector node ids, tags and parent ids all go through `new_map.get(k, k)` (unknown keys — in
particular root markers — map to themselves); the tables are concatenated in list order over all neurons; tags are
appended. -/
theorem gen_stitch_remap :
    Gen.Heal.remapTargets = [("nodes.node_id", true, "node_id"), ("connectors.node_id", true, "node_id"),
      ("tags", true, "tags"), ("nodes.parent_id", true, "parent_id")] ∧
    Gen.Heal.concatNodes = ("n.nodes", "nl") ∧ Gen.Heal.concatConnectors = ("n.connectors", "nl") ∧
    Gen.Heal.tagsAppended = true ∧ Gen.Heal.stitchCopiesInputs = true :=
  ⟨rfl, rfl, rfl, rfl, rfl⟩

/-- Master names, defaults and picks are the model's `masterIxS`; `'NONE'` returns before `_stitch_mst`, which otherwise
receives `nodes=method`, `max_dist`; `combine_neurons` is `stitch_skeletons(method='NONE', master='FIRST')`. -/
theorem gen_master_and_methods :
    Gen.Heal.allowedMaster = ["SOMA", "LARGEST", "FIRST"] ∧ Gen.Heal.masterUpper = true ∧
    Gen.Heal.stitchDefaults = [("method", "'ALL'"), ("master", "'SOMA'"), ("max_dist", "None")] ∧
    Gen.Heal.somaPick = "first-with-soma" ∧ Gen.Heal.somaFallsBackToLargest = true ∧
    Gen.Heal.largestKey = "n_nodes" ∧ Gen.Heal.largestReverse = true ∧ Gen.Heal.largestIndex = 0 ∧
    Gen.Heal.firstIndex = 0 ∧ Gen.Heal.noneLiteral = "NONE" ∧
    Gen.Heal.stitchForward = [("inplace", "False"), ("max_dist", "max_dist"), ("nodes", "method")] ∧
    Gen.Heal.combineArgs = [("master", "FIRST"), ("method", "NONE")] :=
  ⟨rfl, rfl, rfl, rfl, rfl, rfl, rfl, rfl, rfl, rfl, rfl, rfl⟩

/-- `break_fragments` / `drop_fluff`: largest first; a component is kept iff `min_size ≤ size` / `keep_size ≤ size`
(the model's tests); `keep_size < 1` is a fraction of the node count; `n_largest` takes a prefix; the default keeps
component 0; `drop_fluff` keeps disconnected connectors. -/
theorem gen_fragment_sizes (size k num den : Nat) :
    Gen.Heal.breakLargestFirst = true ∧ Gen.Heal.fluffLargestFirst = true ∧
    Gen.Heal.breakKeeps size k = decide (k ≤ size) ∧ Gen.Heal.fluffKeeps size k = decide (k ≤ size * 1) ∧
    Gen.Heal.fluffIsFraction num den = decide (num < den) ∧ Gen.Heal.fluffFractionOfNodeCount = true ∧
    Gen.Heal.fluffPrefixSlice = true ∧ Gen.Heal.fluffDefaultIndex = 0 ∧ Gen.Heal.fluffKeepDiscCn = "True" := by
  refine ⟨rfl, rfl, rfl, ?_, ?_, rfl, rfl, rfl, rfl⟩
  · unfold Gen.Heal.fluffKeeps; simp
  · unfold Gen.Heal.fluffIsFraction; simp

/-! ### histories of healing calls -/

/-- **Any history of healing calls** (arbitrary options each time) keeps every node where it is, keeps every edge of
the ORIGINAL skeleton, never increases the number of fragments, yields a well-formed forest, and every fragment it
loses is paid for by exactly one new edge (#edges + #roots is invariant). -/
theorem heal_history (t : Table) (hw : WF t) (os : List Opts) :
    WF (healSeq t os) ∧
    (healSeq t os).map (fun n => (n.id, n.x, n.y, n.z)) = t.map (fun n => (n.id, n.x, n.y, n.z)) ∧
    (∀ e ∈ uedges t, e ∈ uedges (healSeq t os)) ∧
    (roots (healSeq t os)).length ≤ (roots t).length ∧
    (uedges (healSeq t os)).length + (roots (healSeq t os)).length = (uedges t).length + (roots t).length := by
  induction os generalizing t with
  | nil => exact ⟨hw, rfl, fun e he => he, Nat.le_refl _, rfl⟩
  | cons o rest ih =>
    have hs := heal_spec hw o
    obtain ⟨h1, h2, h3, h4, h5⟩ := ih (t := heal t o) (WF_heal hw o)
    have hr := heal_roots_count hw o
    have hl := hs.length_eq
    simp only [List.length_append, addedU, List.length_map] at hl
    rw [show healSeq t (o :: rest) = healSeq (heal t o) rest from rfl]
    exact ⟨h1, h2.trans (coords_heal t o), fun e he => h3 e (heal_keeps_edges t hw o e he),
      by omega, by omega⟩

/-- Healing is idempotent once one tree is reached: after an unlimited healing (no `max_dist`, `min_size`, `mask`, node
list) every further history of healing calls — with any options — returns the same table. -/
theorem heal_idempotent_after_unlimited (t : Table) (hw : WF t) (hne : t ≠ []) (o : Opts) (hmax : o.maxD2 = none)
    (hmin : o.minSize = none) (hmask : o.mask = none) (hmeth : o.method = .all ∨ o.method = .leafs) (os : List Opts) :
    healSeq (heal t o) os = heal t o ∧ (breakFragments (heal t o) 0).length = 1 := by
  have h1 := heal_single_tree t hw hne o hmax hmin hmask hmeth
  generalize heal t o = u at h1 ⊢
  refine ⟨?_, by rw [breakFragments_length, List.filter_eq_self.mpr fun _ _ => decide_eq_true (Nat.zero_le _), h1]⟩
  induction os with
  | nil => rfl
  | cons o' rest ih => rw [healSeq, List.foldl_cons, heal_of_single (Nat.le_of_eq h1) o']; exact ih

/-- A skeleton that is already one tree (or empty) is returned unchanged by every healing call. -/
theorem heal_single_fragment_untouched (t : Table) (h : (roots t).length ≤ 1) (o : Opts) : heal t o = t :=
  heal_of_single h o

/-! ### Non-vacuity -/

/-- three fragments: a 3-chain, a 2-chain, an isolated node -/
def ex : Table :=
  [⟨5, -1, 0, 0, 0, .root⟩, ⟨6, 5, 3, 0, 0, .slab⟩, ⟨7, 6, 6, 0, 0, .end_⟩,
   ⟨1, -1, 6, 10, 0, .root⟩, ⟨2, 1, 9, 10, 0, .end_⟩, ⟨3, -1, 40, 0, 0, .root⟩]

example : wfB ex = true := by decide +kernel
private theorem ex_WF : WF ex := (wfB_iff _).mp (by decide +kernel)
example : ex ≠ [] := by decide +kernel
example : (healAdded ex {}).map (fun e => (e.a, e.b, e.d2)) = [(7, 1, 100), (2, 3, 1061)] := by decide +kernel
example : (heal ex {}).map (fun n => (n.id, n.parent)) = [(5, -1), (6, 5), (7, 6), (1, 7), (2, 1), (3, 2)] := by decide +kernel
example : (roots (heal ex {})).length = 1 := by decide +kernel
/-- `max_dist = 10` excludes the pair at distance exactly 10, `max_dist² = 101` admits it -/
example : healAdded ex { maxD2 := some 100 } = [] := by decide +kernel
example : (healAdded ex { maxD2 := some 101 }).map (fun e => (e.a, e.b)) = [(7, 1)] := by decide +kernel
/-- `max_dist = 0` connects nothing -/
example : healAdded ex { maxD2 := some 0 } = [] ∧ (heal ex { maxD2 := some 0 }).map (fun n => (n.id, n.parent)) = ex.map (fun n => (n.id, n.parent)) := by decide +kernel
example : (healAdded ex { method := .leafs, mask := some [5, 6, 1, 3] }).map (fun e => (e.a, e.b, e.d2)) =
    [(5, 1, 136), (1, 3, 1256)] := by decide +kernel
example : healOKB ex (heal ex {}) none = true := healOKB_complete_on_model ex ex_WF {}
/-- a competitor for `kruskal_minimal`: the spanning tree 5–1–3 of the quotient graph via other node pairs -/
def exT : List CEdge := [⟨136, 5, 1, 5, 1⟩, ⟨1256, 1, 3, 1, 3⟩]
example : ∀ e ∈ exT, Allowed ex {} e := by
  intro e he
  simp only [exT, List.mem_cons, List.not_mem_nil, or_false] at he
  rcases he with rfl | rfl <;> exact ⟨by decide +kernel, by decide +kernel, by decide +kernel⟩
example : ∀ c ∈ quotientEdges ex {}, Conn (qE exT) c.fa c.fb := by
  have hq : quotientEdges ex {} = [⟨100, 7, 1, 5, 1⟩, ⟨1156, 7, 3, 5, 3⟩, ⟨1061, 2, 3, 1, 3⟩] := by decide +kernel
  have h51 : Conn (qE exT) 5 1 := Conn.single (Or.inl (by decide +kernel))
  have h13 : Conn (qE exT) 1 3 := Conn.single (Or.inl (by decide +kernel))
  intro c hc
  rw [hq] at hc
  simp only [List.mem_cons, List.not_mem_nil, or_false] at hc
  rcases hc with rfl | rfl | rfl
  · exact h51
  · exact h51.trans h13
  · exact h13
example : ((healAdded ex {}).map fun e => e.d2).sum = 1161 ∧ (exT.map fun e => e.d2).sum = 1392 := by decide +kernel
example : (fragments ex) = [[5, 6, 7], [1, 2], [3]] := by decide +kernel
example : (breakFragments ex 2).length = 2 := by decide +kernel

/-- two 3-node skeletons with clashing ids, connectors and tags on clashing nodes -/
def sa : Skel := ⟨[⟨1, -1, 0, 0, 0, .root⟩, ⟨2, 1, 3, 0, 0, .slab⟩, ⟨3, 2, 6, 0, 0, .end_⟩], [(100, 3), (101, 1)], [(1, [3]), (2, [1])]⟩
def sb : Skel := ⟨[⟨1, -1, 0, 20, 0, .root⟩, ⟨2, 1, 3, 20, 0, .slab⟩, ⟨3, 2, 6, 21, 0, .end_⟩], [(200, 3), (201, 2)], [(1, [3]), (3, [2])]⟩

example : ∀ s ∈ [sa, sb], SkelOK s := by
  intro s hs
  simp at hs
  rcases hs with rfl | rfl <;> exact ⟨by decide +kernel, by decide +kernel⟩
example : (combine 0 [sa, sb]).nodes.map (fun n => (n.id, n.parent)) = [(1, -1), (2, 1), (3, 2), (4, -1), (5, 4), (6, 5)] := by decide +kernel
example : (combine 0 [sa, sb]).conns = [(100, 3), (101, 1), (200, 6), (201, 5)] := by decide +kernel
example : (combine 0 [sa, sb]).tags = [(1, [3, 6]), (2, [1]), (3, [5])] := by decide +kernel
/- Historical (before the `fix:` commit for C11): navis returned `{1: [3, 3, 3], 2: [1, 1], 3: [2]}` here — the
tagged node of the second skeleton was not remapped and the master's lists were doubled. -/

/-- `method = [3, 6]` (ids of the combined table): only the bridge between the two listed nodes is allowed -/
example : (healAdded (combine 0 [sa, sb]).nodes { method := .list [3, 6] }).map (fun e => (e.a, e.b, e.d2)) = [(3, 6, 441)] := by decide +kernel
example : (healAdded (combine 0 [sa, sb]).nodes {}).map (fun e => (e.a, e.b, e.d2)) = [(1, 4, 400)] := by decide +kernel

example : quotientEdgesKD ex {} = quotientEdges ex {} := (kd_candidates_refine ex {}).1
example : (quotientEdgesKD ex { maxD2 := some 1062 }).map (fun e => (e.a, e.b, e.d2)) = [(7, 1, 100), (2, 3, 1061)] := by decide +kernel
example : healMinOKB ex (heal ex {}) {} = true := healMinOKB_complete_on_model ex ex_WF {}
example : healMinOKB ex (heal ex { maxD2 := some 101 }) { maxD2 := some 101 } = true := healMinOKB_complete_on_model ex ex_WF _
/-- a healing that is admissible for `healOKB` but NOT minimal (5–1, squared length 136, instead of 7–1, 100) -/
def exBad : Table :=
  [⟨5, -1, 0, 0, 0, .root⟩, ⟨6, 5, 3, 0, 0, .branch⟩, ⟨7, 6, 6, 0, 0, .end_⟩,
   ⟨1, 5, 6, 10, 0, .slab⟩, ⟨2, 1, 9, 10, 0, .slab⟩, ⟨3, 2, 40, 0, 0, .end_⟩]
example : healOKB ex exBad none = true ∧ healOKPB ex exBad.reverse none = true ∧ healMinOKB ex exBad {} = false := by decide +kernel
/-- an edge that uses a node outside the mask is rejected -/
example : healMinOKB ex (heal ex {}) { mask := some [5, 6, 1, 2, 3] } = false := by decide +kernel
example : (roots (healDrop ex { maxD2 := some 101 })).length = 1 ∧ (healDrop ex { maxD2 := some 101 }).length = 5 := by decide +kernel
example : fluffSel ex none none = [[5, 6, 7]] ∧ fluffSel ex (some (2, 1)) none = [[5, 6, 7], [1, 2]] ∧
    fluffSel ex none (some 2) = [[5, 6, 7], [1, 2]] := by decide +kernel
example : stitchOKB [sa, sb] 0 (combine 0 [sa, sb]) false none = true := by decide +kernel
example : stitchOKB [sa, sb] 0 (stitch 0 [sa, sb] {}) true none = true := by decide +kernel
example : stitchOKB [sa, sb] 1 (combine 0 [sa, sb]) false none = false := by decide +kernel   -- the master's ids were changed
/-- partial clash, the non-master neuron owns larger non-clashing ids (seeded change C11_2): the model's fresh ids
avoid them; the table navis produced under that change (`4, 5` handed out twice) is rejected. -/
def pa : Skel := ⟨[⟨1, -1, 0, 0, 0, .root⟩, ⟨2, 1, 1, 0, 0, .slab⟩, ⟨3, 2, 2, 0, 0, .end_⟩], [], []⟩
def pb : Skel := ⟨[⟨2, -1, 0, 10, 0, .root⟩, ⟨3, 2, 1, 10, 0, .slab⟩, ⟨4, 3, 2, 10, 0, .branch⟩, ⟨5, 4, 3, 10, 0, .end_⟩,
  ⟨6, 4, 4, 10, 0, .end_⟩], [(9, 3)], [(1, [2, 6])]⟩
example : ids (combine 0 [pa, pb]).nodes = [1, 2, 3, 7, 8, 4, 5, 6] ∧ (combine 0 [pa, pb]).conns = [(9, 8)] ∧
    (combine 0 [pa, pb]).tags = [(1, [7, 6])] := by decide +kernel
example : stitchOKB [pa, pb] 0 (combine 0 [pa, pb]) false none = true := by decide +kernel
example : stitchOKB [pa, pb] 0
    ⟨[⟨1, -1, 0, 0, 0, .root⟩, ⟨2, 1, 1, 0, 0, .slab⟩, ⟨3, 2, 2, 0, 0, .end_⟩, ⟨4, -1, 0, 10, 0, .root⟩, ⟨5, 4, 1, 10, 0, .slab⟩,
      ⟨4, 5, 2, 10, 0, .branch⟩, ⟨5, 4, 3, 10, 0, .end_⟩, ⟨6, 4, 4, 10, 0, .end_⟩], [(9, 5)], [(1, [4, 6])]⟩ false none = false := by decide +kernel
/-- three inputs, two of them clashing with what was seen before (seeded change C01_1); inputs 0 and 2 coincide in space, so the
id maps are read off by row position -/
example : (ids (combine 0 [sa, sb, sa]).nodes).Nodup ∧ stitchOKB [sa, sb, sa] 0 (combine 0 [sa, sb, sa]) false none = true := by decide +kernel
example : masterIxS .soma [sa, pb, sb] [false, false, true] = 2 ∧ masterIxS .soma [sa, pb, sb] [false, false, false] = 1 ∧
    masterIxS .largest [sa, pb, sb] [true, false, false] = 1 ∧ masterIxS .first [sa, pb, sb] [false, true, false] = 0 := by decide +kernel
example : concatFaces 0 [(3, [(0, 1, 2)]), (4, [(0, 1, 2), (1, 2, 3)])] = [(0, 1, 2), (3, 4, 5), (4, 5, 6)] := by decide +kernel

example : healSeq ex [{ maxD2 := some 101 }, { method := .leafs }, {}] = heal (heal ex { maxD2 := some 101 }) { method := .leafs } := by decide +kernel
example : (breakFragments ex 2).length = 2 ∧ (breakFragments ex 3).length = 1 ∧ (breakFragments ex 4).length = 0 := by decide +kernel
example : healOKB ex (heal ex { maxD2 := some 101, method := .leafs }) (some 101) = true := healOKB_complete_on_model ex ex_WF _
example : healMinOKB ex (heal ex { maxD2 := some 101, method := .leafs }) { maxD2 := some 101, method := .leafs } = true :=
  healMinOKB_complete_on_model ex ex_WF _

end Navis.Props.C11

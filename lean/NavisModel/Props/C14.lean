import NavisModel.Proofs.CodecLemmas
import NavisModel.Proofs.PolicyLemmas
import NavisModel.Gen.IoConsts
import NavisModel.Proofs.IoMetaLemmas
import NavisModel.Gen.IoReaders
/-!
# C14 — precomputed, NRRD, JSON, HDF5 and mesh files decode to what was written

* `encode…`   : what navis' writers put on disk (model of `_write_skeleton` / `_write_mesh`);
* `decode…`   : an **independent decoder of the published format** (shares no code with the encoders,
                insists on the exact length);
* `navisRead…`: the reader **that exists** (every counted block is read exactly, trailing bytes are ignored;
                since the repair of DESIGN §6 #16 – before, `np.frombuffer(f.read(k))` let short reads pass).

Bytes are `Nat`s with the explicit guard `BytesOK` (`< 256`); float32 values are opaque 32-bit patterns.
All statements are over *all* vertex counts, edge lists, attribute lists, byte strings, file lists.

Behind the codecs come the parts of reading and writing that are not bytes: the `errors` policy of a batch read (`Model/Policy.lean`: one
`read : φ → Option α` per file, nothing assumed about it) and that every reader class of `navis/io` falls under it; which files of a
folder / zip / tar a read looks at (`Model/IoBatch.lean`); and the metadata (`Model/IoMeta.lean`): the `info` file next to precomputed
binaries, the NRRD header and the `VoxelNeuron` grid it is written from, attribute columns, the JSON key filter, the HDF5 attributes.
The `gen_*` theorems tie the constants of these models to the current source.

Defined in `Proofs/`: `specsOfInfo` (`IoMetaLemmas`), the attribute layout a decoder derives from an `info` file.
-/
namespace Navis.Props.C14
open Navis.Codec Navis.Policy

/-! ### words -/

/-- `uint32` little-endian round trip for every `n < 2^32`, whatever follows in the file. -/
theorem u32_round_trip (n : Nat) (rest : List Nat) (h : n < 2 ^ 32) :
    readU32 (u32le n ++ rest) = some (n, rest) := by
  rw [readU32_eq_readWord]
  exact readWord_le 4 n rest h

/-- … and the other way round: four bytes re-encode to themselves (the reader loses nothing). -/
theorem u32_bytes_round_trip (b0 b1 b2 b3 : Nat) (rest : List Nat) (h : BytesOK [b0, b1, b2, b3]) :
    ∃ n, readU32 (b0 :: b1 :: b2 :: b3 :: rest) = some (n, rest) ∧ n < 2 ^ 32 ∧ u32le n = [b0, b1, b2, b3] :=
  ⟨fromLE [b0, b1, b2, b3], readU32_eq_readWord _,
    Nat.lt_of_lt_of_eq (fromLE_lt [b0, b1, b2, b3] h) (by decide : 256 ^ 4 = 2 ^ 32), le_fromLE [b0, b1, b2, b3] h⟩

/-- Items of any width (`uint8`, `uint16`, `float32`, `float64`, … vertex attributes). -/
theorem word_round_trip (s n : Nat) (rest : List Nat) (h : n < 256 ^ s) :
    readWord s (le s n ++ rest) = some (n, rest) ∧ (le s n).length = s ∧ BytesOK (le s n) :=
  ⟨readWord_le s n rest h, le_length s n, le_bytesOK s n⟩

/-! ### precomputed skeletons -/

/-- **Codec round trip.** For every vertex list, every edge list and every list of vertex attributes
(any widths / component counts) that fit their fields, the independent decoder returns exactly what was
encoded. -/
theorem skeleton_codec_round_trip (specs : List AttrSpec) (sk : Skel) (h : sk.OK specs) :
    decodeSkel specs (encodeSkel specs sk) = some sk :=
  decodeSkel_eq_some.2 (List.append_nil (encodeSkel specs sk) ▸ SkelBlocks.encode h [])

/-- The reader that exists returns the same – also when bytes follow (e.g. a `radius` block that the
`info` file does not announce). -/
theorem navis_reader_round_trip (specs : List AttrSpec) (sk : Skel) (h : sk.OK specs)
    (extra : List Nat) : navisReadSkel specs (encodeSkel specs sk ++ extra) = some sk :=
  navisReadSkel_eq_some.2 ⟨extra, SkelBlocks.encode h extra⟩

/-- **Skeleton round trip (table level).** For every writable node table `t` (any ids, any row order,
any forest) and both settings of `radius`: the bytes navis writes decode – with the independent decoder
*and* with navis' own reader – to the same coordinates and radii, and the parent column read back is
`relabelByRow t`: row `i` gets node id `i`, a root stays `-1`, and a child's parent becomes the *row index*
of its parent. -/
theorem skeleton_round_trip (t : List Row) (radius : Bool) (h : Writable t) :
    ∃ sk, decodeSkel (specsFor radius) (encodeSkel (specsFor radius) (toSkel t radius)) = some sk ∧
      navisReadSkel (specsFor radius) (encodeSkel (specsFor radius) (toSkel t radius)) = some sk ∧
      sk.verts = t.map (·.xyz) ∧
      sk.attrs = (if radius then [t.map (·.radius)] else []) ∧
      readParents sk = relabelByRow t := by
  have hok := toSkel_ok t radius h
  exact ⟨toSkel t radius, skeleton_codec_round_trip _ _ hok,
    List.append_nil (encodeSkel ..) ▸ navis_reader_round_trip _ _ hok [], rfl, rfl, readParents_toSkel t radius h.table.1⟩

/-- The relation, spelled out per row: the parent read back for row `i` is `-1` for a root and otherwise
the position of the parent's id in the id column. -/
theorem skeleton_round_trip_row (t : List Row) (radius : Bool) (h : Writable t) (i : Nat) (hi : i < t.length) :
    (readParents (toSkel t radius))[i]? =
      some (if t[i].parent < 0 then -1 else (((ids t).idxOf t[i].parent : Nat) : Int)) := by
  rw [readParents_toSkel t radius h.table.1]
  simp [relabelByRow, relabelParent, hi]

/-- **The decoder is a partial inverse of the encoder**: it accepts exactly the encoder's image – whatever
it returns re-encodes to the very bytes it was given (nothing is ignored, nothing is invented). -/
theorem decoder_is_inverse (specs : List AttrSpec) (bs : List Nat) (sk : Skel) (hb : BytesOK bs)
    (h : decodeSkel specs bs = some sk) : encodeSkel specs sk = bs ∧ sk.OK specs := by
  obtain ⟨e, hok⟩ := (decodeSkel_eq_some.1 h).inv hb
  exact ⟨by rw [e, List.append_nil], hok⟩

/-- **Length mismatch ⇒ rejected.** Any byte string whose length differs from what its own header
announces (`8 + 12 n + 8 e +` attribute bytes) is rejected by the decoder. -/
theorem decode_rejects_short (specs : List AttrSpec) (bs r1 r2 : List Nat) (n e : Nat)
    (h1 : readU32 bs = some (n, r1)) (h2 : readU32 r1 = some (e, r2))
    (hlen : bs.length ≠ skelLen specs n e) : decodeSkel specs bs = none := by
  refine Option.eq_none_iff_forall_ne_some.2 fun sk hd => ?_
  have hs := decodeSkel_eq_some.1 hd
  have hl := hs.length
  -- the counts `hs` speaks of are the `n`, `e` read from the header
  obtain ⟨_, _, _, _, g1, g2, _⟩ := hs
  rw [readU32_eq_readWord] at h1 h2
  obtain ⟨rfl, rfl⟩ := Prod.mk.inj (Option.some.inj (h1.symm.trans g1))
  obtain ⟨rfl, rfl⟩ := Prod.mk.inj (Option.some.inj (h2.symm.trans g2))
  exact hlen hl

/-- … in particular **every truncation** of a well-formed skeleton file, at any byte offset. -/
theorem decode_rejects_truncated (specs : List AttrSpec) (sk : Skel) (h : sk.OK specs) (k : Nat)
    (hk : k < (encodeSkel specs sk).length) : decodeSkel specs ((encodeSkel specs sk).take k) = none :=
  Option.eq_none_iff_forall_ne_some.2 fun _ hd => SkelBlocks.not_truncated h hk (decodeSkel_eq_some.1 hd)

-- The reader performs the very reads of the decoder, so `hb` is not needed.
set_option linter.unusedVariables false in
/-- navis' reader agrees with the independent decoder on every file the decoder accepts. -/
theorem navis_reader_agrees (specs : List AttrSpec) (bs : List Nat) (sk : Skel)
    (hb : BytesOK bs) (h : decodeSkel specs bs = some sk) : navisReadSkel specs bs = some sk :=
  navisReadSkel_eq_some.2 ⟨[], decodeSkel_eq_some.1 h⟩

/-- … and it accepts nothing else: whatever it returns re-encodes to a prefix of the file, i.e. the reader
accepts exactly the well-formed files, possibly followed by bytes it ignores. -/
theorem navis_reader_accepts_only_wellformed (specs : List AttrSpec) (bs : List Nat) (sk : Skel) (hb : BytesOK bs)
    (h : navisReadSkel specs bs = some sk) : ∃ extra, bs = encodeSkel specs sk ++ extra := by
  obtain ⟨extra, hs⟩ := navisReadSkel_eq_some.1 h
  exact ⟨extra, (hs.inv hb).1⟩

/-- **navis' reader rejects every truncation** of a well-formed skeleton file, at any byte offset
(since the repair of DESIGN §6 #16 every counted block is read with `_read_exactly`; before, `np.frombuffer(f.read(k))` let short reads pass). -/
theorem navis_reader_rejects_truncated (specs : List AttrSpec) (sk : Skel) (h : sk.OK specs) (k : Nat)
    (hk : k < (encodeSkel specs sk).length) : navisReadSkel specs ((encodeSkel specs sk).take k) = none :=
  Option.eq_none_iff_forall_ne_some.2 fun _ hd =>
    (navisReadSkel_eq_some.1 hd).elim fun _ hs => SkelBlocks.not_truncated h hk hs

/-- Historical witness of #16 (the un-repaired reader accepted it as a one-vertex skeleton): a 4-vertex /
3-edge file (80 bytes) cut after the first vertex (20 bytes) is now rejected by both decoders. -/
def cutExample : Skel :=
  ⟨[(1065353216, 1073741824, 1077936128), (0, 0, 0), (1, 1, 1), (2, 2, 2)], [(0, 1), (1, 2), (0, 3)], []⟩
example : (encodeSkel [] cutExample).length = 80 := by decide +kernel
example : navisReadSkel [] ((encodeSkel [] cutExample).take 20) = none := by decide +kernel
example : decodeSkel [] ((encodeSkel [] cutExample).take 20) = none := by decide +kernel

/-! ### precomputed meshes -/

/-- **Mesh round trip** through the independent decoder and through navis' reader, for all vertex and
face lists. -/
theorem mesh_round_trip (m : Mesh) (h : m.OK) :
    decodeMesh (encodeMesh m) = some m ∧ navisReadMesh (encodeMesh m) = some m :=
  ⟨decodeMesh_eq_some.2 (MeshBlocks.encode h), navisReadMesh_eq_some.2 (MeshBlocks.encode h)⟩

/-- The mesh decoder rejects every file whose vertex block is incomplete or whose remainder is not a
whole number of triangles (the legacy format stores no face count). -/
theorem mesh_decode_rejects_short (bs r1 : List Nat) (n : Nat) (h1 : readU32 bs = some (n, r1))
    (hbad : bs.length < 4 + 12 * n ∨ (bs.length - 4 - 12 * n) % 12 ≠ 0) : decodeMesh bs = none := by
  refine Option.eq_none_iff_forall_ne_some.2 fun m hd => ?_
  have hm := decodeMesh_eq_some.1 hd
  have hl := hm.length
  obtain ⟨_, _, g1, _⟩ := hm
  rw [readU32_eq_readWord, g1] at h1
  obtain ⟨rfl, _⟩ := Prod.mk.inj (Option.some.inj h1)
  -- a file with the block structure has length `4 + 12 n + 12 f`
  rw [hl, Nat.add_assoc, Nat.add_sub_cancel_left, Nat.add_sub_cancel_left, Nat.mul_mod_right] at hbad
  rcases hbad with hbad | hbad
  · exact absurd (Nat.lt_of_add_lt_add_left hbad) (Nat.not_lt.2 (Nat.le_add_right _ _))
  · exact hbad rfl

/-- Every truncation inside the vertex block or off a triangle boundary is rejected – by the independent
decoder and (since the repair of the vertex-block read) by navis' reader. A cut at a triangle boundary
behind the vertex block is a well-formed file with fewer faces (the format has no face count). -/
theorem mesh_decode_rejects_truncated (m : Mesh) (h : m.OK) (k : Nat) (hk : k < (encodeMesh m).length)
    (hmis : k < 4 + 12 * m.verts.length ∨ (k - 4) % 12 ≠ 0) :
    decodeMesh ((encodeMesh m).take k) = none ∧ navisReadMesh ((encodeMesh m).take k) = none :=
  ⟨Option.eq_none_iff_forall_ne_some.2 fun _ hd => MeshBlocks.not_truncated h hk hmis (decodeMesh_eq_some.1 hd),
    Option.eq_none_iff_forall_ne_some.2 fun _ hd => MeshBlocks.not_truncated h hk hmis (navisReadMesh_eq_some.1 hd)⟩

/-! ### the `errors` policy and batch reads -/

/-- **Isolation.** With `errors = 'log'` or `'ignore'` a batch read returns `files.filterMap read`, in
order: one neuron per readable file … -/
theorem policy_isolation {φ α} (e : Errors) (he : e ≠ .raise) (read : φ → Option α) (fs : List φ) :
    readBatch e read fs = some (fs.filterMap read) := by
  simp only [readBatch, readAll_nonraise e he, formatOutput, Option.map_some, List.filterMap_map]; rfl

/-- … so a corrupt file removes only itself, wherever it sits in the batch. -/
theorem corrupt_file_removes_only_itself {φ α} (e : Errors) (he : e ≠ .raise) (read : φ → Option α)
    (before after : List φ) (bad : φ) (hbad : read bad = none) :
    readBatch e read (before ++ bad :: after) = readBatch e read (before ++ after) := by
  rw [policy_isolation e he, policy_isolation e he]
  simp [List.filterMap_append, hbad]

/-- With `errors = 'raise'` the call raises **iff** some file fails; otherwise all files are returned. -/
theorem policy_raise {φ α} (read : φ → Option α) (fs : List φ) :
    (readBatch .raise read fs = none ↔ ∃ f ∈ fs, read f = none) ∧
    ((∀ f ∈ fs, (read f).isSome) → readBatch .raise read fs = some (fs.filterMap read)) := by
  rw [readBatch_raise]
  cases hall : fs.all fun f => (read f).isSome
  · obtain ⟨f, hf, hn⟩ := List.all_eq_false.1 hall
    exact ⟨⟨fun _ => ⟨f, hf, Option.not_isSome_iff_eq_none.1 hn⟩, fun _ => rfl⟩, fun h => absurd (h f hf) hn⟩
  · exact ⟨⟨nofun, fun ⟨f, hf, hn⟩ => absurd (List.all_eq_true.1 hall f hf) (by simp [hn])⟩, fun _ => rfl⟩

/-- Zip archives (second `try` around every member) and parallel reads (ordered `imap` over any chunking)
give the same result as the plain loop, for every policy. -/
theorem containers_agree {φ α} (e : Errors) (read : φ → Option α) (fs : List φ) (chunks : List (List φ))
    (hc : chunks.flatten = fs) :
    readZip e read fs = readBatch e read fs ∧ (readChunks e read chunks).map formatOutput = readBatch e read fs := by
  subst hc
  exact ⟨by simp [readZip, readBatch, readZipAll_eq], by simp [readBatch, readChunks_eq]⟩

/-- The decision table as a whole: an exception leaves the decorated reader only under `raise`. -/
theorem policy_table_complete (e : Errors) :
    (∀ {α} (r : Option α), wrapped e r = none ↔ (r = none ∧ e = .raise)) := by
  intro α r
  cases r <;> cases e <;> simp [wrapped, onError]

/-! ### NRRD header: units -/

/-- Voxel grids: the per-axis voxel size and the unit written to the header are read back unchanged
(also anisotropic). -/
theorem nrrd_voxel_units_round_trip (m : V3) (u : String) :
    nrrdReadVoxelUnits (nrrdWriteUnits m u) = (m, u) := rfl

/-- Dotprops (2-D point data): the unit magnitude written to the header is read back too
(since the repair of DESIGN §6 #18 – before, the reader reset the magnitude to 1). -/
theorem nrrd_dotprops_units_round_trip (m : V3) (u : String) :
    nrrdReadDotpropsUnits (nrrdWriteUnits m u) = (m, u) := rfl

example : nrrdReadDotpropsUnits (nrrdWriteUnits (8, 8, 8) "nanometer") = ((8, 8, 8), "nanometer") := by decide +kernel

/-! ### the source says what the model implements (translator tie) -/

open Navis.Gen in
/-- `handle_errors` in the current source implements the modelled decision table, catches everything,
`format_output` filters `None`, the zip loop swallows only under `ignore`, parallel reads are ordered. -/
theorem gen_policy_matches_model :
    IoConsts.policyTable = Policy.table ∧
    (∀ p ∈ IoConsts.policyTable, ∃ e, Errors.ofString? p.1 = some e ∧ (onError e).toString = p.2) ∧
    IoConsts.policyCatches = "BaseException" ∧
    IoConsts.baseFormatOutputFilters = true ∧ IoConsts.nrrdFormatOutputFilters = true ∧
    IoConsts.meshFormatOutputFilters = true ∧ IoConsts.policyAttrsNoneSafe = true ∧
    IoConsts.zipSwallows = ["ignore"] ∧ IoConsts.parallelMap = "imap" :=
  ⟨rfl, by decide +kernel, rfl, rfl, rfl, rfl, rfl, rfl, rfl⟩

open Navis.Gen in
/-- `_write_skeleton` / `PrecomputedSkeletonReader` in the current source use the field order, dtypes
(4-byte items), header format and edge columns that `encodeSkel`, `writeEdges`, `navisReadSkel` and
`parentOf` implement. -/
theorem gen_skeleton_layout_matches_model :
    IoConsts.skelWriterOrder = Layout.skelWriterOrder ∧ IoConsts.skelHeaderFmt = Layout.skelHeaderFmt ∧
    IoConsts.skelWriterDtypes = Layout.skelWriterDtypes ∧
    (∀ p ∈ IoConsts.skelWriterDtypes, Layout.dtypeSize p.2 = some 4) ∧
    IoConsts.skelEdgeColumns = Layout.skelEdgeColumns ∧
    IoConsts.skelReaderFields = Layout.skelReaderFields ∧
    IoConsts.skelReaderExact = Layout.skelReaderExact ∧ IoConsts.skelAttrReadExact = Layout.skelAttrReadExact ∧
    IoConsts.skelEdgesCastAfterMapping = Layout.skelEdgesCastAfterMapping ∧
    IoConsts.edgeDictKeyCol = Layout.edgeDictKeyCol ∧ IoConsts.edgeDictValCol = Layout.edgeDictValCol ∧
    IoConsts.edgeDictDefault = Layout.edgeDictDefault ∧
    IoConsts.radiusAttr = Layout.radiusAttr ∧
    Layout.radiusAttr = (radiusSpec.id, "float32", radiusSpec.comps) ∧ Layout.dtypeSize "float32" = some radiusSpec.size :=
  ⟨rfl, rfl, rfl, by decide +kernel, rfl, rfl, rfl, rfl, rfl, rfl, rfl, rfl, rfl, rfl, rfl⟩

open Navis.Gen in
theorem gen_mesh_layout_matches_model :
    IoConsts.meshWriterOrder = Layout.meshWriterOrder ∧ IoConsts.meshWriterDtypes = Layout.meshWriterDtypes ∧
    IoConsts.meshReaderFields = Layout.meshReaderFields ∧ IoConsts.meshReaderExact = Layout.meshReaderExact ∧
    IoConsts.infoTypesWritten = Layout.infoTypes ∧ IoConsts.infoTypesRead = Layout.infoTypes ∧
    IoConsts.infoTransformDtype = "float" ∧ IoConsts.infoTransformPerAxis = true :=
  ⟨rfl, rfl, rfl, rfl, rfl, rfl, rfl, rfl⟩

open Navis.Gen in
theorem gen_nrrd_header_matches_model :
    IoConsts.nrrdHeaderWritten = Layout.nrrdHeaderWritten ∧ IoConsts.nrrdHeaderRead = Layout.nrrdHeaderRead ∧
    IoConsts.nrrdKCastToInt = true ∧ IoConsts.nrrdDotpropsUnitsFromHeader = true :=
  ⟨rfl, rfl, rfl, rfl⟩

open Navis.Gen in
/-- HDF5 (container level; the attribute guards are modelled further down, `h5_units_written` ff.): the NeuronList recursion forwards `serialized`/`raw`, annotation groups are
recognised as `h5py.Group`. -/
theorem gen_h5_facts :
    IoConsts.h5ListForwards = ["raw", "serialized"] ∧ IoConsts.h5AnnotationGroupClass = "h5py.Group" :=
  ⟨rfl, rfl⟩

section
open Navis.IoMeta Navis.IoBatch Navis.Gen

/-! ### the policy model applies to every reader class of `navis/io` -/

/-- **Every class deriving from `BaseReader`** (precomputed, NRRD, mesh, TIFF, SWC, NML/NMX – regenerated from
`navis/io/*.py` on every run): its effective `format_output` (own or inherited) drops `None`, its effective
`read_buffer` / `read_dataframe` is wrapped by `@handle_errors`, and neither it nor an ancestor replaces a batch
loop, the dispatchers or `parse_filename` (only `is_valid_file` may be overridden). So `policy_isolation`,
`policy_raise`, `containers_agree` speak about each of them, and C07's `matchFmt` model of `parse_filename` is the
code every reader runs. A new reader class, a new override or a dropped decorator changes the table. -/
theorem every_reader_class_follows_policy :
    IoReaders.baseEntryPointsDecorated = true ∧
    ∀ c ∈ IoReaders.readerClasses,
      policyApplies IoReaders.readerClasses IoConsts.baseFormatOutputFilters IoReaders.baseEntryPointsDecorated c = true :=
  ⟨rfl, by decide +kernel⟩

/-- The classes this property is about are in the table (the table is not vacuous). -/
theorem c14_readers_in_table :
    ∀ n ∈ ["PrecomputedSkeletonReader", "PrecomputedMeshReader", "NrrdReader", "MeshReader"],
      (findClass IoReaders.readerClasses n).isSome = true := by
  decide +kernel

/-! ### which files a batch read looks at, and in which order -/

/-- **Deterministic order.** Whatever the `limit`, a folder / zip / tar read looks at a *sub-list* of the container's
listing: files are never reordered or duplicated, so the result order is the listing order (and, by
`containers_agree`, independent of `parallel`). -/
theorem selection_keeps_listing_order (hidden valid : String → Bool) (limit : Limit) (listing : List String) :
    (selectDirAW valid limit listing).Sublist listing ∧
    (selectZipAW hidden valid limit listing).Sublist listing ∧
    (selectTarAW hidden valid limit listing).Sublist listing := by
  have hz :=
    (selectZipAW_eq_spec hidden valid limit listing ▸ selectSpec_sublist _ limit listing).trans List.filter_sublist
  exact ⟨(selectSpec_sublist valid limit listing).trans List.filter_sublist, hz, hz⟩

/-- Only valid files are looked at (no `info`, manifest, hidden or foreign file is ever parsed). -/
theorem selection_only_valid (hidden valid : String → Bool) (limit : Limit) (listing : List String) (f : String) :
    (f ∈ selectDirAW valid limit listing → valid f = true) ∧
    (f ∈ selectZipAW hidden valid limit listing → valid f = true ∧ hidden f = false) ∧
    (f ∈ selectTarAW hidden valid limit listing → valid f = true ∧ hidden f = false) := by
  have hz : f ∈ selectZipAW hidden valid limit listing → valid f = true ∧ hidden f = false := fun hf => by
    rw [selectZipAW_eq_spec] at hf
    simpa [and_comm] using (List.mem_filter.1 ((selectSpec_sublist _ limit listing).subset hf)).2
  exact ⟨fun hf => (List.mem_filter.1 ((selectSpec_sublist valid limit listing).subset hf)).2, hz, hz⟩

/-- **One neuron per valid file – every container, every kind of `limit`.** Folder, zip archive and tar archive select
exactly what the documentation promises: the valid files, restricted by `limit` (none, the first `n`, a slice, a list of
file names, a substring), in listing order. (Hidden files are never valid: for the extension filter by definition, for
precomputed names because `._x` contains a dot.) Before navis' repairs of the integer and the
list-of-names `limit` this held for folders without a name list, for zip archives without integer / name list and for
tar archives without an integer limit only. -/
theorem selection_meets_spec (hidden valid : String → Bool) (limit : Limit) (listing : List String)
    (hhid : ∀ f, hidden f = true → valid f = false) :
    selectDirAW valid limit listing = selectSpec valid limit listing ∧
    selectZipAW hidden valid limit listing = selectSpec valid limit listing ∧
    selectTarAW hidden valid limit listing = selectSpec valid limit listing := by
  have hfil : (listing.filter fun f => !hidden f && valid f) = listing.filter valid := by
    apply List.filter_congr
    intro f _
    cases hh : hidden f
    · simp
    · simp [hhid f hh]
  have hz : selectZipAW hidden valid limit listing = selectSpec valid limit listing := by
    rw [selectZipAW_eq_spec]
    simp only [selectSpec, hfil]
  exact ⟨rfl, hz, hz⟩

/-- **Integer `limit` on archives = integer `limit` on folders** (the un-repaired scan
tested `i >= limit` on the entry index after the append and read `n + 1` files): `limit = n` selects the first `n`
valid entries of the archive, whatever hidden, foreign, `info` or manifest entries sit in between – the same files a
folder read of the same listing selects. -/
theorem archive_int_limit (hidden valid : String → Bool) (n : Nat) (listing : List String)
    (hhid : ∀ f, hidden f = true → valid f = false) :
    selectZipAW hidden valid (.int n) listing = (listing.filter valid).take n ∧
    selectTarAW hidden valid (.int n) listing = (listing.filter valid).take n ∧
    selectDirAW valid (.int n) listing = (listing.filter valid).take n := by
  have h := selection_meets_spec hidden valid (.int n) listing hhid
  exact ⟨h.2.1, h.2.2, h.1⟩

/-- `limit = 0` reads nothing, `limit ≥` number of valid files reads them all. -/
theorem archive_int_limit_bounds (hidden valid : String → Bool) (n : Nat) (listing : List String)
    (hhid : ∀ f, hidden f = true → valid f = false) :
    selectZipAW hidden valid (.int 0) listing = [] ∧
    ((listing.filter valid).length ≤ n → selectZipAW hidden valid (.int n) listing = listing.filter valid) ∧
    (selectZipAW hidden valid (.int n) listing).length = min n (listing.filter valid).length := by
  refine ⟨?_, ?_, ?_⟩
  · rw [(archive_int_limit hidden valid 0 listing hhid).1]; simp
  · intro hle; rw [(archive_int_limit hidden valid n listing hhid).1]; exact List.take_of_length_le hle
  · rw [(archive_int_limit hidden valid n listing hhid).1]; simp

example : selectZipAW (fun _ => false) (fun _ => true) (.int 2) ["10", "11", "12", "13"] = ["10", "11"] := by decide +kernel
/-- decoys before the data files neither count nor stop the scan (the un-repaired scan returned `["10"]` here) -/
example : selectTarAW (fun f => f == "._10") (fun f => f != "info" && f != "._10") (.int 2) ["info", "._10", "10", "11", "12"]
    = ["10", "11"] := by decide +kernel
/-- a list of file names selects those files in every container (the un-repaired folder / zip reads returned `[]`) -/
example : selectDirAW (fun _ => true) (.names ["13", "11"]) ["10", "11", "12", "13"] = ["11", "13"] ∧
    selectZipAW (fun _ => false) (fun _ => true) (.names ["13", "11"]) ["10", "11", "12", "13"] = ["11", "13"] := by decide +kernel

/-- The source facts the selection model rests on, regenerated from `navis/io/base.py` / `precomputed_io.py`: both archive
scans test `len(to_read) >= limit` as the *first* statement of the loop body (nothing else breaks the loop), the folder
read slices `files[:limit]`, a list of names is matched against the entry's *name* (`Path.name`, `ZipInfo.filename`, the
tar path string), and `PrecomputedReader.is_valid_file` unwraps `ZipInfo`, `TarInfo` and `Path` entries to their names
before applying the literal tests of `precomputed_filter_literals`. -/
theorem gen_selection_facts :
    IoReaders.archiveIntLimit = IoBatch.Src.archiveIntLimit ∧ IoReaders.dirIntLimit = IoBatch.Src.dirIntLimit ∧
    IoReaders.archiveCollects = IoBatch.Src.archiveCollects ∧ IoReaders.namesLimitTest = IoBatch.Src.namesLimitTest ∧
    IoReaders.preValidUnwraps = IoBatch.Src.preValidUnwraps :=
  ⟨rfl, rfl, rfl, rfl, rfl⟩

/-- Folder / archive read under `errors ≠ 'raise'`: exactly one result per selected file that parses, in listing
order; a corrupt file removes only itself (combines the selection with `policy_isolation` and `containers_agree`) – for
every container and every kind of `limit`. -/
theorem batch_read_one_per_valid_file {α} (e : Errors) (he : e ≠ .raise) (read : String → Option α)
    (hidden valid : String → Bool) (limit : Limit) (listing : List String)
    (hhid : ∀ f, hidden f = true → valid f = false) :
    readBatch e read (selectDirAW valid limit listing) = some ((selectSpec valid limit listing).filterMap read) ∧
    readZip e read (selectZipAW hidden valid limit listing) = some ((selectSpec valid limit listing).filterMap read) ∧
    readZip e read (selectTarAW hidden valid limit listing) = some ((selectSpec valid limit listing).filterMap read) := by
  obtain ⟨h1, h2, h3⟩ := selection_meets_spec hidden valid limit listing hhid
  refine ⟨?_, ?_, ?_⟩
  · rw [policy_isolation e he, h1]
  · rw [(containers_agree e read _ [selectZipAW hidden valid limit listing] (by simp)).1, policy_isolation e he, h2]
  · rw [(containers_agree e read _ [selectTarAW hidden valid limit listing] (by simp)).1, policy_isolation e he, h3]

/-- The precomputed file filter with the literals of the current source: the files `write_precomputed` produces for
ids without a dot are data files; `info`, manifests (`<id>:0`), hidden files and anything with an extension are not
(in folders, zip *and* tar archives: `gen_selection_facts` – every entry object is unwrapped to its name first). -/
theorem precomputed_filter_literals :
    IoReaders.preRejectContains = ["."] ∧ IoReaders.preRejectEquals = ["info"] ∧
    IoReaders.preRejectEndsWith = [":0"] ∧ IoReaders.hiddenPrefix = ["._"] ∧
    (let v := validPrecomputed IoReaders.preRejectContains IoReaders.preRejectEquals IoReaders.preRejectEndsWith
     v "720575940" = true ∧ v "cellA_17" = true ∧ v "info" = false ∧ v "17:0" = false ∧ v "._17" = false ∧
     v "notes.txt" = false ∧ v "17.swc" = false) :=
  ⟨rfl, rfl, rfl, rfl, by decide +kernel⟩

/-! ### the `info` file describes the bytes next to it – in every container -/

/-- **`info` ↔ binaries, for every container kind.** Whatever the target (folder, single file, list of paths,
formatted names: the `dir` branch; `.zip` incl. `pattern@archive.zip`: the `zip` branch – the per-branch
`add_props` flags are regenerated from `PrecomputedWriter.write_any`), for both settings of `radius`, every
writable table and every nm scale (also non-integer and per-axis): the `info` file announces data type
`neuroglancer_skeletons`, records the nm scale on the diagonal of a 3×4 transform whose other entries are 0, and
lists exactly the vertex attributes the binaries carry – an independent decoder *following that info file* returns
the written skeleton. -/
theorem info_describes_bytes (container : String) (radius : Bool) (nm : Option V3R) (t : List Row)
    (h : Writable t) :
    let info := infoWritten IoReaders.infoCallPassesAddProps container false nm radius
    datatypeOf info = some "skeleton" ∧
    scaleOf info = some (nm.getD (1, 1, 1)) ∧ offDiagonalZero info = true ∧
    specsOfInfo info = some (specsFor radius) ∧
    ∃ specs, specsOfInfo info = some specs ∧
      decodeSkel specs (encodeSkel (specsFor radius) (toSkel t radius)) = some (toSkel t radius) := by
  simp only [infoWritten_passes IoReaders.infoCallPassesAddProps container false nm radius rfl rfl]
  exact ⟨datatypeOf_writeInfo false nm _, (scaleOf_writeInfo nm _).1, (scaleOf_writeInfo nm _).2,
    specsOfInfo_writeInfo nm radius, _, specsOfInfo_writeInfo nm radius, skeleton_codec_round_trip _ _ (toSkel_ok t radius h)⟩

/-- Meshes: the `info` file announces `neuroglancer_legacy_mesh` in every container, so `datatype='auto'` picks the
mesh reader. -/
theorem info_mesh_type (container : String) (nm : Option V3R) :
    datatypeOf (infoWritten IoReaders.infoCallPassesAddProps container true nm false) = some "mesh" := by
  rw [infoWritten_passes IoReaders.infoCallPassesAddProps container true nm false rfl rfl]
  exact datatypeOf_writeInfo true nm _

/-- The remaining source facts the `info` model rests on. -/
theorem gen_info_facts :
    IoReaders.infoAddPropsGuardedByRadius = true ∧ IoReaders.infoMergesAddProps = true ∧
    (radiusVAttr.id, radiusVAttr.dtype, radiusVAttr.comps) = IoConsts.radiusAttr ∧
    -- the transform is built as `mat43` (4×3, scale on the diagonal block), transposed, flattened: `transformOf`
    IoReaders.infoTransformShape = ((mat43 (1, 1, 1)).length, ((mat43 (1, 1, 1)).headD []).length) ∧
    IoReaders.infoTransformTransposed = true ∧ IoReaders.infoTransformDiagBlock = true :=
  ⟨rfl, rfl, rfl, rfl, rfl, rfl⟩

/-- `read_h5(parallel=…)` maps the per-neuron jobs with the order-preserving `imap` (as `parallel_read` does,
`gen_policy_matches_model`): the order of the result does not depend on `parallel`. -/
theorem gen_h5_parallel_ordered : IoReaders.h5ParallelMap = "imap" ∧ IoConsts.parallelMap = "imap" :=
  ⟨rfl, rfl⟩

/-- **Every worker-pool call site of `navis/io/*.py`** (folder / list reads, zip archives, FTP, HDF5 – regenerated from
the source, whatever the function is called) hands out its jobs with a method that returns results in submission
order (`imap`, `map`, `starmap`); `imap_unordered`, `as_completed`, `apply_async`, … anywhere make this stop checking.
The four batch loops this property talks about are among the sites (not vacuous). With `containers_agree` (ordered
concatenation over any chunking = the serial loop) the order of a batch read does not depend on `parallel`. -/
theorem every_pool_map_is_ordered :
    (∀ s ∈ IoReaders.poolMapSites, s.2.2 ∈ ["imap", "map", "starmap"]) ∧
    (∀ f ∈ [("base", "parallel_read"), ("base", "parallel_read_archive"), ("base", "parallel_read_ftp"), ("hdf_io", "read_h5")],
      ∃ s ∈ IoReaders.poolMapSites, (s.1, s.2.1) = f) := by decide +kernel

/-! ### NRRD: the header describes the neuron as it is *now* -/

/-- **Multi-step histories.** `_write_nrrd` (executed statement by statement from the operation list the translator
extracts from the current source) writes the neuron's *current* voxel size and unit – whatever header `old` the
neuron still carries from an earlier `read_nrrd` (stale `space directions` / `space units` of the file it came
from) and whatever extra fields the caller passes, as long as those do not themselves name the geometry keys.
Reading the file back yields exactly `x.mags` and `x.unit` on all three axes (also anisotropic, also non-integer). -/
theorem nrrd_header_current_geometry (x : Geo) (old attrs : Header)
    (hfree : keysFree attrs ["space directions", "space units"]) :
    readGeo (runOps IoReaders.nrrdWriteOps x old attrs) = (x.mags, some (x.unit, x.unit, x.unit)) := by
  have h1 := hfree "space directions" (by simp)
  have h2 := hfree "space units" (by simp)
  cases hd : x.isDotprops <;>
    simp [IoReaders.nrrdWriteOps, runOps, step, evalSrc, readGeo, hd, get_set, get_update_free, h1, h2]

/-- Dotprops: `k` travels in the header too (unless the caller overrides the field). -/
theorem nrrd_header_k (x : Geo) (old attrs : Header) (hd : x.isDotprops = true) :
    readK (runOps IoReaders.nrrdWriteOps x old attrs) = some x.k := by
  simp [IoReaders.nrrdWriteOps, runOps, step, evalSrc, readK, hd, get_set]

/-- Non-vacuity / the failure the theorem excludes: a header assembled in the wrong order (`update` with the old
header *after* the geometry was set) reports the stale voxel size. -/
example :
    readGeo (runOps [.empty, .set "space directions" .diagUnits false, .set "space units" .unitNames false, .updateOld]
      ⟨(4, 4, 40), "nanometer", 0, false⟩ [("space directions", .diag (8, 8, 8)), ("space units", .strs ["nanometer", "nanometer", "nanometer"])] [])
      = ((8, 8, 8), some ("nanometer", "nanometer", "nanometer")) := by decide +kernel

/-! ### VoxelNeuron: the grid `write_nrrd` exports is the neuron's current content -/

/-- One step keeps the cache invariant, provided every field the grid depends on is hashed or cleared by hand. -/
theorem voxel_step_keeps_invariant (f : VoxFacts) (hs : f.safe = true) (s : VoxSt) (op : VoxOp) (h : VoxInv f s) :
    VoxInv f (voxStep f s op) := by
  simp only [VoxFacts.safe, Bool.and_eq_true, Bool.or_eq_true] at hs
  obtain ⟨⟨hD, hV⟩, hT⟩ := hs
  cases op with
  | setData n =>
    intro g hg
    simp only [voxStep] at hg ⊢
    cases hc : f.clearsD
    · have hh : f.hashedD = true := by rcases hD with h | h <;> simp_all
      simp only [hc, Bool.false_and, Bool.false_eq_true, if_false] at hg
      have := h g hg
      simpa [hh] using this
    · simp [hc, hT] at hg
  | setValues n =>
    intro g hg
    simp only [voxStep] at hg ⊢
    cases hc : f.clearsV
    · have hh : f.hashedV = true := by rcases hV with h | h <;> simp_all
      simp only [hc, Bool.false_and, Bool.false_eq_true, if_false] at hg
      have := h g hg
      simpa [hh] using this
    · simp [hc, hT] at hg
  | read => exact voxInv_read f s hT h

/-- **No stale grid, after any history.** For every sequence of assignments (`voxels`, `grid`, `values`, `threshold`,
`strip`, …) and reads starting from a fresh neuron, the grid a read returns – what `_write_nrrd` puts into the file –
is built from the *current* voxel coordinates and the *current* per-voxel values. -/
theorem voxel_grid_never_stale (f : VoxFacts) (hs : f.safe = true) (d v : Nat) (ops : List VoxOp) :
    let s := voxRun f ⟨d, v, d, v, none⟩ ops
    (voxRead f s).1 = (s.d, s.v) := by
  have hinv : ∀ (ops : List VoxOp) (s : VoxSt), VoxInv f s → VoxInv f (voxRun f s ops) := by
    intro ops
    induction ops with
    | nil => intro s h; exact h
    | cons o os ih => intro s h; exact ih _ (voxel_step_keeps_invariant f hs s o h)
  exact voxRead_fst f _ (Bool.and_eq_true_iff.1 hs).2 (hinv ops _ fun _ hg => nomatch hg)

/-- **The current source is safe**: with `CORE_DATA`, `TEMP_ATTR` and every method of `VoxelNeuron` that assigns `_data`
or `_values` regenerated from `navis/core/voxel.py`, each field the grid depends on is hashed (`_data`) or cleared by
every method assigning it (`_values`), and `_grid` is among the attributes a clear removes. Dropping the
`_clear_temp_attr()` of the `values` setter makes this false. -/
theorem gen_voxel_cache_safe :
    IoReaders.voxFacts.safe = true ∧ IoReaders.voxFacts.hashedD = true ∧ IoReaders.voxFacts.hashedV = false ∧
    (∃ a ∈ IoReaders.voxAssigns, a.name = "values.setter" ∧ a.fields = ["_values"]) :=
  have ⟨a, b⟩ : _ ∧ _ := by decide +kernel
  ⟨a, rfl, rfl, b⟩

/-- What the theorem excludes (facts of a `values` setter that does not clear): build the grid, assign new
values, read again – the read returns the grid of the OLD values. -/
example : (voxRead ⟨true, false, true, false, true⟩
    (voxRun ⟨true, false, true, false, true⟩ ⟨1, 1, 1, 1, none⟩ [.read, .setValues 2])).1 = (1, 1) := by decide +kernel

/-- **`threshold` keeps voxels and values aligned** (the code that exists since the repair d242e0d: one mask, applied to
`_values` and to `_data`): for every list of voxel coordinates with equally many per-voxel values and every threshold,
the pairs (voxel, value) that remain are *exactly* the original pairs whose value is ≥ the threshold, in order – so
the dense grid written afterwards holds those voxels with their own values – and both arrays have the same length
(no shape mismatch when the grid is built). -/
theorem threshold_keeps_aligned {α} (t : Nat) (vox : List α) (vals : List Nat) (hl : vox.length = vals.length) :
    let r := thresholdSparse t vox vals
    r.1.zip r.2 = (vox.zip vals).filter (fun p => decide (t ≤ p.2)) ∧ r.1.length = r.2.length ∧
    r.2 = vals.filter (fun v => decide (t ≤ v)) := by
  simp only [thresholdSparse]
  exact ⟨by rw [applyMask_zip, applyMask_map_snd t vox vals hl], applyMask_length_eq _ vox vals hl,
    applyMask_map_filter _ vals⟩

example : thresholdSparse 3 ["a", "b", "c", "d"] [1, 4, 2, 3] = (["b", "d"], [4, 3]) := by decide +kernel

/-- The source fact the model rests on: `threshold` assigns BOTH `_data` and `_values` (and clears the caches). -/
theorem gen_threshold_filters_both :
    ∃ a ∈ IoReaders.voxAssigns, a.name = "threshold" ∧ a.fields = ["_data", "_values"] ∧ a.clears = true := by
  decide +kernel

/-! ### vertex attributes with several components -/

/-- `read_buffer` splits an `n × c` attribute block into `c` columns; word `p` of the block is found at row `p / c`
of column `p % c` – nothing is dropped, duplicated or transposed. -/
theorem attribute_columns_lossless (comps p : Nat) (vals : List Nat) (hc : 0 < comps) (hp : p < vals.length)
    (hshape : vals.length % comps = 0) :
    (column comps (p % comps) vals)[p / comps]? = vals[p]? ∧ (column comps (p % comps) vals).length = vals.length / comps := by
  refine ⟨?_, column_length _ _ _⟩
  have hr : p / comps < vals.length / comps := by
    apply (Nat.div_lt_iff_lt_mul hc).2
    rw [Nat.div_mul_cancel (Nat.dvd_of_mod_eq_zero hshape)]
    exact hp
  rw [column_getElem? _ _ _ _ hr, Nat.div_add_mod' p comps]
  simp [List.getD, hp]

example : attrColumns "dir" 3 [1, 2, 3, 4, 5, 6] = [("dir_0", [1, 4]), ("dir_1", [2, 5]), ("dir_2", [3, 6])] := by decide +kernel
example : attrColumns "radius" 1 [7, 8] = [("radius", [7, 8])] := by decide +kernel

/-! ### JSON: which attributes travel -/

/-- `write_json` → `read_json` at the level of the neuron's attribute dictionary, with the key lists of the current
source: the node table, the connector table and the id always arrive, and so does every public attribute; private
attributes other than the two tables do not (documented: units, name, soma are not part of the JSON). -/
theorem json_tables_and_id_travel {α} (id : α) (d : List (String × α)) :
    let out := jsonRead IoReaders.jsonReadTables IoReaders.jsonReadSkipsSetattr
      (jsonWrite IoReaders.jsonKeepPrivate IoReaders.jsonPrivatePrefix IoReaders.jsonIdKey id d)
    dget out "id" = some id ∧ dget out "_nodes" = dget d "_nodes" ∧ dget out "_connectors" = dget d "_connectors" ∧
    ∀ k, IoMeta.startsWith k "_" = false → k ≠ "id" → dget out k = dget d k := by
  refine ⟨?_, ?_, ?_, fun k hpub hk => ?_⟩
  · rw [dget_jsonRead_jsonWrite]; rfl
  · rw [dget_jsonRead_jsonWrite]; rfl
  · rw [dget_jsonRead_jsonWrite]; rfl
  · -- a public key is none of the (private) keys the reader skips
    have hskip : IoReaders.jsonReadSkipsSetattr.contains k = false := by
      simp only [IoReaders.jsonReadSkipsSetattr, List.contains_cons, List.contains_nil, Bool.or_false, Bool.or_eq_false_iff,
        beq_eq_false_iff_ne, ne_eq]
      constructor <;> (intro e; subst e; simp [IoMeta.startsWith] at hpub)
    rw [dget_jsonRead_jsonWrite, hskip, IoReaders.jsonPrivatePrefix, hpub, IoReaders.jsonIdKey, if_neg (Ne.symm hk)]
    simp

/-- **`write_json` accepts skeletons only – also inside a `NeuronList`** (with the member test of the current source):
the call is accepted iff every neuron handed over is a `TreeNeuron`, whether it comes alone or in a list. So the
geometry of a `MeshNeuron` / `Dotprops` is never 'written' as an object without vertices, faces or points (before the
repair a list was let through whatever it held); what *is* accepted is covered by `json_tables_and_id_travel`. -/
theorem json_accepts_only_skeletons (isList : Bool) (kinds : List String) :
    jsonAccepts IoReaders.jsonMembersChecked isList kinds = true ↔ ∀ k ∈ kinds, k = "TreeNeuron" := by
  simp only [IoReaders.jsonMembersChecked, jsonAccepts, Bool.not_true, Bool.false_or, Bool.and_eq_true, Bool.or_eq_true,
    List.all_eq_true, beq_iff_eq]
  constructor
  · exact fun h => h.2
  · exact fun h => ⟨Or.inr h, h⟩

example : jsonAccepts IoReaders.jsonMembersChecked true ["TreeNeuron", "MeshNeuron"] = false := by decide +kernel
/-- the check the repair added is what rejects it: without the member test the list is accepted -/
example : jsonAccepts false true ["MeshNeuron"] = true := by decide +kernel

/-! ### HDF5 raw representation: units (also per-axis), soma, name -/

/-- **`units_nm` is written for every neuron with physical units – isotropic or per-axis – by all three raw writers**
(guards regenerated from `H5WriterV1.write_treeneuron / write_dotprops / write_meshneuron`): the write never raises and
the attribute is exactly what `neuron_nm_units` returned; a dimensionless neuron gets no attribute. (Before the repair
the guard was `if units:`, whose truth value raises for the per-axis triple.) -/
theorem h5_units_written (m : Option Mag) :
    IoReaders.h5UnitsGuards.map (·.1) = ["write_treeneuron", "write_dotprops", "write_meshneuron"] ∧
    ∀ w ∈ IoReaders.h5UnitsGuards, h5UnitsAttr w.2 m = some m := by
  have hg : ∀ w ∈ IoReaders.h5UnitsGuards, w.2 = "units is not None" := by decide +kernel
  exact ⟨rfl, fun w hw => hg w hw ▸ h5UnitsAttr_isNotNone m⟩

/-- **HDF5 restores units per axis**: for every nm magnitude (one number or an x/y/z triple) and each raw writer, what
`H5ReaderV1.parse_add_units` (array branch regenerated from the source) makes of the attribute the writer left is the
neuron's `units_xyz` – on all three axes. (Before the repairs the triple could not be written, and a triple found in a
file was read back as its first entry on all axes.) -/
theorem h5_units_round_trip (m : Mag) :
    ∀ w ∈ IoReaders.h5UnitsGuards,
      (h5UnitsAttr w.2 (some m)).bind (h5ReadUnits IoReaders.h5ReaderArrayUnits) = some (some m.xyz) := by
  intro w hw
  rw [(h5_units_written (some m)).2 w hw]
  cases m <;> simp [h5ReadUnits, IoReaders.h5ReaderArrayUnits, Mag.xyz]

example : (h5UnitsAttr "units is not None" (some (.triple (4, 4, 40)))).bind (h5ReadUnits IoReaders.h5ReaderArrayUnits)
    = some (some (4, 4, 40)) := by decide +kernel
/-- historical: the two un-repaired pieces of code, on the same input -/
example : h5UnitsAttr "units" (some (.triple (4, 4, 40))) = none ∧
    h5ReadUnits "f'{units[0]} nm'" (some (.triple (4, 4, 40))) = some (some (4, 4, 4)) := by decide +kernel

/-- **The soma of a skeleton is written whatever its node id – also id 0** (guard regenerated from
`write_treeneuron`; `has_soma`, which the un-repaired writer tested, is false for the id 0). -/
theorem h5_soma_written (soma : Option Int) :
    ∃ g, IoReaders.h5SomaGuards.lookup "write_treeneuron" = some g ∧ h5SomaAttr g soma = some soma := by
  exact ⟨"soma is not None", by decide +kernel, h5SomaAttr_isNotNone soma⟩

example : h5SomaAttr "soma is not None" (some 0) = some (some 0) := by decide +kernel
example : h5SomaAttr "neuron.has_soma" (some 0) = some none := by decide +kernel      -- historical: soma 0 was dropped

/-- **A neuron without a name can be written**: with the guard of the current `get_neuron_group` the `neuron_name`
attribute is the name when there is one and absent otherwise – the write never raises (storing `None` does). -/
theorem h5_name_written (name : Option String) : h5NameAttr IoReaders.h5NameGuard name = some name := by
  simp [h5NameAttr, IoReaders.h5NameGuard]

example : h5NameAttr "hasattr(neuron, 'name')" none = none := by decide +kernel       -- historical: name None raised

end

/-! ### non-vacuity: concrete inputs meeting the hypotheses -/

/-- ids not in row order, not contiguous, child before parent, two roots. -/
def demo : List Row :=
  [⟨10, -1, (0, 0, 0), 1008981770⟩, ⟨5, 10, (1065353216, 1056964608, 0), 1017370378⟩,
   ⟨7, 5, (1073741824, 0, 0), 1022739087⟩, ⟨3, 10, (1077936128, 0, 1048576000), 1025758986⟩,
   ⟨0, -1, (3212836864, 0, 0), 0⟩, ⟨2, 0, (0, 0, 3212836864), 5⟩]

example : Writable demo :=
  ⟨⟨by decide +kernel, by decide +kernel⟩, by decide +kernel, by decide +kernel, by decide +kernel⟩
example : relabelByRow demo = [-1, 0, 1, 0, -1, 4] := by decide +kernel
example : writeEdges demo = [(0, 1), (1, 2), (0, 3), (4, 5)] := by decide +kernel
example : Skel.OK [⟨"radius", 4, 1⟩, ⟨"label", 1, 1⟩, ⟨"dir", 2, 3⟩]
    ⟨[(1, 2, 3), (4, 5, 6)], [(0, 1)], [[7, 8], [255, 0], [1, 2, 3, 65535, 5, 6]]⟩ :=
  ⟨by decide +kernel, by decide +kernel, by decide +kernel, by decide +kernel, by simp [AttrsOK]⟩
example : Mesh.OK ⟨[(0, 0, 0), (1065353216, 0, 0), (0, 1065353216, 0)], [(0, 1, 2)]⟩ :=
  ⟨by decide +kernel, by decide +kernel, by decide +kernel⟩
example : BytesOK [4, 0, 0, 0] := by intro b hb; simp at hb; omega
/-- policy: a concrete batch with a corrupt middle file -/
example : readBatch .log (fun n : Nat => if n % 2 = 0 then some n else none) [2, 3, 4] = some [2, 4] := by decide +kernel
example : readBatch .raise (fun n : Nat => if n % 2 = 0 then some n else none) [2, 3, 4] = none := by decide +kernel
example : readBatch .raise (fun n : Nat => if n % 2 = 0 then some n else none) [2, 4] = some [2, 4] := by decide +kernel

end Navis.Props.C14

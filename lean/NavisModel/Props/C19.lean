import NavisModel.Proofs.VoxelLemmas
import NavisModel.Proofs.DotpropsLemmas
import NavisModel.Gen.Conv
/-!
# C19 — conversions between representations are geometrically faithful

Rounding, voxelisation, skeleton → tangents, point cloud → dotprops, meshes, and last the expressions and literals re-extracted
from the current source.  How to read the model's names:

* `roundHalfEven q` — numpy's `round`; `Grid` — per-axis `pitch`, bounds `lo`/`hi` (default: the neuron's bounding
  box) and the unit magnitudes `u` of the input neuron.  Defined in `Proofs/VoxelLemmas`: `PosGrid g` — all pitches and unit
  magnitudes positive.
* `voxIdx g p` — the voxel index `neuron2voxels` computes for point `p`: `round(p/pitch) − round(lo/pitch)` per axis;
  `shape g` — `ceil(hi/pitch) − floor(lo/pitch) + 1`; `inGrid g v` — `0 ≤ v < shape`; `filled g pts` — the distinct
  in-grid voxels (the `True` cells); `counts g pts` — the same voxels with the number of points per voxel.
* `coord g v = gridOffset g + v · gridUnits g` — where the resulting `VoxelNeuron` puts voxel `v`
  (`offset = lo/pitch·pitch·u`, `units = pitch·u`); a point `p` of the input sits at `u · p` in that space.
* `tangents t` — `neuron2tangents` on a node table `t` before normalisation.

Validated by correspondence only (external numerics): KD-tree neighbour search, SVD (principal axis and singular
values), the normalisation `vect / |vect|`, marching cubes, tube meshing, skeletonisation.
-/
namespace Navis.Props.C19
open Navis.Voxel

/-! ## 1. rounding -/

/-- **roundHalfEven_spec.** The rounded value is within ½ of the argument, exact ties go to the even neighbour,
and whenever an integer is strictly nearer than ½ it is the result. -/
theorem roundHalfEven_spec (q : Rat) :
    ((roundHalfEven q : Rat) - q ≤ 1 / 2 ∧ q - (roundHalfEven q : Rat) ≤ 1 / 2) ∧
    (q - (q.floor : Rat) = 1 / 2 → roundHalfEven q % 2 = 0) ∧
    (∀ n : Int, (n : Rat) - q < 1 / 2 → q - (n : Rat) < 1 / 2 → roundHalfEven q = n) :=
  ⟨⟨halfEven.upper q, halfEven.lower q⟩, halfEven.even_of_tie, halfEven.nearest q⟩

/-- Rounding is monotone and fixes integers (the two facts the index bounds rest on). -/
theorem roundHalfEven_mono_fix : (∀ a b : Rat, a ≤ b → roundHalfEven a ≤ roundHalfEven b) ∧
    (∀ n : Int, roundHalfEven (n : Rat) = n) :=
  ⟨fun _ _ h => halfEven.mono h, halfEven.intCast⟩

example : roundHalfEven (1 / 2) = 0 ∧ roundHalfEven (3 / 2) = 2 ∧ roundHalfEven (5 / 2) = 2 ∧
    roundHalfEven (-1 / 2) = 0 ∧ roundHalfEven (-3 / 2) = -2 ∧ roundHalfEven (7 / 4) = 2 ∧
    roundHalfEven (-5 / 4) = -1 := by decide +kernel

/-! ## 2. voxelisation -/

/-- **voxel_within_pitch.** Every point — inside the bounds or not — lies, on every axis, within one voxel size of
the coordinate at which the `VoxelNeuron` places the voxel computed for it (both measured in the grid's space:
the point at `u·p`, the voxel at `offset + idx·units`).  The bound is one full pitch, not half, because the code
rounds the point and the lower bound separately and does not snap the offset to the grid. -/
theorem voxel_within_pitch (g : Grid) (hg : PosGrid g) (p : P3) :
    (g.u.x * p.x - (coord g (voxIdx g p)).x ≤ (gridUnits g).x ∧ -(gridUnits g).x ≤ g.u.x * p.x - (coord g (voxIdx g p)).x) ∧
    (g.u.y * p.y - (coord g (voxIdx g p)).y ≤ (gridUnits g).y ∧ -(gridUnits g).y ≤ g.u.y * p.y - (coord g (voxIdx g p)).y) ∧
    (g.u.z * p.z - (coord g (voxIdx g p)).z ≤ (gridUnits g).z ∧ -(gridUnits g).z ≤ g.u.z * p.z - (coord g (voxIdx g p)).z) :=
  ⟨within1 _ _ _ _ hg.1.1 hg.2.1, within1 _ _ _ _ hg.1.2.1 hg.2.2.1, within1 _ _ _ _ hg.1.2.2 hg.2.2.2⟩

/-- **voxel_in_bounds.** A point inside the requested bounds (inclusive) gets an index inside the grid:
`0 ≤ idx < shape` on every axis, so it is never dropped. -/
theorem voxel_in_bounds (g : Grid) (hg : PosGrid g) (p : P3) (h : inBounds g p = true) :
    (0 ≤ (voxIdx g p).x ∧ (voxIdx g p).x < (shape g).x) ∧ (0 ≤ (voxIdx g p).y ∧ (voxIdx g p).y < (shape g).y) ∧
    (0 ≤ (voxIdx g p).z ∧ (voxIdx g p).z < (shape g).z) :=
  (inGrid_iff g _).mp (inGrid_of_inBounds g hg p h)

/-- **voxel_covers.** Every point inside the bounds is within one voxel size (per axis) of a *filled* voxel of the
resulting grid. -/
theorem voxel_covers (g : Grid) (hg : PosGrid g) (pts : List P3) (p : P3) (hp : p ∈ pts) (h : inBounds g p = true) :
    ∃ v ∈ filled g pts, nearB g p v = true :=
  (all_imp_any_iff pts _ (inBounds g) (nearB g)).mp (covers_filled g hg pts) p hp h

/-- **filled_stays_inside.** The grid stays inside the requested bounds: every filled voxel comes from a point,
has an index in `[0, shape)`, and its coordinate lies in `[u·lo, u·(hi + 2·pitch))` on every axis. -/
theorem filled_stays_inside (g : Grid) (hg : PosGrid g) (pts : List P3) (v : I3) (hv : v ∈ filled g pts) :
    (∃ p ∈ pts, voxIdx g p = v) ∧ inGrid g v = true ∧
    (g.u.x * g.lo.x ≤ (coord g v).x ∧ (coord g v).x < g.u.x * (g.hi.x + 2 * g.pitch.x)) ∧
    (g.u.y * g.lo.y ≤ (coord g v).y ∧ (coord g v).y < g.u.y * (g.hi.y + 2 * g.pitch.y)) ∧
    (g.u.z * g.lo.z ≤ (coord g v).z ∧ (coord g v).z < g.u.z * (g.hi.z + 2 * g.pitch.z)) := by
  obtain ⟨hsrc, hin⟩ := (mem_filled g pts v).mp hv
  obtain ⟨⟨x0, x1⟩, ⟨y0, y1⟩, ⟨z0, z1⟩⟩ := (inGrid_iff g v).mp hin
  exact ⟨hsrc, hin, coord1_extent _ _ _ _ _ hg.1.1 hg.2.1 x0 x1, coord1_extent _ _ _ _ _ hg.1.2.1 hg.2.2.1 y0 y1,
    coord1_extent _ _ _ _ _ hg.1.2.2 hg.2.2.2 z0 z1⟩

/-- The executable checkers the driver evaluates on navis' own grid mean what they say, and the model's grid
passes them. -/
theorem checkers_sound (g : Grid) (pts : List P3) (F : List I3) :
    (coversB g pts F = true ↔ ∀ p ∈ pts, inBounds g p = true → ∃ v ∈ F, nearB g p v = true) ∧
    (insideB g F = true ↔ ∀ v ∈ F, inGrid g v = true) :=
  ⟨all_imp_any_iff pts F (inBounds g) (nearB g), List.all_eq_true⟩

theorem model_passes_checkers (g : Grid) (hg : PosGrid g) (pts : List P3) :
    coversB g pts (filled g pts) = true ∧ insideB g (filled g pts) = true :=
  ⟨covers_filled g hg pts, List.all_eq_true.mpr fun v hv => ((mem_filled g pts v).mp hv).2⟩

/-- **counts_conserved.** With `counts=True` (each filled voxel holds its number of points) the
grid total is exactly the number of points whose voxel lies inside the grid; every entry is the number of points
that share that voxel. -/
theorem counts_conserved (g : Grid) (pts : List P3) :
    gridSum (counts g pts) = nInside g pts ∧
    (∀ e ∈ counts g pts, e.2 = (pts.filter fun p => voxIdx g p = e.1).length ∧ 0 < e.2) := by
  refine ⟨counts_sum g pts, ?_⟩
  intro e he
  unfold counts at he
  obtain ⟨v, hv, rfl⟩ := List.mem_map.mp he
  refine ⟨count_allIdx g pts v, ?_⟩
  obtain ⟨⟨p, hp, rfl⟩, _⟩ := (mem_filled g pts v).mp hv
  exact List.count_pos_iff.mpr (List.mem_map.mpr ⟨p, hp, rfl⟩)

/-- Consequences: no point inside the bounds is lost, and when all points are inside the bounds (in particular
with the default bounds = bounding box) the total is the number of points. -/
theorem counts_conserved_in_bounds (g : Grid) (hg : PosGrid g) (pts : List P3) :
    (pts.filter (inBounds g)).length ≤ gridSum (counts g pts) ∧
    ((∀ p ∈ pts, inBounds g p = true) → gridSum (counts g pts) = pts.length) := by
  rw [counts_sum]
  unfold nInside
  constructor
  · apply List.Sublist.length_le
    apply List.monotone_filter_right
    intro p hb
    exact inGrid_of_inBounds g hg p hb
  · intro h
    rw [List.filter_eq_self.mpr (fun p hp => inGrid_of_inBounds g hg p (h p hp))]

/-- **vectors_stay_inside.** With `vectors=True` / `alphas=True` the voxels that receive a vector / alpha value are
exactly the filled voxels of the grid: nothing is written for a point whose voxel lies outside the requested bounds. -/
theorem vectors_stay_inside (g : Grid) (pts : List P3) :
    vectorCells g pts = filled g pts ∧ (∀ v ∈ vectorCells g pts, inGrid g v = true) ∧
    ((∀ p ∈ pts, inGrid g (voxIdx g p) = true) → vectorCells g pts = dedup (allIdx g pts)) :=
  ⟨rfl, fun v hv => ((mem_filled g pts v).mp hv).2, fun h => filled_of_all_inside g pts h⟩

/-- A concrete grid: pitch ½/1/2, bounds `[0,3]×[0,2]×[0,4]`, units 8. -/
def gEx : Grid := ⟨⟨1 / 2, 1, 2⟩, ⟨0, 0, 0⟩, ⟨3, 2, 4⟩, ⟨8, 8, 8⟩⟩
def ptsEx : List P3 := [⟨1 / 4, 1 / 2, 1⟩, ⟨3 / 4, 3 / 2, 3⟩, ⟨3, 2, 4⟩, ⟨1 / 4, 1 / 2, 1⟩, ⟨7 / 2, 0, 0⟩]

example : PosGrid gEx := by unfold PosGrid gEx; norm_num
/-- ties: `¼/½ = ½ → 0`, `¾/½ = 3/2 → 2`, `½ → 0`, `3/2 → 2`; the last point is outside the bounds and is clipped
(`7 ≥ shape.x = 7`). -/
example : shape gEx = ⟨7, 3, 3⟩ ∧ allIdx gEx ptsEx = [⟨0, 0, 0⟩, ⟨2, 2, 2⟩, ⟨6, 2, 2⟩, ⟨0, 0, 0⟩, ⟨7, 0, 0⟩] ∧
    counts gEx ptsEx = [(⟨2, 2, 2⟩, 1), (⟨6, 2, 2⟩, 1), (⟨0, 0, 0⟩, 2)] ∧ nInside gEx ptsEx = 4 ∧
    (ptsEx.filter (inBounds gEx)).length = 4 := by decide +kernel
/-- (Historical: before the fix `neuron2voxels(counts=True)` raised `shape mismatch` on this input, because the counts
were not filtered together with the clipped voxel `⟨7, 0, 0⟩`; the repaired code returns `counts gEx ptsEx`, total 4.) -/
example : gridSum (counts gEx ptsEx) = 4 ∧ vectorCells gEx ptsEx = [⟨2, 2, 2⟩, ⟨6, 2, 2⟩, ⟨0, 0, 0⟩] := by decide +kernel

/-! ### unit strings, default bounds, shape, reported offset / units, per-voxel point sets -/

/-- **voxel_size_physical.** A pitch given as a unit string (`'q unit'`, `unit = factor ·` base unit) on an isometric neuron whose
own unit is `umag ·` base unit is mapped to `q·factor/umag` neuron units, and the voxel size the `VoxelNeuron` reports
(`units = pitch · umag`) is exactly the requested physical length `q · factor`. -/
theorem voxel_size_physical (q factor umag : Rat) (hu : umag ≠ 0) :
    units1 (mapUnits q factor umag) umag = q * factor := by
  unfold units1 mapUnits
  exact div_mul_cancel₀ _ hu

example : mapUnits 1 1000 8 = 125 ∧ units1 (mapUnits 1 1000 8) 8 = 1000 := by decide +kernel

/-- **shape_positive.** Non-empty bounds give a non-empty grid on every axis. -/
theorem shape_positive (g : Grid) (hg : PosGrid g) (hx : g.lo.x ≤ g.hi.x) (hy : g.lo.y ≤ g.hi.y) (hz : g.lo.z ≤ g.hi.z) :
    1 ≤ (shape g).x ∧ 1 ≤ (shape g).y ∧ 1 ≤ (shape g).z :=
  ⟨shape1_pos _ _ _ hg.1.1 hx, shape1_pos _ _ _ hg.1.2.1 hy, shape1_pos _ _ _ hg.1.2.2 hz⟩

/-- **same_voxel_within_pitch.** Two points that end up in the same voxel are at most one pitch apart on every axis (the grid
does not merge distant points). -/
theorem same_voxel_within_pitch (g : Grid) (hg : PosGrid g) (p q : P3) (h : voxIdx g p = voxIdx g q) :
    (p.x - q.x ≤ g.pitch.x ∧ q.x - p.x ≤ g.pitch.x) ∧ (p.y - q.y ≤ g.pitch.y ∧ q.y - p.y ≤ g.pitch.y) ∧
    (p.z - q.z ≤ g.pitch.z ∧ q.z - p.z ≤ g.pitch.z) :=
  ⟨same_idx_close _ _ _ _ hg.1.1 (congrArg V3.x h), same_idx_close _ _ _ _ hg.1.2.1 (congrArg V3.y h),
    same_idx_close _ _ _ _ hg.1.2.2 (congrArg V3.z h)⟩

/-- **default_bounds_keep_everything.** With bounds that contain every point — the default `x.bbox`, which is the bounding box
of the points possibly enlarged by connectors — nothing is clipped: the filled voxels are all distinct voxels of the points,
`counts=True` adds up to the number of points, and the `vectors`/`alphas` loop visits every voxel. -/
theorem default_bounds_keep_everything (g : Grid) (hg : PosGrid g) (pts : List P3) (h : boxContains g pts = true) :
    filled g pts = dedup (allIdx g pts) ∧ gridSum (counts g pts) = pts.length ∧ vectorCells g pts = dedup (allIdx g pts) := by
  have hall : ∀ p ∈ pts, inBounds g p = true := List.all_eq_true.mp h
  have hin : ∀ p ∈ pts, inGrid g (voxIdx g p) = true := fun p hp => inGrid_of_inBounds g hg p (hall p hp)
  exact ⟨filled_of_all_inside g pts hin, (counts_conserved_in_bounds g hg pts).2 hall, filled_of_all_inside g pts hin⟩

/-- The checkers evaluated on the offset / units the `VoxelNeuron` *reports* mean what they say, and with the model's own offset /
units they coincide with `coversB` (so `voxel_covers` transfers). -/
theorem reported_checkers_sound (g : Grid) (off un : P3) (pts : List P3) (F : List I3) :
    (coversAtB g off un pts F = true ↔ ∀ p ∈ pts, inBounds g p = true → ∃ v ∈ F, nearAtB off un g.u p v = true) ∧
    (sourcedAtB g off un pts F = true ↔ ∀ v ∈ F, ∃ p ∈ pts, nearAtB off un g.u p v = true) ∧
    coversAtB g (gridOffset g) (gridUnits g) pts F = coversB g pts F := by
  refine ⟨all_imp_any_iff pts F (inBounds g) (nearAtB off un g.u), ?_, ?_⟩
  · unfold sourcedAtB
    rw [List.all_eq_true]
    exact forall₂_congr fun v _ => List.any_eq_true
  · unfold coversAtB coversB
    simp only [nearAtB_model]

theorem model_passes_reported_checkers (g : Grid) (hg : PosGrid g) (pts : List P3) :
    coversAtB g (gridOffset g) (gridUnits g) pts (filled g pts) = true ∧
    sourcedAtB g (gridOffset g) (gridUnits g) pts (filled g pts) = true := by
  refine ⟨by rw [(reported_checkers_sound g (gridOffset g) (gridUnits g) pts (filled g pts)).2.2]; exact covers_filled g hg pts, ?_⟩
  rw [(reported_checkers_sound g (gridOffset g) (gridUnits g) pts (filled g pts)).2.1]
  intro v hv
  obtain ⟨⟨p, hp, rfl⟩, _⟩ := (mem_filled g pts v).mp hv
  exact ⟨p, hp, by rw [nearAtB_model]; exact near_own g hg p⟩

/-- **points_in_voxel.** The point set the `vectors`/`alphas` loop hands to the SVD for voxel `v` is exactly the points whose
index is `v`, in input order; its size is the `counts=True` value of that voxel. -/
theorem points_in_voxel (g : Grid) (pts : List P3) (v : I3) :
    (∀ p, p ∈ pointsIn g pts v ↔ p ∈ pts ∧ voxIdx g p = v) ∧ (pointsIn g pts v).length = (allIdx g pts).count v := by
  unfold pointsIn
  exact ⟨fun p => by simp [List.mem_filter], (count_allIdx g pts v).symm⟩

example : pointsIn gEx ptsEx ⟨0, 0, 0⟩ = [⟨1 / 4, 1 / 2, 1⟩, ⟨1 / 4, 1 / 2, 1⟩] := by decide +kernel

/-! ## 3. skeleton → tangents (`make_dotprops(skeleton, k=0)`) -/

/-- **tangent_midpoint_and_length.** If every parent id resolves (`edgePairs t = some es`, otherwise pandas raises
`KeyError`), the tangents are, in row order, exactly one per child/parent pair at *different* positions
(zero-length edges are dropped, nothing else), and for each of them: the point is the midpoint `(child+parent)/2`,
equidistant from both ends; the (un-normalised) vector is `child − parent`, which is parallel to the
child→parent vector `parent − child` (cross product zero).  Tangents are unoriented directions (NBLAST uses `|dot|`,
the k > 0 path returns an arbitrary sign), so the sign is not part of the property; for the record the code's
orientation is `child − parent = −(parent − child)`.  The recorded squared length is `|child − parent|² > 0`. -/
theorem tangent_midpoint_and_length (t : List Row) (es : List (P3 × P3)) (h : edgePairs t = some es) :
    ∃ ts, tangents t = some ts ∧
      ts = (es.filter fun e => decide (e.1 ≠ e.2)).map (fun e => edgeTangent e.1 e.2) ∧
      ts.length = (es.filter fun e => decide (e.1 ≠ e.2)).length ∧
      ∀ e ∈ es, e.1 ≠ e.2 →
        edgeTangent e.1 e.2 ∈ ts ∧
        (edgeTangent e.1 e.2).point = half (add e.1 e.2) ∧
        norm2 (sub (edgeTangent e.1 e.2).point e.1) = norm2 (sub (edgeTangent e.1 e.2).point e.2) ∧
        (edgeTangent e.1 e.2).vec = sub e.1 e.2 ∧
        cross (edgeTangent e.1 e.2).vec (sub e.2 e.1) = ⟨0, 0, 0⟩ ∧
        (edgeTangent e.1 e.2).vec = scale (-1) (sub e.2 e.1) ∧
        (edgeTangent e.1 e.2).len2 = norm2 (sub e.1 e.2) ∧ 0 < (edgeTangent e.1 e.2).len2 := by
  refine ⟨_, tangents_eq t es h, rfl, by rw [List.length_map], ?_⟩
  intro e he hne
  have hm : (edgeTangent e.1 e.2).point = half (add e.1 e.2) := midpoint_eq e.1 e.2
  refine ⟨List.mem_map.mpr ⟨e, List.mem_filter.mpr ⟨he, by simpa using hne⟩, rfl⟩, hm, ?_, rfl,
    cross_self_neg e.1 e.2, sub_neg e.1 e.2, rfl, ?_⟩
  · rw [hm, (midpoint_equidistant e.1 e.2).1, (midpoint_equidistant e.1 e.2).2]
  · exact norm2_pos _ fun hz => hne ((sub_eq_zero_iff _ _).mp hz)

/-- Rows: 1 root, 2 → 1 (length 3), 3 → 2 coincident (dropped), 4 → 3 (length 7), 5 a second root. -/
def tEx : List Row := [⟨1, -1, ⟨0, 0, 0⟩⟩, ⟨2, 1, ⟨1, 2, 2⟩⟩, ⟨3, 2, ⟨1, 2, 2⟩⟩, ⟨4, 3, ⟨3, 5, 8⟩⟩, ⟨5, -1, ⟨9, 9, 9⟩⟩]

example : edgePairs tEx = some [(⟨1, 2, 2⟩, ⟨0, 0, 0⟩), (⟨1, 2, 2⟩, ⟨1, 2, 2⟩), (⟨3, 5, 8⟩, ⟨1, 2, 2⟩)] ∧
    tangents tEx = some [⟨⟨1 / 2, 1, 1⟩, ⟨1, 2, 2⟩, 9⟩, ⟨⟨2, 7 / 2, 5⟩, ⟨2, 3, 6⟩, 49⟩] := by decide +kernel
/-- A dangling parent id is the `KeyError` case. -/
example : tangents [⟨1, 7, ⟨0, 0, 0⟩⟩] = none := by decide +kernel

/-! ### lookup by id, roots and zero-length edges dropped, the normalised vector -/

/-- **parent_lookup_by_id.** With unique node ids the parent position is found by *id*: it is the position of the one row
carrying that id, whatever the row order (unsorted, shuffled, reversed tables give the same answer). -/
theorem parent_lookup_by_id (t : List Row) (hn : (t.map (·.id)).Nodup) (i : Int) :
    (∀ p, lookup t i = some p ↔ ∃ r ∈ t, r.id = i ∧ r.p = p) ∧
    (∀ t', t.Perm t' → lookup t' i = lookup t i) := by
  refine ⟨fun p => lookup_eq_some_iff t hn i p, fun t' hp => Option.ext fun p => ?_⟩
  -- both tables have unique ids and the same rows
  rw [lookup_eq_some_iff t hn, lookup_eq_some_iff t' ((hp.map _).nodup_iff.mp hn)]
  exact exists_congr fun r => and_congr_left fun _ => hp.mem_iff.symm

/-- **tangents_characterised.** When every parent id resolves, a tangent is produced exactly for the rows that (a) are not roots
(`parent_id ≥ 0`), and (b) do not sit at their parent's position; it is the `edgeTangent` of the row's and the looked-up parent's
positions.  Nothing else is produced; roots and zero-length edges produce nothing.  The count is the number of non-root rows
minus the number of zero-length edges. -/
theorem tangents_characterised (t : List Row) (es : List (P3 × P3)) (h : edgePairs t = some es) :
    (∀ tg, tg ∈ (es.filter fun e => decide (e.1 ≠ e.2)).map (fun e => edgeTangent e.1 e.2) ↔
      ∃ r ∈ t, 0 ≤ r.parent ∧ ∃ q, lookup t r.parent = some q ∧ r.p ≠ q ∧ tg = edgeTangent r.p q) ∧
    tangents t = some ((es.filter fun e => decide (e.1 ≠ e.2)).map fun e => edgeTangent e.1 e.2) ∧
    es.length = (t.filter fun r => 0 ≤ r.parent).length ∧
    ((es.filter fun e => decide (e.1 ≠ e.2)).map fun e => edgeTangent e.1 e.2).length
      = (t.filter fun r => 0 ≤ r.parent).length - (es.filter fun e => decide (e.1 = e.2)).length := by
  refine ⟨?_, tangents_eq t es h, edgePairs_length t es h, ?_⟩
  · intro tg
    rw [List.mem_map]
    constructor
    · rintro ⟨e, he, rfl⟩
      obtain ⟨he1, he2⟩ := List.mem_filter.mp he
      obtain ⟨r, hr, hpar, hl, hp⟩ := (edgePairs_mem t es h e).mp he1
      exact ⟨r, hr, hpar, e.2, hl, by rw [hp]; simpa using he2, by rw [hp]⟩
    · rintro ⟨r, hr, hpar, q, hl, hne, rfl⟩
      refine ⟨(r.p, q), List.mem_filter.mpr ⟨(edgePairs_mem t es h (r.p, q)).mpr ⟨r, hr, hpar, hl, rfl⟩, by simpa using hne⟩, rfl⟩
  · rw [List.length_map, ← edgePairs_length t es h]
    have := (List.filter_append_perm (fun e : P3 × P3 => decide (e.1 = e.2)) es).length_eq
    rw [List.length_append] at this
    simp only [ne_eq, decide_not]
    omega

/-- **tanOKB_sound.** What the checker applied to navis' normalised vector `v` and length `L` certifies against the exact
tangent: `|v|² = 1 ± ε`, `|v × w|² ≤ ε²|v|²|w|²` — by Lagrange's identity `(v·w)² ≥ (1 − ε²)|v|²|w|²`, i.e. the angle between `v` and
the edge has `sin² ≤ ε²` — `L > 0` and `L² = |w|² (1 ± ε)`. -/
theorem tanOKB_sound (tg : Tangent) (v : P3) (L ε : Rat) (h : tanOKB tg v L ε = true) :
    (norm2 v - 1 ≤ ε ∧ -ε ≤ norm2 v - 1) ∧
    dot v tg.vec * dot v tg.vec ≥ (1 - ε * ε) * (norm2 v * norm2 tg.vec) ∧
    0 < L ∧ (L * L - tg.len2 ≤ ε * tg.len2 ∧ -(ε * tg.len2) ≤ L * L - tg.len2) := by
  unfold tanOKB unitB at h
  simp only [Bool.and_eq_true, decide_eq_true_eq, absLe_iff] at h
  obtain ⟨⟨⟨hu, hc⟩, hL⟩, hl⟩ := h
  refine ⟨hu, ?_, hL, hl⟩
  -- `(v·w)² = |v|²|w|² − |v × w|²`
  have hL := lagrange v tg.vec
  rw [ge_iff_le, sub_mul, one_mul]
  linarith

/-- **normalised_tangent_exact.** For an edge of rational length `m` (`|child − parent|² = m²`, e.g. the integer-length edges of
the generator) the exactly normalised vector `(child − parent)/m` and `L = m` pass the checker with tolerance `0`. -/
theorem normalised_tangent_exact (c q : P3) (m : Rat) (hm : 0 < m) (hl : norm2 (sub c q) = m * m) :
    tanOKB (edgeTangent c q) (scale (1 / m) (sub c q)) m 0 = true := by
  have hn : norm2 (scale (1 / m) (sub c q)) = 1 := by
    rw [show norm2 (scale (1 / m) (sub c q)) = (1 / m) * (1 / m) * norm2 (sub c q) by unfold norm2 dot scale; ring, hl,
      one_div, mul_mul_mul_comm, inv_mul_cancel₀ hm.ne', one_mul]
  have hc : cross (scale (1 / m) (sub c q)) (sub c q) = ⟨0, 0, 0⟩ := by unfold cross scale; congr 1 <;> ring
  unfold tanOKB unitB
  rw [show (edgeTangent c q).vec = sub c q from rfl, show (edgeTangent c q).len2 = norm2 (sub c q) from rfl, hn, hc, hl,
    norm2_zero]
  simp only [Bool.and_eq_true, decide_eq_true_eq, absLe_iff, sub_self, zero_mul, neg_zero, le_refl, and_self, true_and,
    and_true]
  exact hm

example : tanOKB (edgeTangent ⟨1, 2, 2⟩ ⟨0, 0, 0⟩) ⟨1 / 3, 2 / 3, 2 / 3⟩ 3 0 = true ∧
    tanOKB (edgeTangent ⟨1, 2, 2⟩ ⟨0, 0, 0⟩) ⟨2 / 3, 1 / 3, 2 / 3⟩ 3 (1 / 100) = false := by decide +kernel

/-! ## 4. point cloud → dotprops (`make_dotprops(points, k)`) -/

/-- **k_clipped.** The number of neighbours actually used is `min n k`: never more than the number of points,
never more than requested, and exactly `k` when enough points exist. -/
theorem k_clipped (n k : Nat) :
    kClip n k = min n k ∧ kClip n k ≤ n ∧ kClip n k ≤ k ∧ (k ≤ n → kClip n k = k) ∧ (n ≤ k → kClip n k = n) :=
  ⟨rfl, Nat.min_le_left n k, Nat.min_le_right n k, Nat.min_eq_right, Nat.min_eq_left⟩

example : kClip 5 20 = 5 ∧ kClip 30 20 = 20 := by decide

/-- **alpha_range.** For all singular values `s₁ ≥ s₂ ≥ s₃ ≥ 0` — including the all-zero spectrum of a neighbourhood
whose points coincide, where the guarded division yields `0` — `alpha` lies in `[0, 1]`.  When they are not all zero it
is `1` exactly for a collinear neighbourhood (`s₂ = s₃ = 0`) and `0` exactly when the two leading values tie. -/
theorem alpha_range (s1 s2 s3 : Rat) (h12 : s2 ≤ s1) (h23 : s3 ≤ s2) (h3 : 0 ≤ s3) :
    (0 ≤ alpha s1 s2 s3 ∧ alpha s1 s2 s3 ≤ 1) ∧
    (0 < s1 + s2 + s3 → (alpha s1 s2 s3 = (s1 - s2) / (s1 + s2 + s3)) ∧ (alpha s1 s2 s3 = 1 ↔ s2 = 0 ∧ s3 = 0) ∧
      (alpha s1 s2 s3 = 0 ↔ s1 = s2)) ∧
    (¬ 0 < s1 + s2 + s3 → alpha s1 s2 s3 = 0) := by
  have hs2 : 0 ≤ s2 := h3.trans h23
  by_cases hpos : 0 < s1 + s2 + s3
  · have e : alpha s1 s2 s3 = (s1 - s2) / (s1 + s2 + s3) := if_pos hpos
    refine ⟨?_, fun _ => ⟨e, ?_, ?_⟩, fun h => absurd hpos h⟩
    · rw [e, div_le_iff₀ hpos, one_mul]
      exact ⟨div_nonneg (sub_nonneg.mpr h12) hpos.le,
        (sub_le_self s1 hs2).trans (by rw [add_assoc]; exact le_add_of_nonneg_right (add_nonneg hs2 h3))⟩
    · rw [e, div_eq_one_iff_eq hpos.ne']
      constructor
      · intro h
        have h' := sub_eq_iff_eq_add.mp h
        rw [add_assoc, add_assoc, left_eq_add] at h'
        obtain ⟨e2, e3⟩ := (add_eq_zero_iff_of_nonneg hs2 (add_nonneg h3 hs2)).mp h'
        exact ⟨e2, ((add_eq_zero_iff_of_nonneg h3 hs2).mp e3).1⟩
      · rintro ⟨rfl, rfl⟩; rw [sub_zero, add_zero, add_zero]
    · rw [e, div_eq_zero_iff, sub_eq_zero]
      exact ⟨fun h => h.resolve_right hpos.ne', Or.inl⟩
  · have e : alpha s1 s2 s3 = 0 := if_neg hpos
    exact ⟨by rw [e]; exact ⟨le_refl 0, zero_le_one⟩, fun h => absurd h hpos, fun _ => e⟩

example : alpha 5 2 1 = 3 / 8 ∧ alpha 4 0 0 = 1 ∧ alpha 2 2 1 = 0 ∧ alpha 0 0 0 = 0 := by decide +kernel

/-- **finite_points.** Rows with a non-finite coordinate (NaN or ±inf, modelled as `none`) are dropped and nothing else: the points of the result are the
finite rows, in order, one each. -/
theorem finite_points (l : List (Option P3)) :
    (finitePts l).length = (l.filter Option.isSome).length ∧ (∀ p, p ∈ finitePts l ↔ some p ∈ l) ∧
    (finitePts l).map some = l.filter Option.isSome := by
  unfold finitePts
  have hmap : (l.filterMap id).map some = l.filter Option.isSome := by
    induction l with
    | nil => rfl
    | cons a l ih => cases a <;> simp_all
  exact ⟨by rw [← hmap, List.length_map], fun p => by simp [List.mem_filterMap], hmap⟩

/-- **collinear_principal_axis.** For a collinear neighbourhood (centred points `tᵢ·d`) the inertia matrix has `d`
as an eigenvector with eigenvalue `(Σtᵢ²)|d|²` and kills every vector orthogonal to `d`: the principal axis is the
line direction and the other two singular values vanish (so `alpha = 1` by `alpha_range`).  `inertiaApply cs` is the action of
the scatter matrix `inertiaMat cs` below (`scatter_matrix_spec`). -/
theorem collinear_principal_axis (d : P3) (ts : List Rat) :
    inertiaApply (ts.map fun t => scale t d) d = scale ((ts.map fun t => t * t).sum * norm2 d) d ∧
    ∀ w, dot d w = 0 → inertiaApply (ts.map fun t => scale t d) w = ⟨0, 0, 0⟩ := by
  refine ⟨inertia_collinear d ts d, ?_⟩
  intro w hw
  rw [inertia_collinear, hw]
  unfold scale
  simp

example : inertiaApply ([-2, -1, 0, 1, 2].map fun t => scale t ⟨1, 2, 2⟩) ⟨1, 2, 2⟩ = scale 90 ⟨1, 2, 2⟩ := by
  decide +kernel

/-! ### neighbour selection, scatter matrix, principal axis, alpha -/

/-- **knn_spec.** The neighbourhood of `p` consists of `min k n` points of the cloud (never more than there are), every one of
them at most as far from `p` as every point left out, selected and left-out points together are the cloud, and for `k ≥ 1` it
contains `p` itself (the self-hit). -/
theorem knn_spec (pts : List P3) (p : P3) (k : Nat) :
    (knn pts p k).length = min k pts.length ∧ (∀ q ∈ knn pts p k, q ∈ pts) ∧
    (∀ a ∈ knn pts p k, ∀ b ∈ (sortBy (dist2 p) pts).drop k, dist2 p a ≤ dist2 p b) ∧
    (knn pts p k ++ (sortBy (dist2 p) pts).drop k).Perm pts ∧
    (p ∈ pts → 1 ≤ k → p ∈ knn pts p k) := by
  refine ⟨knn_length pts p k, knn_mem pts p k, ?_, ?_, ?_⟩
  · intro a ha b hb
    have hs := sortBy_sorted (dist2 p) pts
    rw [← List.take_append_drop k (sortBy (dist2 p) pts)] at hs
    exact (List.pairwise_append.mp hs).2.2 a ha b hb
  · unfold knn
    rw [List.take_append_drop]
    exact sortBy_perm _ pts
  · intro hp hk
    -- the head of the sorted list is no farther from `p` than `p` itself, hence is `p`; `k ≥ 1` keeps the head
    obtain ⟨k', rfl⟩ := Nat.exists_eq_succ_of_ne_zero (Nat.pos_iff_ne_zero.mp hk)
    have hmem : p ∈ sortBy (dist2 p) pts := (sortBy_perm (dist2 p) pts).mem_iff.mpr hp
    have hs := sortBy_sorted (dist2 p) pts
    unfold knn
    cases hsort : sortBy (dist2 p) pts with
    | nil => rw [hsort] at hmem; cases hmem
    | cons a l =>
      rw [hsort] at hmem hs
      have ha : dist2 p a ≤ dist2 p p := by
        rcases List.mem_cons.mp hmem with rfl | h
        · exact le_refl _
        · exact (List.pairwise_cons.mp hs).1 p h
      rw [(dist2_eq_zero_iff p p).mpr rfl] at ha
      rw [List.take_succ_cons, (dist2_eq_zero_iff p a).mp (le_antisymm ha (norm2_nonneg _))]
      exact List.mem_cons_self

/-- **neighbourhoods_never_exceed_cloud.** `make_dotprops` forms one neighbourhood per (finite) point, each of exactly
`min n k` points — all `n` points when `k > n`, the single point itself when `n = 1`. -/
theorem neighbourhoods_never_exceed_cloud (pts : List P3) (k : Nat) :
    (neighbourhoods pts k).length = pts.length ∧
    (∀ nb ∈ neighbourhoods pts k, nb.length = min pts.length k ∧ nb.length ≤ pts.length ∧ ∀ q ∈ nb, q ∈ pts) ∧
    (pts.length ≤ k → ∀ nb ∈ neighbourhoods pts k, nb.Perm pts) := by
  unfold neighbourhoods
  refine ⟨List.length_map _, ?_, ?_⟩
  · intro nb hnb
    obtain ⟨p, _, rfl⟩ := List.mem_map.mp hnb
    have hl := knn_length pts p (kClip pts.length k)
    unfold kClip at hl ⊢
    rw [Nat.min_eq_left (Nat.min_le_left _ _)] at hl
    exact ⟨hl, hl.le.trans (Nat.min_le_left _ _), knn_mem pts p _⟩
  · intro hk nb hnb
    obtain ⟨p, _, rfl⟩ := List.mem_map.mp hnb
    unfold knn kClip
    rw [Nat.min_eq_left hk, List.take_of_length_le (by rw [(sortBy_perm _ pts).length_eq])]
    exact sortBy_perm _ pts

example : knn [⟨0, 0, 0⟩, ⟨5, 0, 0⟩, ⟨1, 0, 0⟩, ⟨0, 2, 0⟩] ⟨0, 0, 0⟩ 3 = [⟨0, 0, 0⟩, ⟨1, 0, 0⟩, ⟨0, 2, 0⟩] ∧
    knnAmbiguous [⟨0, 0, 0⟩, ⟨5, 0, 0⟩, ⟨1, 0, 0⟩, ⟨0, 2, 0⟩] ⟨0, 0, 0⟩ 3 = false ∧
    knnAmbiguous [⟨0, 0, 0⟩, ⟨0, 1, 0⟩, ⟨1, 0, 0⟩] ⟨0, 0, 0⟩ 2 = true ∧
    knnAmbiguous [⟨0, 0, 0⟩, ⟨1, 0, 0⟩, ⟨1, 0, 0⟩] ⟨0, 0, 0⟩ 2 = false := by decide +kernel

/-- **scatter_matrix_spec.** The 3×3 matrix navis hands to the SVD (`cptᵀ @ cpt`) acts as `w ↦ Σ (cᵢ·w) cᵢ`, its trace is
`Σ |cᵢ|²`, its quadratic form is `Σ (cᵢ·w)² ≥ 0` (positive semi-definite, so singular values = eigenvalues ≥ 0). -/
theorem scatter_matrix_spec (cs : List P3) (w : P3) :
    (inertiaMat cs).mulVec w = inertiaApply cs w ∧ (inertiaMat cs).trace = (cs.map norm2).sum ∧
    (inertiaMat cs).quad w = (cs.map fun c => dot c w * dot c w).sum ∧ 0 ≤ (inertiaMat cs).quad w ∧ 0 ≤ (inertiaMat cs).trace := by
  refine ⟨?_, trace_inertiaMat cs, quad_inertiaMat cs w, ?_, ?_⟩
  · induction cs with
    | nil => exact mulVec_zero w
    | cons c cs ih =>
      unfold inertiaMat inertiaApply at *
      rw [List.foldr_cons, List.foldr_cons, mulVec_add, mulVec_outer, ih]
  · rw [quad_inertiaMat]
    exact List.sum_nonneg (List.forall_mem_map.mpr fun c _ => mul_self_nonneg _)
  · rw [trace_inertiaMat]
    exact List.sum_nonneg (List.forall_mem_map.mpr fun c _ => norm2_nonneg c)

/-- **degenerate_iff_coincident.** The scatter matrix of a neighbourhood has trace `0` — the case in which navis' guarded
division returns `alpha = 0` — exactly when all its points coincide (duplicates with multiplicity ≥ k, a single point, `k = 1`). -/
theorem degenerate_iff_coincident (nb : List P3) :
    ((nbInertia nb).trace = 0 ↔ ∀ q ∈ nb, q = centre nb) ∧
    (∀ s1 s2 s3 : Rat, s1 + s2 + s3 = (nbInertia nb).trace → (∀ q ∈ nb, q = centre nb) → alpha s1 s2 s3 = 0) := by
  refine ⟨trace_nbInertia_eq_zero_iff nb, ?_⟩
  intro s1 s2 s3 hs hall
  have : (nbInertia nb).trace = 0 := (trace_nbInertia_eq_zero_iff nb).mpr hall
  unfold alpha
  rw [hs, this, if_neg (lt_irrefl 0)]

example : (nbInertia [⟨1, 1, 1⟩, ⟨1, 1, 1⟩, ⟨1, 1, 1⟩]).trace = 0 ∧ (nbInertia [⟨7, 2, 3⟩]).trace = 0 ∧
    nbInertia [⟨0, 0, 0⟩, ⟨2, 0, 0⟩, ⟨1, 3, 0⟩] = ⟨2, 0, 0, 6, 0, 0⟩ := by decide +kernel

/-- **scatter_invariances.** The scatter matrix of a neighbourhood — hence the principal axis and alpha — depends neither on the order
in which the KD-tree lists the neighbours nor on where the cloud sits: a common offset drops out (tangents of a `VoxelNeuron`'s voxels
are the same with or without its `offset`). -/
theorem scatter_invariances (nb : List P3) :
    (∀ nb', nb.Perm nb' → nbInertia nb' = nbInertia nb) ∧ (∀ t, nbInertia (nb.map (add t)) = nbInertia nb) := by
  constructor
  · intro nb' h
    symm
    unfold nbInertia centred
    rw [centre_perm h]
    exact inertiaMat_perm (h.map _)
  · intro t
    by_cases hne : nb = []
    · subst hne; rfl
    · unfold nbInertia centred
      rw [centre_translate t nb hne, List.map_map]
      congr 1
      apply List.map_congr_left
      intro q _
      show sub (add t q) (add t (centre nb)) = sub q (centre nb)
      unfold sub add
      congr 1 <;> ring

example : nbInertia [⟨10, 20, 30⟩, ⟨12, 20, 30⟩, ⟨11, 23, 30⟩] = nbInertia [⟨0, 0, 0⟩, ⟨2, 0, 0⟩, ⟨1, 3, 0⟩] ∧
    nbInertia [⟨1, 3, 0⟩, ⟨0, 0, 0⟩, ⟨2, 0, 0⟩] = nbInertia [⟨0, 0, 0⟩, ⟨2, 0, 0⟩, ⟨1, 3, 0⟩] := by decide +kernel

/-- **principal_axis_variational.** `v` maximises the Rayleigh quotient `wᵀAw / wᵀw` if and only if `A v = λ v` with `λ = vᵀAv/vᵀv`
and no direction exceeds `λ` — "the principal axis is the eigenvector of the largest eigenvalue".  Every eigenvalue is a root
of the characteristic polynomial `det (t·I − A)`. -/
theorem principal_axis_variational (A : Sym3) (v : P3) (hv : norm2 v ≠ 0) :
    ((∀ w, A.quad w * norm2 v ≤ A.quad v * norm2 w) ↔
      (A.mulVec v = scale (rayleigh A v) v ∧ ∀ w, A.quad w ≤ rayleigh A v * norm2 w)) ∧
    (∀ lam, A.mulVec v = scale lam v → A.charpoly lam = 0) := by
  have hpos : 0 < norm2 v := lt_of_le_of_ne (norm2_nonneg v) (Ne.symm hv)
  have hq := quad_eq_rayleigh A v hv
  refine ⟨⟨?_, ?_⟩, ?_⟩
  · intro h
    have htop : ∀ w, A.quad w ≤ rayleigh A v * norm2 w := by
      intro w
      have := h w
      rw [hq] at this
      have e : rayleigh A v * norm2 v * norm2 w = (rayleigh A v * norm2 w) * norm2 v := by ring
      rw [e] at this
      exact le_of_mul_le_mul_right this hpos
    exact ⟨rayleigh_max_eigen A v _ hq htop, htop⟩
  · rintro ⟨_, htop⟩ w
    rw [hq]
    exact (mul_le_mul_of_nonneg_right (htop w) hpos.le).trans_eq (mul_right_comm _ _ _)
  · intro lam h
    exact eigen_root A v lam (fun e => hv (by rw [e]; exact norm2_zero)) h

/-- **axis_checker_sound.** If `axisOKB A v ε` accepts navis' tangent `v`, then `v` is an eigenvector up to a residual of
`ε·tr(A)·|v|` and no direction has a Rayleigh quotient more than `ε·tr(A)` above that of `v`.  Conversely an exact eigenvector for
the largest eigenvalue is accepted for every `ε` with `ε·tr(A) > 0` (no false alarm on exact data). -/
theorem axis_checker_sound (A : Sym3) (v : P3) (ε : Rat) :
    (axisOKB A v ε = true →
      norm2 (sub (A.mulVec v) (scale (rayleigh A v) v)) ≤ (ε * A.trace) * (ε * A.trace) * norm2 v ∧
      ∀ w, A.quad w ≤ (rayleigh A v + ε * A.trace) * norm2 w) ∧
    (∀ lam, norm2 v ≠ 0 → A.mulVec v = scale lam v → (∀ w, A.quad w ≤ lam * norm2 w) → 0 < ε * A.trace → axisOKB A v ε = true) := by
  constructor
  · intro h
    unfold axisOKB at h
    simp only [Bool.and_eq_true, decide_eq_true_eq] at h
    refine ⟨h.1, fun w => ?_⟩
    have := posDefB_quad_nonneg _ h.2 w
    rw [quad_shift] at this
    exact sub_nonneg.mp this
  · intro lam hv heig htop hε
    have hray : rayleigh A v = lam := by
      unfold rayleigh Sym3.quad
      rw [heig, show dot v (scale lam v) = lam * norm2 v by unfold dot scale norm2 dot; ring, mul_div_cancel_right₀ _ hv]
    unfold axisOKB
    simp only [Bool.and_eq_true, decide_eq_true_eq]
    rw [hray, heig]
    constructor
    · rw [show sub (scale lam v) (scale lam v) = ⟨0, 0, 0⟩ from (sub_eq_zero_iff _ _).mpr rfl, norm2_zero]
      exact mul_nonneg (mul_self_nonneg _) (norm2_nonneg v)
    · refine posDefB_of_quad_pos _ fun w hw => ?_
      rw [quad_shift, add_mul, sub_pos]
      exact lt_of_le_of_lt (htop w) (lt_add_of_pos_right _ (mul_pos hε (norm2_pos w hw)))

/-- Points `(±2,0,0), (0,±1,0)`: scatter matrix `diag(8, 2, 0)`; the x axis passes, the y axis (an eigenvector, but not of the largest
eigenvalue) and a tilted vector fail. -/
example : axisOKB ⟨8, 0, 0, 2, 0, 0⟩ ⟨1, 0, 0⟩ (1 / 1000) = true ∧ axisOKB ⟨8, 0, 0, 2, 0, 0⟩ ⟨0, 1, 0⟩ (1 / 1000) = false ∧
    axisOKB ⟨8, 0, 0, 2, 0, 0⟩ ⟨4 / 5, 3 / 5, 0⟩ (1 / 1000) = false := by decide +kernel

/-- **alpha_checker_sound.** If `alphaOKB A l1 a ε` accepts navis' `a`, then with `l2 = l1 − a·tr`, `l3 = tr − l1 − l2`:
`l1 + l2 + l3 = tr(A)` exactly (the denominator of alpha is the trace), `a = (l1 − l2)/(l1 + l2 + l3)`, the three values are
ordered `l1 ≳ l2 ≳ l3 ≳ 0` up to `ε·tr`, and `(t − l1)(t − l2)(t − l3)` differs from the characteristic polynomial of `A` by at most
`ε·tr²·|t| + ε·tr³` for every `t` — they are, up to the tolerance, the eigenvalues of `A`. -/
theorem alpha_checker_sound (A : Sym3) (lam a ε : Rat) (h : alphaOKB A lam a ε = true) :
    lam + impliedL2 A lam a + impliedL3 A lam a = A.trace ∧
    (A.trace ≠ 0 → a = (lam - impliedL2 A lam a) / (lam + impliedL2 A lam a + impliedL3 A lam a)) ∧
    (∀ t, |A.charpoly t - (t - lam) * (t - impliedL2 A lam a) * (t - impliedL3 A lam a)| ≤
        ε * A.trace * A.trace * |t| + ε * A.trace * A.trace * A.trace) ∧
    impliedL2 A lam a ≤ lam + ε * A.trace ∧ impliedL3 A lam a ≤ impliedL2 A lam a + ε * A.trace ∧
    -(ε * A.trace) ≤ impliedL3 A lam a := by
  refine ⟨implied_sum A lam a, fun htr => ?_, (alphaOKB_sound A lam a ε h).1, (alphaOKB_sound A lam a ε h).2⟩
  rw [implied_sum]
  unfold impliedL2
  rw [sub_sub_cancel, mul_div_cancel_right₀ _ htr]

/-- **alpha_checker_exact.** With tolerance `0` the accepted values are *exactly* the roots of the characteristic polynomial,
ordered and non-negative, and `a` is the property's `(l1 − l2)/(l1 + l2 + l3) ∈ [0, 1]`. -/
theorem alpha_checker_exact (A : Sym3) (lam a : Rat) (h : alphaOKB A lam a 0 = true) (htr : 0 < A.trace) :
    (∀ t, A.charpoly t = (t - lam) * (t - impliedL2 A lam a) * (t - impliedL3 A lam a)) ∧
    a = alpha lam (impliedL2 A lam a) (impliedL3 A lam a) ∧ 0 ≤ a ∧ a ≤ 1 := by
  obtain ⟨hs, ha, hc, o1, o2, o3⟩ := alpha_checker_sound A lam a 0 h
  simp only [zero_mul, add_zero, neg_zero] at hc o1 o2 o3
  have hal : a = alpha lam (impliedL2 A lam a) (impliedL3 A lam a) := by
    unfold alpha
    rw [if_pos (hs ▸ htr)]
    exact ha htr.ne'
  have hr := (alpha_range lam (impliedL2 A lam a) (impliedL3 A lam a) o1 o2 o3).1
  exact ⟨fun t => sub_eq_zero.mp (abs_nonpos_iff.mp (hc t)), hal, hal ▸ hr.1, hal ▸ hr.2⟩

/-- **alpha_checker_complete.** Conversely the exact eigenvalues `l1 ≥ l2 ≥ l3 ≥ 0` (the roots of the characteristic polynomial) and the
exact `alpha = (l1 − l2)/tr` are accepted with tolerance `0`: on exact data the checker raises no false alarm. -/
theorem alpha_checker_complete (A : Sym3) (l1 l2 l3 : Rat) (h12 : l2 ≤ l1) (h23 : l3 ≤ l2) (h3 : 0 ≤ l3)
    (hcp : ∀ t, A.charpoly t = (t - l1) * (t - l2) * (t - l3)) (htr : A.trace ≠ 0) :
    alphaOKB A l1 ((l1 - l2) / A.trace) 0 = true := by
  obtain ⟨htrace, hm2, hdet⟩ := cubic_coeff_eq A.trace A.minors2 A.det (l1 + l2 + l3) (l1 * l2 + l1 * l3 + l2 * l3)
    (l1 * l2 * l3) fun t => (charpoly_expand A t).symm.trans ((hcp t).trans (cubic_expand l1 l2 l3 t))
  have e2 : impliedL2 A l1 ((l1 - l2) / A.trace) = l2 := by
    unfold impliedL2; rw [div_mul_cancel₀ _ htr, sub_sub_cancel]
  have e3 : impliedL3 A l1 ((l1 - l2) / A.trace) = l3 := by
    unfold impliedL3; rw [e2, htrace, add_assoc, add_sub_cancel_left, add_sub_cancel_left]
  unfold alphaOKB
  simp only [e2, e3, hm2, hdet, sub_self, zero_mul, add_zero, neg_zero, absLe_iff, le_refl, and_self, Bool.and_eq_true,
    decide_eq_true_eq, true_and]
  exact ⟨⟨h12, h23⟩, h3⟩

/-- `diag(8, 2, 0)`: alpha `= (8 − 2)/10`; `(8 − 0)/10` (second and third singular value swapped) and `2/10` are rejected. -/
example : alphaOKB ⟨8, 0, 0, 2, 0, 0⟩ 8 (3 / 5) 0 = true ∧ alphaOKB ⟨8, 0, 0, 2, 0, 0⟩ 8 (4 / 5) (1 / 1000) = false ∧
    alphaOKB ⟨8, 0, 0, 2, 0, 0⟩ 8 (1 / 5) (1 / 1000) = false := by decide +kernel

/-- **judge_ok_sound.** The verdict `ok` for a point means all three: unit tangent, principal axis of the exact scatter matrix of its
neighbourhood, alpha from that matrix' eigenvalues; `degenerate` means coincident neighbourhood, unit tangent and `alpha = 0`. -/
theorem judge_ok_sound (nb : List P3) (v : P3) (a εu εv εa : Rat) :
    (judge nb v a εu εv εa = .ok →
      unitB v εu = true ∧ (nbInertia nb).trace ≠ 0 ∧ axisOKB (nbInertia nb) v εv = true ∧
      alphaOKB (nbInertia nb) (rayleigh (nbInertia nb) v) a εa = true) ∧
    (judge nb v a εu εv εa = .degenerate → unitB v εu = true ∧ (∀ q ∈ nb, q = centre nb) ∧ a = 0) := by
  unfold judge
  -- walk down the chain of tests; every failed test gives a verdict other than `ok` and `degenerate`
  cases hu : unitB v εu
  · constructor <;> (intro h; cases h)
  · simp only [Bool.not_true, Bool.false_eq_true, if_false]
    by_cases ht : (nbInertia nb).trace = 0
    · rw [if_pos ht]
      by_cases ha : a = 0
      · rw [if_pos ha]
        exact ⟨fun h => (by cases h), fun _ => ⟨trivial, (trace_nbInertia_eq_zero_iff nb).mp ht, ha⟩⟩
      · rw [if_neg ha]
        constructor <;> (intro h; cases h)
    · rw [if_neg ht]
      cases hax : axisOKB (nbInertia nb) v εv
      · constructor <;> (intro h; cases h)
      · cases hal : alphaOKB (nbInertia nb) (rayleigh (nbInertia nb) v) a εa
        · constructor <;> (intro h; cases h)
        · exact ⟨fun _ => ⟨trivial, ht, rfl, rfl⟩, fun h => (by cases h)⟩

example : judge [⟨-2, 0, 0⟩, ⟨2, 0, 0⟩, ⟨0, -1, 0⟩, ⟨0, 1, 0⟩] ⟨1, 0, 0⟩ (3 / 5) (1 / 1000) (1 / 1000) (1 / 1000) = .ok ∧
    judge [⟨-2, 0, 0⟩, ⟨2, 0, 0⟩, ⟨0, -1, 0⟩, ⟨0, 1, 0⟩] ⟨0, 1, 0⟩ (3 / 5) (1 / 1000) (1 / 1000) (1 / 1000) = .badAxis ∧
    judge [⟨1, 1, 1⟩, ⟨1, 1, 1⟩] ⟨1, 0, 0⟩ 0 (1 / 1000) (1 / 1000) (1 / 1000) = .degenerate := by decide +kernel

/-! ## 5. meshes: the exact sub-claims of the oracle-only clauses -/

/-- **mesh_checkers_sound.** The checkers the driver evaluates on navis' meshes / skeletons mean what they say: every vertex is
mapped (`vertex_map` has one entry per vertex) to a node index in range / to an existing node id; every required node occurs in
the map; every point lies in the (tight) bounding box of the vertex set widened by `tol`. -/
theorem mesh_checkers_sound (vm : List Int) (nV nNodes : Nat) (ids need : List Int) (V P : List P3) (tol : Rat) :
    (vmapIndexOKB vm nV nNodes = true ↔ vm.length = nV ∧ ∀ i ∈ vm, 0 ≤ i ∧ i < (nNodes : Int)) ∧
    (vmapIdOKB vm nV ids = true ↔ vm.length = nV ∧ ∀ i ∈ vm, i ∈ ids) ∧
    (vmapCoversB vm need = true ↔ ∀ i ∈ need, i ∈ vm) ∧
    (bboxContainsB V P tol = true → V ≠ [] → ∀ p ∈ P,
      (∃ a ∈ V, a.x - tol ≤ p.x) ∧ (∃ b ∈ V, p.x ≤ b.x + tol) ∧ (∃ a ∈ V, a.y - tol ≤ p.y) ∧ (∃ b ∈ V, p.y ≤ b.y + tol) ∧
      (∃ a ∈ V, a.z - tol ≤ p.z) ∧ (∃ b ∈ V, p.z ≤ b.z + tol)) := by
  refine ⟨?_, ?_, ?_, ?_⟩
  · unfold vmapIndexOKB
    simp only [Bool.and_eq_true, decide_eq_true_eq, List.all_eq_true]
  · unfold vmapIdOKB
    simp only [Bool.and_eq_true, decide_eq_true_eq, List.all_eq_true, List.contains_iff_mem]
  · unfold vmapCoversB
    simp only [List.all_eq_true, List.contains_iff_mem]
  · intro h hV p hp
    obtain ⟨q, l, rfl⟩ := List.exists_cons_of_ne_nil hV
    have hin := (inBoxB_iff _ _ tol p).mp (List.all_eq_true.mp h p hp)
    have att := fun f hf => (bboxOf_spec (q :: l) _ _ rfl f hf).2
    obtain ⟨⟨ax, hax, eax⟩, bx, hbx, ebx⟩ := att V3.x (Or.inl rfl)
    obtain ⟨⟨ay, hay, eay⟩, by', hby, eby⟩ := att V3.y (Or.inr (Or.inl rfl))
    obtain ⟨⟨az, haz, eaz⟩, bz, hbz, ebz⟩ := att V3.z (Or.inr (Or.inr rfl))
    exact ⟨⟨ax, hax, by rw [eax]; exact hin.1.1⟩, ⟨bx, hbx, by rw [ebx]; exact hin.1.2⟩,
           ⟨ay, hay, by rw [eay]; exact hin.2.1.1⟩, ⟨by', hby, by rw [eby]; exact hin.2.1.2⟩,
           ⟨az, haz, by rw [eaz]; exact hin.2.2.1⟩, ⟨bz, hbz, by rw [ebz]; exact hin.2.2.2⟩⟩

/-- **hugging_surface_stays_in_extent.** A surface whose every vertex lies within half a voxel (plus `tol`) of a filled voxel of the
grid, in the grid's coordinates `offset + index · units`, lies within the grid's extent
`[offset − units/2, offset + (shape − 1)·units + units/2]` (± `tol·units`): the first oracle implies the clause of the statement. -/
theorem hugging_surface_stays_in_extent (off un : P3) (sh : I3) (tol : Rat) (V : List P3) (F : List I3)
    (hun : 0 < un.x ∧ 0 < un.y ∧ 0 < un.z)
    (hF : ∀ v ∈ F, (0 ≤ v.x ∧ v.x < sh.x) ∧ (0 ≤ v.y ∧ v.y < sh.y) ∧ (0 ≤ v.z ∧ v.z < sh.z))
    (h : surfaceHugsB off un tol V F = true) : surfaceInExtentB off un sh tol V = true := by
  unfold surfaceInExtentB
  rw [List.all_eq_true]
  intro q hq
  obtain ⟨v, hv, hh⟩ := List.any_eq_true.mp (List.all_eq_true.mp h q hq)
  unfold hugsB at hh
  simp only [Bool.and_eq_true] at hh
  obtain ⟨⟨hx, hy⟩, hz⟩ := hh
  obtain ⟨⟨x0, x1⟩, ⟨y0, y1⟩, ⟨z0, z1⟩⟩ := hF v hv
  have ex := hug_extent1 off.x un.x tol q.x v.x sh.x hun.1 x0 x1 hx
  have ey := hug_extent1 off.y un.y tol q.y v.y sh.y hun.2.1 y0 y1 hy
  have ez := hug_extent1 off.z un.z tol q.z v.z sh.z hun.2.2 z0 z1 hz
  simp only [Bool.and_eq_true, decide_eq_true_eq]
  exact ⟨⟨⟨⟨⟨ex.1, ex.2⟩, ey.1⟩, ey.2⟩, ez.1⟩, ez.2⟩

/-- The candidate-voxel evaluation the driver uses is sound: it accepts only surfaces that `surfaceHugsB` accepts. -/
theorem surface_fast_sound (off un : P3) (tol : Rat) (V : List P3) (F : List I3)
    (h : surfaceHugsFastB off un tol V F = true) : surfaceHugsB off un tol V F = true := by
  unfold surfaceHugsFastB at h
  unfold surfaceHugsB
  rw [List.all_eq_true] at *
  intro q hq
  obtain ⟨v, _, hv⟩ := List.any_eq_true.mp (h q hq)
  simp only [Bool.and_eq_true, List.contains_iff_mem] at hv
  exact List.any_eq_true.mpr ⟨v, hv.1, hv.2⟩

example : surfaceHugsFastB ⟨10, 20, 30⟩ ⟨1 / 2, 1 / 4, 2⟩ 0 [⟨45 / 4, 81 / 4, 31⟩] [⟨2, 1, 0⟩] = true := by decide +kernel

example : surfaceHugsB ⟨10, 20, 30⟩ ⟨1 / 2, 1 / 4, 2⟩ 0 [⟨45 / 4, 81 / 4, 31⟩] [⟨2, 1, 0⟩] = true ∧
    surfaceInExtentB ⟨10, 20, 30⟩ ⟨1 / 2, 1 / 4, 2⟩ ⟨4, 4, 4⟩ 0 [⟨45 / 4, 81 / 4, 31⟩] = true ∧
    surfaceInExtentB ⟨10, 20, 30⟩ ⟨1 / 2, 1 / 4, 2⟩ ⟨4, 4, 4⟩ 0 [⟨9, 21, 31⟩] = false := by decide +kernel

/-! ## 6. facts re-extracted from the current navis source (`Gen/Conv.lean`, regenerated on every run)

`envOf` assigns scalars to the names of an extracted expression (numpy arithmetic is elementwise: one coordinate suffices). -/
section source
open Navis.ConvExpr Navis.Gen.Conv

def envOf (l : List (String × Rat)) : String → Rat := fun n => ((l.find? fun e => e.1 = n).map (·.2)).getD 0

private theorem envOf_cons_self (k : String) (v : Rat) (l : List (String × Rat)) : envOf ((k, v) :: l) k = v := by
  simp [envOf]

private theorem envOf_cons_ne {k n : String} (v : Rat) (l : List (String × Rat)) (h : k ≠ n) :
    envOf ((k, v) :: l) n = envOf l n := by
  simp [envOf, h]

/-- **src_voxel_index.** The index expressions in `_make_voxels` / `neuron2voxels` — for the unique voxels *and* for the per-point
indices used by the `vectors`/`alphas` loop — evaluate to the model's `round(p/pitch) − round(lo/pitch)` (numpy `round`, half to even,
for both terms). -/
theorem src_voxel_index (p pitch lo : Rat) :
    eval (envOf [("pts", p), ("pitch", pitch), ("lo", lo)]) rawIndexE = (ix1 pitch p : Rat) ∧
    eval (envOf [("pts", p), ("pitch", pitch), ("lo", lo)]) voxelIndexE = (idx1 pitch lo p : Rat) ∧
    eval (envOf [("pts", p), ("pitch", pitch), ("lo", lo)]) pointIndexE = (idx1 pitch lo p : Rat) ∧
    interpreted rawIndexE = true ∧ interpreted voxelIndexE = true ∧ interpreted pointIndexE = true := by
  refine ⟨?_, ?_, ?_, rfl, rfl, rfl⟩ <;>
    simp only [rawIndexE, voxelIndexE, pointIndexE, idx1, ix1, Int.cast_sub, eval, envOf_cons_self, envOf_cons_ne, ne_eq, String.reduceEq, not_false_eq_true]

/-- **src_shape_offset_units.** Grid shape `ceil(ceil(hi/pitch) − floor(lo/pitch)) + 1`, `offset = lo/pitch·pitch·u`,
`units = pitch·u` — the `shape=` of the grid array and the `offset=` / `units=` handed to `VoxelNeuron(...)` — are the model's `shape1`,
`offset1`, `units1`. -/
theorem src_shape_offset_units (pitch lo hi u : Rat) :
    eval (envOf [("pitch", pitch), ("lo", lo), ("hi", hi), ("u", u)]) shapeE = (shape1 pitch lo hi : Rat) ∧
    eval (envOf [("pitch", pitch), ("lo", lo), ("hi", hi), ("u", u)]) offsetE = offset1 pitch lo u ∧
    eval (envOf [("pitch", pitch), ("lo", lo), ("hi", hi), ("u", u)]) unitsE = units1 pitch u ∧
    interpreted shapeE = true ∧ interpreted offsetE = true ∧ interpreted unitsE = true := by
  refine ⟨?_, ?_, ?_, rfl, rfl, rfl⟩
  · simp only [shapeE, shape1, eval, envOf_cons_self, envOf_cons_ne, ne_eq, String.reduceEq, not_false_eq_true]
    rw [← Int.cast_sub, Rat.ceil_intCast, Int.cast_add, Int.cast_one]
  · simp only [offsetE, offset1, eval, envOf_cons_self, envOf_cons_ne, ne_eq, String.reduceEq, not_false_eq_true]
  · simp only [unitsE, units1, eval, envOf_cons_self, envOf_cons_ne, ne_eq, String.reduceEq, not_false_eq_true]

/-- **src_clipping.** The mask that keeps a voxel is `idx ≥ 0 ∧ idx < shape` (`inGrid`), it is applied to the voxels and — under
`counts` — to the counts; the `vectors`/`alphas` loop runs over the shifted per-point indices and skips exactly the complement
(`idx < 0 ∨ idx ≥ shape`); `_make_voxels` is called without stripping; a `(2, 3)` bounds array is transposed; the default bounds are
`x.bbox`.  (`idx` is the array that indexes `grid[...] = True` and `grid[...] = counts` — the same array in both branches, or the
translator fails — and `shape` the `shape=` of the grid.) -/
theorem src_clipping :
    inBoundsMask = [⟨"idx.min", ">=", "0"⟩, ⟨"idx", "<", "shape"⟩] ∧ voxelsFiltered = true ∧ countsFiltered = true ∧
    loopSkip = [⟨"idx", "<", "0"⟩, ⟨"idx", ">=", "shape"⟩] ∧ loopSelects = "inverse==i" ∧ makeVoxelsStrip = false ∧
    transposes23 = true ∧ defaultBounds = "x.bbox" := ⟨rfl, rfl, rfl, rfl, rfl, rfl, rfl, rfl⟩

/-- **src_midpoint_vector.** `points = child + (parent − child)/2` evaluates to the midpoint `(child + parent)/2`; the tangent is
`±(child − parent)` (its square is determined, the orientation is not part of the property); the length is `sqrt(Σ vect²)`; rows are
kept when `parent_id ≥ 0`; the parent is looked up with `.loc[parent_id]` on the `node_id` index; all three arrays are filtered with
`length ≠ 0`; the vector is divided by its norm (`points`, `vect`, `length` are the three positions of the `return`). -/
theorem src_midpoint_vector (c q : Rat) :
    eval (envOf [("child", c), ("parent", q)]) midpointE = (c + q) / 2 ∧
    eval (envOf [("child", c), ("parent", q)]) tangentVectE * eval (envOf [("child", c), ("parent", q)]) tangentVectE
      = (c - q) * (c - q) ∧
    interpreted midpointE = true ∧ interpreted tangentVectE = true ∧
    lengthE = .op1 "sqrt" (.op1 "sum" (.mul tangentVectE tangentVectE)) ∧
    normalisedE = .div (.var "vect") (.op1 "norm" (.var "vect")) ∧
    rootFilter = ⟨"parent_id", ">=", "0"⟩ ∧ parentIndexColumn = "node_id" ∧ parentLookupKey = "parent_id" ∧
    zeroLengthFilters = [("points", ⟨"length", "!=", "0"⟩), ("vect", ⟨"length", "!=", "0"⟩), ("length", ⟨"length", "!=", "0"⟩)] := by
  refine ⟨?_, ?_, rfl, rfl, rfl, rfl, rfl, rfl, rfl, rfl⟩
  · simp only [midpointE, eval, envOf_cons_self, envOf_cons_ne, ne_eq, String.reduceEq, not_false_eq_true]
    ring
  · simp only [tangentVectE, eval, envOf_cons_self, envOf_cons_ne, ne_eq, String.reduceEq, not_false_eq_true]

/-- **src_alpha.** The alpha expressions of `make_dotprops`, `Dotprops.recalculate_tangents` and of the voxel loop all evaluate to
the model's `alpha s₀ s₁ s₂ = (s₀ − s₁)/(s₀ + s₁ + s₂)` guarded by `sum > 0`; in all three the tangent is row `0` of `vh` (the first
right-singular vector) of the SVD of `cptᵀ @ cpt` with `cpt = pt − mean(pt)`. -/
theorem src_alpha (s0 s1 s2 : Rat) :
    eval (envOf [("s[:,0]", s0), ("s[:,1]", s1), ("s[:,2]", s2)]) dotsAlphaE = alpha s0 s1 s2 ∧
    eval (envOf [("s[:,0]", s0), ("s[:,1]", s1), ("s[:,2]", s2)]) recalcAlphaE = alpha s0 s1 s2 ∧
    eval (envOf [("s[:,0]", s0), ("s[:,1]", s1), ("s[:,2]", s2)]) voxelAlphaE = alpha s0 s1 s2 ∧
    interpreted dotsAlphaE = true ∧ interpreted recalcAlphaE = true ∧ interpreted voxelAlphaE = true ∧
    dotsVectIndex = ":,0,:" ∧ recalcVectIndex = ":,0,:" ∧ voxelVectIndex = ":,0,:" ∧
    dotsSvdOfInertia = true ∧ recalcSvdOfInertia = true ∧
    dotsInertiaE = .op2 "matmul" (.op1 "T" (.sub (.var "pt") (.op1 "mean" (.var "pt")))) (.sub (.var "pt") (.op1 "mean" (.var "pt"))) ∧
    recalcInertiaE = dotsInertiaE ∧ voxelInertiaE = dotsInertiaE := by
  refine ⟨?_, ?_, ?_, rfl, rfl, rfl, rfl, rfl, rfl, rfl, rfl, rfl, rfl,
    rfl⟩ <;>
    simp only [dotsAlphaE, recalcAlphaE, voxelAlphaE, alpha, Rat.intCast_zero, eval, envOf_cons_self, envOf_cons_ne, ne_eq, String.reduceEq, not_false_eq_true]

/-- **src_k_clipping.** `k = min(n_points, k)` evaluates to `kClip`; non-finite rows are dropped *before* the points are counted,
the count before the clip, the clip before the KD-tree query; the tree is built on and queried with the same points (self-hits
included) using the clipped `k`; the same (filtered) points are returned; the clipped `k` is what the `Dotprops` stores; the default `k`
is positive; `recalculate_tangents` refuses `n < k`; skeletons with `k ≤ 0` / `None` go through `neuron2tangents` whose three results
feed `points=`, `vect=`, `length=` in this order, with `k = None`. -/
theorem src_k_clipping (n k : Nat) :
    eval (envOf [("n", (n : Rat)), ("k", (k : Rat))]) clippedKE = ((kClip n k : Nat) : Rat) ∧ interpreted clippedKE = true ∧
    0 < defaultK ∧ dotsOrderOK = true ∧ dotsQuery = ("x", "x", "k") ∧ dotsReturnsPoints = "x" ∧ dotsStoresClippedK = true ∧
    recalcRaises = ⟨"n", "<", "k"⟩ ∧ recalcQuery = ("x.points", "k") ∧
    skeletonBranchCmp = ⟨"k", "<=", "0"⟩ ∧ skeletonBranchAlsoNone = true ∧ skeletonBranchFeeds = [0, 1, 2] ∧
    skeletonBranchK = "None" := by
  refine ⟨?_, rfl, by decide, rfl, rfl, rfl, rfl, rfl, rfl, rfl, rfl, rfl, rfl⟩
  simp only [clippedKE, kClip, eval, envOf_cons_self, envOf_cons_ne, ne_eq, String.reduceEq, not_false_eq_true]
  rw [Nat.cast_min, min_def]

/-- **set_points_invalidates_tree.** With the `points` setter as it is in the current source (it resets `_tree` on every path) and
`kdtree` rebuilding from the current points when there is no tree: after `dp.points = B` — whatever tree was cached before, same
shape or not — every KD-tree query (`recalculate_tangents`, lazy `vect` / `alpha`, `sampling_resolution`, `snap`) searches `B`, and the
tree cached by that query is a tree of `B`.  A setter that keeps the tree would search the old cloud (second part). -/
theorem set_points_invalidates_tree (s : DpState) (B : List P3) :
    queriedCloud (setPoints pointsSetterResetsTree s B) = B ∧
    (touchTree (setPoints pointsSetterResetsTree s B)).tree = some B ∧
    pointsSetterStores = true ∧ kdtreeRebuildsWhenInvalid = true ∧ kdtreeBuiltFrom = "self.points" ∧
    (∀ A, queriedCloud (setPoints false ⟨A, some A⟩ B) = A) := by
  refine ⟨?_, ?_, rfl, rfl, rfl, fun A => rfl⟩
  · have h : pointsSetterResetsTree = true := rfl
    rw [h]; rfl
  · have h : pointsSetterResetsTree = true := rfl
    rw [h]; rfl

example : queriedCloud (setPoints true ⟨[⟨0, 0, 0⟩], some [⟨0, 0, 0⟩]⟩ [⟨5, 5, 5⟩]) = [⟨5, 5, 5⟩] ∧
    queriedCloud (setPoints false ⟨[⟨0, 0, 0⟩], some [⟨0, 0, 0⟩]⟩ [⟨5, 5, 5⟩]) = [⟨0, 0, 0⟩] := by decide +kernel

/-- **src_mesh_vertices.** Marching-cubes vertices are placed at `(index − pad + voxel offset)·spacing` in the single-pass path and at
`(index + voxel offset)·spacing` in the chunked path (`index` in voxels), i.e. on the grid `index·units` of the `VoxelNeuron`, to which
`voxels2mesh` adds `vox.offset`; the spacing is the neuron's `units_xyz.magnitude`; the iso level is ½.  The tube mesh repeats every
node of a segment `tube_points` times in its `vertex_map` (segments addressed by row position, no vertex merging); a single-node
segment, for which `make_tube` produces nothing, becomes a sphere of the node's radius (× scale factor) centred on the node whose
vertices are all mapped to that node; `mesh2skeleton` takes `vertex_map` from skeletor's `mesh_map` and re-maps shaved bristles to their parents. -/
theorem src_mesh_vertices (m o s : Rat) :
    eval (envOf [("verts", m * s), ("offset", o), ("spacing", s)]) singleVertsE = (m - (singlePad : Rat) + o) * s ∧
    eval (envOf [("verts", m), ("offset", o), ("spacing", s)]) chunkedVertsE = (m + o) * s ∧
    interpreted singleVertsE = true ∧ interpreted chunkedVertsE = true ∧
    voxelMeshAddsOffset = true ∧ voxelMeshAutoSpacing = "vox.units_xyz.magnitude" ∧ singleMarchingSpacing = "spacing" ∧
    marchingLevel = "0.5" ∧
    tubeVertexMapRepeat = "tube_points" ∧ tubeVertexMapConds = [⟨"len(segment)", ">", "1"⟩] ∧ tubeMeshProcess = false ∧
    tubeSegmentsByPosition = true ∧ tubeSingleNodeSegments = "sphere" ∧
    skeletonVertexMapFrom = "skeleton.mesh_map" ∧ skeletonBristleRemap = true := by
  refine ⟨?_, ?_, rfl, rfl, rfl, rfl, rfl, rfl, rfl, rfl, rfl, rfl,
    rfl, rfl, rfl⟩
  · simp only [singleVertsE, singlePad, eval, envOf_cons_self, envOf_cons_ne, ne_eq, String.reduceEq, not_false_eq_true]
    ring
  · simp only [chunkedVertsE, eval, envOf_cons_self, envOf_cons_ne, ne_eq, String.reduceEq, not_false_eq_true]

end source

end Navis.Props.C19

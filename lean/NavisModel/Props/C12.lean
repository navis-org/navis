import NavisModel.Proofs.RerootLemmas
import NavisModel.Proofs.PruneLemmas
import NavisModel.Proofs.ExactPruneLemmas
import NavisModel.Proofs.PruneExtLemmas
import NavisModel.Proofs.GreedyLemmas
import NavisModel.Proofs.ExactAWLemmas
import NavisModel.Gen.Prune
/-!
# C12 — pruning keeps exactly the nodes its criterion defines

`prune_at_depth`, `longest_neurite`, `prune_by_strahler` and every productive round of `prune_twigs` are
`subset t keep` for an explicit keep-predicate, so "kept nodes' ids, coordinates and mutual parent links are
untouched" is the `subset` fact `kept_untouched` (`Navis.Forest.subset_parent`, in ForestLemmas); the theorems here
pin down the keep-sets.  Two functions are not a `subset`: `pruneTwigs` returns its input as it is when nothing is deleted
(hence the label hypothesis of `pruneTwigs_labels`), and `exactPrune` (`exact=True`) returns `(id, parent, τ)` rows
and moves tips; it has its own section.

The file has two parts.  The first is about the pruning functions by their definitions (`Model/Prune.lean`): keep-sets,
recursive `prune_twigs`, the Strahler index sets, `prune_at_depth`, `exact=True`.  The second, from `open Navis.PruneX`
on, is about navis' option handling as it is written (`Model/PruneExt.lean`) and the facts read off the source
(`Gen/Prune.lean`), in sections 1–7: the extracted operators and constants, `recursive` and masks, the options of
`prune_by_strahler`, connectors, the argument forms of `prune_at_depth` and of `longest_neurite` with the greedy
criterion, `exact=True` as written and with a mask.

Predicates of the statements that are defined in `Proofs/`: `TwigRounds` (PruneLemmas); `Greedy` (with `GreedyStep`)
and `PosLen` (GreedyLemmas).
-/
namespace Navis.Props.C12
open Navis.Forest

/-! ## First part: the pruning functions by their definitions (`Model/Prune.lean`) -/

/-- Kept nodes are untouched: a node of `subset t keep` is a node of `t` with the same id and
coordinates, whose parent link is the original one when the parent is kept and a new root otherwise.
(`pruneAtDepth`, `longestNeurite`, `pruneByStrahler` and each round of `pruneTwigs` are instances.) -/
theorem kept_untouched (t : Table) (hw : WF t) (keep : Int → Bool) (m : Node) (hm : m ∈ subset t keep) :
    ∃ n ∈ t, n.id = m.id ∧ keep n.id = true ∧ m.x = n.x ∧ m.y = n.y ∧ m.z = n.z ∧
      m.parent = (if n.parent ∈ (ids t).filter keep then n.parent else -1) :=
  subset_parent keep hm

/-- `prune_twigs`, one round: exactly the nodes of `twigDelete` are removed. -/
theorem prune_twigs_exact_set (t : Table) (len : Int → Int → Nat) (size : Nat) (mask : Option (List Int)) :
    ids (pruneTwigsOnce t len size mask) = (ids t).filter fun i => !(twigDelete t len size mask).contains i := by
  by_cases h : twigDelete t len size mask = []
  · rw [pruneTwigsOnce_of_nil h, h]
    exact (List.filter_eq_self.mpr fun _ _ => rfl).symm
  · rw [pruneTwigsOnce_of_ne_nil h]; exact ids_subset t _

/-- … and `twigDelete` is: all nodes but the last (the branch point) of every terminal branch whose
length is at most `size` (note `≤`) and whose leaf is in the mask. -/
theorem twigDelete_spec (t : Table) (len : Int → Int → Nat) (size : Nat) (mask : Option (List Int)) (i : Int) :
    i ∈ twigDelete t len size mask ↔
      ∃ s ∈ terminalSegs t, pathLen len s ≤ size ∧
        (match mask, s.head? with
         | some m, some h => m.contains h = true
         | some _, none => False
         | none, _ => True) ∧ i ∈ s.dropLast := by
  unfold twigDelete
  simp only [List.mem_flatMap, List.mem_filter, Bool.and_eq_true, decide_eq_true_eq, and_assoc]
  -- only the mask test differs: as a `Bool` in the model, as a `Prop` here
  refine exists_congr fun s => and_congr_right' (and_congr_right' (and_congr_left' ?_))
  cases mask <;> cases s.head? <;> simp

/-- A terminal branch starts at a leaf and ends at a fork. -/
theorem terminalSegs_spec (t : Table) (s : List Int) (hs : s ∈ terminalSegs t) :
    s ∈ smallSegments t ∧ ∃ h l, s.head? = some h ∧ s.getLast? = some l ∧ childCount t h = 0 ∧ childCount t l ≥ 2 := by
  unfold terminalSegs at hs
  obtain ⟨h1, h2⟩ := List.mem_filter.mp hs
  refine ⟨h1, ?_⟩
  split at h2
  · next h l hh hl =>
    rw [Bool.and_eq_true, beq_iff_eq, decide_eq_true_eq] at h2
    exact ⟨h, l, hh, hl, h2⟩
  · exact absurd h2 Bool.false_ne_true

/-- `prune_at_depth` keeps precisely the nodes within geodesic distance `depth` of the source
(`≤`: a node exactly at `depth` is kept). -/
theorem depth_keep_spec (t : Table) (len : Int → Int → Nat) (src : Int) (depth : Nat) :
    ids (pruneAtDepth t len src depth) = (ids t).filter fun i =>
      match geo t len false src i with
      | some d => decide (d ≤ depth)
      | none => false :=
  ids_subset t _

/-- `longest_neurite` keeps precisely the nodes of the selected greedy segments, or their complement. -/
theorem longest_keep_spec (t : Table) (len : Int → Int → Nat) (lo hi : Nat) (inv : Bool) :
    ids (longestNeurite t len lo hi inv) = (ids t).filter fun i =>
      (if inv then !(((segments t len).take hi).drop lo).flatten.contains i
       else (((segments t len).take hi).drop lo).flatten.contains i) :=
  Navis.PruneX.ids_longestFromSegs t _ inv

/-- Index sets of `prune_by_strahler`: a positive int selects that index; a negative int `-k` selects
`1 … max - k`, everything but the `k` highest (`range(1, max + (to_prune + 1))`). -/
theorem siSet_int_pos (mx : Nat) (k : Int) (hk : 1 ≤ k) : siSet mx (.int k) = some [k.toNat] :=
  siSet_int_of_one_le mx hk

theorem siSet_int_neg (mx : Nat) (k : Int) (hk : k < 0) (i : Nat) :
    (∃ s, siSet mx (.int k) = some s ∧ (i ∈ s ↔ 1 ≤ i ∧ (i : Int) < mx + (k + 1))) :=
  ⟨_, siSet_int_neg_eq mx hk, mem_siSet_int_neg hk (siSet_int_neg_eq mx hk) i⟩

theorem siSet_int_zero_raises (mx : Nat) : siSet mx (.int 0) = none := rfl

/-- Connector relocation returns the nearest surviving ancestor-or-self. -/
theorem relocate_to_nearest_kept_ancestor (t : Table) (kept : List Int) (node a : Int)
    (h : relocate t kept node = some a) :
    a ∈ kept ∧ a ∈ rootPath t node ∧
    ∃ pre post, rootPath t node = pre ++ a :: post ∧ ∀ b ∈ pre, b ∉ kept := by
  unfold relocate at h
  have h1 := List.find?_some h
  have h2 := List.mem_of_find?_eq_some h
  refine ⟨by simpa using h1, h2, ?_⟩
  obtain ⟨pre, post, hsplit, hpre⟩ := List.find?_eq_some_iff_append.mp h |>.2
  exact ⟨pre, post, hsplit, fun b hb => by simpa using hpre b hb⟩

/-! ### Recursive `prune_twigs`: fixpoint, only twigs removed, well-formedness

`pruneTwigs t len size mask k` is the first round plus at most `k` further rounds (`recursive=k`).
No `WF t` is needed for the fixpoint and "only twigs" statements. -/

/-- **Fixpoint / fuel sufficiency**: with `|t| ≤ k` further rounds, nothing more can be pruned.
(Every productive round deletes at least one row, so there are at most `|t|` of them.) -/
theorem pruneTwigs_fixpoint (t : Table) (len : Int → Int → Nat) (size : Nat) (mask : Option (List Int)) (k : Nat)
    (hk : t.length ≤ k) : twigDelete (pruneTwigs t len size mask k) len size mask = [] :=
  pruneTwigs_fixpoint_succ len size mask k t (Nat.le_succ_of_le hk)

/-- Sharp form: the first round counts too, so `|t| ≤ k + 1` is enough. -/
theorem pruneTwigs_fixpoint_sharp (t : Table) (len : Int → Int → Nat) (size : Nat) (mask : Option (List Int)) (k : Nat)
    (hk : t.length ≤ k + 1) : twigDelete (pruneTwigs t len size mask k) len size mask = [] :=
  pruneTwigs_fixpoint_succ len size mask k t hk

/-- … spelled out: in the result there is **no** terminal branch of length `≤ size` whose leaf is in
the mask. -/
theorem pruneTwigs_no_twig_remains (t : Table) (len : Int → Int → Nat) (size : Nat) (mask : Option (List Int)) (k : Nat)
    (hk : t.length ≤ k) (s : List Int) (hs : s ∈ terminalSegs (pruneTwigs t len size mask k))
    (hl : pathLen len s ≤ size)
    (hm : match (generalizing := false) mask, s.head? with
         | some m, some h => m.contains h = true
         | some _, none => False
         | none, _ => True) : False := by
  obtain ⟨_, h, l, hh, hl', c0, c2⟩ := terminalSegs_spec _ s hs
  cases s with
  | nil => simp at hh
  | cons x rest =>
    cases rest with
    | nil =>
      simp only [List.head?_cons, List.getLast?_singleton, Option.some.injEq] at hh hl'
      subst hh; subst hl'
      exact absurd (c0 ▸ c2) (by decide)
    | cons b r =>
      have hx : x ∈ twigDelete (pruneTwigs t len size mask k) len size mask :=
        (twigDelete_spec _ _ _ _ _).mpr ⟨_, hs, hl, hm, by simp⟩
      rw [pruneTwigs_fixpoint t len size mask k hk] at hx
      simp at hx

/-- The run of `pruneTwigs` is a sequence of productive rounds (`TwigRounds`): each step replaces the
current table `u` by `subset u (∉ twigDelete u)` with `twigDelete u ≠ []`. -/
theorem pruneTwigs_is_rounds (t : Table) (len : Int → Int → Nat) (size : Nat) (mask : Option (List Int)) (k : Nat) :
    TwigRounds len size mask t (pruneTwigs t len size mask k) :=
  pruneTwigs_rounds len size mask k t

/-- **Only twigs are removed**: a node of `t` that is missing from `pruneTwigs t … k` was, in the
round `u → subset u …` in which it was removed, a non-last node of a terminal branch of the
then-current table `u` with length `≤ size` and leaf in the mask. -/
theorem pruneTwigs_only_twigs (t : Table) (len : Int → Int → Nat) (size : Nat) (mask : Option (List Int)) (k : Nat)
    (i : Int) (hi : i ∈ ids t) (hni : i ∉ ids (pruneTwigs t len size mask k)) :
    ∃ u, TwigRounds len size mask t u ∧ TwigRounds len size mask u (pruneTwigs t len size mask k) ∧
      i ∈ ids u ∧
      ∃ s ∈ terminalSegs u, pathLen len s ≤ size ∧
        (match (generalizing := false) mask, s.head? with
         | some m, some h => m.contains h = true
         | some _, none => False
         | none, _ => True) ∧ i ∈ s.dropLast := by
  obtain ⟨u, h1, h2, h3, h4⟩ := (pruneTwigs_rounds len size mask k t).removed hi hni
  exact ⟨u, h1, .step (List.ne_nil_of_mem h3) h4, h2, (twigDelete_spec u len size mask i).mp h3⟩

/-- Nothing is added and the row order is kept. -/
theorem pruneTwigs_ids_sublist (t : Table) (len : Int → Int → Nat) (size : Nat) (mask : Option (List Int)) (k : Nat) :
    (ids (pruneTwigs t len size mask k)).Sublist (ids t) :=
  (pruneTwigs_rounds len size mask k t).ids_sublist

theorem pruneTwigs_WF (t : Table) (hw : WF t) (len : Int → Int → Nat) (size : Nat) (mask : Option (List Int)) (k : Nat) :
    WF (pruneTwigs t len size mask k) := WF_pruneTwigs hw len size mask k

theorem pruneTwigsOnce_WF (t : Table) (hw : WF t) (len : Int → Int → Nat) (size : Nat) (mask : Option (List Int)) :
    WF (pruneTwigsOnce t len size mask) := WF_pruneTwigs hw len size mask 0

/-- Labels stay correct (when nothing is deleted the input is returned unchanged, hence the
hypothesis on `t`). -/
theorem pruneTwigs_labels (t : Table) (hl : labelsOKB t = true) (len : Int → Int → Nat) (size : Nat)
    (mask : Option (List Int)) (k : Nat) : labelsOKB (pruneTwigs t len size mask k) = true :=
  (pruneTwigs_rounds len size mask k t).labels hl

/-! ### The other pruning functions: well-formedness, and the keep-set of `prune_by_strahler` -/

theorem pruneAtDepth_WF (t : Table) (hw : WF t) (len : Int → Int → Nat) (src : Int) (depth : Nat) :
    WF (pruneAtDepth t len src depth) ∧ labelsOKB (pruneAtDepth t len src depth) = true :=
  ⟨WF_pruneAtDepth hw len src depth, labelsOKB_subset _ _⟩

theorem longestNeurite_WF (t : Table) (hw : WF t) (len : Int → Int → Nat) (lo hi : Nat) (inv : Bool) :
    WF (longestNeurite t len lo hi inv) := WF_longestNeurite hw len lo hi inv

theorem pruneByStrahler_WF (t : Table) (hw : WF t) (sel : SISel) (t' : Table) (h : pruneByStrahler t sel = some t') :
    WF t' ∧ labelsOKB t' = true := by
  refine ⟨WF_pruneByStrahler hw h, ?_⟩
  obtain ⟨s, _, rfl⟩ := pruneByStrahler_eq_subset h
  exact labelsOKB_subset _ _

/-- `prune_by_strahler` keeps exactly the nodes whose Strahler index is not in the selected set. -/
theorem strahler_keep_spec (t : Table) (sel : SISel) (t' : Table) (h : pruneByStrahler t sel = some t') :
    ∃ s, siSet (((ids t).map (strahler t false [])).foldl max 0) sel = some s ∧
      ids t' = (ids t).filter fun i => !s.contains (strahler t false [] i) := by
  obtain ⟨s, hs, rfl⟩ := pruneByStrahler_eq_subset h
  exact ⟨s, hs, ids_subset t _⟩

/-! ### Strahler index sets: `range`, `list`, `slice` -/

/-- `range(a, b)` selects `a ≤ i < b`. -/
theorem siSet_range_spec (mx : Nat) (a b : Int) :
    ∃ s, siSet mx (.range a b) = some s ∧ ∀ i : Nat, i ∈ s ↔ a ≤ (i : Int) ∧ (i : Int) < b :=
  ⟨_, siSet_range_eq mx a b, fun i => mem_siSet_range (siSet_range_eq mx a b) i⟩

/-- A list selects its (non-negative) members. -/
theorem siSet_list_spec (mx : Nat) (ks : List Int) :
    ∃ s, siSet mx (.list ks) = some s ∧ ∀ i : Nat, i ∈ s ↔ (i : Int) ∈ ks :=
  ⟨_, siSet_list_eq mx ks, fun i => mem_siSet_list (siSet_list_eq mx ks) i⟩

/-- What `sliceBound n v dflt` computes — Python's normalisation of a slice bound on a list of length
`n`: `None` ↦ the default; `v ≥ 0` ↦ `min n v`; `v < 0` ↦ `max 0 (n + v)` (`n - |v|` in `Nat`). -/
theorem sliceBound_spec (n d : Nat) :
    sliceBound n none d = d ∧
    (∀ i : Int, 0 ≤ i → sliceBound n (some i) d = min n i.toNat) ∧
    (∀ i : Int, i < 0 → sliceBound n (some i) d = n - (-i).toNat) ∧
    (∀ v, d ≤ n → sliceBound n v d ≤ n) :=
  ⟨rfl, fun _ h => sliceBound_nonneg n d h, fun _ h => sliceBound_neg n d h, fun v h => sliceBound_le n v h⟩

/-- `slice(a, b)` on `list(range(1, max+1))` (whose position `p` holds the index `p + 1`): with
`lo = sliceBound max a 0` and `hi = sliceBound max b max`, the selected indices are the contiguous run
`lo+1, …, hi` — i.e. index `i` is selected iff its position `i - 1` satisfies `lo ≤ i - 1 < hi`. -/
theorem siSet_slice_spec (mx : Nat) (a b : Option Int) :
    ∃ s, siSet mx (.slice a b) = some s ∧
      s = List.range' (sliceBound mx a 0 + 1) (sliceBound mx b mx - sliceBound mx a 0) ∧
      sliceBound mx b mx ≤ mx ∧
      (∀ i : Nat, i ∈ s ↔ sliceBound mx a 0 < i ∧ i ≤ sliceBound mx b mx) ∧
      (∀ i : Nat, i ∈ s ↔ ∃ p, i = p + 1 ∧ p < mx ∧ sliceBound mx a 0 ≤ p ∧ p < sliceBound mx b mx) := by
  have hb := sliceBound_le mx b (Nat.le_refl mx)
  refine ⟨_, siSet_slice_eq mx a b, rfl, hb, fun i => mem_siSet_slice (siSet_slice_eq mx a b) i, ?_⟩
  intro i
  rw [mem_siSet_slice (siSet_slice_eq mx a b) i]
  constructor
  · rintro ⟨h1, h2⟩
    obtain ⟨p, rfl⟩ := Nat.exists_eq_succ_of_ne_zero (Nat.ne_of_gt (Nat.zero_lt_of_lt h1))
    exact ⟨p, rfl, Nat.lt_of_lt_of_le h2 hb, Nat.lt_succ_iff.mp h1, h2⟩
  · rintro ⟨p, rfl, _, h2, h3⟩; exact ⟨Nat.lt_succ_of_le h2, h3⟩

/-- Instances: `[:]` selects everything; `[:-k]` (`k > 0`) drops the `k` highest; `[a:]`
(`a ≥ 0`) drops the `a` lowest. -/
theorem siSet_slice_all (mx : Nat) (i : Nat) :
    ∃ s, siSet mx (.slice none none) = some s ∧ (i ∈ s ↔ 1 ≤ i ∧ i ≤ mx) := by
  refine ⟨_, siSet_slice_eq mx none none, ?_⟩
  exact mem_siSet_slice (siSet_slice_eq mx none none) i

theorem siSet_slice_drop_highest (mx : Nat) (k : Int) (hk : 0 < k) (i : Nat) :
    ∃ s, siSet mx (.slice none (some (-k))) = some s ∧ (i ∈ s ↔ 1 ≤ i ∧ (i : Int) ≤ mx - k) := by
  refine ⟨_, siSet_slice_eq mx none _, ?_⟩
  rw [mem_siSet_slice (siSet_slice_eq mx none _) i, sliceBound_none, sliceBound_neg mx mx (Int.neg_neg_of_pos hk)]
  omega

theorem siSet_slice_drop_lowest (mx : Nat) (a : Int) (ha : 0 ≤ a) (i : Nat) :
    ∃ s, siSet mx (.slice (some a) none) = some s ∧ (i ∈ s ↔ a < (i : Int) ∧ i ≤ mx) := by
  refine ⟨_, siSet_slice_eq mx _ none, ?_⟩
  rw [mem_siSet_slice (siSet_slice_eq mx _ none) i, sliceBound_none, sliceBound_nonneg mx 0 ha]
  omega

/-! ### `prune_at_depth`: the source survives; monotone in the depth -/

/-- The source is at distance 0 from itself, so it is always kept. (`WF` is not needed.) -/
theorem depth_keep_source (t : Table) (len : Int → Int → Nat) (src : Int) (depth : Nat) (hs : src ∈ ids t) :
    src ∈ ids (pruneAtDepth t len src depth) :=
  mem_pruneAtDepth.mpr ⟨hs, 0, geo_self t len false src hs, Nat.zero_le _⟩

/-- A larger depth keeps at least as much: the smaller keep-set is a sublist of the larger. -/
theorem depth_keep_mono_sublist (t : Table) (len : Int → Int → Nat) (src : Int) {d₁ d₂ : Nat} (h : d₁ ≤ d₂) :
    (ids (pruneAtDepth t len src d₁)).Sublist (ids (pruneAtDepth t len src d₂)) := by
  rw [depth_keep_spec, depth_keep_spec]
  refine filter_sublist_filter (fun i => ?_) _
  cases geo t len false src i with
  | none => exact id
  | some d => exact fun hd => decide_eq_true (Nat.le_trans (of_decide_eq_true hd) h)

theorem depth_keep_mono (t : Table) (len : Int → Int → Nat) (src : Int) {d₁ d₂ : Nat} (h : d₁ ≤ d₂) (i : Int)
    (hi : i ∈ ids (pruneAtDepth t len src d₁)) : i ∈ ids (pruneAtDepth t len src d₂) :=
  (depth_keep_mono_sublist t len src h).subset hi

/-! ### `prune_twigs(exact=True)`: exactly `size` of cable comes off every tip

`exactPrune t len size` lists `(id, parent, τ)`; the height of `j` (largest path length down to a tip distal to
it) is written `heightOf t len (t.length + 1) j`, at the fuel `exactPrune` itself uses, cast to a rational where it
is compared with `size`. -/

/-- **What every output row is.**  A row `(i, p, τ)` is a row of the table (same id, same parent).
If `i` is farther than `size` from its farthest tip it is untouched (`τ = 0`).  Otherwise it is a root
(never moved, `τ = 0`) or it is the new tip of the edge to a parent that is itself farther than `size`
from its farthest tip: `0 ≤ τ ≤ 1`, and — when the edge has positive length — the new tip is *exactly*
`size` of cable away from the farthest original tip below it. -/
theorem exact_spec (t : Table) (len : Int → Int → Nat) (size : Rat) (i p : Int) (τ : Rat)
    (hr : (i, p, τ) ∈ exactPrune t len size) :
    ∃ n ∈ t, n.id = i ∧ n.parent = p ∧
      (size < (heightOf t len (t.length + 1) i : Nat) → τ = 0) ∧
      (((heightOf t len (t.length + 1) i : Nat) : Rat) ≤ size →
        (p < 0 ∧ τ = 0) ∨
        (size < (heightOf t len (t.length + 1) p : Nat) ∧ 0 ≤ τ ∧ τ ≤ 1 ∧
          (len i p ≠ 0 → ((heightOf t len (t.length + 1) i : Nat) : Rat) + τ * (len i p : Nat) = size))) := by
  obtain ⟨n, hn, hi, hp, h⟩ := Navis.ExactPrune.exactPruneG_row_spec (adm := fun _ => true) hr
  refine ⟨n, hn, hi, hp, fun hgt => ?_, fun hle => ?_⟩
  · rcases h with ⟨_, e⟩ | ⟨_, e⟩ | ⟨_, hle, _⟩
    · exact e
    · exact e
    · exact absurd hle (Rat.not_le.mpr hgt)
  · rcases h with ⟨hn, _⟩ | h | ⟨_, _, _, hp, rest⟩
    · exact absurd ⟨rfl, hle⟩ hn
    · exact .inl h
    · exact .inr ⟨Rat.not_le.mp fun h => hp ⟨rfl, h⟩, rest⟩

/-- **What is removed** (row form; no hypothesis on the table).  The row of `n` is absent from the
result iff `n` is within `size` of all its tips, is not a root, and either its parent is also within
`size` of all its tips or the edge to the parent is too short to carry the new tip. -/
theorem exact_removed (t : Table) (len : Int → Int → Nat) (size : Rat) (n : Node) (hn : n ∈ t) :
    (∀ τ, (n.id, n.parent, τ) ∉ exactPrune t len size) ↔
      (((heightOf t len (t.length + 1) n.id : Nat) : Rat) ≤ size ∧ ¬ n.parent < 0 ∧
        (((heightOf t len (t.length + 1) n.parent : Nat) : Rat) ≤ size ∨
         ((len n.id n.parent : Nat) : Rat) < size - (heightOf t len (t.length + 1) n.id : Nat))) := by
  constructor
  · intro habs
    rcases Navis.ExactPrune.exactRow_cases t len size (fun _ => true) n with ⟨_, e⟩ | ⟨h1, h2, h3, _⟩ | ⟨_, _, _, _, e⟩
    · exact absurd (Navis.ExactPrune.mem_exactPrune.mpr ⟨n, hn, e⟩) (habs _)
    · exact ⟨h1.2, h2, h3.imp_left And.right⟩
    · exact absurd (Navis.ExactPrune.mem_exactPrune.mpr ⟨n, hn, e⟩) (habs _)
  · rintro ⟨c1, c2, c3⟩ τ hmem
    -- the row may stem from another row `m` of the table with the same id and parent
    obtain ⟨m, _, hrow⟩ := Navis.ExactPrune.mem_exactPrune.mp hmem
    obtain ⟨e1, e2⟩ := Navis.ExactPrune.exactRow_fst hrow
    simp only at e1 e2
    rcases Navis.ExactPrune.exactRow_cases t len size (fun _ => true) m with ⟨h, _⟩ | ⟨_, _, _, e⟩ | ⟨_, _, h3, h4, _⟩
    · rw [← e1, ← e2] at h
      exact h.elim (fun h1 => h1 ⟨rfl, c1⟩) c2
    · rw [e] at hrow; exact nomatch hrow
    · rw [← e1, ← e2] at h4; rw [← e2] at h3
      exact c3.elim (fun c => h3 ⟨rfl, c⟩) h4

/-- … and in id form, for tables with unique ids: the *id* of `n` is absent from the result. -/
theorem exact_removed_id (t : Table) (hnd : (ids t).Nodup) (len : Int → Int → Nat) (size : Rat) (n : Node) (hn : n ∈ t) :
    n.id ∉ (exactPrune t len size).map (·.1) ↔
      (((heightOf t len (t.length + 1) n.id : Nat) : Rat) ≤ size ∧ ¬ n.parent < 0 ∧
        (((heightOf t len (t.length + 1) n.parent : Nat) : Rat) ≤ size ∨
         ((len n.id n.parent : Nat) : Rat) < size - (heightOf t len (t.length + 1) n.id : Nat))) := by
  rw [← exact_removed t len size n hn]
  constructor
  · intro h τ hm
    exact h (List.mem_map.mpr ⟨_, hm, rfl⟩)
  · intro h hm
    obtain ⟨r, hr, hid⟩ := List.mem_map.mp hm
    obtain ⟨m, hm', hrow⟩ := Navis.ExactPrune.mem_exactPrune.mp hr
    obtain ⟨e1, e2⟩ := Navis.ExactPrune.exactRow_fst hrow
    have hfm := find?_of_mem hnd hm'
    have hfn := find?_of_mem hnd hn
    rw [← e1, hid, hfn] at hfm
    simp only [Option.some.injEq] at hfm
    subst hfm
    obtain ⟨i, p, τ⟩ := r
    simp only at e1 e2
    subst e1; subst e2
    exact h τ hr

/-- **Height recurrence** in a well-formed forest (at the fuel `exactPrune` uses on both sides): the
height of a node is the maximum over its children `c` of `len c i + height c`, and `0` for a leaf. -/
theorem heightOf_recurrence (t : Table) (hw : WF t) (len : Int → Int → Nat) (i : Int) (hi : i ∈ ids t) :
    heightOf t len (t.length + 1) i =
      ((children t i).map fun c => len c i + heightOf t len (t.length + 1) c).foldl max 0 :=
  Navis.ExactPrune.heightOf_rec hw len i

/-- … spelled out as a maximum: an upper bound of all children's contributions that is attained (or is
`0` when there is no child). -/
theorem heightOf_is_max (t : Table) (hw : WF t) (len : Int → Int → Nat) (i : Int) (hi : i ∈ ids t) :
    (∀ c ∈ children t i, len c i + heightOf t len (t.length + 1) c ≤ heightOf t len (t.length + 1) i) ∧
    ((children t i = [] ∧ heightOf t len (t.length + 1) i = 0) ∨
     ∃ c ∈ children t i, heightOf t len (t.length + 1) i = len c i + heightOf t len (t.length + 1) c) := by
  obtain ⟨hub, hatt⟩ := Navis.ExactPrune.height_bounds hw len i
  refine ⟨hub, ?_⟩
  by_cases hch : children t i = []
  · exact .inl ⟨hch, Navis.ExactPrune.heightOf_leaf t len _ i hch⟩
  · exact .inr (hatt hch)

theorem heightOf_leaf (t : Table) (len : Int → Int → Nat) (f : Nat) (i : Int) (h : children t i = []) :
    heightOf t len f i = 0 := Navis.ExactPrune.heightOf_leaf t len f i h

/-- **Fuel independence** of the height. -/
theorem heightOf_fuel_independent (t : Table) (hw : WF t) (len : Int → Int → Nat) (i : Int) (hi : i ∈ ids t)
    (f : Nat) (hf : t.length ≤ f) : heightOf t len f i = heightOf t len (t.length + 1) i :=
  Navis.ExactPrune.heightOf_fuel hw len hi f hf

/-- The height grows by at least the edge length along every parent link. -/
theorem height_parent_ge (t : Table) (hw : WF t) (len : Int → Int → Nat) (n : Node) (hn : n ∈ t) (hp : ¬ n.parent < 0) :
    heightOf t len (t.length + 1) n.parent ≥ heightOf t len (t.length + 1) n.id + len n.id n.parent :=
  Navis.ExactPrune.height_child_le hw len hn hp

/-- Untouched nodes are closed under taking parents. -/
theorem exact_untouched_up (t : Table) (hw : WF t) (len : Int → Int → Nat) (size : Rat) (n : Node) (hn : n ∈ t)
    (hp : ¬ n.parent < 0) (h : size < (heightOf t len (t.length + 1) n.id : Nat)) :
    size < (heightOf t len (t.length + 1) n.parent : Nat) :=
  Std.lt_of_lt_of_le h (Navis.ExactPrune.H_le_parent hw len hn hp)

/-- **The result is a forest on the kept ids**: the parent named by any output row is itself an output
row, and an untouched one (`τ = 0`, height above `size`). -/
theorem exact_parents_kept (t : Table) (hw : WF t) (len : Int → Int → Nat) (size : Rat) (i p : Int) (τ : Rat)
    (hr : (i, p, τ) ∈ exactPrune t len size) (hp : ¬ p < 0) :
    size < (heightOf t len (t.length + 1) p : Nat) ∧ ∃ q, (p, q, (0 : Rat)) ∈ exactPrune t len size := by
  obtain ⟨n, hn, rfl, rfl, hA, hB⟩ := exact_spec t len size i p τ hr
  have hgt : size < (heightOf t len (t.length + 1) n.parent : Nat) := by
    by_cases h : size < (heightOf t len (t.length + 1) n.id : Nat)
    · exact exact_untouched_up t hw len size n hn hp h
    · rcases hB (Rat.not_lt.mp h) with ⟨h1, _⟩ | ⟨h1, _⟩
      · exact absurd h1 hp
      · exact h1
  refine ⟨hgt, ?_⟩
  obtain ⟨m, hm, hmid⟩ := mem_ids.mp (WF_parent_mem hw hn hp)
  refine ⟨m.parent, Navis.ExactPrune.mem_exactPrune.mpr ⟨m, hm, ?_⟩⟩
  rw [← hmid] at hgt ⊢
  exact Navis.ExactPrune.exactRow_of_not_inRange fun h => Rat.not_le.mpr hgt h.2

/-- The output, read as a node table, is a well-formed forest whose ids are a sublist of the input's. -/
theorem exact_forest (t : Table) (hw : WF t) (len : Int → Int → Nat) (size : Rat) :
    WF ((exactPrune t len size).map fun r => ({ id := r.1, parent := r.2.1 } : Node)) ∧
    ((exactPrune t len size).map (·.1)).Sublist (ids t) := by
  have hsub := Navis.ExactPrune.exactPrune_ids_sublist t len size
  refine ⟨?_, hsub⟩
  have hids : ids ((exactPrune t len size).map fun r => ({ id := r.1, parent := r.2.1 } : Node)) =
      (exactPrune t len size).map (·.1) := by
    rw [ids, List.map_map]; rfl
  obtain ⟨hnd, hpos, rk, hrk⟩ := hw
  refine ⟨hids ▸ hsub.nodup hnd, ?_, rk, ?_⟩
  · intro m hm
    obtain ⟨r, hr, rfl⟩ := List.mem_map.mp hm
    obtain ⟨n, hn, hrow⟩ := Navis.ExactPrune.mem_exactPrune.mp hr
    rw [(Navis.ExactPrune.exactRow_fst hrow).1]; exact hpos n hn
  · intro m hm
    obtain ⟨⟨i, p, τ⟩, hr, rfl⟩ := List.mem_map.mp hm
    by_cases hp : p < 0
    · exact Or.inl hp
    · right
      obtain ⟨_, q, hq⟩ := exact_parents_kept t ⟨hnd, hpos, rk, hrk⟩ len size i p τ hr hp
      obtain ⟨n, hn, rfl, rfl, _⟩ := exact_spec t len size i p τ hr
      refine ⟨?_, ?_⟩
      · rw [hids]; exact List.mem_map.mpr ⟨_, hq, rfl⟩
      · rcases hrk n hn with h | h
        · exact absurd h hp
        · exact h.2

/-! ### Non-vacuity of the first part -/
def ex : Table := [⟨1, -1, 0, 0, 0, .root⟩, ⟨2, 1, 3, 0, 0, .branch⟩, ⟨3, 2, 6, 0, 0, .end_⟩, ⟨4, 2, 3, 4, 0, .end_⟩]
example : terminalSegs ex = [[3, 2], [4, 2]] := by decide +kernel
example : twigDelete ex (coordLen ex) 3 none = [3] ∧ twigDelete ex (coordLen ex) 2 none = [] := by decide +kernel
example : ids (pruneTwigs ex (coordLen ex) 4 none 5) = [1, 2] := by decide +kernel
example : ids (pruneAtDepth ex (coordLen ex) 1 6 ) = [1, 2, 3] := by decide +kernel
example : (pruneByStrahler ex (.int 1)).map ids = some [1, 2] := by decide +kernel

/-- A table on which recursion matters: removing the twigs `3`, `4` turns `2` into a new twig. -/
def ex2 : Table := [⟨1, -1, 0, 0, 0, .root⟩, ⟨2, 1, 0, 0, 0, .branch⟩, ⟨3, 2, 0, 0, 0, .end_⟩,
  ⟨4, 2, 0, 0, 0, .end_⟩, ⟨5, 1, 0, 0, 0, .end_⟩]
def len2 : Int → Int → Nat := fun a _ => if a == 5 then 10 else 1
example : ids (pruneTwigsOnce ex2 len2 1 none) = [1, 2, 5] ∧ ids (pruneTwigs ex2 len2 1 none 1) = [1, 5] ∧
    ids (pruneTwigs ex2 len2 1 none 5) = [1, 5] := by decide +kernel
example : twigDelete (pruneTwigsOnce ex2 len2 1 none) len2 1 none = [2] ∧
    twigDelete (pruneTwigs ex2 len2 1 none 5) len2 1 none = [] := by decide +kernel
example : wfB (pruneTwigs ex2 len2 1 none 5) = true ∧ labelsOKB (pruneTwigs ex2 len2 1 none 5) = true := by decide +kernel
example : ids (pruneTwigs ex2 len2 1 (some [3]) 5) = [1, 2, 4, 5] := by decide +kernel
example : twigDelete (pruneTwigs ex (coordLen ex) 4 none 4) (coordLen ex) 4 none = [] := by decide +kernel
example : wfB (pruneAtDepth ex (coordLen ex) 3 3) = true ∧ wfB (longestNeurite ex (coordLen ex) 0 1 false) = true := by decide +kernel
example : (pruneByStrahler ex (.int 1)).map wfB = some true := by decide +kernel
example : siSet 5 (.slice none none) = some [1, 2, 3, 4, 5] ∧ siSet 5 (.slice none (some (-1))) = some [1, 2, 3, 4] ∧
    siSet 5 (.slice (some 1) (some 3)) = some [2, 3] ∧ siSet 5 (.slice (some (-2)) none) = some [4, 5] ∧
    siSet 5 (.slice (some 7) none) = some [] ∧ siSet 5 (.slice (some (-9)) (some 9)) = some [1, 2, 3, 4, 5] ∧
    siSet 5 (.slice (some 3) (some 1)) = some [] := by decide +kernel
example : siSet 5 (.range 2 4) = some [2, 3] ∧ siSet 5 (.range (-2) 2) = some [0, 1] ∧
    siSet 5 (.list [1, -1, 3]) = some [1, 3] := by decide +kernel
example : ids (pruneAtDepth ex (coordLen ex) 3 0) = [3] ∧ ids (pruneAtDepth ex (coordLen ex) 3 3) = [2, 3] ∧
    ids (pruneAtDepth ex (coordLen ex) 3 7) = [1, 2, 3, 4] := by decide +kernel

/-! `prune_twigs(exact=True)` on `ex` (edges `2–1`: 3, `3–2`: 3, `4–2`: 4; heights `7, 4, 0, 0`). -/
example : wfB ex = true ∧ (ids ex).map (heightOf ex (coordLen ex) (ex.length + 1)) = [7, 4, 0, 0] := by decide +kernel
/-- `size = 2`: both tips move up their edge, `2/3` and `2/4` of the way. -/
example : exactPrune ex (coordLen ex) 2 = [(1, -1, 0), (2, 1, 0), (3, 2, 2/3), (4, 2, 1/2)] := by decide +kernel
/-- `size = 7/2`: the 3-long twig is too short and disappears, the 4-long one keeps `1/2` of cable. -/
example : exactPrune ex (coordLen ex) (7/2) = [(1, -1, 0), (2, 1, 0), (4, 2, 7/8)] := by decide +kernel
/-- `size = 4 =` height of the fork (tie, `≤`): both twigs go, the fork becomes the tip, unmoved;
`size = 7`: only the root is left (never moved, never removed). -/
example : exactPrune ex (coordLen ex) 4 = [(1, -1, 0), (2, 1, 0)] ∧ exactPrune ex (coordLen ex) 7 = [(1, -1, 0)] ∧
    exactPrune ex (coordLen ex) 100 = [(1, -1, 0)] := by decide +kernel
/-- Zero-length edges (`ex2`: all coordinates equal, lengths from `len2`): `5` keeps `1/10` … -/
example : exactPrune ex2 len2 1 = [(1, -1, 0), (2, 1, 0), (5, 1, 1/10)] := by decide +kernel
/-- … and with a length function that is `0` everywhere every non-root is within `size = 0` of its
tips: only the root survives.  (The model is total in `size`; `_prune_twigs_precise` raises for `size <= 0`.) -/
example : exactPrune ex2 (fun _ _ => 0) 0 = [(1, -1, 0)] := by decide +kernel

/-! ## Second part: option handling, as-written loops, source facts (`Model/PruneExt.lean`, `Gen/Prune.lean`) -/
open Navis.PruneX

/-! ### 1. The operators, constants and index expressions of the *current* source are what the model hard-wires

`Gen/Prune.lean` is re-extracted from navis on every run.  Four theorems (`gen_twig_rule_is_model`,
`gen_si_rule_is_model`, `gen_depth_is_model`, `gen_longest_is_model`) instantiate a parametrised rule of
`Model/PruneExt.lean` with the extracted facts and prove that the result *is* the hand-written model the other
theorems are about.  The other `gen_*` theorems only read extracted constants off against literals: no model function
occurs in their statements (at most the parser `Cmp.ofName` of the comparison names), and which line of the model a
constant stands for is said in the docstring.  Either way
an edit of one of these facts in the source makes the theorem stop checking. -/

/-- The twig rule read off `_prune_twigs_simple`. -/
def genTwigRule : Option TwigRule := do
  let lc ← Cmp.ofName Gen.Prune.twigLenCmp
  let fc ← Cmp.ofName Gen.Prune.twigForkCmp
  pure { lenCmp := lc, forkCmp := fc, forkK := Gen.Prune.twigForkK, leafPos := Gen.Prune.twigLeafPos,
         forkPos := Gen.Prune.twigForkPos, maskPos := Gen.Prune.twigMaskPos, dropTail := Gen.Prune.twigDropTail }

/-- **`prune_twigs` as written selects exactly the model's twigs**: `seg_lengths <= size`, forks are
`n_childs > 1`, `s[0]` is the leaf and the masked end, `s[-1]` the fork, `s[:-1]` is deleted. -/
theorem gen_twig_rule_is_model (t : Table) (len : Int → Int → Nat) (size : Nat) (mask : Option (List Int)) :
    genTwigRule.map (fun r => twigDeleteG r t len size mask) = some (twigDelete t len size mask) := by
  have : genTwigRule = some twigRule0 := rfl
  rw [this, Option.map_some, twigDeleteG_rule0]

/-- … compared with `size` itself, which is also what navis-fastcore receives as threshold, and `size`
went through `map_units`. -/
theorem gen_twig_size :
    Gen.Prune.twigLenRhs = "size" ∧ Gen.Prune.fcThreshold = "size" ∧ Gen.Prune.twigsMapsUnits = true
    ∧ Gen.Prune.fcMaskUsesIsin = true ∧ Gen.Prune.boolMaskIndexesNodeIds = true := ⟨rfl, rfl, rfl, rfl, rfl⟩

/-- `recursive`: `True` means `inf`; each further round passes `recursive - 1`, the id mask, the same
size, and works in place — i.e. `RecArg.norm` / `RecArg.step` / a constant mask. -/
theorem gen_twig_recursion :
    Gen.Prune.recTrueIsInf = true ∧ Gen.Prune.recDecrement = 1 ∧ Gen.Prune.recMask = "mask_nodes"
    ∧ Gen.Prune.recInplace = "True" ∧ Gen.Prune.recSize = "size" := ⟨rfl, rfl, rfl, rfl, rfl⟩

/-- `prune_twigs` dispatches on `exact` and forwards every relevant argument; defaults. -/
theorem gen_twig_dispatch :
    Gen.Prune.inexactCallee = "_prune_twigs_simple" ∧ Gen.Prune.exactCallee = "_prune_twigs_precise"
    ∧ (∀ a ∈ ["size=size", "mask=mask", "inplace=inplace", "recursive=recursive"], a ∈ Gen.Prune.inexactArgs)
    ∧ (∀ a ∈ ["size=size", "mask=mask", "inplace=inplace"], a ∈ Gen.Prune.exactArgs)
    ∧ (∀ d ∈ [("exact", "False"), ("mask", "None"), ("inplace", "False"), ("recursive", "False")], d ∈ Gen.Prune.twigsDefaults) :=
  ⟨rfl, rfl, by decide +kernel⟩

/-- `_prune_twigs_precise`: a node is in range when its **farthest** distal tip is within `size`
(`cutoff=size`, `max`), rows go when their **parent** is in range, the remainder is `size - max_len`, a
tip is dropped when its edge is **shorter** (`<`) than the remainder, otherwise moved from its own
position towards the parent — the ingredients of `exactPrune`; with a mask the distances are measured on the
subgraph of masked nodes (`allBelowMasked` in `exactPruneM`). -/
theorem gen_exact_rule :
    Gen.Prune.exactCutoff = "size" ∧ Gen.Prune.exactWeight = "weight" ∧ Gen.Prune.exactReversed = true
    ∧ Gen.Prune.exactMaskSubgraph = true
    ∧ Gen.Prune.exactKeepColumn = "parent_id" ∧ Gen.Prune.exactAggregate = "max"
    ∧ Gen.Prune.exactRemainderOp = "Sub" ∧ Gen.Prune.exactRemainderLeft = "size" ∧ Gen.Prune.exactRemainderUsesMaxLen = true
    ∧ Cmp.ofName Gen.Prune.exactRemoveCmp = some .lt ∧ Gen.Prune.exactRemoveRhs = "len_to_prune"
    ∧ Gen.Prune.exactMove = [("Sub", "loc1", "loc2"), ("Sub", "loc1", "vec_norm*len_to_prune")]
    ∧ Cmp.ofName Gen.Prune.exactSizeCmp = some .le :=
  ⟨rfl, rfl, rfl, rfl, rfl, rfl, rfl, rfl, rfl, rfl, rfl, rfl, rfl⟩

/-- The index rule read off `prune_by_strahler`. -/
def genSIRule : Option SIRule := do
  let nc ← Cmp.ofName Gen.Prune.siNegCmp
  let pc ← Cmp.ofName Gen.Prune.siPosCmp
  if Gen.Prune.siNegRhs = 0 then
    pure { negCmp := nc, negLo := Gen.Prune.siNegLo, negAdd := Gen.Prune.siNegAdd, posCmp := pc, posK := Gen.Prune.siPosK,
           sliceLo := Gen.Prune.siSliceLo, sliceAdd := Gen.Prune.siSliceAdd }
  else none

/-- **The Strahler index arithmetic of the source is the model's**: negative `k` ↦ `range(1, max + (k + 1))`,
`k < 1` raises, slices index `list(range(1, max + 1))`, ranges are turned into lists, rows whose
`strahler_index` is in the list go. -/
theorem gen_si_rule_is_model (mx : Int) (sel : SISelX) :
    genSIRule.map (fun r => siListG r mx sel) = some (siListX mx sel) := by
  have : genSIRule = some siRule0 := rfl
  rw [this]; rfl

theorem gen_si_facts :
    Gen.Prune.siSliceIndexesList = true ∧ Gen.Prune.siRangeToList = true ∧ Gen.Prune.siFilterColumn = "strahler_index"
    ∧ Gen.Prune.orphanParent = -1
    ∧ (∀ d ∈ [("reroot_soma", "True"), ("force_strahler_update", "False"), ("relocate_connectors", "False"), ("inplace", "False")],
        d ∈ Gen.Prune.siDefaults) := ⟨rfl, rfl, rfl, rfl, by decide +kernel⟩

/-- The Strahler column is recomputed iff it is missing or `force_strahler_update` (`siColumn`); the
working copy is rerooted in place to its soma iff `reroot_soma` and there is one (`siTable`). -/
theorem gen_si_guards :
    Gen.Prune.siColumnGuard = ["'strahler_index' not in W.nodes", "force_strahler_update"]
    ∧ Gen.Prune.siRerootGuard = ["not isinstance(W.soma, type(None))", "reroot_soma"]
    ∧ Gen.Prune.siRerootTarget = "W.soma" ∧ Gen.Prune.siRerootInplace = true := ⟨rfl, rfl, rfl, rfl⟩

/-- Connector relocation walks the parent map **of the rerooted working copy** (`relocWalk` on `siTable`),
starting at the connector's node's parent, while the node is `>= 0` and not among the survivors; both
branches filter the connector table on surviving node ids (`connAfter`). -/
theorem gen_relocation :
    Gen.Prune.relocKey = "node_id" ∧ Gen.Prune.relocValue = "parent_id"
    ∧ Gen.Prune.relocParentsFromWorkingCopy = true ∧ Gen.Prune.relocParentsAfterReroot = true
    ∧ Gen.Prune.relocStart = "parent_dict[cn.node_id]"
    ∧ Gen.Prune.relocWhile = ["this_tn >= 0", "this_tn not in remaining_tns"]
    ∧ Gen.Prune.relocStep = ["this_tn = parent_dict[this_tn]"] ∧ Gen.Prune.relocAssigns = true
    ∧ Gen.Prune.connFilters = 2 ∧ Gen.Prune.connFilterColumn = "node_id" :=
  ⟨rfl, rfl, rfl, rfl, rfl, rfl, rfl, rfl, rfl, rfl⟩

/-- `prune_at_depth`: `depth < 0` raises, the default source is `x.root[0]`, an absent source raises, the
distances are undirected with `limit=depth` from the source, finite entries of row 0 are kept;
`geodesic_matrix` turns entries **strictly above** the limit into `inf` (so `dist == depth` is kept);
`source` is zipped over a NeuronList. -/
theorem gen_depth_rule :
    Cmp.ofName Gen.Prune.depthNegCmp = some .lt ∧ Gen.Prune.depthNegRhs = 0
    ∧ Gen.Prune.depthDefaultSource = "root" ∧ Gen.Prune.depthDefaultSourceIndex = 0 ∧ Gen.Prune.depthAbsentSourceRaises = true
    ∧ Gen.Prune.depthGeoArgs = ["directed=False", "from_=source", "limit=depth"]
    ∧ Cmp.ofName Gen.Prune.depthKeepCmp = some .lt ∧ Gen.Prune.depthKeepRow = "dist.values[0]"
    ∧ Cmp.ofName Gen.Prune.limitCmp = some .gt ∧ Gen.Prune.limitValue = "np.inf" ∧ Gen.Prune.limitForwarded = "limit"
    ∧ Gen.Prune.depthMustZip = ["source"] ∧ Gen.Prune.depthMapsUnits = true :=
  ⟨rfl, rfl, rfl, rfl, rfl, rfl, rfl, rfl, rfl, rfl, rfl, rfl, rfl⟩

/-- … so the guard `depth < 0 → raise` of the source is the model's (the operator of the guard is the parameter of
`pruneAtDepthX`; the keep test `d ≤ depth` is not parametrised). -/
theorem gen_depth_is_model (t : Table) (len : Int → Int → Nat) (src : Option Int) (depth : Rat) :
    (Cmp.ofName Gen.Prune.depthNegCmp).map (fun c => pruneAtDepthX c t len src depth) = some (pruneAtDepthX .lt t len src depth) := by
  have : Cmp.ofName Gen.Prune.depthNegCmp = some .lt := rfl
  rw [this]; rfl

/-- `longest_neurite`: `n < 1` raises, segments are weighted by cable, an int takes `segments[:n]`, a slice
`segments[n]`, `inverse` keeps the complement; `from_root=False` takes the maximum distance among root
and end nodes (rows and columns of the matrix in the same order) with unreachable pairs set to `-1` and
reroots there; defaults. -/
theorem gen_longest_rule :
    Cmp.ofName Gen.Prune.lnBadCmp = some .lt ∧ Gen.Prune.lnBadK = 1 ∧ Gen.Prune.lnSegWeight = "weight"
    ∧ Gen.Prune.lnPicks = [":n:", "n"] ∧ Gen.Prune.lnInverseIsComplement = true ∧ Gen.Prune.lnInverseGuard = true
    ∧ Gen.Prune.lnEndTypes = ["end", "root"] ∧ Gen.Prune.lnUnreachable = -1 ∧ Gen.Prune.lnUsesMax = true
    ∧ Gen.Prune.lnRerootTargets = ["start", "x.soma"] ∧ Gen.Prune.lnDistIndex = ["loc", "leafs", "leafs"]
    ∧ Gen.Prune.lnRerootGuard = ["not isinstance(x.soma, type(None))", "reroot_soma"]
    ∧ (∀ d ∈ [("n", "1"), ("reroot_soma", "False"), ("from_root", "True"), ("inverse", "False"), ("inplace", "False")],
        d ∈ Gen.Prune.lnDefaults) :=
  ⟨rfl, rfl, rfl, rfl, rfl, rfl, rfl, rfl, rfl, rfl, rfl, rfl, by decide +kernel⟩

/-- The guard `n < 1 → raise` of the source is the model's (`pickSegs` takes its operator and constant). -/
theorem gen_longest_is_model (segs : List (List Int)) (n : NArg) :
    (Cmp.ofName Gen.Prune.lnBadCmp).map (fun c => pickSegs c Gen.Prune.lnBadK segs n) = some (pickSegs .lt 1 segs n) := by
  have : Cmp.ofName Gen.Prune.lnBadCmp = some .lt := rfl
  rw [this]; rfl

/-- Every pruning function is mapped over NeuronLists (and accepts MeshNeurons through their skeleton);
none holds the neuron lock. -/
theorem gen_decorators :
    (∀ ds ∈ [Gen.Prune.twigsDecorators, Gen.Prune.siDecorators, Gen.Prune.depthDecorators, Gen.Prune.lnDecorators,
              Gen.Prune.cbfDecorators, Gen.Prune.fluffDecorators], "map_neuronlist" ∈ ds ∧ "lock_neuron" ∉ ds)
    ∧ (∀ ds ∈ [Gen.Prune.twigsDecorators, Gen.Prune.siDecorators, Gen.Prune.depthDecorators, Gen.Prune.lnDecorators],
        "meshneuron_skeleton" ∈ ds) := by decide +kernel

/-- **The `TreeNeuron.prune_*` methods call the functions** with `inplace=True` on `self` or a copy, and
forward every parameter they accept (including `recursive` of `TreeNeuron.prune_twigs`, which used to be
dropped — repaired defect `TreeNeuron.prune_twigs/recursive-not-forwarded`). -/
theorem gen_methods_forward :
    Gen.Prune.methods.map (fun m => (m.1, m.2.1)) =
      [("prune_by_strahler", "prune_by_strahler"), ("prune_twigs", "prune_twigs"), ("prune_at_depth", "prune_at_depth"),
       ("prune_by_longest_neurite", "longest_neurite"), ("cell_body_fiber", "cell_body_fiber"), ("prune_by_volume", "in_volume")]
    ∧ (∀ m ∈ Gen.Prune.methods, "inplace=True" ∈ m.2.2.2.2)
    ∧ (∀ m ∈ Gen.Prune.methods, ∀ p ∈ m.2.2.1, p ∈ m.2.2.2.1)
    ∧ (∀ m ∈ Gen.Prune.methods, m.1 = "prune_by_strahler" → "reroot_soma=True" ∈ m.2.2.2.2) :=
  ⟨rfl, by decide +kernel⟩

/-! ### 2. `recursive` and boolean masks -/

/-- **`recursive` as `_prune_twigs_simple` consumes it** (`True` → `inf`; test, decrement, recurse) is:
`False`/`0` one round, `k > 0` at most `k` further rounds, `True` / `inf` / negative `k` as many rounds as it
takes (`|t|` always suffice). -/
theorem prune_twigs_recursive_as_written (t : Table) (len : Int → Int → Nat) (size : Nat) (mask : Option (List Int)) (r : RecArg) :
    pruneTwigsRec t len size mask r = pruneTwigs t len size mask (r.rounds t.length) := by
  unfold pruneTwigsRec
  cases r with
  | bool b =>
    cases b with
    | false => exact pruneTwigsAW_step_none rfl _ t
    | true => exact pruneTwigsAW_unbounded len size mask _ t .inf trivial (Nat.le_refl _)
  | inf => exact pruneTwigsAW_unbounded len size mask _ t .inf trivial (Nat.le_refl _)
  | int k =>
    by_cases hk : k < 0
    · rw [show (RecArg.int k).rounds t.length = t.length from if_pos hk]
      exact pruneTwigsAW_unbounded len size mask _ t (.int k) hk (Nat.le_refl _)
    · rw [show (RecArg.int k).rounds t.length = k.toNat from if_neg hk]
      obtain ⟨m, rfl⟩ := Int.eq_ofNat_of_zero_le (Int.not_lt.mp hk)
      exact pruneTwigsAW_int len size mask (t.length + 1) m t (Nat.lt_succ_self _)

/-- With `recursive=True`, `inf` or a negative count **no** terminal branch of length `≤ size` with its leaf
in the mask is left (the as-written loop reaches the fixpoint). -/
theorem prune_twigs_recursive_fixpoint (t : Table) (len : Int → Int → Nat) (size : Nat) (mask : Option (List Int)) (r : RecArg)
    (hr : r = .bool true ∨ r = .inf ∨ ∃ k, k < 0 ∧ r = .int k) :
    twigDelete (pruneTwigsRec t len size mask r) len size mask = [] := by
  rw [prune_twigs_recursive_as_written]
  have : r.rounds t.length = t.length := by
    rcases hr with rfl | rfl | ⟨k, hk, rfl⟩
    · rfl
    · rfl
    · exact if_pos hk
  rw [this]
  exact pruneTwigs_fixpoint t len size mask t.length (Nat.le_refl _)

/-- A boolean mask selects the node ids at its `True` positions (and must be as long as the table). -/
theorem maskIds_bools (t : Table) (b : List Bool) :
    (b.length ≠ t.length → maskIds t (.bools b) = none) ∧
    (b.length = t.length → ∃ l, maskIds t (.bools b) = some (some l) ∧ ∀ i, i ∈ l ↔ (i, true) ∈ (ids t).zip b) := by
  unfold maskIds
  constructor
  · intro h; simp [h]
  · intro h
    refine ⟨((ids t).zip b).filterMap fun p => if p.2 then some p.1 else Option.none, by simp [h], ?_⟩
    intro i
    simp only [List.mem_filterMap]
    constructor
    · rintro ⟨⟨a, c⟩, hp, hq⟩
      cases c <;> simp at hq
      subst hq; exact hp
    · intro hp
      exact ⟨(i, true), hp, by simp⟩

/-! ### 3. `prune_by_strahler` with all its options -/

/-- **Keep-set, Strahler column, connectors**: the result is `subset` of the working table (rerooted to the soma
when asked) by "Strahler value not in the list", where the value is the cached column unless it is missing or
an update is forced; the connector table is `connAfter` on the working table. -/
theorem strahlerX_keep_spec (t : Table) (o : SIOpts) (sel : SISelX) (cn : List (Int × Int)) (r : Table × List (Int × Int))
    (h : pruneByStrahlerX t o sel cn = some r) :
    ∃ l, siListX (((ids (siTable t o)).map (siColumn (siTable t o) o)).foldl max 0) sel = some l ∧
      ids r.1 = (ids (siTable t o)).filter (fun i => !l.contains (siColumn (siTable t o) o i)) ∧
      r.2 = connAfter (siTable t o) (ids r.1) o.relocate cn := by
  obtain ⟨l, h1, h2, h3⟩ := pruneByStrahlerX_eq h
  exact ⟨l, h1, by rw [h2]; exact ids_subset _ _, h3⟩

/-- The result is a well-formed, correctly labelled forest whose ids are a sublist of the (rerooted) working
table's — whatever the options. -/
theorem strahlerX_WF (t : Table) (hw : WF t) (o : SIOpts) (sel : SISelX) (cn : List (Int × Int)) (r : Table × List (Int × Int))
    (h : pruneByStrahlerX t o sel cn = some r) :
    WF r.1 ∧ labelsOKB r.1 = true ∧ (ids r.1).Sublist (ids (siTable t o)) := by
  obtain ⟨l, _, h2, _⟩ := pruneByStrahlerX_eq h
  have hwt : WF (siTable t o) := by
    unfold siTable
    split
    · exact WF_reroot hw _
    · exact hw
  rw [h2]
  refine ⟨WF_subset hwt _, labelsOKB_subset _ _, ?_⟩
  rw [ids_subset]; exact List.filter_sublist

/-- The Strahler value used: the fresh index when there is no column or `force_strahler_update`, the
(possibly stale) column otherwise. -/
theorem siColumn_spec (t : Table) (o : SIOpts) :
    ((o.col = none ∨ o.force = true) → ∀ i, siColumn t o i = (strahler t false [] i : Nat)) ∧
    (∀ c, o.col = some c → o.force = false → ∀ i, siColumn t o i = lookupI c i 1) := by
  unfold siColumn
  constructor
  · rintro (h | h) i
    · rw [h]
    · rw [h]; cases o.col <;> rfl
  · intro c hc hf i
    rw [hc, hf]

/-- The working table: rerooted to the soma iff `reroot_soma` and a soma is set. -/
theorem siTable_spec (t : Table) (o : SIOpts) :
    (∀ s, o.rerootSoma = true → o.soma = some s → siTable t o = reroot t s) ∧
    ((o.rerootSoma = false ∨ o.soma = none) → siTable t o = t) := by
  unfold siTable
  constructor
  · intro s h1 h2; rw [h1, h2]
  · rintro (h | h)
    · rw [h]
    · rw [h]; cases o.rerootSoma <;> rfl

/-- Without options it is `pruneByStrahler` (`strahler_keep_spec` etc. apply). -/
theorem strahlerX_plain (t : Table) (sel : SISel) :
    (pruneByStrahlerX t { rerootSoma := false } (.ofSel sel) []).map (·.1) = pruneByStrahler t sel := by
  unfold pruneByStrahlerX pruneByStrahler
  have ht : siTable t { rerootSoma := false } = t := rfl
  have hsi : siColumn t { rerootSoma := false } = fun i => ((strahler t false [] i : Nat) : Int) := rfl
  simp only [ht, hsi]
  rw [show (0 : Int) = ((0 : Nat) : Int) from rfl, foldl_max_cast]
  have hmem := siListX_ofSel (((ids t).map (strahler t false [])).foldl max 0) sel
  split at hmem
  · next hs hl => rw [hs, hl]; rfl
  · next s l hs hl =>
    rw [hs, hl]
    simp only [Option.map_some]
    congr 3
    apply List.filter_congr
    intro n _
    rw [List.contains_eq_mem, List.contains_eq_mem, decide_eq_decide.mpr (hmem _)]
  · exact hmem.elim

/-- `range(a, b, s)`: `a, a+s, a+2s, …` strictly before `b` (either direction). -/
theorem pyRange_spec (a b s x : Int) :
    (0 < s → (x ∈ pyRange a b s ↔ ∃ k : Nat, x = a + k * s ∧ x < b)) ∧
    (s < 0 → (x ∈ pyRange a b s ↔ ∃ k : Nat, x = a + k * s ∧ b < x)) :=
  ⟨fun h => mem_pyRange_pos h, fun h => mem_pyRange_neg h⟩

/-- **Slices with a step** on `list(range(1, max+1))`: the value `p + 1` is selected iff position `p` is, and
the positions are those of CPython's slice normalisation — for `s > 0`: `lo ≤ p < hi`, `p ≡ lo (mod s)` with
`lo, hi` the clamped bounds; for `s < 0`: `stop < p ≤ start`, `p ≡ start (mod -s)`. -/
theorem siListX_slice_spec (mx : Nat) (a b : Option Int) (s : Int) (v : Int) :
    ∃ l, siListX mx (.slice a b s) = some l ∧
      (v ∈ l ↔ ∃ p ∈ sliceIdx mx a b s, v = (p : Int) + 1) ∧
      (0 < s → ∀ p : Nat, p ∈ sliceIdx mx a b s ↔ p < mx ∧ clampPos mx a 0 ≤ (p : Int) ∧ (p : Int) < clampPos mx b mx ∧
          ((p : Int) - clampPos mx a 0) % s = 0) ∧
      (s < 0 → ∀ p : Nat, p ∈ sliceIdx mx a b s ↔ p < mx ∧ clampNeg mx b (-1) < (p : Int) ∧
          (p : Int) ≤ clampNeg mx a ((mx : Int) - 1) ∧ (clampNeg mx a ((mx : Int) - 1) - (p : Int)) % (-s) = 0) := by
  exact ⟨_, rfl, mem_pySlice_range_one mx a b s v, fun h p => mem_sliceIdx_pos h p, fun h p => mem_sliceIdx_neg h p⟩

/-! ### 4. Connectors -/

/-- **Connectors on removed nodes are dropped** (and nothing else happens to the table) when relocation is off. -/
theorem connectors_dropped (t : Table) (kept : List Int) (cn : List (Int × Int)) (c : Int × Int) :
    c ∈ connAfter t kept false cn ↔ c ∈ cn ∧ c.2 ∈ kept := by
  unfold connAfter
  simp [List.mem_filter]

theorem connectors_dropped_sublist (t : Table) (kept : List Int) (cn : List (Int × Int)) :
    (connAfter t kept false cn).Sublist cn := by
  unfold connAfter
  simp only [Bool.not_false, if_true]
  exact List.filter_sublist

/-- **…or moved to the nearest surviving ancestor**: with relocation the as-written parent walk puts a
connector of a removed node on the first kept node of its root path; connectors of kept nodes stay; a
connector without a surviving ancestor is dropped. -/
theorem connectors_relocated (t : Table) (hw : WF t) (kept : List Int) (hk : ∀ m ∈ kept, m ∈ ids t)
    (cn : List (Int × Int)) (c : Int × Int) :
    c ∈ connAfter t kept true cn ↔
      ∃ n, (c.1, n) ∈ cn ∧ ((n ∈ kept ∧ c.2 = n) ∨ (n ∉ kept ∧ relocate t kept n = some c.2)) := by
  unfold connAfter
  simp only [Bool.not_true, Bool.false_eq_true, if_false, List.mem_filter, List.mem_map]
  constructor
  · rintro ⟨⟨d, hd, rfl⟩, hkept⟩
    by_cases hc : kept.contains d.2 = true
    · rw [if_pos hc]
      exact ⟨d.2, hd, .inl ⟨by simpa using hc, rfl⟩⟩
    · rw [if_neg hc] at hkept ⊢
      exact ⟨d.2, hd, .inr ⟨by simpa using hc, (relocate_eq_some_iff hw hk _ _).mpr ⟨rfl, by simpa using hkept⟩⟩⟩
  · rintro ⟨n, hn, ⟨h1, h2⟩ | ⟨h1, h2⟩⟩
    · have hc : kept.contains n = true := by simpa using h1
      exact ⟨⟨(c.1, n), hn, by rw [if_pos hc]; exact Prod.ext rfl h2.symm⟩, by rw [h2]; exact hc⟩
    · obtain ⟨hwk, hm⟩ := (relocate_eq_some_iff hw hk _ _).mp h2
      exact ⟨⟨(c.1, n), hn, by rw [if_neg (by simpa using h1), hwk]⟩, by simpa using hm⟩

/-! ### 5. `prune_at_depth` with its argument forms -/

/-- Errors: negative depth, a source that is not a node. -/
theorem depthX_errors (t : Table) (len : Int → Int → Nat) (src : Option Int) (depth : Rat) :
    (depth < 0 → pruneAtDepthX .lt t len src depth = none) ∧
    (∀ s, src = some s → s ∉ ids t → pruneAtDepthX .lt t len src depth = none) := by
  unfold pruneAtDepthX
  refine ⟨fun h => if_pos (decide_eq_true h), ?_⟩
  rintro s rfl hn
  split
  · rfl
  · exact if_neg (by simpa using hn)

/-- A given source with an integer depth is `pruneAtDepth`; `source=None` means the first root in
table order; a non-integer depth acts as its floor (distances are integers). -/
theorem depthX_spec (t : Table) (len : Int → Int → Nat) (depth : Rat) (hd : 0 ≤ depth) :
    (∀ s, s ∈ ids t → pruneAtDepthX .lt t len (some s) depth = some (pruneAtDepth t len s depth.floor.toNat)) ∧
    (∀ r rest, roots t = r :: rest → pruneAtDepthX .lt t len none depth = some (pruneAtDepth t len r depth.floor.toNat)) := by
  have hn : ¬ depth < 0 := Rat.not_lt.mpr hd
  unfold pruneAtDepthX
  simp only [Cmp.evalRat, hn, decide_false, Bool.false_eq_true, if_false]
  constructor
  · intro s hs
    have : (ids t).contains s = true := by simpa using hs
    simp only [this, if_true, pruneAtDepthQ_floor t len s depth hd]
  · intro r rest hr
    simp only [hr, pruneAtDepthQ_floor t len r depth hd]

theorem depthX_nat (t : Table) (len : Int → Int → Nat) (s : Int) (hs : s ∈ ids t) (d : Nat) :
    pruneAtDepthX .lt t len (some s) (d : Rat) = some (pruneAtDepth t len s d) :=
  (depthX_spec t len d Rat.natCast_nonneg).1 s hs

/-! ### 6. `longest_neurite`: argument forms and the greedy criterion; the checker for `drop_fluff` -/

/-- `n ≥ 1` takes the first `n` segments, `n < 1` raises, a slice takes the positions of `sliceIdx`. -/
theorem pickSegs_spec (segs : List (List Int)) :
    (∀ n : Int, 1 ≤ n → pickSegs .lt 1 segs (.int n) = some (segs.take n.toNat)) ∧
    (∀ n : Int, n < 1 → pickSegs .lt 1 segs (.int n) = none) ∧
    (∀ a b s, pickSegs .lt 1 segs (.slice a b s) = some ((sliceIdx segs.length a b s).filterMap fun i => segs[i]?)) := by
  refine ⟨?_, ?_, fun _ _ _ => rfl⟩
  · intro n hn
    have : ¬ n < 1 := Int.not_lt.mpr hn
    simp [pickSegs, Cmp.evalInt, this, pySlice_take segs n (Int.le_trans (by decide) hn)]
  · intro n hn
    simp [pickSegs, Cmp.evalInt, hn]

/-- With the defaults (`from_root=True`, no rerooting) and `n ≥ 1` this is `longestNeurite`. -/
theorem longestX_default (t : Table) (len : Int → Int → Nat) (n : Int) (hn : 1 ≤ n) (inv : Bool) (start : Int) :
    longestNeuriteX t len {} start (.int n) inv = some (longestNeurite t len 0 n.toNat inv) := by
  show (pickSegs .lt 1 (segments t len) (.int n)).map _ = _
  rw [(pickSegs_spec (segments t len)).1 n hn]
  rfl

/-- **The greedy criterion** (`Greedy`): for every `k`, segment `k` starts at a tip that the earlier segments do
not cover, is exactly the walk from that tip up to the first covered node (or the root), and no uncovered tip
has a longer such walk — "the longest root-to-tip paths taken greedily".  The checker the driver evaluates on
navis' own segment list decides it. -/
theorem greedy_checker_sound_complete (t : Table) (len : Int → Int → Nat) (segs : List (List Int)) :
    greedyOKB t len segs = true ↔ Greedy t len segs := by
  unfold greedyOKB Greedy
  simp only [List.all_eq_true, List.mem_range]
  refine forall_congr' fun k => forall_congr' fun hk => ?_
  rw [List.getElem?_eq_getElem hk]
  exact greedyStepB_iff t len _ _

/-- **The segment list of the model *is* greedy**: on every well-formed forest with positive edge lengths,
`segments` (the as-written model of `_generate_segments`: leafs by decreasing root distance, walks to the first
visited node, sorted by length) satisfies the greedy criterion.  (With zero-length edges the sort may put a
segment before the one it hangs on; the property quantifies away from such ties.) -/
theorem segments_are_greedy (t : Table) (hw : WF t) (len : Int → Int → Nat) (hpos : PosLen t len) :
    Greedy t len (segments t len) :=
  segments_greedy hw hpos

/-- **`longest_neurite(n)` keeps precisely the `n` longest root-to-tip paths taken greedily, or their
complement**: for `n ≥ 1` the kept node set is the union (resp. the complement of the union) of a list of at most
`n` segments that is greedy — all segments when there are fewer than `n`. -/
theorem longest_keeps_n_greedy_paths (t : Table) (hw : WF t) (len : Int → Int → Nat) (hpos : PosLen t len)
    (n : Int) (hn : 1 ≤ n) (inv : Bool) (start : Int) :
    ∃ segs r, longestNeuriteX t len {} start (.int n) inv = some r ∧ Greedy t len segs ∧
      segs = (segments t len).take n.toNat ∧
      ids r = (ids t).filter (fun i => if inv then !segs.flatten.contains i else segs.flatten.contains i) :=
  ⟨(segments t len).take n.toNat, _, longestX_default t len n hn inv start, (segments_greedy hw hpos).take _, rfl,
    ids_longestFromSegs t _ inv⟩

/-- **`drop_fluff` (skeletons)**: what the checker evaluated on navis' kept node set accepts — whole connected
components only, none smaller than `keep_size`; without `n_largest` every component of at least `keep_size` nodes;
with `n_largest` no kept component is smaller than an eligible one that was dropped.  (The checker also counts the
kept components against `n_largest`; that test is not in the conclusion.) -/
theorem drop_fluff_checker_sound (t : Table) (ks : Nat) (nl : Option Nat) (kept : List Int)
    (h : dropFluffOKB t ks nl kept = true) :
    (∀ r ∈ roots t, (∀ i ∈ component t r, i ∈ kept) ∨ (∀ i ∈ component t r, i ∉ kept)) ∧
    (∀ r ∈ roots t, (∀ i ∈ component t r, i ∈ kept) → ks ≤ (component t r).length) ∧
    (nl = none → ∀ r ∈ roots t, ks ≤ (component t r).length → ∀ i ∈ component t r, i ∈ kept) ∧
    (∀ k, nl = some k → ∀ r ∈ roots t, ks ≤ (component t r).length →
        (∀ i ∈ component t r, i ∈ kept) ∨
        ∀ r' ∈ roots t, (∀ i ∈ component t r', i ∈ kept) → (component t r).length ≤ (component t r').length) := by
  unfold dropFluffOKB at h
  simp only [Bool.and_eq_true] at h
  obtain ⟨⟨h1, h2⟩, h3⟩ := h
  simp only [List.all_eq_true, List.mem_map, List.mem_filter, Bool.or_eq_true, decide_eq_true_eq, forall_exists_index,
    and_imp, forall_apply_eq_imp_iff₂, List.contains_eq_mem, Bool.not_eq_true', decide_eq_false_iff_not] at h1 h2
  refine ⟨h1, h2, ?_, ?_⟩
  · rintro rfl
    simpa only [List.all_eq_true, List.mem_map, List.mem_filter, decide_eq_true_eq, forall_exists_index, and_imp,
      forall_apply_eq_imp_iff₂, List.contains_eq_mem] using h3
  · rintro k rfl
    simp only [Bool.and_eq_true, List.all_eq_true, List.mem_map, List.mem_filter, Bool.or_eq_true, decide_eq_true_eq,
      forall_exists_index, and_imp, forall_apply_eq_imp_iff₂, List.contains_eq_mem] at h3
    exact h3.2

/-! ### 7. `exact=True`: the in-range test as written (no mask), and masks -/

/-- **Refinement of the as-written in-range test**: `_prune_twigs_precise` puts a node "in range" when *every leaf
distal to it* is within `size` of cable (`distal_to` + Dijkstra with `cutoff=size` on the reversed graph,
`not_in_length` empty); in a well-formed forest that is exactly the height test of `exactPrune` — the farthest
distal tip is within `size`. -/
theorem exact_in_range_as_written (t : Table) (hw : WF t) (len : Int → Int → Nat) (size : Rat) (k : Int) (hk : k ∈ ids t) :
    inRangeAW t len size k = decide (((heightOf t len (t.length + 1) k : Nat) : Rat) ≤ size) := by
  obtain ⟨hall, l0, hl0, hd0⟩ := height_is_max_leaf_dist hw len k hk
  unfold inRangeAW
  rw [Bool.eq_iff_iff, List.all_eq_true, decide_eq_true_eq]
  constructor
  · intro h
    have := h l0 hl0
    rw [hd0] at this
    exact of_decide_eq_true this
  · intro h l hl
    obtain ⟨d, hd, hle⟩ := hall l hl
    rw [hd]
    exact decide_eq_true (Rat.le_trans (Rat.natCast_le_natCast.mpr hle) h)

/-- Without a mask it is `exactPrune` (all `exact_*` theorems apply). -/
theorem exactM_none (t : Table) (len : Int → Int → Nat) (size : Rat) :
    exactPruneM t len size none = exactPrune t len size := by
  show exactPruneG t len size (fun _ => true) = _
  unfold exactPruneG exactPrune
  simp only [Bool.true_and]

/-- **Only masked cable is touched**: a node with an unmasked node distal to it (or unmasked itself) keeps its row,
unmoved. -/
theorem exactM_unmasked_untouched (t : Table) (len : Int → Int → Nat) (size : Rat) (m : List Int) (n : Node) (hn : n ∈ t)
    (h : allBelowMasked t (some m) n.id = false) : (n.id, n.parent, (0 : Rat)) ∈ exactPruneM t len size (some m) :=
  Navis.ExactPrune.mem_exactPruneG.mpr
    ⟨n, hn, Navis.ExactPrune.exactRow_of_not_inRange fun hr => Bool.false_ne_true (h.symm.trans hr.1)⟩

/-- **What every output row is** (with a mask): a row of the table; untouched (`τ = 0`) unless everything distal
to it is masked and it is within `size` of its farthest tip — then it is a root (unmoved) or the new tip of the
edge to a parent that is *not* such a node, moved so that (for a positive edge) exactly `size` of cable lies
between it and its farthest original tip. -/
theorem exactM_spec (t : Table) (len : Int → Int → Nat) (size : Rat) (mask : Option (List Int)) (i p : Int) (τ : Rat)
    (hr : (i, p, τ) ∈ exactPruneM t len size mask) :
    ∃ n ∈ t, n.id = i ∧ n.parent = p ∧
      ((¬ (allBelowMasked t mask i = true ∧ ((heightOf t len (t.length + 1) i : Nat) : Rat) ≤ size) ∧ τ = 0) ∨
       (p < 0 ∧ τ = 0) ∨
       (allBelowMasked t mask i = true ∧ ((heightOf t len (t.length + 1) i : Nat) : Rat) ≤ size ∧ ¬ p < 0 ∧
        ¬ (allBelowMasked t mask p = true ∧ ((heightOf t len (t.length + 1) p : Nat) : Rat) ≤ size) ∧
        0 ≤ τ ∧ τ ≤ 1 ∧
        (len i p ≠ 0 → ((heightOf t len (t.length + 1) i : Nat) : Rat) + τ * (len i p : Nat) = size))) :=
  Navis.ExactPrune.exactPruneG_row_spec hr

/-! ### Non-vacuity of the second part -/
example : genTwigRule = some twigRule0 ∧ genSIRule = some siRule0 := ⟨rfl, rfl⟩
example : pruneTwigsRec ex2 len2 1 none (.bool true) = pruneTwigs ex2 len2 1 none 5 ∧
    ids (pruneTwigsRec ex2 len2 1 none (.int 1)) = [1, 5] ∧ ids (pruneTwigsRec ex2 len2 1 none (.int 0)) = [1, 2, 5] ∧
    ids (pruneTwigsRec ex2 len2 1 none (.int (-3))) = [1, 5] := by decide +kernel
example : maskIds ex (.bools [true, false, true, false]) = some (some [1, 3]) ∧ maskIds ex (.bools [true]) = none := by decide +kernel
example : pyRange 1 6 2 = [1, 3, 5] ∧ pyRange 5 0 (-2) = [5, 3, 1] ∧ pyRange 3 3 1 = [] := by decide +kernel
example : siListX 5 (.slice none none (-1)) = some [5, 4, 3, 2, 1] ∧ siListX 5 (.slice none none 2) = some [1, 3, 5] ∧
    siListX 5 (.slice (some (-2)) none 1) = some [4, 5] ∧ siListX 5 (.slice (some 3) (some 0) (-2)) = some [4, 2] ∧
    siListX 5 (.int (-2)) = some [1, 2, 3] ∧ siListX 5 (.int 0) = none := by decide +kernel
/-- relocation on `ex` (1 ← 2 ← {3, 4}): pruning Strahler index 1 keeps `[1, 2]`; the connectors of `3` and `4` move to `2`. -/
example : (pruneByStrahlerX ex { relocate := true } (.int 1) [(100, 3), (101, 1), (102, 4)]).map (fun r => (ids r.1, r.2)) =
    some ([1, 2], [(100, 2), (101, 1), (102, 2)]) ∧
    (pruneByStrahlerX ex {} (.int 1) [(100, 3), (101, 1), (102, 4)]).map (·.2) = some [(101, 1)] := by decide +kernel
/-- a stale cached column is used unless an update is forced -/
example : (pruneByStrahlerX ex { col := some [(1, 1), (2, 2), (3, 2), (4, 2)] } (.int 1) []).map (fun r => ids r.1) = some [2, 3, 4] ∧
    (pruneByStrahlerX ex { col := some [(1, 1), (2, 2), (3, 2), (4, 2)], force := true } (.int 1) []).map (fun r => ids r.1) = some [1, 2] := by
  decide +kernel
/-- rerooting to the soma first changes the Strahler indices (soma `3`: the leaf branch is then `4` and `1`) -/
example : (pruneByStrahlerX ex { soma := some 3 } (.int 1) []).map (fun r => ids r.1) = some [2, 3] := by decide +kernel
example : (pruneAtDepthX .lt ex (coordLen ex) none (7/2)).map ids = some [1, 2] ∧
    pruneAtDepthX .lt ex (coordLen ex) (some 9) 3 = none ∧ pruneAtDepthX .lt ex (coordLen ex) (some 1) (-1) = none := by decide +kernel
example : greedyOKB ex (coordLen ex) (segments ex (coordLen ex)) = true ∧
    greedyOKB ex (coordLen ex) [[3, 2], [4, 2, 1]] = false ∧ greedyOKB ex (coordLen ex) [[3, 2, 1], [4, 2]] = false := by decide +kernel
/-- masks with `exact=True`: only the masked twig `3` is cut; with a larger `size` it goes entirely, but the fork `2`,
though masked, stays: `4` below it is not -/
example : exactPruneM ex (coordLen ex) 2 (some [3]) = [(1, -1, 0), (2, 1, 0), (3, 2, 2/3), (4, 2, 0)] ∧
    exactPruneM ex (coordLen ex) 5 (some [2, 3]) = [(1, -1, 0), (2, 1, 0), (4, 2, 0)] := by decide +kernel

end Navis.Props.C12

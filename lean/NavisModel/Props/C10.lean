import NavisModel.Proofs.RerootLemmas
import NavisModel.Proofs.RerootEdgesLemmas
import NavisModel.Proofs.ConnSubLemmas
import NavisModel.Proofs.TreeEditLemmas
import NavisModel.Proofs.CutFrontEndLemmas
import NavisModel.Proofs.CutFragmentsLemmas
import NavisModel.Gen.TreeEdit
import NavisModel.Proofs.RerootGraphLemmas
import NavisModel.Proofs.RerootNxLemmas
import NavisModel.Proofs.TreeCheckLemmas
/-!
# C10 — reroot, cut and subset change the tree exactly as specified

The statements are for every table `t` (any size, any id labelling, any row order) that is a well-formed forest
`WF t`, every target node, every keep-predicate.  Further hypotheses, by group: the label theorems (`reroot_labels`,
`rerootMany_labels`, `cuts_edges_partition`, `reroot_checker_complete`) start from correct labels `labelsOKB t`;
`reroot_graph_in_place` and `reroot_tree_membership` take a present non-root target; the fragment theorems (`cuts_fragments`,
`cuts_commute`, `cuts_checker_iff`) are for a single tree `roots t = [ρ]` cut at distinct present non-root nodes (at least
one for the first and the last); the prune methods as written (`prune_*_to_as_written`) are for a neuron with one root.
Predicates of the statements that are defined in `Proofs/`: `IsTopOf`, `TreeConnected`
(`ConnSubLemmas`), `okNodes` (`CutFrontEndLemmas`).
-/
namespace Navis.Props.C10
open Navis.Forest Navis.TreeEdit

/-- Subsetting returns precisely the requested nodes that are present (ids, in table order). -/
theorem subset_exact_ids (t : Table) (keep : Int → Bool) : ids (subset t keep) = (ids t).filter keep :=
  ids_subset t keep

/-- … with the original parent link wherever both ends survive and a new root otherwise, and with
unchanged coordinates. -/
theorem subset_exact_links (t : Table) (hw : WF t) (keep : Int → Bool) (m : Node) (hm : m ∈ subset t keep) :
    ∃ n ∈ t, n.id = m.id ∧ keep n.id = true ∧ m.x = n.x ∧ m.y = n.y ∧ m.z = n.z ∧
      m.parent = (if n.parent ∈ (ids t).filter keep then n.parent else -1) :=
  subset_parent keep hm

/-- The result of subsetting is again a well-formed forest with correct labels. -/
theorem subset_wf (t : Table) (hw : WF t) (keep : Int → Bool) :
    WF (subset t keep) ∧ labelsOKB (subset t keep) = true :=
  ⟨WF_subset hw keep, labelsOKB_subset t keep⟩

/-- Rerooting keeps the node set (ids, in table order). -/
theorem reroot_nodes (t : Table) (r : Int) : ids (reroot t r) = ids t := ids_reroot t r

/-- Rerooting (to one target or a sequence of targets) yields a well-formed forest: no cycle is
created by the path reversal, for any forest and any target. -/
theorem reroot_wf (t : Table) (hw : WF t) (rs : List Int) : WF (rerootMany t rs) := WF_rerootMany hw rs

/-- Both pieces of a cut are well-formed, correctly labelled forests. -/
theorem cut_wf (t : Table) (hw : WF t) (c : Int) (d p : Table) (h : cut t c = some (d, p)) :
    WF d ∧ WF p ∧ labelsOKB d = true ∧ labelsOKB p = true := by
  obtain ⟨⟨h1, h2⟩, h3, h4⟩ := WF_cut hw h
  exact ⟨h1, h3, h2, h4⟩

/-- The two pieces of a cut share exactly the cut node and together contain every node. -/
theorem cut_share_only_cutnode (t : Table) (c : Int) (d p : Table) (h : cut t c = some (d, p)) (i : Int) :
    (i ∈ ids d ∧ i ∈ ids p ↔ i ∈ ids t ∧ i = c ∧ c ∈ distalSet t c) ∧ (i ∈ ids t → i ∈ ids d ∨ i ∈ ids p) := by
  refine ⟨?_, (mem_ids_cut_cover h i).mp⟩
  rw [mem_ids_cut_distal h, mem_ids_cut_proximal h, mem_distalSet]
  constructor
  · rintro ⟨⟨h1, h2⟩, _, h3 | h3⟩
    · exact absurd h2 h3
    · exact ⟨h1, h3, h3 ▸ h1, h3 ▸ h2⟩
  · rintro ⟨h1, rfl, _, h3⟩
    exact ⟨⟨h1, h3⟩, h1, Or.inr rfl⟩

/-! ### reroot: what exactly changes -/

/-- The requested node becomes a root (it has no parent afterwards). -/
theorem reroot_new_root (t : Table) (r : Int) (hr : r ∈ ids t) : ∃ n ∈ reroot t r, n.id = r ∧ n.parent < 0 :=
  Forest.reroot_new_root t r hr

/-- Ids and coordinates stay where they are, row by row. -/
theorem reroot_coords_unchanged (t : Table) (r : Int) :
    (reroot t r).map (fun n => (n.id, n.x, n.y, n.z)) = t.map (fun n => (n.id, n.x, n.y, n.z)) :=
  reroot_coords t r

/-- A row whose node is not on the path `r → old root` is left completely alone: the very same row
(same parent, coordinates and label) is in the result. -/
theorem reroot_off_path_untouched (t : Table) (r : Int) (n : Node) (hn : n ∈ t) (hoff : n.id ∉ rootPath t r) :
    n ∈ reroot t r ∧ ∃ m ∈ reroot t r, m.id = n.id ∧ m.parent = n.parent :=
  ⟨reroot_off_path t r n hn hoff, n, reroot_off_path t r n hn hoff, rfl, rfl⟩

/-- Every node on `r`'s root path is in `r`'s tree, so … -/
theorem rootPath_same_tree (t : Table) (hw : WF t) (r a : Int) (ha : a ∈ rootPath t r) : rootOf t a = rootOf t r :=
  rootOf_of_mem_rootPath hw ha

/-- … all other trees of the forest are untouched by a reroot. -/
theorem reroot_other_trees_untouched (t : Table) (hw : WF t) (r : Int) (n : Node) (hn : n ∈ t)
    (hother : rootOf t n.id ≠ rootOf t r) : n ∈ reroot t r :=
  reroot_off_path t r n hn (not_mem_rootPath_of_rootOf_ne hw hother)

/-- Rerooting permutes the undirected edges: the edge *set* is the same and so is the number of
edges (no edge is lost, duplicated or invented by the path reversal). -/
theorem reroot_uedges (t : Table) (hw : WF t) (r : Int) :
    (uedges (reroot t r)).Perm (uedges t) ∧ (∀ e, e ∈ uedges (reroot t r) ↔ e ∈ uedges t) ∧
      (uedges (reroot t r)).length = (uedges t).length :=
  ⟨uedges_reroot_perm hw r, fun _ => (uedges_reroot_perm hw r).mem_iff, (uedges_reroot_perm hw r).length_eq⟩

/-- The *incremental* relabel navis performs (only the old and the new root are relabelled) gives
the labels a fresh classification would give. -/
theorem reroot_labels (t : Table) (hw : WF t) (hl : labelsOKB t = true) (r : Int) : labelsOKB (reroot t r) = true :=
  labelsOKB_reroot hw hl r

/-- … for a sequence of targets as well. -/
theorem rerootMany_labels (t : Table) (hw : WF t) (hl : labelsOKB t = true) (rs : List Int) :
    labelsOKB (rerootMany t rs) = true :=
  (rerootMany_induct (fun u => WF u ∧ labelsOKB u = true)
    (fun _ r h => ⟨WF_reroot h.1 r, labelsOKB_reroot h.1 h.2 r⟩) ⟨hw, hl⟩ rs).2

/-! ### cut: which nodes and which edges go where -/

/-- The distal piece is the subtree of the cut node (descendants-or-self); the proximal piece is the
rest plus the cut node. -/
theorem cut_distal_is_subtree (t : Table) (c : Int) (d p : Table) (h : cut t c = some (d, p)) (i : Int) :
    (i ∈ ids d ↔ i ∈ ids t ∧ c ∈ rootPath t i) ∧ (i ∈ ids p ↔ i ∈ ids t ∧ (c ∉ rootPath t i ∨ i = c)) :=
  ⟨mem_ids_cut_distal h i, mem_ids_cut_proximal h i⟩

/-- Every original edge lies in exactly one of the two pieces, and the pieces contain no other edge. -/
theorem cut_edges_partition (t : Table) (hw : WF t) (c : Int) (d p : Table) (h : cut t c = some (d, p)) :
    (edges d ++ edges p).Perm (edges t) :=
  edges_cut_perm hw h

/-- In particular the edge count adds up. -/
theorem cut_edges_count (t : Table) (hw : WF t) (c : Int) (d p : Table) (h : cut t c = some (d, p)) :
    (edges d).length + (edges p).length = (edges t).length := by
  rw [← List.length_append]; exact (edges_cut_perm hw h).length_eq


/-! ### `subset_neuron(prevent_fragments=True)`: the connected subgraph -/

/-- Every requested node that exists is included in the connected subgraph. -/
theorem prevent_fragments_contains_request (t : Table) (hw : WF t) (ss : List Int) (s : Int) (hs : s ∈ ss)
    (hi : s ∈ ids t) : s ∈ (connectedSubgraph t ss).1 := by
  obtain ⟨ap, h1, _, h3⟩ := connSub_spec hw ss
  obtain ⟨r, hr, hrm, _⟩ := rootOf_spec hw hi
  obtain ⟨l, hl, hsl, _⟩ := exists_ssLeaf_below hw ss s hi hs
  have hlt : l ∈ treeLeafs t ss r := mem_treeLeafs.mpr ⟨hl, by rw [← rootOf_of_mem_rootPath hw hsl]; exact hr⟩
  have hspec := h1 r hrm (List.ne_nil_of_mem hlt)
  obtain ⟨l', hl', hsl', hap⟩ := hspec.covers s hs hi (inTree_iff.mpr hr)
  exact (h3 s).mpr ⟨r, hrm, l', hl', hsl', hap⟩

/-- Only existing nodes are included. -/
theorem prevent_fragments_sub_ids (t : Table) (hw : WF t) (ss : List Int) :
    ∀ x ∈ (connectedSubgraph t ss).1, x ∈ ids t := connSub_sub_ids hw ss

/-- The included set is connected within every tree of the forest (at most one kept top per tree), so
subsetting to it creates no additional fragments. -/
theorem prevent_fragments_connected (t : Table) (hw : WF t) (ss : List Int) :
    TreeConnected t (connectedSubgraph t ss).1 := by
  obtain ⟨ap, _, _, h3⟩ := connSub_spec hw ss
  have key : ∀ x, IsTopOf t (connectedSubgraph t ss).1 x → ∀ r ∈ roots t, ∀ l ∈ treeLeafs t ss r,
      x ∈ rootPath t l → ap r ∈ rootPath t x → x = ap r := by
    intro x hx r hr l hl hxl hax
    apply Classical.byContradiction
    intro hne
    obtain ⟨n, hf, hp, hap, hpx⟩ := anc_parent hw hax hne
    have hin : n.parent ∈ (connectedSubgraph t ss).1 :=
      (h3 n.parent).mpr ⟨r, hr, l, hl, anc_trans hw hpx hxl, hap⟩
    rcases hx.2 n hf with h | h
    · exact hp h
    · exact h hin
  intro x y hx hy hxy
  obtain ⟨r, hr, l, hl, hxl, hax⟩ := (h3 x).mp hx.1
  obtain ⟨r', hr', l', hl', hyl, hay⟩ := (h3 y).mp hy.1
  have e : r = r' := by
    have h1 := rootOf_treeLeaf hw hl hxl
    have h2 := rootOf_treeLeaf hw hl' hyl
    rw [h1, h2] at hxy
    exact Option.some.inj hxy
  subst e
  rw [key x hx r hr l hl hxl hax, key y hy r hr l' hl' hyl hay]

/-- **Minimality**: every superset of the request that is connected within each tree contains the
included set — `connected_subgraph` adds exactly the nodes needed to bridge the request, for every forest,
every labelling and every request. -/
theorem prevent_fragments_minimal (t : Table) (hw : WF t) (ss K : List Int) (hsup : ∀ s ∈ ss, s ∈ K)
    (hconn : TreeConnected t K) : ∀ x ∈ (connectedSubgraph t ss).1, x ∈ K := by
  obtain ⟨ap, h1, _, h3⟩ := connSub_spec hw ss
  intro x hx
  obtain ⟨r, hr, l, hl, hxl, hax⟩ := (h3 x).mp hx
  have hspec := h1 r hr (List.ne_nil_of_mem hl)
  have hleafK : ∀ l' ∈ treeLeafs t ss r, l' ∈ ids t ∧ l' ∈ K := by
    intro l' hl'
    have := mem_ssLeafs.mp (mem_treeLeafs.mp hl').1
    exact ⟨this.1, hsup l' this.2.1⟩
  rcases hspec.minimal x ⟨l, hl, hxl, hax⟩ with h | h
  · exact hsup x h
  · apply Classical.byContradiction
    intro hxK
    obtain ⟨top1, ht1, ht1l, hall1⟩ := exists_top_above hw K l (hleafK l hl).1 (hleafK l hl).2
    rcases anc_comparable hw hxl ht1l with hc | hc
    · -- x is above the top reached from l
      have hne : top1 ≠ x := fun he => hxK (he ▸ ht1.1)
      obtain ⟨l', hl', hnot⟩ := h top1 hc hne
      obtain ⟨top2, ht2, ht2l, _⟩ := exists_top_above hw K l' (hleafK l' hl').1 (hleafK l' hl').2
      have e : top1 = top2 := by
        apply hconn top1 top2 ht1 ht2
        rw [rootOf_treeLeaf hw hl ht1l, rootOf_treeLeaf hw hl' ht2l]
      exact hnot (e ▸ ht2l)
    · exact hxK (hall1 x hxl hc)

/-- The reroot navis performs after subsetting changes nothing: the new roots are already the tops of
the included set, so `subset_neuron(prevent_fragments=True)` *is* `subset` on the connected subgraph
(and therefore inherits `subset_exact_ids`, `subset_exact_links`, `subset_wf`). -/
theorem prevent_fragments_is_subset (t : Table) (hw : WF t) (ss : List Int) :
    subsetPF t ss = subset t fun i => (connectedSubgraph t ss).1.contains i := by
  unfold subsetPF
  apply rerootMany_of_roots
  intro a ha
  have htop := connSub_newRoots hw ss a ha
  exact subset_top_root hw _ (connSub_sub_ids hw ss a htop.1) htop


/-! ### reroot: cable length, weights, sequences of targets, the loop as the source spells it -/

/-- Rerooting (one target or a sequence) does not change the cable length, for every symmetric edge length
(in particular the Euclidean one navis uses). -/
theorem reroot_cable (t : Table) (hw : WF t) (len : Int → Int → Nat) (hsym : ∀ a b, len a b = len b a) (rs : List Int) :
    cable (rerootMany t rs) len = cable t len := cable_rerootMany hw len hsym rs

/-- Rerooting keeps the undirected edges *with their weights*: the weighted undirected edge list of the graph of
the rerooted table is a permutation of the original one. -/
theorem reroot_weighted_uedges (t : Table) (hw : WF t) (len : Int → Int → Nat) (hsym : ∀ a b, len a b = len b a)
    (rs : List Int) : (wuedges (graphOf (rerootMany t rs) len)).Perm (wuedges (graphOf t len)) := by
  rw [wuedges_graphOf _ len hsym, wuedges_graphOf _ len hsym]
  exact (uedges_rerootMany_perm hw rs).map _

/-- A sequence of targets: node set and coordinates stay row by row, and the undirected edges are permuted. -/
theorem reroot_sequence (t : Table) (hw : WF t) (rs : List Int) :
    ids (rerootMany t rs) = ids t ∧
    (rerootMany t rs).map (fun n => (n.id, n.x, n.y, n.z)) = t.map (fun n => (n.id, n.x, n.y, n.z)) ∧
    (uedges (rerootMany t rs)).Perm (uedges t) :=
  ⟨ids_rerootMany t rs, coords_rerootMany t rs, uedges_rerootMany_perm hw rs⟩

/-- A target that is already a root leaves the table exactly as it is. -/
theorem reroot_current_root_noop (t : Table) (hw : WF t) (n : Node) (hn : n ∈ t) (hp : n.parent < 0) : reroot t n.id = t :=
  reroot_of_root (find?_of_mem hw.1 hn) hp

/-- The LAST target of a sequence ends up as a root. -/
theorem reroot_sequence_last_is_root (t : Table) (rs : List Int) (r : Int) (hr : r ∈ ids t) :
    ∃ n ∈ rerootMany t (rs ++ [r]), n.id = r ∧ n.parent < 0 := by
  rw [rerootMany_snoc]
  exact Forest.reroot_new_root _ r (by rw [ids_rerootMany]; exact hr)

/-- **The loop of `reroot_skeleton` as the source spells it** — `x.nodes.loc[path[a:b], 'parent_id'] = path[c:d]`,
`x.nodes.loc[new_root, 'parent_id'] = p`, the skip test — with the slices, the value and the kind of skip test
*read from the current source* (`Gen.TreeEdit.rerootSpec`) is the model's `rerootMany`, whatever snapshot of the
roots a stale skip test would have used. -/
theorem reroot_loop_as_written (t : Table) (hw : WF t) (snapshot rs : List Int) :
    rerootLoopAW Gen.TreeEdit.rerootSpec snapshot t rs = rerootMany t rs :=
  rerootLoopAW_eq rfl rfl rfl rfl snapshot hw

/-- `TreeNeuron.reroot` and the `root` setter hand their working copy / `self` to that loop with `inplace=True`. -/
theorem reroot_entry_points : Gen.TreeEdit.rerootMethodForwards = true ∧ Gen.TreeEdit.rootSetterReroots = true := by decide

/-- Targets given as tags: the parse loop keeps the targets as objects (`force_type=object`), so a tag is replaced by the
node id it names — the id, not a string image of it — and ids listed next to tags stay ids (read from the current
source; before the repair a tag turned the whole list into a string array and rerooting by tag always raised). -/
theorem reroot_targets_keep_their_type : Gen.TreeEdit.rerootTargetsKeptAsObjects = true := by decide

/-- … and in the model a tag that names exactly one node resolves to that node: rerooting to it makes it a root. -/
theorem reroot_by_tag (x y : Neuron) (tg : Tags) (s : String) (i : Int) (htg : x.tags = some tg) (hs : lookupTag tg s = some [i])
    (h : rerootNeuron x [Where.tag s] = .ok y) : y.nodes = reroot x.nodes i ∧ i ∈ ids x.nodes := by
  unfold rerootNeuron at h
  simp only [resolveRoots, htg, hs] at h
  split at h
  · rename_i hall
    obtain rfl := Except.ok.inj h
    simp only [List.all_cons, List.all_nil, Bool.and_true, List.contains_eq_mem, decide_eq_true_eq] at hall
    exact ⟨rfl, hall⟩
  · cases h

/-- Rerooting a neuron (ids or tags as targets) touches nothing but the node table. -/
theorem reroot_keeps_attachments (x y : Neuron) (targets : List Where) (h : rerootNeuron x targets = .ok y) :
    y.conns = x.conns ∧ y.tags = x.tags ∧ y.soma = x.soma := by
  unfold rerootNeuron at h
  split at h
  · cases h
  · split at h
    · obtain rfl := Except.ok.inj h
      exact ⟨rfl, rfl, rfl⟩
    · cases h


/-- **The graph navis edits in place is the graph of the new table.**  The igraph branch of `reroot_skeleton` reads
the weights along the path, appends the inverted edges with those weights and deletes the path edges; navis keeps
that graph instead of recomputing it.  Up to the order of the edge list it *is* the weighted graph of the rerooted
node table — for every forest, every non-root target, every symmetric edge length. -/
theorem reroot_graph_in_place (t : Table) (hw : WF t) (len : Int → Int → Nat) (hsym : ∀ a b, len a b = len b a)
    (r : Int) (nr : Node) (hf : find? t r = some nr) (hp : ¬ nr.parent < 0) :
    (rerootGraphIg (graphOf t len) (rootPath t r)).Perm (graphOf (reroot t r) len) :=
  rerootGraphIg_perm hw len hsym hf hp

/-- **The networkx branch as the source spells it.**  Follow `successors` from the new root, remove each edge and
record its weight, stop when there is no successor, add the inverted edges — with the skip test and the loop test
*read from the current source* (`Gen.TreeEdit.nxWalkSpec`: identity tests against `None`, not truthiness, so the node
id 0 does not end the walk) the edited graph is the graph of the rerooted node table: every forest, every target
(in the model a current root or an absent id leaves the graph as it is; navis raises for an absent id before it gets
here), every symmetric edge length, node id 0 anywhere on the path. -/
theorem reroot_graph_in_place_networkx (t : Table) (hw : WF t) (len : Int → Int → Nat) (hsym : ∀ a b, len a b = len b a) (r : Int) :
    (rerootGraphNxAW Gen.TreeEdit.nxWalkSpec (graphOf t len) r).Perm (graphOf (reroot t r) len) :=
  rerootGraphNxAW_perm rfl rfl hw len hsym r

/-- … and the two back-ends edit the graph to literally the same edge list. -/
theorem reroot_graph_backends_agree (t : Table) (hw : WF t) (len : Int → Int → Nat) (r : Int) (hr : r ∈ ids t) :
    rerootGraphNx (graphOf t len) r = rerootGraphIg (graphOf t len) (rootPath t r) := rerootGraphNx_eq_ig hw len hr

/-- The other facts of the networkx branch the model hard-wires: `next(g.successors(.), None)` and
`(path[i + 1], path[i], {'weight': weights[i]}) for i in range(len(path) - 1)`. -/
theorem reroot_networkx_source_facts :
    Gen.TreeEdit.nxSuccessorDefaultsToNone = true ∧ Gen.TreeEdit.nxInvertedEdgesKeepTheirWeights = true := by decide

/-- **Other fragments are untouched by a whole sequence of reroots**: a row whose tree contains none of the targets
is in the result, unchanged. -/
theorem reroot_sequence_other_trees_untouched (t : Table) (hw : WF t) (rs : List Int) (n : Node) (hn : n ∈ t)
    (hother : ∀ r ∈ rs, rootOf t n.id ≠ rootOf t r) : n ∈ rerootMany t rs := by
  induction rs generalizing t with
  | nil => exact hn
  | cons r rs ih =>
    have hne := hother r List.mem_cons_self
    have hnid := mem_ids_of_mem hn
    refine ih (reroot t r) (WF_reroot hw r) (reroot_off_path t r n hn (not_mem_rootPath_of_rootOf_ne hw hne)) fun r' hr' => ?_
    have hne' := hother r' (List.mem_cons_of_mem _ hr')
    by_cases hr'in : r' ∈ ids t
    · exact fun h => hne' ((rootOf_reroot_eq_iff hw r hnid hr'in).mp h)
    · -- an absent target has no root, `n` has one
      have : rootOf (reroot t r) r' = none := by
        unfold rootOf; rw [rootPath_of_not_mem (by rw [ids_reroot]; exact hr'in)]; rfl
      obtain ⟨ρ, hρ, _, _⟩ := rootOf_spec (WF_reroot hw r) (by rw [ids_reroot]; exact hnid)
      rw [this, hρ]; simp

/-- After rerooting to a non-root node `r`, every node of `r`'s tree has root `r`, and the trees are the same sets of
nodes as before. -/
theorem reroot_tree_membership (t : Table) (hw : WF t) (r : Int) (nr : Node) (hf : find? t r = some nr) (hp : ¬ nr.parent < 0)
    (i : Int) (hi : i ∈ ids t) :
    (rootOf t i = rootOf t r → rootOf (reroot t r) i = some r) ∧
    (rootOf t i ≠ rootOf t r → rootOf (reroot t r) i = rootOf t i) :=
  ⟨fun h => rootOf_reroot_same hw (mem_ids_of_find? hf) hi h, fun h => rootOf_reroot_other hw r hi h⟩

/-! ### checkers evaluated by the driver on navis' own output -/

/-- `rerootOKB` is sound (acceptance gives every clause: ids and coordinates row by row, a well-formed correctly
labelled forest, the same undirected edges, the target is a root, rows off the path untouched) … -/
theorem reroot_checker_sound (t t' : Table) (r : Int) (h : rerootOKB t t' r = true) :
    ids t' = ids t ∧ coordRows t' = coordRows t ∧ WF t' ∧ labelsOKB t' = true ∧ (uedges t').Perm (uedges t) ∧
    (∃ n ∈ t', n.id = r ∧ n.parent < 0) ∧ (∀ n ∈ t, n.id ∉ rootPath t r → n ∈ t') := by
  obtain ⟨h1, h2, h3, h4, h5, h6⟩ := rerootOKB_clauses.mp h
  refine ⟨?_, h1, wfB_sound h2, h3, h4, mem_roots.mp h5, h6⟩
  have := congrArg (List.map fun e : Int × Int × Int × Int => e.1) h1
  unfold coordRows at this
  simp only [List.map_map] at this
  exact this

/-- … and complete (the model's output is accepted, so a correct implementation is never rejected). -/
theorem reroot_checker_complete (t : Table) (hw : WF t) (hl : labelsOKB t = true) (r : Int) (hr : r ∈ ids t) :
    rerootOKB t (reroot t r) r = true :=
  rerootOKB_clauses.mpr ⟨reroot_coords t r, wfB_complete (WF_reroot hw r), labelsOKB_reroot hw hl r,
    uedges_reroot_perm hw r, mem_roots.mpr (Forest.reroot_new_root t r hr), reroot_off_path t r⟩

/-- `fragsOKB` accepts exactly the permutations of the fragments of `cutMany`. -/
theorem cuts_checker_iff (t : Table) (hw : WF t) (ρ : Int) (hroot : roots t = [ρ]) (cs : List Int) (hne : cs ≠ [])
    (hnd : cs.Nodup) (hcs : ∀ c ∈ cs, c ∈ ids t ∧ c ≠ ρ) (frags : List Table) :
    fragsOKB t ρ cs frags = true ↔ frags.Perm (cutMany t cs) := by
  unfold fragsOKB specFragments
  rw [List.isPerm_iff]
  have h := cutMany_fragments_partial hw hroot cs hnd hcs (Or.inl hne)
  exact ⟨fun hp => hp.trans h.symm, fun hp => hp.trans h⟩

theorem subset_checker_sound (t t' : Table) (keep : Int → Bool) (h : subsetOKB t t' keep = true) :
    ids t' = (ids t).filter keep ∧ labelsOKB t' = true ∧
    ∀ m ∈ t', ∃ n, find? t m.id = some n ∧ m.x = n.x ∧ m.y = n.y ∧ m.z = n.z ∧
      m.parent = (if n.parent ∈ (ids t).filter keep then n.parent else -1) := subsetOKB_clauses.mp h

theorem subset_checker_complete (t : Table) (hw : WF t) (keep : Int → Bool) : subsetOKB t (subset t keep) keep = true :=
  subsetOKB_complete hw keep

/-- **Exactness**: on a well-formed input the subset checker accepts the model's output and nothing else — so the
clauses it tests (requested ids in table order, coordinates, parent kept iff it survives, labels) pin the result down
completely. -/
theorem subset_checker_exact (t : Table) (hw : WF t) (keep : Int → Bool) (t' : Table) :
    subsetOKB t t' keep = true ↔ t' = subset t keep := by
  refine ⟨fun h => ?_, fun h => h ▸ subsetOKB_complete hw keep⟩
  have hs := subsetOKB_complete hw keep
  exact eq_of_eraseLabel ((eraseLabel_of_subsetOKB h).trans (eraseLabel_of_subsetOKB hs).symm) (subsetOKB_clauses.mp h).2.1
    (subsetOKB_clauses.mp hs).2.1

/-! ### several cuts -/

/-- **The fragments of several cuts**: cutting a single tree with root `ρ` at the distinct non-root nodes `cs`
(at least one) yields one fragment per top `τ ∈ ρ :: cs`: the nodes below-or-at `τ` for which every cut node met on
the way up to `τ` is `τ` itself or the starting node (a cut node roots its own fragment and is a leaf of the one
above).  For `cs = []` the statement would be false only because `cutMany t [] = [t]` is not put through `subset`
(labels re-classified, the root's parent rewritten to `-1`). -/
theorem cuts_fragments (t : Table) (hw : WF t) (ρ : Int) (hroot : roots t = [ρ]) (cs : List Int) (hne : cs ≠ [])
    (hnd : cs.Nodup) (hcs : ∀ c ∈ cs, c ∈ ids t ∧ c ≠ ρ) :
    (cutMany t cs).Perm ((ρ :: cs).map fun τ => subset t (fragKeep t cs τ)) :=
  cutMany_fragments_partial hw hroot cs hnd hcs (Or.inl hne)

/-- **Several cuts give the same fragments in whatever order they are made** (in particular: cutting at `a` and
then, in the piece that contains it, at `b` gives the fragments of cutting at `b` first). -/
theorem cuts_commute (t : Table) (hw : WF t) (ρ : Int) (hroot : roots t = [ρ]) (cs cs' : List Int)
    (hnd : cs.Nodup) (hcs : ∀ c ∈ cs, c ∈ ids t ∧ c ≠ ρ) (hp : cs'.Perm cs) :
    (cutMany t cs').Perm (cutMany t cs) := by
  by_cases hnil : cs = []
  · subst hnil
    rw [List.perm_nil.mp hp]
  · have hnil' : cs' ≠ [] := by
      intro e
      rw [e] at hp
      exact hnil (List.nil_perm.mp hp)
    have h1 := cutMany_fragments_partial hw hroot cs hnd hcs (Or.inl hnil)
    have h2 := cutMany_fragments_partial hw hroot cs' (hp.nodup_iff.mpr hnd)
      (fun c hc => hcs c (hp.mem_iff.mp hc)) (Or.inl hnil')
    have hfun : (fun τ => subset t (fragKeep t cs' τ)) = fun τ => subset t (fragKeep t cs τ) := by
      funext τ
      congr 1
      funext i
      exact fragKeep_congr (fun x => hp.mem_iff) τ i
    rw [hfun] at h2
    exact (h2.trans ((hp.cons ρ).map _)).trans h1.symm

/-- Several cuts are *by definition of the loop* successive single cuts, each made in the fragment that contains
the node: the fragment list after `cs ++ [c]` is one more `cutStep`. -/
theorem cuts_are_successive_single_cuts (t : Table) (cs : List Int) (c : Int) :
    cutMany t (cs ++ [c]) = cutStep (cutMany t cs) c := by
  rw [cutMany_eq_foldl, cutMany_eq_foldl, List.foldl_append]
  rfl

/-- For every list of cut nodes (any forest, duplicates and uncuttable nodes included): every fragment is a
well-formed, correctly labelled forest; the fragments together contain every original edge exactly once; and
every node is in some fragment. -/
theorem cuts_edges_partition (t : Table) (hw : WF t) (hl : labelsOKB t = true) (cs : List Int) :
    (∀ f ∈ cutMany t cs, WF f ∧ labelsOKB f = true) ∧
    ((cutMany t cs).flatMap edges).Perm (edges t) ∧
    (∀ i, i ∈ ids t ↔ ∃ f ∈ cutMany t cs, i ∈ ids f) := by
  have h : FragsOK t (cutMany t cs) :=
    List.foldlRecOn cs cutStep (motive := FragsOK t)
      ⟨fun f hf => by rw [List.mem_singleton.mp hf]; exact ⟨hw, hl⟩, by simp, fun i => by simp⟩
      fun _ h c _ => fragsOK_step h c
  exact ⟨h.wf, h.edges, h.nodes⟩

/-- `cut_skeleton` with a list of ids (front end as written: single-tree guard, presence / root checks,
order-preserving de-duplication, fragment list surgery) returns, on the node tables, exactly `cutMany`. -/
theorem cut_skeleton_ids (x : Neuron) (cs : List Int) (out : List Neuron)
    (h : cutSkeleton x (cs.map Where.id) .both = .ok out) : out.map (·.nodes) = cutMany x.nodes (dedup cs) := by
  obtain ⟨l, h1, h⟩ := cutSkeleton_ok h
  rw [(resolveCut_ids h1).1] at h
  rw [cutLoop_both_nodes h, cutMany_eq_foldl]
  rfl

/-- Every fragment `cut_skeleton` returns (any `ret=`, ids and tags) is the input itself or carries exactly the
connectors, the tags and the soma of the input that sit on its nodes. -/
theorem cut_fragments_attachments (x : Neuron) (wh : List Where) (ret : Ret) (out : List Neuron)
    (h : cutSkeleton x wh ret = .ok out) :
    ∀ f ∈ out, f = x ∨ (f.conns = filterConns f.nodes x.conns ∧ f.tags = x.tags.map (filterTags f.nodes) ∧
      f.soma = filterSoma f.nodes x.soma) := by
  obtain ⟨l, _, h⟩ := cutSkeleton_ok h
  exact cutLoop_attached (by simp) h

/-- The facts of the current source that the model of the front end hard-wires. -/
theorem cut_source_facts :
    Gen.TreeEdit.cutSingleTreeGuard = true ∧ Gen.TreeEdit.cutIdPresenceCheck = true ∧ Gen.TreeEdit.cutIdRootCheck = true ∧
    Gen.TreeEdit.cutDedupKeepsFirst = true ∧ Gen.TreeEdit.cutInsertsDistalFirstAtIndex = true ∧
    Gen.TreeEdit.cutIgraphProximalKeepsCutNode = true ∧ Gen.TreeEdit.cutNetworkxProximalKeepsCutNode = true := by decide

/-! ### the prune methods with several nodes -/

/-- `prune_distal_to` with several nodes = the successive single prunes; when they all go through, the result is
the subset of the ORIGINAL table to the nodes that are not strictly below any listed node … -/
theorem prune_distal_several (t t' : Table) (hw : WF t) (c : Int) (cs : List Int)
    (h : pruneMany pruneDistal1 t (c :: cs) = some t') :
    t' = subset t (keepDistalMany t (c :: cs)) ∧
    ∀ i, i ∈ ids t' ↔ i ∈ ids t ∧ ∀ x ∈ c :: cs, x ∈ rootPath t i → i = x :=
  ⟨pruneMany_distal_eq hw h, fun i => by rw [pruneMany_distal_eq hw h, ids_subset, List.mem_filter, keepDistalMany_iff]⟩

/-- … so the order of the nodes does not matter. -/
theorem prune_distal_order_irrelevant (t a b : Table) (hw : WF t) (cs cs' : List Int) (hne : cs ≠ []) (hp : cs'.Perm cs)
    (h1 : pruneMany pruneDistal1 t cs = some a) (h2 : pruneMany pruneDistal1 t cs' = some b) : a = b := by
  cases cs with
  | nil => exact absurd rfl hne
  | cons c cs =>
    cases cs' with
    | nil => exact absurd hp.symm.eq_nil (by simp)
    | cons c' cs' =>
      rw [pruneMany_distal_eq hw h1, pruneMany_distal_eq hw h2]
      apply subset_congr
      intro i _
      exact (keepDistalMany_perm hp i).symm

/-- `prune_proximal_to` with several nodes: the subtree of the LAST node (which descends from the first). -/
theorem prune_proximal_several (t t' : Table) (hw : WF t) (c last : Int) (cs : List Int)
    (h : pruneMany pruneProximal1 t (c :: cs) = some t') (hl : (c :: cs).getLast? = some last) :
    t' = subset t (fun i => (rootPath t i).contains last) ∧ c ∈ rootPath t last :=
  pruneMany_proximal_eq hw h hl

/-- **`TreeNeuron.prune_distal_to` as the source spells its loop** (which neuron is cut inside the loop, `ret=`, the
index taken — read from the current source) returns the successive single prunes and raises exactly when one of
them is impossible. -/
theorem prune_distal_to_as_written (x : Neuron) (hw : WF x.nodes) (h1 : (roots x.nodes).length = 1) (cs : List Int) :
    okNodes (pruneMethod Gen.TreeEdit.pruneDistalSpec x (cs.map Where.id)) = pruneMany pruneDistal1 x.nodes cs :=
  pruneStep_proximal ▸ pruneLoop_ids (ret := .proximal) rfl rfl rfl hw h1

/-- Both methods make the requested nodes iterable with `force_type=object`: in a list mixing ids and tags the ids stay
ids (read from the current source; before the repair they became strings and were looked up as tags). -/
theorem prune_nodes_keep_their_type : Gen.TreeEdit.pruneNodesKeptAsObjects = true := by decide

theorem prune_proximal_to_as_written (x : Neuron) (hw : WF x.nodes) (h1 : (roots x.nodes).length = 1) (cs : List Int) :
    okNodes (pruneMethod Gen.TreeEdit.pruneProximalSpec x (cs.map Where.id)) = pruneMany pruneProximal1 x.nodes cs :=
  pruneStep_distal ▸ pruneLoop_ids (ret := .distal) rfl rfl rfl hw h1

/-! ### subset: connectors, tags, soma, the mask form, subsetting twice -/

/-- The connector table after a subset is the original one filtered — same rows, same order, same multiplicities —
to the connectors whose node was requested and exists; with `keep_disc_cn` it is untouched. -/
theorem subset_connectors_exact (x : Neuron) (keep : Int → Bool) :
    (subsetNeuron x keep false).conns = x.conns.filter (fun c => keep c.node && (ids x.nodes).contains c.node) ∧
    (subsetNeuron x keep true).conns = x.conns :=
  ⟨subsetNeuron_conns x keep, subsetNeuron_conns_keep_disc x keep⟩

/-- A tag survives with exactly its ids on surviving nodes (in order) and only if at least one survives. -/
theorem subset_tags_exact (x : Neuron) (keep : Int → Bool) (tg : Tags) (htg : x.tags = some tg) (name : String) (l : List Int) :
    (∃ tg', (subsetNeuron x keep).tags = some tg' ∧
      ((name, l) ∈ tg' ↔ ∃ l0, (name, l0) ∈ tg ∧ l = l0.filter (fun i => (ids (subset x.nodes keep)).contains i) ∧ l ≠ [])) := by
  refine ⟨filterTags (subset x.nodes keep) tg, ?_, mem_filterTags⟩
  simp [subsetNeuron, htg]

/-- A pinned soma survives iff its node does. -/
theorem subset_soma_exact (x : Neuron) (keep : Int → Bool) (i : Int) :
    (subsetNeuron x keep).soma = some i ↔ x.soma = some i ∧ i ∈ ids (subset x.nodes keep) := filterSoma_eq_some

/-- A boolean mask (positional) selects the same neuron as the ids it marks. -/
theorem subset_mask_is_ids (t : Table) (keep : Int → Bool) : subsetMask t ((ids t).map keep) = subset t keep :=
  subsetMask_eq_subset t keep

/-- Subsetting twice is subsetting once to the intersection — for every table and every pair of requests. -/
theorem subset_twice (t : Table) (k1 k2 : Int → Bool) : subset (subset t k1) k2 = subset t fun i => k1 i && k2 i :=
  subset_subset t k1 k2

/-- Inside a subset the root path of a kept node is the kept initial piece of its original root path. -/
theorem subset_root_paths (t : Table) (hw : WF t) (keep : Int → Bool) (i : Int) (hi : i ∈ ids t) (hk : keep i = true) :
    rootPath (subset t keep) i = (rootPath t i).takeWhile keep := rootPath_subset hw keep i hi hk

/-- The facts of `_subset_treeneuron` in the current source that the model hard-wires: connectors are filtered by
their `node_id` against the surviving `node_id`s (unless `keep_disc_cn`), orphans get parent `-1`, tags are filtered
against the surviving ids and empty tags dropped, a boolean mask selects rows by position, a graph stands for its
nodes and a DataFrame for its `node_id` column, under `prevent_fragments` a mask is translated into ids first. -/
theorem subset_source_facts :
    Gen.TreeEdit.subsetConnFilterColumn = "node_id" ∧ Gen.TreeEdit.subsetConnFilterAgainst = "node_id" ∧
    Gen.TreeEdit.subsetConnGuard = true ∧ Gen.TreeEdit.subsetOrphanParent = -1 ∧
    Gen.TreeEdit.subsetOrphanTest = "x.nodes.parent_id.isin(x.nodes.node_id.values)" ∧
    Gen.TreeEdit.subsetTagCondition = "tn in x.nodes.node_id.values" ∧ Gen.TreeEdit.subsetDropsEmptyTags = true ∧
    Gen.TreeEdit.subsetMaskIsPositional = true ∧ Gen.TreeEdit.subsetGraphGivesItsNodes = true ∧
    Gen.TreeEdit.subsetFrameGivesNodeIdColumn = true ∧ Gen.TreeEdit.subsetPreventFragmentsMaskToIds = true :=
  ⟨rfl, rfl, rfl, rfl, rfl, rfl, rfl, rfl, rfl, rfl, rfl⟩

/-- With `prevent_fragments` a boolean mask is translated into the ids it marks before the connecting nodes are looked
for, so the mask form gives the neuron the id form gives (and inherits `prevent_fragments_*`). -/
theorem subset_prevent_fragments_mask_is_ids (x : Neuron) (keep : Int → Bool) (kd : Bool) :
    subsetNeuronPF x (maskIds x.nodes ((ids x.nodes).map keep)) kd = subsetNeuronPF x ((ids x.nodes).filter keep) kd := by
  rw [maskIds_eq_filter]

/-- The index literals of `connected_subgraph` that `Model/ConnSub.lean` hard-wires (`longestPath` = last of the
longest, `firstCommon` = first, `newRootOf` = last). -/
theorem connsub_source_facts :
    Gen.TreeEdit.connSubLongestIndex = -1 ∧ Gen.TreeEdit.connSubFirstCommonIndex = 0 ∧ Gen.TreeEdit.connSubNewRootIndex = -1 ∧
    Gen.TreeEdit.connSubSortKeys = ["lambda x: len(x)", "lambda x: longest_path.index(x)", "lambda x: longest_path.index(x)"] :=
  ⟨rfl, rfl, rfl, rfl⟩

/-! ### Non-vacuity -/

def ex : Table := [⟨1, -1, 0, 0, 0, .root⟩, ⟨2, 1, 3, 0, 0, .branch⟩, ⟨3, 2, 6, 0, 0, .end_⟩, ⟨4, 2, 3, 4, 0, .end_⟩]

example : wfB ex = true ∧ labelsOKB ex = true := by decide +kernel
example : (reroot ex 4).map (fun n => (n.id, n.parent, n.label)) =
    [(1, 2, .end_), (2, 4, .branch), (3, 2, .end_), (4, -1, .root)] := by decide +kernel
example : (cut ex 2).map (fun dp => (ids dp.1, ids dp.2)) = some ([2, 3, 4], [1, 2]) := by decide +kernel
-- reroot: the same undirected edges in a different order, labels still correct; the path is 4 → 2 → 1
example : uedges (reroot ex 4) = [(1, 2), (2, 4), (2, 3)] ∧ uedges ex = [(1, 2), (2, 3), (2, 4)] ∧
    labelsOKB (reroot ex 4) = true ∧ rootPath ex 4 = [4, 2, 1] := by decide +kernel
-- cut: the edge 2 → 1 stays proximal, the cut node is a root of the distal piece
example : (cut ex 2).map (fun dp => (edges dp.1, edges dp.2)) = some ([(3, 2), (4, 2)], [(2, 1)]) ∧
    edges ex = [(2, 1), (3, 2), (4, 2)] := by decide +kernel

-- prevent_fragments: requesting the two tips 3 and 4 pulls in the fork 2 (and nothing else)
example : connectedSubgraph ex [3, 4] = ([4, 2, 3], [2]) ∧ ids (subsetPF ex [3, 4]) = [2, 3, 4] := by decide +kernel

/-- 11-node tree with sparse unsorted ids (the harness' fixed suite):
`10 ← 70 ← 30 ← 40 ← 55 ← 7 ← 90`, `55 ← 66 ← 81`, `30 ← 25 ← 12`. -/
def ex2 : Table := classify [⟨55, 40, 0, 0, 0, .slab⟩, ⟨10, -1, 0, 0, 0, .slab⟩, ⟨7, 55, 0, 0, 0, .slab⟩, ⟨70, 10, 0, 0, 0, .slab⟩,
  ⟨90, 7, 0, 0, 0, .slab⟩, ⟨30, 70, 0, 0, 0, .slab⟩, ⟨66, 55, 0, 0, 0, .slab⟩, ⟨40, 30, 0, 0, 0, .slab⟩, ⟨81, 66, 0, 0, 0, .slab⟩,
  ⟨25, 30, 0, 0, 0, .slab⟩, ⟨12, 25, 0, 0, 0, .slab⟩]
def nx2 : Neuron :=
  { nodes := ex2, conns := [⟨100, 90, 0⟩, ⟨101, 81, 1⟩, ⟨102, 55, 0⟩, ⟨103, 10, 1⟩], tags := some [("ta", [55]), ("many", [7, 81])], soma := some 10 }

/-- `ex2` with the labels `classify` gives it; the checkers below walk the table many times, and unevaluated every walk
re-classifies -/
private theorem ex2_eq : ex2 = [⟨55, 40, 0, 0, 0, .branch⟩, ⟨10, -1, 0, 0, 0, .root⟩, ⟨7, 55, 0, 0, 0, .slab⟩, ⟨70, 10, 0, 0, 0, .slab⟩,
  ⟨90, 7, 0, 0, 0, .end_⟩, ⟨30, 70, 0, 0, 0, .branch⟩, ⟨66, 55, 0, 0, 0, .slab⟩, ⟨40, 30, 0, 0, 0, .slab⟩, ⟨81, 66, 0, 0, 0, .end_⟩,
  ⟨25, 30, 0, 0, 0, .slab⟩, ⟨12, 25, 0, 0, 0, .end_⟩] := by decide +kernel

private theorem ex2_facts : wfB ex2 = true ∧ labelsOKB ex2 = true ∧ roots ex2 = [10] := by rw [ex2_eq]; decide +kernel
private theorem ex2_WF : WF ex2 := (wfB_iff _).mp ex2_facts.1
example : wfB ex2 = true ∧ labelsOKB ex2 = true ∧ roots ex2 = [10] := ex2_facts
-- two cuts in both orders: the same three fragments (as node sets: below 55, between 30 and 55, above 30)
example : (cutMany ex2 [55, 30]).map (fun f => (roots f, (ids f).length)) = [([55], 5), ([30], 5), ([10], 3)] ∧
    (cutMany ex2 [30, 55]).map (fun f => (roots f, (ids f).length)) = [([55], 5), ([30], 5), ([10], 3)] := by decide +kernel
example : ids (subset ex2 (fragKeep ex2 [55, 30] 30)) = [55, 30, 40, 25, 12] := by decide +kernel
-- prune_distal_to([55, 25]) in both orders, and what cutting `self` instead of the working copy would give
example : (pruneMany pruneDistal1 ex2 [55, 25]).map ids = some [55, 10, 70, 30, 40, 25] ∧
    (pruneMany pruneDistal1 ex2 [25, 55]).map ids = some [55, 10, 70, 30, 40, 25] := by decide +kernel
example : (okNodes (pruneMethod refDistal nx2 [.id 55, .id 25])).map ids = some [55, 10, 70, 30, 40, 25] ∧
    (okNodes (pruneMethod { refDistal with cutsWorkingCopy := false } nx2 [.id 55, .id 25])).map ids =
      some [55, 10, 7, 70, 90, 30, 66, 40, 81, 25] := by decide +kernel
-- a later node that was pruned away makes the call raise, as the successive single prunes do
example : pruneMany pruneDistal1 ex2 [55, 90] = none ∧ okNodes (pruneMethod refDistal nx2 [.id 55, .id 90]) = none := by decide +kernel
-- prune_proximal_to([30, 55]) keeps the subtree of 55
example : (pruneMany pruneProximal1 ex2 [30, 55]).map ids = some [55, 7, 90, 66, 81] := by decide +kernel
-- connectors / tags / soma of the pieces of a cut
example : (match cutSkeleton nx2 [.tag "ta"] .both with
    | .ok fs => fs.map (fun f => (f.conns.map (·.cid), f.tags, f.soma))
    | .error _ => []) =
    [([100, 101, 102], some [("ta", [55]), ("many", [7, 81])], none), ([102, 103], some [("ta", [55])], some 10)] := by decide +kernel
-- the slices of the source reverse the path 81 → 66 → 55 → 40 → 30 → 70 → 10
example : (rerootLoopAW Gen.TreeEdit.rerootSpec [] ex2 [81]).map (fun n => (n.id, n.parent)) =
    [(55, 66), (10, 70), (7, 55), (70, 30), (90, 7), (30, 40), (66, 81), (40, 55), (81, -1), (25, 30), (12, 25)] := by decide +kernel
-- a skip test that consulted a snapshot of the roots would not undo the first reroot
example : roots (rerootLoopAW { refRerootSpec with rereadsRoots := false } [10] ex2 [81, 10]) = [81] ∧
    roots (rerootMany ex2 [81, 10]) = [10] := by decide +kernel
-- mask form
example : subsetMask ex2 [true, true, false, true, false, true, false, false, false, false, true] = subset ex2 (fun i => [55, 10, 70, 30, 12].contains i) := by
  decide +kernel

-- reroot by tag, and a prune list mixing an id and a tag (both failed before the repairs of the source)
example : (match rerootNeuron nx2 [.tag "ta"] with | .ok y => roots y.nodes | .error _ => []) = [55] := by decide +kernel
example : (okNodes (pruneMethod refDistal nx2 [.id 25, .tag "ta"])).map ids = some [55, 10, 70, 30, 40, 25] := by decide +kernel
-- prevent_fragments with a mask marking 90, 81 and 12: the connecting nodes are added
example : ids (subsetNeuronPF nx2 (maskIds ex2 [false, false, false, false, true, false, false, false, true, false, true])).nodes =
    [55, 7, 90, 30, 66, 40, 81, 25, 12] := by decide +kernel
-- zero-based chain 0 ← 1 ← 2, reroot to 2: the walk with identity tests inverts both edges; a truthiness test
-- (`while parent:`) stops at the id 0 and leaves the edge 1 → 0 in place (two parents for 1 in the graph, edge lost in the table)
example : rerootGraphNxAW refNxWalkSpec [(1, 0, 3), (2, 1, 4)] 2 = [(1, 2, 4), (0, 1, 3)] ∧
    rerootGraphNxAW { refNxWalkSpec with loopIsNotNone := false } [(1, 0, 3), (2, 1, 4)] 2 = [(1, 0, 3), (1, 2, 4)] := by decide +kernel
-- the in-place graph edit on ex2 (unit weights): the edges on the path 81 → … → 10 are inverted, the others kept
example : rerootGraphIg (graphOf ex2 fun _ _ => 1) (rootPath ex2 81) =
    [(7, 55, 1), (90, 7, 1), (25, 30, 1), (12, 25, 1), (66, 81, 1), (55, 66, 1), (40, 55, 1), (30, 40, 1), (70, 30, 1), (10, 70, 1)] := by decide +kernel
example : rerootOKB ex2 (reroot ex2 81) 81 = true ∧ rerootOKB ex2 ex2 81 = false :=
  ⟨reroot_checker_complete ex2 ex2_WF ex2_facts.2.1 81 (by rw [ex2_eq]; decide +kernel), by rw [ex2_eq]; decide +kernel⟩
example : fragsOKB ex2 10 [55, 30] (cutMany ex2 [30, 55]) = true ∧ fragsOKB ex2 10 [55, 30] [ex2] = false :=
  have hcs : ∀ c ∈ [55, 30], c ∈ ids ex2 ∧ c ≠ 10 := by rw [ex2_eq]; decide +kernel
  -- the cuts were made in the other order: `cuts_commute`
  ⟨(cuts_checker_iff ex2 ex2_WF 10 ex2_facts.2.2 _ (by decide) (by decide) hcs _).mpr
      (cuts_commute ex2 ex2_WF 10 ex2_facts.2.2 _ _ (by decide) hcs (by decide)),
   by rw [ex2_eq]; decide +kernel⟩

end Navis.Props.C10

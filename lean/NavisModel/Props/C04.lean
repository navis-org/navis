import NavisModel.Model.Backends
import NavisModel.Proofs.PathLemmas
import NavisModel.Model.CutVariants
import NavisModel.Model.ComponentVariants
import NavisModel.Proofs.CutEquivLemmas
import NavisModel.Proofs.StrahlerSweepFixLemmas
import NavisModel.Proofs.BackendLemmas
import NavisModel.Proofs.SegmentVariantsLemmas
import NavisModel.Proofs.FlowVariantsLemmas
import NavisModel.Model.BackendOps
import NavisModel.Props.C01
import NavisModel.Props.C05
import NavisModel.Props.C17
/-!
# C04 — results do not depend on the compute back-end

Where the igraph and networkx code paths derive the same object differently, the two derivations are
modelled side by side and proved equal for every well-formed, correctly labelled table — equal up to the order
of the list for `_break_segments`, the rows of `geodesic_matrix(from_=…)` and the node list a cut splits off.
(fastcore is compiled code: it is tied to the same single model by differential testing only.)
-/
namespace Navis.Props.C04
open Navis.Forest

/-- The igraph builder (row positions + `node_id` attribute) encodes exactly the edges of the
networkx builder (ids): translating positions back through the attribute gives the id pairs, for
every well-formed table — any labelling, any row order (of `WF t` the proof uses unique ids and present parents only). -/
theorem edges_igraph_eq_nx (t : Table) (hw : WF t) : (idxEdges t).map (relabel t) = idEdges t := by
  -- the position edges are the id edges under `pos`, and the attribute lookup undoes `pos` on present ids
  have back : ∀ i ∈ ids t, (ids t).getD (SegVar.pos t i) (-1) = i := fun i hi => by
    rw [List.getD_eq_getElem?_getD, show (ids t)[SegVar.pos t i]? = some i from SegVar.idAt?_pos hi]; rfl
  rw [SegVar.idxEdges_eq hw.1, List.map_map]
  refine (List.map_congr_left fun e he => ?_).trans (List.map_id _)
  obtain ⟨n, hn, hp, rfl⟩ := mem_edges.mp he
  show ((ids t).getD (SegVar.pos t n.id) (-1), (ids t).getD (SegVar.pos t n.parent) (-1)) = (n.id, n.parent)
  rw [back _ (mem_ids_of_mem hn), back _ (WF_parent_mem hw hn hp)]

/-- Degree-based and parent-column-based classification agree on every node of every table. -/
theorem classify_old_eq_new (t : Table) (n : Node) : classifyOldNode t n = classifyNode t n := by
  rw [classifyNode_eq_labelOf]
  unfold classifyOldNode labelOf
  by_cases h : n.parent < 0
  · simp [h]
  · rcases childCount t n.id with _ | _ | c <;> simp [h]

/-- With correct labels the two variants of `_break_segments` start from the same seeds and stop at
the same stops. -/
theorem break_seeds_agree (t : Table) (hl : labelsOKB t = true) :
    seedsIgraph t = seedsNx t ∧ stopsIgraph t = stopsNx t := by
  unfold seedsIgraph seedsNx stopsIgraph stopsNx
  refine ⟨congrArg (List.map Node.id) (List.filter_congr fun n hn => ?_),
    congrArg (List.map Node.id) (List.filter_congr fun n hn => ?_)⟩
  · rw [Bool.eq_iff_iff]
    simp only [Bool.and_eq_true, Bool.or_eq_true, beq_iff_eq, decide_eq_true_eq, Bool.not_eq_true', isRootNode,
      decide_eq_false_iff_not]
    rw [label_branch_iff hl hn, label_end_iff hl hn]
    omega
  · rw [Bool.eq_iff_iff]
    simp only [Bool.and_eq_true, Bool.or_eq_true, beq_iff_eq, decide_eq_true_eq, Bool.not_eq_true', isRootNode,
      decide_eq_false_iff_not]
    rw [label_branch_iff hl hn, label_root_iff hl hn]
    omega

/-! ### `cut`: reverse BFS (networkx) versus decomposition after deleting one edge (igraph)

`distalSet t c` is what `_cut_networkx` computes (descendants-or-self of `c`, by walking the edges
backwards); `distalByDecompose t c` is what `_cut_igraph` computes (delete the edge from `c` to its
parent, take the connected component of `c`). -/

/-- `distalSet ⊆ distalByDecompose`: descendants of `c` are connected to `c` without the deleted edge. -/
theorem cut_bfs_sub_decompose (t : Table) (hw : WF t) (c i : Int) (h : i ∈ distalSet t c) :
    i ∈ distalByDecompose t c := (Navis.CutEquiv.mem_distalByDecompose hw c i).mpr h

/-- `distalByDecompose ⊆ distalSet`: an undirected path that leaves the subtree of `c` must cross the
deleted edge, because every other edge joins a node to its parent and "distal to `c`" is carried
across such an edge in both directions. -/
theorem cut_decompose_sub_bfs (t : Table) (hw : WF t) (c i : Int) (h : i ∈ distalByDecompose t c) :
    i ∈ distalSet t c := (Navis.CutEquiv.mem_distalByDecompose hw c i).mp h

/-- **The two back-ends cut off the same set** — for every well-formed forest and *every* `c`
(present or not, root or not, any number of roots).  This is more than navis offers: `cut_skeleton` raises unless
`x.n_trees == 1`, and `_cut_igraph` unpacks exactly two components. -/
theorem cut_bfs_eq_decompose_any (t : Table) (hw : WF t) (c : Int) :
    ∀ i, i ∈ distalByDecompose t c ↔ i ∈ distalSet t c :=
  fun i => ⟨cut_decompose_sub_bfs t hw c i, cut_bfs_sub_decompose t hw c i⟩

/-- … in the form the design asks for: one root, `c` a node other than the root. -/
theorem cut_bfs_eq_decompose (t : Table) (hw : WF t) (_hroot : (roots t).length = 1) (c : Int) (_hc : c ∈ ids t)
    (_hnr : c ∉ roots t) : ∀ i, i ∈ distalByDecompose t c ↔ i ∈ distalSet t c :=
  cut_bfs_eq_decompose_any t hw c

/-- Neither list repeats a node, so they are equal up to order. -/
theorem cut_bfs_perm_decompose (t : Table) (hw : WF t) (c : Int) :
    (distalByDecompose t c).Perm (distalSet t c) := by
  apply (List.perm_ext_iff_of_nodup ?_ ?_).mpr (cut_bfs_eq_decompose_any t hw c)
  · unfold distalByDecompose
    cases parentOf t c with
    | none => exact List.nodup_nil
    | some p => exact Navis.CutEquiv.componentOf_nodup _ _ _
  · unfold distalSet; exact hw.1.filter _

/-- Hence the whole `cut` is back-end independent: both fragments are identical tables (same rows,
same order, same repaired parents, same labels). -/
theorem cut_decompose_eq_cut (t : Table) (hw : WF t) (c : Int) : cutByDecompose t c = cut t c := by
  have hk := contains_congr (cut_bfs_eq_decompose_any t hw c)
  unfold cutByDecompose cut
  simp only [hk]
  rfl

/-! ### Strahler index: the pure-Python sweep (igraph and networkx back-ends) versus the recurrence

`Sweep.sweep` (`Model/StrahlerSweep.lean`) is `mmetrics.strahler_index` without navis-fastcore, as written:
a work *set* seeded with the end nodes from which an arbitrary element is popped (`pick` is the choice
oracle — any function of the loop state), the index chosen from the children's indices, the walk towards
the root through every node that is neither negative nor a branch node (forking roots are branch nodes,
non-forking roots are walked through, `>= 0` so node id 0 is an ordinary node), the readiness test at the
node where the walk stopped, isolated roots never visited (default 1), then the fix-up of ignored twigs.
`none` would be a `KeyError` / `IndexError` / non-termination.  `strahler` is the structural recurrence of
C17 (`Props.C17.strahler_recurrence`), which is what navis-fastcore is compared with. -/

/-- **The sweep computes the recurrence** — for every well-formed, correctly labelled forest (any
row order, number of roots, isolated nodes, node id 0), both methods and EVERY pop order: the
Python code raises no `KeyError`, terminates, and returns the structural Strahler index at every node. -/
theorem strahler_sweep_eq_rec (t : Table) (hw : WF t) (hl : labelsOKB t = true) (g : Bool) (pick : Sweep.St → Nat) :
    ∃ col, Sweep.sweep t g [] pick = some col ∧ ∀ i ∈ ids t, col i = strahler t g [] i :=
  Sweep.sweep_eq hw hl g [] (by simp) pick

/-- … hence its column obeys the recurrence at every node, roots (forking or not) included. -/
theorem strahler_sweep_obeys_recurrence (t : Table) (hw : WF t) (hl : labelsOKB t = true) (g : Bool)
    (pick : Sweep.St → Nat) :
    ∃ col, Sweep.sweep t g [] pick = some col ∧
      ∀ i ∈ ids t, col i = strahlerRule g ((children t i).map col) := by
  obtain ⟨col, h1, h2⟩ := strahler_sweep_eq_rec t hw hl g pick
  refine ⟨col, h1, fun i hi => ?_⟩
  have e : strahler t g [] = strahlerRaw t g [] (t.length + 1) := funext (Flow.strahler_nil t g)
  rw [h2 i hi, e, Flow.strahlerRaw_rec_nil hw g i]
  congr 1
  apply List.map_congr_left
  intro c hc
  rw [h2 c (child_facts hw hc).1, e]

/-- **The result does not depend on the order in which the work set is popped** (Python pops an arbitrary
element of a `set`). -/
theorem strahler_sweep_order_independent (t : Table) (hw : WF t) (hl : labelsOKB t = true) (g : Bool)
    (pick pick' : Sweep.St → Nat) :
    ∃ col col', Sweep.sweep t g [] pick = some col ∧ Sweep.sweep t g [] pick' = some col' ∧
      ∀ i ∈ ids t, col i = col' i := by
  obtain ⟨col, h1, h2⟩ := strahler_sweep_eq_rec t hw hl g pick
  obtain ⟨col', h1', h2'⟩ := strahler_sweep_eq_rec t hw hl g pick'
  exact ⟨col, col', h1, h1', fun i hi => by rw [h2 i hi, h2' i hi]⟩

/-- The dictionary before the fix-up is the raw recurrence with the ignore list (an ignored end node
contributes 0). -/
theorem strahler_sweep_raw (t : Table) (hw : WF t) (hl : labelsOKB t = true) (g : Bool) (ign : List Int)
    (hign : ∀ l ∈ ign, l ∈ ids t → l ∈ Sweep.endNodes t) (pick : Sweep.St → Nat) :
    ∃ si, Sweep.sweepRaw t g ign pick = some si ∧
      ∀ i ∈ ids t, Sweep.siGetD si i = strahlerRaw t g ign (t.length + 1) i :=
  Sweep.sweepRaw_eq hw hl g ign hign pick

/-- With `to_ignore`: sweep + "fix branches that were ignored" is the model's final index (ignored twigs
take the index of the branch they hang on).
`_partial`: `to_ignore` is restricted to end nodes (typed `end`; ids that are not in the table are
harmless).  The docstring also allows the first node of an *inner* branch; the Python sweep then zeroes
that whole branch, which the C17 model (`strahler`, ignoring twigs only) does not describe — not covered. -/
theorem strahler_sweep_ignore_partial (t : Table) (hw : WF t) (hl : labelsOKB t = true) (g : Bool) (ign : List Int)
    (hign : ∀ l ∈ ign, l ∈ ids t → l ∈ Sweep.endNodes t) (pick : Sweep.St → Nat) :
    ∃ col, Sweep.sweep t g ign pick = some col ∧ ∀ i ∈ ids t, col i = strahler t g ign i :=
  Sweep.sweep_eq hw hl g ign hign pick

/-- With `min_twig_size = k`: the list the Python code appends to `to_ignore` is the model's `shortTwigs`,
and the result is the model's index for `ign ++ shortTwigs t k`. -/
theorem strahler_sweep_min_twig (t : Table) (hw : WF t) (hl : labelsOKB t = true) (g : Bool) (ign : List Int) (k : Nat)
    (hk : k ≠ 0) (hign : ∀ l ∈ ign, l ∈ ids t → l ∈ Sweep.endNodes t) (pick : Sweep.St → Nat) :
    ∃ col, Sweep.sweep t g (Sweep.ignoreList t ign k) pick = some col ∧
      ∀ i ∈ ids t, col i = strahler t g (ign ++ shortTwigs t k) i := by
  obtain ⟨col, h1, h2⟩ := Sweep.sweep_eq hw hl g _ (Sweep.ignoreList_ends ign k hign) pick
  refine ⟨col, h1, fun i hi => ?_⟩
  rw [h2 i hi, Sweep.ignoreList_eq_shortTwigs hl ign k, if_neg hk]

/-- The sweep's index is at least 1 everywhere and never decreases towards the root. -/
theorem strahler_sweep_ge_one_and_monotone (t : Table) (hw : WF t) (hl : labelsOKB t = true) (g : Bool)
    (pick : Sweep.St → Nat) :
    ∃ col, Sweep.sweep t g [] pick = some col ∧ (∀ i ∈ ids t, 1 ≤ col i) ∧
      ∀ i ∈ ids t, ∀ c ∈ children t i, col c ≤ col i := by
  obtain ⟨col, h1, h2⟩ := strahler_sweep_eq_rec t hw hl g pick
  refine ⟨col, h1, fun i hi => ?_, fun i hi c hc => ?_⟩
  · rw [h2 i hi]; exact Navis.Props.C17.strahler_ge_one t hw g i hi
  · rw [h2 i hi, h2 c (child_facts hw hc).1]
    exact Navis.Props.C17.strahler_monotone t hw g i c hi hc

/-- The sweep's column is accepted by the recurrence checker that the driver runs on navis' output — and
every accepted column is the sweep's. -/
theorem strahler_sweep_passes_checker (t : Table) (hw : WF t) (hl : labelsOKB t = true) (g : Bool) (pick : Sweep.St → Nat) :
    ∃ col, Sweep.sweep t g [] pick = some col ∧ Flow.strahlerOKB t g col = true ∧
      ∀ v, Flow.strahlerOKB t g v = true → ∀ i ∈ ids t, v i = col i := by
  obtain ⟨col, h1, h2⟩ := strahler_sweep_eq_rec t hw hl g pick
  refine ⟨col, h1, (Navis.Props.C17.strahler_checker_sound t hw g col).mpr h2, fun v hv i hi => ?_⟩
  rw [h2 i hi]; exact (Navis.Props.C17.strahler_checker_sound t hw g v).mp hv i hi

/-- `prune_by_strahler` on the Python path keeps the rows the model keeps: filtering by the sweep's column is
filtering by the structural index, for every index set. -/
theorem prune_by_strahler_sweep (t : Table) (hw : WF t) (hl : labelsOKB t = true) (pick : Sweep.St → Nat) (s : List Nat) :
    ∃ col, Sweep.sweep t false [] pick = some col ∧
      (t.filter fun n => !s.contains (col n.id)) = t.filter fun n => !s.contains (strahler t false [] n.id) := by
  obtain ⟨col, h1, h2⟩ := strahler_sweep_eq_rec t hw hl false pick
  refine ⟨col, h1, List.filter_congr fun n hn => ?_⟩
  rw [h2 n.id (mem_ids_of_mem hn)]

/-- With `to_ignore` (end nodes) the result does not depend on the pop order either. -/
theorem strahler_sweep_ignore_order_independent (t : Table) (hw : WF t) (hl : labelsOKB t = true) (g : Bool)
    (ign : List Int) (hign : ∀ l ∈ ign, l ∈ ids t → l ∈ Sweep.endNodes t) (pick pick' : Sweep.St → Nat) :
    ∃ col col', Sweep.sweep t g ign pick = some col ∧ Sweep.sweep t g ign pick' = some col' ∧
      ∀ i ∈ ids t, col i = col' i := by
  obtain ⟨col, h1, h2⟩ := strahler_sweep_ignore_partial t hw hl g ign hign pick
  obtain ⟨col', h1', h2'⟩ := strahler_sweep_ignore_partial t hw hl g ign hign pick'
  exact ⟨col, col', h1, h1', fun i hi => by rw [h2 i hi, h2' i hi]⟩

/-- The model's Strahler index reads the ignore list only as a set. -/
theorem strahler_ignore_list_as_set (t : Table) (g : Bool) (ign ign' : List Int)
    (h : ∀ x, ign.contains x = ign'.contains x) (i : Int) : strahler t g ign i = strahler t g ign' i := by
  have hraw : ∀ f j, strahlerRaw t g ign f j = strahlerRaw t g ign' f j := by
    intro f
    induction f with
    | zero => intro j; rfl
    | succ f ih =>
      intro j
      rw [Flow.strahlerRaw_succ, Flow.strahlerRaw_succ, h j]
      have : (children t j).map (strahlerRaw t g ign f) = (children t j).map (strahlerRaw t g ign' f) :=
        List.map_congr_left fun c _ => ih c
      rw [this]
  unfold strahler
  simp only [hraw, h]

/-- **The Python sweep reads `to_ignore` only as a set**: two ignore lists with the same members (order,
repetitions, how `min_twig_size` enumerated the short twigs — e.g. from the igraph variant's small segments)
give the same column, for every pair of pop orders. -/
theorem strahler_sweep_ignore_as_set (t : Table) (hw : WF t) (hl : labelsOKB t = true) (g : Bool) (ign ign' : List Int)
    (hign : ∀ l ∈ ign, l ∈ ids t → l ∈ Sweep.endNodes t) (h : ∀ x, ign.contains x = ign'.contains x)
    (pick pick' : Sweep.St → Nat) :
    ∃ col col', Sweep.sweep t g ign pick = some col ∧ Sweep.sweep t g ign' pick' = some col' ∧
      ∀ i ∈ ids t, col i = col' i := by
  have hign' : ∀ l ∈ ign', l ∈ ids t → l ∈ Sweep.endNodes t := fun l hl' hi =>
    hign l (List.contains_iff_mem.mp ((h l).trans (List.contains_iff_mem.mpr hl'))) hi
  obtain ⟨col, h1, h2⟩ := strahler_sweep_ignore_partial t hw hl g ign hign pick
  obtain ⟨col', h1', h2'⟩ := strahler_sweep_ignore_partial t hw hl g ign' hign' pick'
  exact ⟨col, col', h1, h1', fun i hi => by rw [h2 i hi, h2' i hi, strahler_ignore_list_as_set t g ign ign' h i]⟩

/-- **`strahler_index(min_twig_size=k)` does not depend on the order of `x.small_segments`** (igraph: a set's
order): with any permutation of the small segments the Python path returns the model's index for
`ign ++ shortTwigs t k`, for every pop order. -/
theorem strahler_sweep_min_twig_segment_order (t : Table) (hw : WF t) (hl : labelsOKB t = true) (g : Bool) (ign : List Int)
    (k : Nat) (hk : k ≠ 0) (hign : ∀ l ∈ ign, l ∈ ids t → l ∈ Sweep.endNodes t) (segs : List (List Int))
    (hp : segs.Perm (smallSegments t)) (pick : Sweep.St → Nat) :
    ∃ col, Sweep.sweep t g (ignoreListFrom t segs ign k) pick = some col ∧
      ∀ i ∈ ids t, col i = strahler t g (ign ++ shortTwigs t k) i := by
  have hperm : (ignoreListFrom t segs ign k).Perm (Sweep.ignoreList t ign k) := by
    unfold ignoreListFrom Sweep.ignoreList
    rw [if_neg hk, if_neg hk]
    exact (hp.filterMap _).append_left ign
  have hset := contains_congr fun x => hperm.mem_iff (a := x)
  have hends : ∀ l ∈ ignoreListFrom t segs ign k, l ∈ ids t → l ∈ Sweep.endNodes t :=
    fun l hl' => Sweep.ignoreList_ends ign k hign l (hperm.mem_iff.mp hl')
  obtain ⟨col, h1, h2⟩ := Sweep.sweep_eq hw hl g _ hends pick
  refine ⟨col, h1, fun i hi => ?_⟩
  rw [h2 i hi, strahler_ignore_list_as_set t g _ _ hset i, Sweep.ignoreList_eq_shortTwigs hl ign k, if_neg hk]

/-! ### the two Python segment builders (`Model/SegmentVariants.lean`)

The igraph variants work on ROW POSITIONS of the graph built by `neuron2igraph` (`idxEdges`; `end` / `branch` /
`root` from in- and out-degrees; positions translated back through the `node_id` attribute at the end), the
networkx variants on NODE IDS of the graph built by `neuron2nx` (`idEdges`; seeds / stops from the `type`
column).  `none` would be an `IndexError` / `KeyError` / `NetworkXError` / non-termination. -/

/-- `_break_segments`, networkx variant, is exactly the C05 model `smallSegments` (same list, same order). -/
theorem break_segments_nx_eq_model (t : Table) (hw : WF t) (hl : labelsOKB t = true) :
    SegVar.breakNx t = some (smallSegments t) := SegVar.breakNx_eq t hw hl

/-- `_break_segments`, igraph variant: whatever order Python iterates the seed *set* in, the result is a
permutation of the same small segments. -/
theorem break_segments_igraph_perm_model (t : Table) (hw : WF t) (hl : labelsOKB t = true) (seeds : List Nat)
    (hs : seeds.Perm (SegVar.seedsIdx t)) :
    ∃ segs, SegVar.breakIgraphFrom t seeds = some segs ∧ segs.Perm (smallSegments t) :=
  SegVar.breakIgraphFrom_perm t hw hl seeds hs

/-- **The two variants of `_break_segments` agree** (up to the order of the segments), and the networkx
list passes the C05 checker. -/
theorem break_segments_variants_agree (t : Table) (hw : WF t) (hl : labelsOKB t = true) :
    ∃ a b, SegVar.breakIgraph t = some a ∧ SegVar.breakNx t = some b ∧ a.Perm b ∧ smallSegmentsOKB t b = true := by
  obtain ⟨a, h1, h2⟩ := SegVar.breakIgraphFrom_perm t hw hl (SegVar.seedsIdx t) (List.Perm.refl _)
  exact ⟨a, smallSegments t, h1, SegVar.breakNx_eq t hw hl, h2, smallSegments_ok hw⟩

/-- **The two variants of `_generate_segments` return the same list** — same segments in the same order,
exact ties included (both start from the same stably sorted leafs; walking positions and translating
back is walking ids) — for every well-formed forest and every edge-length function. -/
theorem generate_segments_igraph_eq_nx (t : Table) (hw : WF t) (len : Int → Int → Nat) :
    SegVar.genIgraph t len = SegVar.genNx t len := SegVar.genIgraph_eq_genNx t hw len

/-- … and that list passes the C05 checker (child→parent paths partitioning the edges, longest first,
isolated nodes as single-node segments) — so do both variants. -/
theorem generate_segments_pass_checker (t : Table) (hw : WF t) (hl : labelsOKB t = true) (len : Int → Int → Nat) :
    ∃ segs, SegVar.genNx t len = some segs ∧ SegVar.genIgraph t len = some segs ∧ segmentsOKB t len segs = true := by
  obtain ⟨segs, h1, h2⟩ := SegVar.genNx_ok t hw hl len
  exact ⟨segs, h1, by rw [SegVar.genIgraph_eq_genNx t hw len]; exact h1, h2⟩

/-- Both variants of `_generate_segments` and the networkx variant of `_break_segments` add up to the cable length. -/
theorem segment_builders_sum_to_cable (t : Table) (hw : WF t) (hl : labelsOKB t = true) (len : Int → Int → Nat) :
    (∃ segs, SegVar.genNx t len = some segs ∧ SegVar.genIgraph t len = some segs ∧
      (segs.map (pathLen len)).sum = cable t len) ∧
    (∃ segs, SegVar.breakNx t = some segs ∧ (segs.map (pathLen len)).sum = cable t len) := by
  obtain ⟨segs, h1, h2, h3⟩ := generate_segments_pass_checker t hw hl len
  refine ⟨⟨segs, h1, h2, Navis.Props.C05.segment_lengths_sum_to_cable t hw len segs h3⟩, ?_⟩
  exact ⟨smallSegments t, break_segments_nx_eq_model t hw hl, Navis.Props.C05.smallSegments_sum_to_cable t hw len⟩

/-- The igraph variant of `_break_segments` (any seed order) adds up to the cable length as well. -/
theorem break_segments_igraph_sum_to_cable (t : Table) (hw : WF t) (hl : labelsOKB t = true) (len : Int → Int → Nat)
    (seeds : List Nat) (hs : seeds.Perm (SegVar.seedsIdx t)) :
    ∃ segs, SegVar.breakIgraphFrom t seeds = some segs ∧ (segs.map (pathLen len)).sum = cable t len := by
  obtain ⟨segs, h1, h2⟩ := break_segments_igraph_perm_model t hw hl seeds hs
  refine ⟨segs, h1, ?_⟩
  rw [(h2.map (pathLen len)).sum_nat]
  exact Navis.Props.C05.smallSegments_sum_to_cable t hw len

/-- The C05 checker for small segments does not depend on the order of the list: any permutation of the
model's small segments passes it. -/
theorem smallSegmentsOKB_of_perm (t : Table) (hw : WF t) (segs : List (List Int)) (h : segs.Perm (smallSegments t)) :
    smallSegmentsOKB t segs = true :=
  (smallSegmentsOKB_iff t segs).mpr ⟨fun s hs => smallSegments_shape hw s (h.mem_iff.mp hs),
    ((h.filter _).flatMap_right _).trans (smallSegments_cover hw)⟩

/-- **The igraph variant of `_break_segments` passes the C05 checker for every iteration order of its seed
set** (the networkx variant does by `break_segments_variants_agree`). -/
theorem break_segments_igraph_pass_checker (t : Table) (hw : WF t) (hl : labelsOKB t = true) (seeds : List Nat)
    (hs : seeds.Perm (SegVar.seedsIdx t)) :
    ∃ segs, SegVar.breakIgraphFrom t seeds = some segs ∧ smallSegmentsOKB t segs = true := by
  obtain ⟨segs, h1, h2⟩ := break_segments_igraph_perm_model t hw hl seeds hs
  exact ⟨segs, h1, smallSegmentsOKB_of_perm t hw segs h2⟩

/-- **Twig pruning does not depend on the order in which `_break_segments` lists the small segments** (the
igraph variant iterates a set): the Python path of `prune_twigs` fed with any permutation of the small
segments removes the same nodes and returns the same table as the C12 model. -/
theorem prune_twigs_segment_order_independent (t : Table) (len : Int → Int → Nat) (size : Nat) (mask : Option (List Int))
    (segs : List (List Int)) (h : segs.Perm (smallSegments t)) :
    (twigDeleteFrom t segs len size mask).Perm (twigDelete t len size mask) ∧
      pruneTwigsOnceFrom t segs len size mask = pruneTwigsOnce t len size mask := by
  have hp : (twigDeleteFrom t segs len size mask).Perm (twigDelete t len size mask) := by
    unfold twigDeleteFrom twigDelete terminalSegsFrom terminalSegs
    exact ((h.filter _).filter _).flatMap_right _
  refine ⟨hp, ?_⟩
  unfold pruneTwigsOnceFrom pruneTwigsOnce
  have hemp : (twigDeleteFrom t segs len size mask).isEmpty = (twigDelete t len size mask).isEmpty := by
    rw [Bool.eq_iff_iff, List.isEmpty_iff_length_eq_zero, List.isEmpty_iff_length_eq_zero, hp.length_eq]
  have hcon : (fun i => !(twigDeleteFrom t segs len size mask).contains i) = fun i => !(twigDelete t len size mask).contains i :=
    funext fun i => by rw [contains_congr (fun _ => hp.mem_iff) i]
  simp only [hemp, hcon]

/-- … in particular with the igraph variant's list, for every iteration order of its seed set. -/
theorem prune_twigs_igraph_eq_model (t : Table) (hw : WF t) (hl : labelsOKB t = true) (len : Int → Int → Nat) (size : Nat)
    (mask : Option (List Int)) (seeds : List Nat) (hs : seeds.Perm (SegVar.seedsIdx t)) :
    ∃ segs, SegVar.breakIgraphFrom t seeds = some segs ∧
      pruneTwigsOnceFrom t segs len size mask = pruneTwigsOnce t len size mask := by
  obtain ⟨segs, h1, h2⟩ := break_segments_igraph_perm_model t hw hl seeds hs
  exact ⟨segs, h1, (prune_twigs_segment_order_independent t len size mask segs h2).2⟩

/-- … and with the networkx variant's list (which is the model's list itself). -/
theorem prune_twigs_nx_eq_model (t : Table) (hw : WF t) (hl : labelsOKB t = true) (len : Int → Int → Nat) (size : Nat)
    (mask : Option (List Int)) :
    ∃ segs, SegVar.breakNx t = some segs ∧ pruneTwigsOnceFrom t segs len size mask = pruneTwigsOnce t len size mask :=
  ⟨smallSegments t, break_segments_nx_eq_model t hw hl,
    (prune_twigs_segment_order_independent t len size mask _ (List.Perm.refl _)).2⟩

/-! ### synapse flow centrality: the Python path versus the formula at every node

Without navis-fastcore, `synapse_flow_centrality` evaluates the mode's formula only at branch points, roots
and connector nodes, then lets every other node of a small segment inherit the value of the node distal to
it (a connector-free leaf seeds 0), then applies the fork rule (`Model/FlowVariants.lean`, as written).
navis-fastcore evaluates the formula at every node (`Flow.sfc`, what C17 proves to count paths). -/

/-- **The Python path computes `Flow.sfc`** — every well-formed, correctly labelled forest (any number of
roots, isolated nodes, connectors anywhere, several per node, none of one kind), every mode, and every
order in which `x.small_segments` lists the small segments (igraph: a set's order): no `KeyError`, same
column. -/
theorem synapse_flow_python_eq_formula (t : Table) (hw : WF t) (hl : labelsOKB t = true) (m : Flow.Mode)
    (pre post : List Int) (segs : List (List Int)) (hperm : segs.Perm (smallSegments t)) :
    ∃ col, FlowVar.sfcPython t m pre post segs = some col ∧ ∀ i ∈ ids t, col i = Flow.sfc t true m pre post i := by
  -- the dictionary holds the formula at every row (`propagate_column`); then both sides apply the fork rule to it
  obtain ⟨fl, h1, hcol⟩ := FlowVar.propagate_column hw hl m pre post segs hperm
  refine ⟨_, by unfold FlowVar.sfcPython; rw [h1]; rfl, fun i hi => ?_⟩
  obtain ⟨n, hn, rfl⟩ := mem_ids.mp hi
  show (if FlowVar.isBp t n.id then Flow.maxList ((children t n.id).map (FlowVar.column fl)) else FlowVar.column fl n.id) = _
  unfold Flow.sfc
  rw [FlowVar.isBp_eq_isFork hw hl hn]
  by_cases hf : Flow.isFork t n.id = true
  · rw [if_pos hf, if_pos hf]
    exact congrArg _ (List.map_congr_left fun c hc => hcol c (child_facts hw hc).1)
  · rw [if_neg hf, if_neg hf]; exact hcol n.id hi

/-- The two facts the propagation rests on: a connector-free node with a single child has its child's
formula value (the distal counts and the per-tree totals do not change), a connector-free leaf has 0. -/
theorem synapse_flow_constant_on_connector_free_stretch (t : Table) (hw : WF t) (m : Flow.Mode) (pre post : List Int) :
    (∀ p c, children t p = [c] → p ∈ ids t → p ∉ pre → p ∉ post →
      Flow.sfcRaw t true m pre post p = Flow.sfcRaw t true m pre post c) ∧
    (∀ e, children t e = [] → e ∉ pre → e ∉ post → Flow.sfcRaw t true m pre post e = 0) :=
  ⟨fun _ _ hch hp h1 h2 => Flow.sfcRaw_single_child hw hch hp m pre post h1 h2,
   fun _ hch h1 h2 => Flow.sfcRaw_leaf hw hch m pre post h1 h2⟩

/-- **The Python path of `synapse_flow_centrality` counts paths**: its value at every node is the number of
(postsynapse, presynapse) pairs whose tree path runs through the node in the mode's direction (forks: the
largest child's count) — the C17 specification, so it passes the checker run on navis' column. -/
theorem synapse_flow_python_counts_paths (t : Table) (hw : WF t) (hl : labelsOKB t = true) (m : Flow.Mode)
    (pre post : List Int) (segs : List (List Int)) (hperm : segs.Perm (smallSegments t)) :
    ∃ col, FlowVar.sfcPython t m pre post segs = some col ∧ (∀ i ∈ ids t, col i = Flow.sfcSpec t m pre post i) ∧
      Flow.sfcOKB t m pre post col = true := by
  obtain ⟨col, h1, h2⟩ := synapse_flow_python_eq_formula t hw hl m pre post segs hperm
  refine ⟨col, h1, fun i hi => by rw [h2 i hi, Flow.sfcSpec_eq hw], ?_⟩
  exact (Navis.Props.C17.flow_checker_sound t hw m pre post col).mpr (fun r hr => h2 r.id (mem_ids_of_mem hr))

/-- Order independence of the Python synapse-flow propagation: any two listings of the small segments
(igraph iterates a set) give the same column. -/
theorem synapse_flow_python_order_independent (t : Table) (hw : WF t) (hl : labelsOKB t = true) (m : Flow.Mode)
    (pre post : List Int) (segs segs' : List (List Int)) (h : segs.Perm (smallSegments t)) (h' : segs'.Perm (smallSegments t)) :
    ∃ col col', FlowVar.sfcPython t m pre post segs = some col ∧ FlowVar.sfcPython t m pre post segs' = some col' ∧
      ∀ i ∈ ids t, col i = col' i := by
  obtain ⟨col, h1, h2⟩ := synapse_flow_python_eq_formula t hw hl m pre post segs h
  obtain ⟨col', h1', h2'⟩ := synapse_flow_python_eq_formula t hw hl m pre post segs' h'
  exact ⟨col, col', h1, h1', fun i hi => by rw [h2 i hi, h2' i hi]⟩

/-- The Python synapse-flow path fed with the small segments of the igraph variant of `_break_segments` (any
seed order) — which is what `x.small_segments` is under igraph — still gives the formula with the fork rule. -/
theorem synapse_flow_python_on_igraph_segments (t : Table) (hw : WF t) (hl : labelsOKB t = true) (m : Flow.Mode)
    (pre post : List Int) (seeds : List Nat) (hs : seeds.Perm (SegVar.seedsIdx t)) :
    ∃ segs col, SegVar.breakIgraphFrom t seeds = some segs ∧ FlowVar.sfcPython t m pre post segs = some col ∧
      ∀ i ∈ ids t, col i = Flow.sfc t true m pre post i := by
  obtain ⟨segs, h1, h2⟩ := break_segments_igraph_perm_model t hw hl seeds hs
  obtain ⟨col, h3, h4⟩ := synapse_flow_python_eq_formula t hw hl m pre post segs h2
  exact ⟨segs, col, h1, h3, h4⟩

/-! ### connected components: root labels (fastcore) versus undirected closure (igraph / networkx) -/

/-- **The undirected component of a node is the set of nodes with the same root** — every well-formed
forest, every node: `|edges| + 1` sweeps of the closure reach exactly the rows whose root path ends in the
same root. -/
theorem components_closure_iff_same_root (t : Table) (hw : WF t) (i : Int) (hi : i ∈ ids t) (j : Int) :
    j ∈ componentClosure t i ↔ j ∈ ids t ∧ rootOf t j = rootOf t i := by
  -- the closure is the connected component (any edge list), which in a forest is the set with the same root
  unfold componentClosure
  rw [CutEquiv.mem_componentOf_iff]
  constructor
  · intro h
    have h' : Heal.Conn (uedges t) i j := h.mono fun _ _ => Heal.adj_edges.mp
    have hj := Heal.Conn_mem_ids hw hi h'
    exact ⟨hj, ((Heal.Conn_iff_rootOf hw hi hj).mp h').symm⟩
  · rintro ⟨hj, h⟩
    exact ((Heal.Conn_iff_rootOf hw hi hj).mpr h.symm).mono fun _ _ => Heal.adj_edges.mpr

/-- Hence every group navis forms from fastcore's root labels is, as a set, the igraph / networkx component
of each of its members. -/
theorem components_by_root_eq_closure (t : Table) (hw : WF t) (c : List Int) (hc : c ∈ componentsByRoot t)
    (i : Int) (hi : i ∈ c) (j : Int) : j ∈ c ↔ j ∈ componentClosure t i := by
  unfold componentsByRoot at hc
  obtain ⟨r, _, rfl⟩ := List.mem_map.mp hc
  simp only [List.mem_filter, beq_iff_eq] at hi ⊢
  rw [components_closure_iff_same_root t hw i hi.1 j, hi.2]

/-- The closures are symmetric … -/
theorem components_closure_symm (t : Table) (hw : WF t) (i j : Int) (hi : i ∈ ids t) (hj : j ∈ ids t) :
    j ∈ componentClosure t i ↔ i ∈ componentClosure t j := by
  rw [components_closure_iff_same_root t hw i hi j, components_closure_iff_same_root t hw j hj i]
  exact ⟨fun h => ⟨hi, h.2.symm⟩, fun h => ⟨hj, h.2.symm⟩⟩

/-- … and transitive: they partition the table exactly like fastcore's root labels. -/
theorem components_closure_trans (t : Table) (hw : WF t) (i j k : Int) (hi : i ∈ ids t) (hj : j ∈ ids t)
    (h1 : j ∈ componentClosure t i) (h2 : k ∈ componentClosure t j) : k ∈ componentClosure t i := by
  rw [components_closure_iff_same_root t hw i hi] at h1 ⊢
  rw [components_closure_iff_same_root t hw j hj] at h2
  exact ⟨h2.1, h2.2.trans h1.2⟩

/-! ### classifiers, `geodesic_matrix(from_=…)` row labels, the reroot path, `distal_to` -/

/-- `_classify_nodes_old` on networkx degrees (`g.degree` = in + out: ends have degree 1, branch points
degree > 2) agrees with `classify_nodes` (and so with the igraph in-degree variant above). -/
theorem classify_old_nx_eq_new (t : Table) (n : Node) : classifyOldNxNode t n = classifyNode t n := by
  rw [classifyNode_eq_labelOf]
  unfold classifyOldNxNode labelOf
  by_cases h : n.parent < 0
  · simp [h]
  · rcases childCount t n.id with _ | _ | c <;> simp [h]

/-- All three classifiers (parent column, igraph in-degrees, networkx total degrees) give every row the
label its child count and parent demand. -/
theorem classify_variants_agree (t : Table) (n : Node) :
    classifyNode t n = labelOf (childCount t n.id) (n.parent < 0) ∧ classifyOldNode t n = classifyNode t n ∧
      classifyOldNxNode t n = classifyOldNode t n :=
  ⟨classifyNode_eq_labelOf t n, classify_old_eq_new t n, by rw [classify_old_nx_eq_new, classify_old_eq_new]⟩

/-- `geodesic_matrix(from_=…)`: fastcore labels (and orders) the rows by the sorted unique `from_`, the
igraph / networkx branches by node-table order — the same rows under the same labels, only permuted, for
every well-formed table (only its unique ids are used) and every `from_` inside the table (anything else raises on
all back-ends). -/
theorem geodesic_from_rows_agree (t : Table) (hw : WF t) (len : Int → Int → Nat) (directed : Bool) (limit : Option Nat)
    (from_ : List Int) (hsub : ∀ i ∈ from_, i ∈ ids t) :
    (geoLabelled t len directed limit (geoRowLabelsPython t from_)).Perm
      (geoLabelled t len directed limit (geoRowLabelsFastcore t from_)) ∧
    (geoRowLabelsFastcore t from_).Nodup ∧ (geoRowLabelsFastcore t from_).Pairwise (· ≤ ·) ∧
    ∀ a, a ∈ geoRowLabelsFastcore t from_ ↔ a ∈ from_ :=
  ⟨(geoRowLabels_perm hw.1 from_ hsub).map _, npUnique_nodup _, npUnique_sorted _, mem_npUnique _⟩

/-- `geodesic_matrix(from_=…)`: looking a source up by its label gives the same row on every back-end (the
row of `a` is a function of `a` alone). -/
theorem geodesic_from_rows_lookup (t : Table) (hw : WF t) (len : Int → Int → Nat) (directed : Bool) (limit : Option Nat)
    (from_ : List Int) (hsub : ∀ i ∈ from_, i ∈ ids t) (a : Int) (row : List (Option Nat)) :
    (a, row) ∈ geoLabelled t len directed limit (geoRowLabelsPython t from_) ↔
      (a, row) ∈ geoLabelled t len directed limit (geoRowLabelsFastcore t from_) :=
  (geodesic_from_rows_agree t hw len directed limit from_ hsub).1.mem_iff

/-- `reroot_skeleton`: the igraph branch (shortest paths from the new root to ALL roots, first non-empty
one) and the networkx branch (follow the parents) reverse the same path — any number of roots, any node.
(That the two graph edits along a given path agree is C10, `reroot_graph_backends_agree`.) -/
theorem reroot_path_igraph_eq_nx (t : Table) (hw : WF t) (r : Int) (hr : r ∈ ids t) :
    rerootPathIgraph t r = some (rerootPathNx t r) := rerootPath_igraph_eq_nx hw hr

/-- `distal_to`: igraph asks whether the directed (child→parent) distance from `a` to `b` is finite,
networkx whether `a` occurs among the nodes that reach `b` — the same relation (`a` is distal to `b`). -/
theorem distal_to_igraph_eq_nx (t : Table) (len : Int → Int → Nat) (a b : Int) (ha : a ∈ ids t) :
    (geo t len true a b).isSome ↔ a ∈ distalSet t b := by
  rw [geo_directed_isSome_iff, mem_distalSet]
  exact ⟨fun h => ⟨ha, h⟩, fun h => h.2⟩

/-! ### history form: after any sequence of the modelled operations all back-ends agree

`applyOpBE be` (`Model/BackendOps.lean`) is the operation language of C01/C10 with the back-end explicit:
with igraph (default and navis-fastcore configuration) `reroot` takes its path from the shortest paths to
all roots and `cut` decomposes the graph after deleting one edge; with networkx both walk the graph. -/

/-- The igraph branch of `reroot_skeleton` returns the same table (parents and labels) as the networkx
branch — every well-formed forest, every node (absent, root or not). -/
theorem reroot_igraph_eq_nx (t : Table) (hw : WF t) (r : Int) : rerootIgraph t r = reroot t r := by
  unfold rerootIgraph reroot
  cases hf : find? t r with
  | none => rfl
  | some nr =>
    simp only
    split
    · rfl
    · have hr : r ∈ ids t := mem_ids.mpr ⟨nr, find?_some hf⟩
      rw [rerootPath_igraph_eq_nx hw hr]
      -- `rerootOn t r path` is the body of `reroot` once its path is fixed
      rfl

/-- One operation: every back-end computes what the back-end-free model `applyOp` computes. -/
theorem op_backend_independent (be : Backend) (t : Table) (hw : WF t) (op : Op) : applyOpBE be t op = applyOp t op := by
  have hcut : ∀ c, cutBE be t c = cut t c := fun c => by rw [cutBE, cut_decompose_eq_cut t hw c, ite_self]
  cases op with
  | reroot r =>
    show rerootBE be t r = reroot t r
    rw [rerootBE, reroot_igraph_eq_nx t hw r, ite_self]
  | cutDistal c =>
    show (match cutBE be t c with | some (d, _) => d | none => t) = _
    rw [hcut c]; rfl
  | cutProximal c =>
    show (match cutBE be t c with | some (_, p) => p | none => t) = _
    rw [hcut c]; rfl
  | subset k => rfl
  | removeNodes w => rfl
  | downsample f p => rfl
  | reclassify => rfl

/-- **History form**: after ANY sequence of the modelled operations (subset, reroot, cut distal / proximal,
remove_nodes, downsample, re-classify) started from a well-formed forest, every back-end holds the table the
back-end-free model holds — by induction over the sequence, using that every operation preserves
well-formedness (C01). -/
theorem ops_backend_independent (be : Backend) (t : Table) (hw : WF t) (ops : List Op) :
    ops.foldl (applyOpBE be) t = ops.foldl applyOp t :=
  foldl_eq_of_inv WF (fun t op hw => ⟨op_backend_independent be t hw op, Navis.Props.C01.op_preserves_WF t hw op⟩) ops t hw

/-- … hence any two back-ends agree after any history, and the common result is well-formed. -/
theorem ops_backends_agree (be be' : Backend) (t : Table) (hw : WF t) (ops : List Op) :
    ops.foldl (applyOpBE be) t = ops.foldl (applyOpBE be') t ∧ WF (ops.foldl (applyOpBE be) t) := by
  rw [ops_backend_independent be t hw ops, ops_backend_independent be' t hw ops]
  exact ⟨rfl, Navis.Props.C01.ops_preserve_WF t hw ops⟩

/-- Mixed histories: the back-end may even change between steps (`config.use_igraph` toggled, fastcore
(un)installed) without any effect on the result. -/
theorem ops_backend_schedule_independent (t : Table) (hw : WF t) (steps : List (Backend × Op)) :
    steps.foldl (fun acc s => applyOpBE s.1 acc s.2) t = (steps.map Prod.snd).foldl applyOp t := by
  rw [List.foldl_map]
  exact foldl_eq_of_inv WF
    (fun t s hw => ⟨op_backend_independent s.1 t hw s.2, Navis.Props.C01.op_preserves_WF t hw s.2⟩) steps t hw

/-- Rerooting to several nodes in turn (`reroot_skeleton(x, [r1, r2, …])`): every back-end ends in the model's
table. -/
theorem reroot_many_backend_independent (be : Backend) (t : Table) (hw : WF t) (rs : List Int) :
    rs.foldl (rerootBE be) t = rerootMany t rs :=
  foldl_eq_of_inv WF (fun t r hw => ⟨op_backend_independent be t hw (.reroot r), WF_reroot hw r⟩) rs t hw

/-- Several cuts in a row (`cut_skeleton(x, [c1, c2, …])`): every back-end produces the model's list of
fragments, in the same order. -/
theorem cut_many_backend_independent (be : Backend) (t : Table) (hw : WF t) (cs : List Int) :
    cutManyBE be t cs = cutMany t cs := by
  -- the model's round is the networkx round; on well-formed fragments every back-end's round is that round, and
  -- the new fragment list is well-formed again (`cutStep_inv` speaks of `TreeEdit.cutStep`, which `cutStepBE .networkx`
  -- and the round inside `cutMany` repeat word for word)
  have hstep : ∀ (frags : List Table) (c : Int), (∀ f ∈ frags, WF f) →
      cutStepBE be frags c = cutStepBE .networkx frags c ∧ ∀ g ∈ cutStepBE .networkx frags c, WF g := by
    intro frags c hall
    refine ⟨?_, TreeEdit.cutStep_inv (P := WF) (fun _ keep h => WF_subset h keep) hall c⟩
    unfold cutStepBE
    cases frags.findIdx? (fun f => (ids f).contains c) with
    | none => rfl
    | some k =>
      simp only
      cases hk : frags[k]? with
      | none => rfl
      | some f =>
        have hcut : cutBE be f c = cut f c := by
          rw [cutBE, cut_decompose_eq_cut f (hall f (List.mem_of_getElem? hk)) c, ite_self]
        simp only [hcut]
        rfl
  exact foldl_eq_of_inv (fun frags => ∀ f ∈ frags, WF f) hstep cs [t] fun f hf => List.mem_singleton.mp hf ▸ hw

/-! ### the observables after a history -/

/-- After any history the Python Strahler sweep on any back-end's table is the recurrence on the model's
table (labels are re-established by `classify`, which the sweep's hypothesis asks for). -/
theorem strahler_after_ops (be : Backend) (t : Table) (hw : WF t) (ops : List Op) (g : Bool) (pick : Sweep.St → Nat) :
    ∃ col, Sweep.sweep (classify (ops.foldl (applyOpBE be) t)) g [] pick = some col ∧
      ∀ i ∈ ids (ops.foldl applyOp t), col i = strahler (classify (ops.foldl applyOp t)) g [] i := by
  rw [ops_backend_independent be t hw ops]
  have hw' := WF_classify (Navis.Props.C01.ops_preserve_WF t hw ops)
  obtain ⟨col, h1, h2⟩ := strahler_sweep_eq_rec _ hw' (labelsOKB_classify _) g pick
  exact ⟨col, h1, fun i hi => h2 i (by rw [ids_classify]; exact hi)⟩

/-- After any history, on any back-end's table, the Python synapse-flow path gives the formula with the fork
rule on the model's table. -/
theorem synapse_flow_after_ops (be : Backend) (t : Table) (hw : WF t) (ops : List Op) (m : Flow.Mode) (pre post : List Int) :
    ∃ col, FlowVar.sfcPython (classify (ops.foldl (applyOpBE be) t)) m pre post
        (smallSegments (classify (ops.foldl (applyOpBE be) t))) = some col ∧
      ∀ i ∈ ids (ops.foldl applyOp t), col i = Flow.sfc (classify (ops.foldl applyOp t)) true m pre post i := by
  rw [ops_backend_independent be t hw ops]
  have hw' := WF_classify (Navis.Props.C01.ops_preserve_WF t hw ops)
  obtain ⟨col, h1, h2⟩ := synapse_flow_python_eq_formula _ hw' (labelsOKB_classify _) m pre post _ (List.Perm.refl _)
  exact ⟨col, h1, fun i hi => h2 i (by rw [ids_classify]; exact hi)⟩

/-- After any history both Python segment builders agree on any back-end's table and pass the C05 checker. -/
theorem segments_after_ops (be : Backend) (t : Table) (hw : WF t) (ops : List Op) (len : Int → Int → Nat) :
    ∃ segs, SegVar.genNx (classify (ops.foldl (applyOpBE be) t)) len = some segs ∧
      SegVar.genIgraph (classify (ops.foldl (applyOpBE be) t)) len = some segs ∧
      segmentsOKB (classify (ops.foldl applyOp t)) len segs = true := by
  rw [ops_backend_independent be t hw ops]
  exact generate_segments_pass_checker _ (WF_classify (Navis.Props.C01.ops_preserve_WF t hw ops)) (labelsOKB_classify _) len

/-- After any history the components (by closure or by root label) of any back-end's table coincide. -/
theorem components_after_ops (be : Backend) (t : Table) (hw : WF t) (ops : List Op) (i : Int)
    (hi : i ∈ ids (ops.foldl applyOp t)) (j : Int) :
    j ∈ componentClosure (ops.foldl (applyOpBE be) t) i ↔
      j ∈ ids (ops.foldl applyOp t) ∧ rootOf (ops.foldl applyOp t) j = rootOf (ops.foldl applyOp t) i := by
  rw [ops_backend_independent be t hw ops]
  exact components_closure_iff_same_root _ (Navis.Props.C01.ops_preserve_WF t hw ops) i hi j

/-! ### Non-vacuity -/
def ex : Table := [⟨7, 3, 0, 0, 0, .end_⟩, ⟨3, 9, 3, 0, 0, .branch⟩, ⟨9, -1, 6, 0, 0, .root⟩, ⟨4, 3, 3, 4, 0, .end_⟩]
example : wfB ex = true ∧ labelsOKB ex = true := by decide +kernel
example : idxEdges ex = [(0, 1), (1, 2), (3, 1)] ∧ idEdges ex = [(7, 3), (3, 9), (4, 3)] := by decide +kernel
example : seedsIgraph ex = [7, 3, 4] ∧ stopsIgraph ex = [3, 9] := by decide +kernel

/-- `cut` at `3` (rows in the order `7, 3, 9, 4`): the decomposition finds the cut node first, the
reverse BFS lists table order — the same set. -/
example : distalByDecompose ex 3 = [3, 7, 4] ∧ distalSet ex 3 = [7, 3, 4] := by decide +kernel
example : edgesWithout ex 3 9 = [(7, 3), (4, 3)] ∧ componentOf (edgesWithout ex 3 9) 0 3 = [3] ∧
    componentOf (edgesWithout ex 3 9) 1 3 = [3, 7, 4] := by decide +kernel
example : distalByDecompose ex 7 = [7] ∧ distalSet ex 7 = [7] ∧ distalByDecompose ex 5 = [] ∧ distalSet ex 5 = [] := by decide +kernel
/-- At the root nothing is deleted: both give the whole tree. -/
example : distalByDecompose ex 9 = [9, 3, 4, 7] ∧ distalSet ex 9 = [7, 3, 9, 4] := by decide +kernel
example : (cutByDecompose ex 3).map (fun r => (ids r.1, ids r.2)) = some ([7, 3, 4], [3, 9]) ∧
    cutByDecompose ex 3 = cut ex 3 ∧ cutByDecompose ex 9 = none := by decide +kernel
/-- Without the deletion the component is the whole tree — the deleted edge is what separates. -/
example : componentOf (edges ex) ((edges ex).length + 1) 3 = [3, 7, 9, 4] := by decide +kernel

/-- Two trees, node id 0, a forking root (0: children 5, 8), a non-forking root (2), rows out of order. -/
def exS : Table := [⟨5, 0, 0, 0, 0, .branch⟩, ⟨0, -1, 0, 0, 0, .root⟩, ⟨8, 0, 0, 0, 0, .end_⟩, ⟨3, 5, 0, 0, 0, .end_⟩,
  ⟨4, 5, 0, 0, 0, .slab⟩, ⟨6, 4, 0, 0, 0, .end_⟩, ⟨2, -1, 0, 0, 0, .root⟩, ⟨7, 2, 0, 0, 0, .end_⟩, ⟨9, -1, 0, 0, 0, .root⟩]
example : wfB exS = true ∧ labelsOKB exS = true := by decide +kernel
example : Sweep.endNodes exS = [8, 3, 6, 7] ∧ Sweep.branchNodes exS = [5, 0] := by decide +kernel
/-- three pop orders, one column: forking root 0 gets 2 (children 2 and 1), root 2 the index of its chain,
isolated root 9 the default 1 -/
example : (Sweep.sweep exS false [] Sweep.pickFirst).map (fun c => (ids exS).map c) = some [2, 2, 1, 1, 1, 1, 1, 1, 1] ∧
    (Sweep.sweep exS false [] Sweep.pickLast).map (fun c => (ids exS).map c) = some [2, 2, 1, 1, 1, 1, 1, 1, 1] ∧
    (Sweep.sweep exS false [] (Sweep.pickMix 3)).map (fun c => (ids exS).map c) = some [2, 2, 1, 1, 1, 1, 1, 1, 1] ∧
    (ids exS).map (strahler exS false []) = [2, 2, 1, 1, 1, 1, 1, 1, 1] := by decide +kernel
example : (Sweep.sweep exS true [] Sweep.pickLast).map (fun c => (ids exS).map c) = some [2, 3, 1, 1, 1, 1, 1, 1, 1] := by decide +kernel
/-- ignored twig 3 takes the index of fork 5, which no longer sees it; `min_twig_size = 3` ignores the
two-node twigs 8 and 3 (and 7, whose chain ends at the non-forking root 2: everything there becomes 0) -/
example : (Sweep.sweep exS false [3] Sweep.pickFirst).map (fun c => (ids exS).map c) = some [1, 2, 1, 1, 1, 1, 1, 1, 1] ∧
    (ids exS).map (strahler exS false [3]) = [1, 2, 1, 1, 1, 1, 1, 1, 1] ∧
    Sweep.ignoreList exS [] 3 = [8, 3, 7] ∧
    (Sweep.sweep exS false (Sweep.ignoreList exS [] 3) Sweep.pickLast).map (fun c => (ids exS).map c) =
      some [1, 1, 1, 1, 1, 1, 0, 0, 1] := by decide +kernel
/-- the igraph seed order (branch points first) differs from the table order of the networkx variant -/
example : SegVar.breakIgraph ex = some [[3, 9], [7, 3], [4, 3]] ∧ SegVar.breakNx ex = some [[7, 3], [3, 9], [4, 3]] ∧
    smallSegments ex = [[7, 3], [3, 9], [4, 3]] := by decide +kernel
/-- the leafs 8 and 7 are both at depth 1 and keep their table order (stable sort); the three segments of
length 1 come in decreasing lexicographic order, the isolated node last -/
example : SegVar.genIgraph exS (fun _ _ => 1) = some [[6, 4, 5, 0], [8, 0], [7, 2], [3, 5], [9]] ∧
    SegVar.genNx exS (fun _ _ => 1) = some [[6, 4, 5, 0], [8, 0], [7, 2], [3, 5], [9]] ∧
    SegVar.sortedEnds exS (fun _ _ => 1) = [6, 3, 8, 7] := by decide +kernel
/-- `exS` with presynapses on 6, 6, 3 and postsynapses on 8, 7, 0: formula at the calc nodes 5, 0, 2, 9 and the
connector nodes, slab 4 inherits from 6; fork 5 takes the larger child. -/
example : (FlowVar.sfcPython exS .centrifugal [6, 6, 3] [8, 7, 0] (smallSegments exS)).map (fun c => (ids exS).map c) =
      some ((ids exS).map (Flow.sfc exS true .centrifugal [6, 6, 3] [8, 7, 0])) ∧
    (ids exS).map (Flow.sfc exS true .centrifugal [6, 6, 3] [8, 7, 0]) = [4, 0, 0, 2, 4, 4, 0, 0, 0] ∧
    FlowVar.calcNodes exS [6, 6, 3] [8, 7, 0] = [5, 0, 8, 3, 6, 2, 7, 9] := by decide +kernel
/-- two trees (one rooted at node id 0) and an isolated node -/
def exC : Table := [⟨2, 1, 0, 0, 0, .end_⟩, ⟨1, -1, 0, 0, 0, .root⟩, ⟨0, -1, 0, 0, 0, .root⟩, ⟨7, 0, 0, 0, 0, .end_⟩, ⟨5, -1, 0, 0, 0, .root⟩]
example : wfB exC = true := by decide +kernel
example : componentsByRoot exC = [[0, 7], [2, 1], [5]] ∧ componentsByClosure exC = [[2, 1], [0, 7], [5]] := by decide +kernel
example : geoRowLabelsPython ex [4, 7, 4] = [7, 4] ∧ geoRowLabelsFastcore ex [4, 7, 4] = [4, 7] := by decide +kernel
example : rerootPathIgraph exS 6 = some [6, 4, 5, 0] ∧ rerootPathIgraph exS 7 = some [7, 2] ∧
    rerootPathIgraph exS 9 = some [9] := by decide +kernel

/-! non-vacuity of the history theorems -/
private theorem exS_WF : WF exS := (wfB_iff _).mp (by decide +kernel)
example : (([Op.reroot 6, Op.cutDistal 4, Op.subset [4, 6, 5]] : List Op).foldl (applyOpBE .igraph) exS) =
    ([Op.reroot 6, Op.cutDistal 4, Op.subset [4, 6, 5]] : List Op).foldl applyOp exS := ops_backend_independent _ _ exS_WF _
example : rerootIgraph exS 6 = reroot exS 6 ∧ (ids (reroot exS 6)).length = 9 :=
  ⟨reroot_igraph_eq_nx exS exS_WF 6, by decide +kernel⟩

end Navis.Props.C04

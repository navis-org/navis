import NavisModel.Proofs.HeapLemmas
import NavisModel.Proofs.HeapTraceLemmas
import NavisModel.Gen.InplaceSpec
import NavisModel.Proofs.HeapDeepLemmas
import NavisModel.Model.InputWrites
import NavisModel.Gen.InputWrites
import NavisModel.Gen.CopySpec
import NavisModel.Gen.ParSpec
import NavisModel.Proofs.HeapHistLemmas
/-!
# C03 — inputs are never modified unless `inplace=True`; inplace is equivalent

The executable model is `Model/Heap.lean` (two-level containers: `Model/HeapDeep.lean`), the lemmas about it are in
`Proofs/Heap*Lemmas.lean`.  What is extracted from the navis source: the per-function event traces (`Gen/InplaceSpec.lean`), the
writes of functions without an `inplace` flag (`Gen/InputWrites.lean`, against the whitelist `Model/InputWrites.lean`), how the
`copy()` methods copy (`Gen/CopySpec.lean`), and how `map_neuronlist` runs parallel jobs (`Gen/ParSpec.lean`).

What is proved is the **pattern** navis uses in every manipulation function —
`if not inplace: x = x.copy()` ; body(x) ; `return x` — over a heap model with object identity, shallow
per-attribute copies and the networkx graph handed to the copy as a *view* (alias).  The frame is proved for every store,
every receiver and every body (a list of in-place writes / re-bindings with arbitrary value functions) subject to
the syntactic discipline `writesOwn` (no in-place graph write while the graph may still be a view); the equivalence of the
in-place call for every body and every separated receiver (`Sep s x`; members of a list pairwise `Disj`), and for a stale
receiver only for bodies that start by dropping the cached graphs.  The individual
function bodies are *not* modelled: that each public function follows the pattern is (i) checked syntactically by the
translator (`all_guarded`, over the generated table) and (ii) tested by the catalogue sweep of `harness/c03.py`.

Vocabulary: `Ext s t` — every data / object / list cell of `s` is present and unchanged in `t`;
`Sep s x` — `x` is a valid object bound to valid, pairwise distinct containers; `s.abs x` — the address-free
observable state of `x`; `aexec a b` — the address-free semantics of body `b` from state `a`.
`Ext`, `Sep`, `Loc`, `Disj` are defined in `Proofs/HeapLemmas.lean`; `runHist`, `ahist`, `ListOp`, `runListOps` in
`Proofs/HeapHistLemmas.lean`.
-/
namespace Navis.Props.C03
open Navis.Heap Navis.Gen.InplaceSpec

/-! ## 1. frame: a non-inplace call modifies nothing that existed before -/

/-- For every store, receiver, staleness and every body that respects `writesOwn`, the call
without `inplace` only allocates: every cell of the old store — in particular the input object and every container
reachable from it — is unchanged. -/
theorem noninplace_frame (b : List Stmt) (s : Store) (x : Ref) (stale : Bool) (hw : writesOwn true b = true) :
    Ext s (call b s x false stale).1 :=
  call_ext b s x stale hw

/-- The same, read from the input: its `__dict__`, every container reachable from it and its observable state are
what they were (and the executable checker `frameB` the driver runs says so). -/
theorem noninplace_frame_input (b : List Stmt) (s : Store) (x : Ref) (stale : Bool) (hw : writesOwn true b = true)
    (hx : Sep s x) :
    let t := (call b s x false stale).1
    t.objs[x]? = s.objs[x]? ∧ (∀ r, r ∈ (s.obj x).refs → t.data[r]? = s.data[r]?) ∧ t.abs x = s.abs x ∧
      frameB s t x = true := by
  intro t
  have he : Ext s t := noninplace_frame b s x stale hw
  have h1 := he.oget x hx.valid
  have h2 : ∀ r, r ∈ (s.obj x).refs → t.data[r]? = s.data[r]? := fun r hr =>
    let ⟨a, ha⟩ := Obj.mem_refs.mp hr
    he.dget r (hx.bound a r ha)
  exact ⟨h1, h2, (Sep.of_ext he hx).2, (frameB_iff s t x).mpr ⟨h1, h2⟩⟩

/-- `@lock_neuron` increments `_lock` on the *input* and decrements it afterwards: the net effect on the input is
nil, so the frame survives the decorator. -/
theorem lock_restored (b : List Stmt) (s : Store) (x : Ref) (hx : x < s.objs.length) (hw : writesOwn true b = true) :
    Ext s (callLocked b s x false).1 := by
  have he := call_ext b (s.bumpLock x true) x false hw
  have hobj := (he.obj ((objs_length_setObj s x _).symm ▸ hx : x < (s.bumpLock x true).objs.length)).trans
    (bumpLock_obj_same s true hx)
  -- the decrement undoes the increment: the record put back is the one `s` holds
  have hback : (callLocked b s x false).1 = (call b (s.bumpLock x true) x false).1.setObj x (s.obj x) := by
    show Store.setObj _ x { (call b (s.bumpLock x true) x false).1.obj x with
      lock := ((call b (s.bumpLock x true) x false).1.obj x).lock - 1 } = _
    rw [hobj]; rfl
  rw [hback]
  exact he.setObj_back hx

/-! ## 2. no leak: later edits of the result never reach the input -/

/-- After a non-inplace call, any later sequence of edits `b'` of the *result* leaves the old store
unchanged, provided the combined sequence respects `writesOwn` (a later in-place graph edit must be preceded —
in `b` or in `b'` — by a thaw / re-bind / clear of the graph view). -/
theorem no_leak (b b' : List Stmt) (s : Store) (x : Ref) (stale : Bool) (hw : writesOwn true (b ++ b') = true) :
    Ext s (exec (call b s x false stale).1 (call b s x false stale).2 b') := by
  have := call_ext (b ++ b') s x stale hw
  rw [call_append] at this
  exact this

/-- In particular every edit of the result's tables, arrays, igraph and metadata (anything but an in-place edit
of the networkx graph) is harmless after any well-behaved body: no shared tables. -/
theorem no_leak_tables (b b' : List Stmt) (s : Store) (x : Ref) (stale : Bool) (hw : writesOwn true b = true)
    (hb' : ∀ st ∈ b', st.needsOwnGraph = false) :
    Ext s (exec (call b s x false stale).1 (call b s x false stale).2 b') := by
  apply no_leak
  rw [writesOwn_append, hw, writesOwn_noGraphWrite _ b' hb']; rfl

/-- The aliasing case, for the `reroot_skeleton` body.  networkx branch:
`if nx.is_frozen(g): x._graph_nx = g = nx.DiGraph(g)` ; `g.remove_edge(..)/g.add_edges_from(..)` ; node table
edits ; `_clear_temp_attr(exclude=['graph', …])`, which keeps the graph just edited and drops the igraph. -/
def rerootNx (f g : Abs → Int) : List Stmt := [.thaw, .wr .graph f, .wr .nodes g, .clear .igraph]
/-- igraph branch: edits of the (deep-copied) igraph, node table edits, `_clear_temp_attr(exclude=['igraph', …])`, which drops
the networkx graph. -/
def rerootIg (f g : Abs → Int) : List Stmt := [.wr .igraph f, .wr .nodes g, .clear .graph]

theorem reroot_writesOwn (f g : Abs → Int) :
    writesOwn true (rerootNx f g) = true ∧ writesOwn true (rerootIg f g) = true := ⟨rfl, rfl⟩

theorem reroot_frame (f g : Abs → Int) (s : Store) (x : Ref) :
    Ext s (call (rerootNx f g) s x false).1 ∧ Ext s (call (rerootIg f g) s x false).1 :=
  ⟨noninplace_frame _ s x false rfl, noninplace_frame _ s x false rfl⟩

/-- Without the thaw the same body is rejected by `writesOwn` … -/
theorem reroot_without_thaw_rejected (f g : Abs → Int) :
    writesOwn true [.wr .graph f, .wr .nodes g, .clear .igraph] = false := rfl

/-! ## 3. inplace: same object, same final state -/

/-- With `inplace=True` the very object passed in is returned; without, a fresh object
(one that did not exist in the old store, hence different from every old object). -/
theorem inplace_identity (b : List Stmt) (s : Store) (x : Ref) (stale : Bool) :
    (call b s x true stale).2 = x ∧
    (call b s x false stale).2 = s.objs.length ∧ (x < s.objs.length → (call b s x false stale).2 ≠ x) := by
  exact ⟨rfl, call_snd_false b s x stale, (fresh_ne (Nat.le_of_eq (call_snd_false b s x stale).symm)).2⟩

/-- For every body (no `writesOwn` needed) and every separated receiver whose graphs are not
stale, the observable state of the object after the in-place call equals the observable state of the result of the
non-inplace call; both equal the address-free run of the body on the input's state. -/
theorem inplace_equiv (b : List Stmt) (s : Store) (x : Ref) (hx : Sep s x) :
    (call b s x true).1.abs (call b s x true).2 = (call b s x false).1.abs (call b s x false).2 ∧
    (call b s x true).1.abs (call b s x true).2 = aexec (s.abs x) b := by
  exact ⟨(call_abs b hx true).2.trans (call_abs b hx false).2.symm, (call_abs b hx true).2⟩

/-- For a stale receiver `copy` drops the cached graphs; the two calls still agree for every body that (like all
navis bodies, through `_clear_temp_attr`) starts by dropping the cached graphs itself. -/
theorem inplace_equiv_stale (b : List Stmt) (s : Store) (x : Ref) (hx : Sep s x) :
    let b' := Stmt.clear .graph :: Stmt.clear .igraph :: b
    (call b' s x true true).1.abs (call b' s x true true).2 = (call b' s x false true).1.abs (call b' s x false true).2 := by
  intro b'
  rw [call_inplace, (exec_abs b' hx).2, (call_abs_copy b' hx true).2]
  exact (aexec_noGraphs (s.abs x) b).symm

/-- The in-place call touches nothing but the receiver's own `__dict__`, the containers it was bound to, and cells
it allocates: other objects and their tables are unchanged. -/
theorem inplace_local (b : List Stmt) (s : Store) (x : Ref) (hx : x < s.objs.length) :
    Loc s (call b s x true).1 x :=
  exec_loc b hx

/-! ## 4. NeuronList mapping -/

/-- **maplist, `inplace=False`.** The wrapper returns a *new* list object; the old store — the old list, its
neurons and all their tables — is unchanged; the result has one neuron per input neuron, in order, each a fresh
object whose observable state is the body run on the corresponding input's state. -/
theorem maplist_noninplace (b : List Stmt) (s : Store) (l : Ref) (hw : writesOwn true b = true) :
    let r := mapList b s l false
    Ext s r.1 ∧ r.2 = s.lists.length ∧ (r.1.lst r.2).length = (s.lst l).length ∧
    ∀ (i : Nat) (x : Nat), (s.lst l)[i]? = some x → Sep s x →
      ∃ y, (r.1.lst r.2)[i]? = some y ∧ s.objs.length ≤ y ∧ r.1.abs y = aexec (s.abs x) b := by
  intro r
  obtain ⟨h1, h2, h3, h4⟩ := mapCalls_copy b hw (s.lst l) s
  obtain ⟨hr2, hlst⟩ : r.2 = s.lists.length ∧ r.1.lst s.lists.length = _ := mapCalls_allocLst b s (s.lst l) false
  rw [hr2, hlst]
  refine ⟨h1.allocLst _, rfl, h2, ?_⟩
  intro i x hi hx
  obtain ⟨y, hy, hy3⟩ := h4 i x hi hx
  exact ⟨y, hy, h3 y (List.mem_of_getElem? hy), hy3⟩

/-- **maplist, `inplace=True`.** The wrapper returns the *same* list object, holding the same neuron objects in
the same order (the swap `nl.neurons = res.neurons` puts back what the serial run returned), and no neuron object
was created. -/
theorem maplist_inplace (b : List Stmt) (s : Store) (l : Ref) (hl : l < s.lists.length)
    (hv : ∀ x ∈ s.lst l, x < s.objs.length) :
    let r := mapList b s l true
    r.2 = l ∧ r.1.lst l = s.lst l ∧ r.1.objs.length = s.objs.length := by
  intro r
  show (mapList b s l true).2 = l ∧ (mapList b s l true).1.lst l = s.lst l ∧
    (mapList b s l true).1.objs.length = s.objs.length
  rw [mapList_inplace, objs_setLst, objs_allocLst]
  obtain ⟨hsnd, hlen⟩ := mapCalls_inplace_snd b (s.lst l) s
  have hl' : l < (mapCalls b s (s.lst l) true).1.lists.length := (mapCalls_lists b true (s.lst l) s).symm ▸ hl
  exact ⟨rfl, (lst_setLst_same (Nat.lt_of_lt_of_le hl' ((Ext.refl _).allocLst _).llen) _).trans hsnd, hlen⟩

/-- … and every member (members pairwise distinct objects sharing no container) ends in the state the body
produces from its own initial state — the same state the corresponding member of the non-inplace result has. -/
theorem maplist_inplace_members (b : List Stmt) (s : Store) (l : Ref) (hs : ∀ x ∈ s.lst l, Sep s x)
    (hd : (s.lst l).Pairwise (Disj s)) :
    ∀ x ∈ s.lst l, (mapList b s l true).1.abs x = aexec (s.abs x) b := by
  intro x hx
  rw [mapList_inplace, abs_setLst, abs_allocLst]
  exact mapCalls_inplace_abs b (s.lst l) s hs hd x hx

/-- NeuronList level: for a list of pairwise disjoint, separated members, member `i` of the list
after `f(nl, inplace=True)` is in the state of member `i` of the list returned by `f(nl)` (and both are the body run on the
member's initial state). -/
theorem maplist_inplace_equiv (b : List Stmt) (s : Store) (l : Ref) (hw : writesOwn true b = true)
    (hs : ∀ x ∈ s.lst l, Sep s x) (hd : (s.lst l).Pairwise (Disj s)) :
    ∀ (i : Nat) (x : Nat), (s.lst l)[i]? = some x →
      ∃ y, ((mapList b s l false).1.lst (mapList b s l false).2)[i]? = some y ∧
        (mapList b s l false).1.abs y = (mapList b s l true).1.abs x := by
  intro i x hi
  have hxm : x ∈ s.lst l := List.mem_of_getElem? hi
  obtain ⟨_, _, _, h4⟩ := maplist_noninplace b s l hw
  obtain ⟨y, hy, _, hy3⟩ := h4 i x hi (hs x hxm)
  exact ⟨y, hy, by rw [hy3, maplist_inplace_members b s l hs hd x hxm]⟩

/-- If the swap is dropped (the wrapper returns `res`), an `inplace=True` call on a list hands back a different
list object: identity is lost. -/
theorem maplist_noswap_loses_identity (b : List Stmt) (s : Store) (l : Ref) (hl : l < s.lists.length) :
    (mapListNoSwap b s l true).2 ≠ l := by
  exact (mapCalls_allocLst b s (s.lst l) true).1 ▸ Nat.ne_of_gt hl

/-! ## 4b. `map_neuronlist(..., parallel=True)`: forced `inplace=True` on the jobs needs every job to run on a pickled copy -/

/-- **forced inplace + per-job copy ⇒ frame.**  A parallel call without `inplace` leaves the old store — the list, its neurons,
all their tables — unchanged and returns a new list, for every body respecting `writesOwn`, provided the decorator does not force
`inplace=True` on the jobs, or every job runs in the pool (on a pickled copy of its neuron). -/
theorem forced_inplace_pooled_frame (b : List Stmt) (s : Store) (l : Ref) (forced pooled : Bool)
    (hw : writesOwn true b = true) (h : forced = false ∨ pooled = true) :
    Ext s (mapListPar b s l false true forced pooled).1 ∧ (mapListPar b s l false true forced pooled).2 = s.lists.length := by
  -- the flags `mapListPar` hands to `parCalls` when called with `inplace = false`, `parallel = true`
  have hp : (if (true && forced) = true then true else false) = false ∨ (true && pooled) = true := by
    cases forced <;> cases pooled <;> simp at h ⊢
  have he := parCalls_ext b hw _ _ hp (s.lst l) s
  exact ⟨he.allocLst _, congrArg List.length (parCalls_lists b _ _ (s.lst l) s)⟩

/-- **forced inplace + serial execution ⇒ the input is written** (seeded change C03_5: a "no pool for a single job" fallback
inside `NeuronProcessor.__call__`).  For a one-neuron list whose member has a node table, the parallel call without `inplace`
changes the member's node table, is not a frame, and hands back a list holding the member object itself. -/
theorem forced_inplace_serial_writes_input (s : Store) (l x r : Ref) (hl : s.lst l = [x])
    (hn : (s.obj x).nodes = some r) (hr : r < s.data.length) :
    let t := mapListPar [.wr .nodes bump] s l false true true false
    t.1.rd r = s.rd r + 1 ∧ ¬ Ext s t.1 ∧ t.1.lst t.2 = [x] := by
  intro t
  -- the one job runs serially and in place: the body's write goes to the member's own node table
  have ht : t = (s.wr r (s.rd r + 1)).allocLst [x] := by
    rw [← step_bump hn]
    show mapListPar [.wr .nodes bump] s l false true true false = _
    unfold mapListPar
    rw [hl]
    rfl
  have ht1 : t.1.rd r = s.rd r + 1 := by rw [ht]; exact rd_wr_same hr _
  refine ⟨ht1, ?_, ?_⟩
  · intro he
    have := he.rd hr
    rw [ht1] at this
    omega
  · rw [ht, allocLst_snd]; exact lst_allocLst_new _ _

/-- **The premise, against the source.**  In the current source either `map_neuronlist` does not force `inplace=True` on the jobs
of a parallel call, or `NeuronProcessor.__call__` runs every job of a parallel call in the pool: `parallel` is not re-assigned
after it was read, the branch is the bare `if parallel:`, its body maps the jobs through the pool and contains no serial call.
(`TreeNeuron.__getstate__` drops both graphs: a worker's copy has no view of the caller's graph.) -/
theorem parallel_premise :
    (Navis.Gen.ParSpec.forced = false ∨ Navis.Gen.ParSpec.pooled = true) ∧ Navis.Gen.ParSpec.picklingDropsGraphs = true := by
  decide +kernel

/-- Hence a parallel call without `inplace`, as navis is written, leaves the input list and its neurons unchanged. -/
theorem parallel_frame (b : List Stmt) (s : Store) (l : Ref) (hw : writesOwn true b = true) :
    Ext s (mapListPar b s l false true Navis.Gen.ParSpec.forced Navis.Gen.ParSpec.pooled).1 :=
  (forced_inplace_pooled_frame b s l _ _ hw parallel_premise.1).1

/-- One job of a parallel call with the decorator's forced `inplace=True`, run in a worker on a
pickled copy (no graphs), ends in the state the serial non-inplace call produces — for every body that (like all navis bodies,
through `_clear_temp_attr`) starts by dropping the cached graphs. -/
theorem parallel_job_equiv_serial (b : List Stmt) (s : Store) (x : Ref) (hx : Sep s x) :
    let b' := Stmt.clear .graph :: Stmt.clear .igraph :: b
    (runJob b' s x true true).1.abs (runJob b' s x true true).2 =
      (runJob b' s x false false).1.abs (runJob b' s x false false).2 := by
  intro b'
  rw [runJob_pooled_inplace, runJob_serial, (call_abs_copy b' hx true).2, (call_abs_copy b' hx false).2]
  exact aexec_noGraphs (s.abs x) b

/-- `inplace=True` on a parallel call hands back the same list object (its members are what the jobs returned). -/
theorem parallel_inplace_same_list (b : List Stmt) (s : Store) (l : Ref) (par forced pooled : Bool) :
    (mapListPar b s l true par forced pooled).2 = l := rfl

/-! ## 5. NeuronList operators -/

/-- `+`, `-`, `&` and `|` (with a neuron — member or not — or with a list) build a new list object and leave the
store, in particular the receiver's own list, as it was. -/
theorem list_ops_frame (s : Store) (l o : Ref) (keep : Ref → Bool) (extra : List Ref) (present : Bool) :
    Ext s (listAdd s l o).1 ∧ Ext s (listFilter s l keep).1 ∧ Ext s (listOrList s l extra).1 ∧
    Ext s (listOr s l o present).1 :=
  ⟨(Ext.refl s).allocLst _, (Ext.refl s).allocLst _, (Ext.refl s).allocLst _, (Ext.refl s).allocLst _⟩

/-- `nl | n` returns a fresh list holding the receiver's neurons, plus `n` exactly when it was not a member. -/
theorem list_or_result (s : Store) (l o : Ref) (present : Bool) :
    (listOr s l o present).2 = s.lists.length ∧
    (listOr s l o present).1.lst (listOr s l o present).2 = (if present then s.lst l else s.lst l ++ [o]) :=
  ⟨rfl, lst_allocLst_new _ _⟩

/-- **HISTORICAL (DESIGN §6 #6, fixed in navis).** `NeuronList.__or__` as written *before* the fix appended a
non-member neuron to the receiver's own list object: for every valid receiver the input list was modified. -/
theorem list_or_prefix_mutated_receiver (s : Store) (l o : Ref) (hl : l < s.lists.length) :
    (listOrPreFix s l o false).1.lst l = s.lst l ++ [o] ∧ ¬ Ext s (listOrPreFix s l o false).1 := by
  have h1 : (listOrPreFix s l o false).1.lst l = s.lst l ++ [o] := by
    show ((s.setLst l (s.lst l ++ [o])).allocLst _).1.lst l = _
    rw [((Ext.refl _).allocLst _).lst ((List.length_set ..).symm ▸ hl), lst_setLst_same hl]
  refine ⟨h1, fun he => ?_⟩
  have := congrArg List.length ((he.lst hl).symm.trans h1)
  simp at this

/-! ## 6. the premise, checked against the source text -/

/-- **Soundness of the syntactic premise.** If a function's event trace has no write before the copy guard and no
write through an alias of the original, then running it (every write a write to the node table with an arbitrary
value function) without `inplace` leaves every cell of the old store unchanged. -/
theorem okTrace_frame (f : Abs → Int) (t : List Ev) (s : Store) (x : Ref) (h : okTrace t = true) :
    Ext s (runTrace f t s x false).1 := by
  rw [runTrace_ok f h]
  exact okHist_frame f s x t s (Ext.refl s) (okTrace_parts h).1

/-- **The premise is necessary.** If some write precedes the guard, the input's node table *is* changed
(for the always-changing write `bump`), whatever follows. -/
theorem write_before_guard_violates (t : List Ev) (s : Store) (x r : Ref) (hn : (s.obj x).nodes = some r)
    (hr : r < s.data.length) (h : noWriteBeforeGuard t = false) :
    (runTrace bump t s x false).1.rd r ≠ s.rd r := by
  have := runTrace_violation s x r hn hr t h
  omega

/-- **The result of a non-inplace call is a fresh object.**  If the trace passes `okTrace` and the function copies
by itself (a `guard` on the path; pure delegations are covered by the callee's row), the object handed back was
allocated during the call: it is none of the objects that existed before, in particular not the input.  The model's
`call` copies by construction (`inplace_identity`); that the real function does is what this reads off the source text. -/
theorem okTrace_result_fresh (f : Abs → Int) (t : List Ev) (s : Store) (x : Ref) (h : okTrace t = true)
    (hg : t.contains .guard = true) :
    s.objs.length ≤ (runTrace f t s x false).2 ∧ (x < s.objs.length → (runTrace f t s x false).2 ≠ x) := by
  rw [runTrace_ok f h]
  exact fresh_ne (runHist_fresh s.objs.length _ (s, x) (Nat.le_refl _)
    (.inr ⟨_, List.mem_map.mpr ⟨.guard, List.contains_iff_mem.mp hg, rfl⟩, rfl⟩))

/-- **The premise is necessary (identity).**  A path that ends in `return <input>` — the early "nothing to do"
return placed before `if not inplace: x = x.copy()` — hands the caller the input object itself, whatever `inplace`
says; `okTrace` rejects every trace containing it. -/
theorem retIn_returns_input (f : Abs → Int) (t : List Ev) (s : Store) (x : Ref) (ip : Bool) :
    (runTrace f (t ++ [.retIn]) s x ip).2 = x ∧ okTrace (t ++ [.retIn]) = false := by
  refine ⟨?_, ?_⟩
  · rw [runTrace, List.foldl_append]; rfl
  · simp [okTrace]

/-- **inplace equivalence, read off the source text.**  If the trace passes `okTrace`, then for every separated
receiver the in-place run and the copying run of the trace end in the same observable state (the state of the very
object passed in vs. the state of the object handed back). -/
theorem okTrace_inplace_equiv (f : Abs → Int) (t : List Ev) (s : Store) (x : Ref) (h : okTrace t = true)
    (hx : Sep s x) :
    (runTrace f t s x true).1.abs (runTrace f t s x true).2 =
      (runTrace f t s x false).1.abs (runTrace f t s x false).2 := by
  -- both runs are histories with the same bodies
  rw [runTrace_ok f h, runTrace_ok f h, (runHist_abs _ (s, x) hx).2, (runHist_abs _ (s, x) hx).2, ahist_bodies, ahist_bodies,
    List.map_map, List.map_map]
  exact congrArg (List.foldl aexec _) (List.map_congr_left fun e _ => (evOp_body f false e).symm)

/-- **The premise is necessary (equivalence).**  `f(x, …, inplace=inplace)` with the result thrown away, after the
copy guard: with `inplace=True` the callee edits `x`, without it the callee edits a second copy that nobody keeps —
for every separated receiver with a node table the two end states differ (for the always-changing write `bump`). -/
theorem lostDelegate_breaks_equiv (s : Store) (x : Ref) (hx : Sep s x) (hn : (s.obj x).nodes ≠ none) :
    (runTrace bump [.guard, .lostDelegate] s x true).1.abs (runTrace bump [.guard, .lostDelegate] s x true).2 ≠
      (runTrace bump [.guard, .lostDelegate] s x false).1.abs (runTrace bump [.guard, .lostDelegate] s x false).2 ∧
    okTrace [.guard, .lostDelegate] = false := by
  refine ⟨?_, by decide +kernel⟩
  simp only [runTrace, List.foldl_cons, List.foldl_nil, runEv, if_true, Bool.false_eq_true, if_false]
  -- in place the callee writes into `x`; copying, it writes into a second copy and the object returned keeps the input's state
  obtain ⟨h1, h2⟩ : Sep (copyObj s x).1 (copyObj s x).2 ∧ (copyObj s x).1.abs (copyObj s x).2 = s.abs x :=
    call_abs [] hx false
  have hin : (call [.wr .nodes bump] s x true).1.abs x = astep (s.abs x) (.wr .nodes bump) := (exec_abs _ hx).2
  rw [hin, (Sep.of_ext (call_ext [.wr .nodes bump] _ _ false rfl) h1).2, h2]
  exact astep_bump_ne fun h0 => hn (Option.map_eq_none_iff.mp h0)

/-- **The generated table.** Every function under `navis/` that takes `inplace` (and every arithmetic dunder
taking `copy`) has, in the *current* source, its copy guard (or a delegation to another function of the table)
before its first write.  `decide` over the complete generated table: deleting the copy line in one function makes
this theorem fail. -/
theorem all_guarded : ∀ e ∈ inplaceSpec, e.2 = true := by decide +kernel

/-- Hence, in the heap model, every function of the table leaves the old store unchanged when called without
`inplace` (delegations being covered by the callee's own row). -/
theorem guarded_frame (f : Abs → Int) (s : Store) (x : Ref) :
    ∀ e ∈ inplaceTraces, Ext s (runTrace f e.2 s x false).1 := by
  intro e he
  exact okTrace_frame f e.2 s x (all_guarded _ (mem_okTable he))

/-- … hands back a fresh object whenever it copies by itself … -/
theorem guarded_fresh (f : Abs → Int) (s : Store) (x : Ref) (hx : x < s.objs.length) :
    ∀ e ∈ inplaceTraces, e.2.contains .guard = true → (runTrace f e.2 s x false).2 ≠ x := by
  intro e he hg
  exact (okTrace_result_fresh f e.2 s x (all_guarded _ (mem_okTable he)) hg).2 hx

/-- … and ends, in place, in the state of the object the non-inplace call hands back. -/
theorem guarded_equiv (f : Abs → Int) (s : Store) (x : Ref) (hx : Sep s x) :
    ∀ e ∈ inplaceTraces, (runTrace f e.2 s x true).1.abs (runTrace f e.2 s x true).2 =
      (runTrace f e.2 s x false).1.abs (runTrace f e.2 s x false).2 := by
  intro e he
  exact okTrace_inplace_equiv f e.2 s x (all_guarded _ (mem_okTable he)) hx

/-! ## 6b. functions WITHOUT an `inplace` flag: what they may leave behind in their input -/

/-- The three evaluated facts about the whitelist, evaluated together: each of them compares the function keys of
`documented` with one another. -/
private theorem whitelist_facts :
    (∀ w ∈ Navis.Gen.InputWrites.inputWrites, Navis.InputWrites.allowed w = true) ∧
    ((Navis.InputWrites.documented.filter (·.2.1 == "col")).map (·.1)).Nodup ∧
    Navis.InputWrites.allowed ("morpho/mmetrics.py:strahler_index", "col", "radius") = false := by decide +kernel

/-- **The annotation whitelist, per function and per column, against the source.**  Every write through the first
parameter that the translator finds in a public function taking no `inplace` / `copy` flag is a documented annotation of that very function (`documented`: one node-table column per analysis function,
`compartment` / `fragment` under the documented `label(s)_only` option) or a write into caller-built records that are not
neurons (`notANeuron`).  No exceptions: the undocumented writes this scan once found (`split_into_fragments`,
`persistence_points`, `average_skeletons`) are repaired in navis.  `decide` over the complete generated list: a new write to an
input anywhere in the catalogue makes this theorem fail. -/
theorem input_writes_whitelisted : ∀ w ∈ Navis.Gen.InputWrites.inputWrites, Navis.InputWrites.allowed w = true :=
  whitelist_facts.1

/-- the scan is not vacuous: it covers the catalogue -/
theorem input_writes_scan_size : 150 ≤ Navis.Gen.InputWrites.scannedFunctions := by decide +kernel

/-- No function has two `col` rows in `documented`: an analysis function documents at most one node-table column
(`synapse_flow_centrality` also the bookkeeping attribute naming the method, `break_fragments` one column for skeletons and one
attribute for meshes, `segment_analysis` none of its own). -/
theorem one_annotation_per_function :
    ∀ key ∈ (Navis.InputWrites.documented.map (·.1)).eraseDups,
      (Navis.InputWrites.annotationsOf key "col").length ≤ 1 :=
  fun key _ => by
    unfold Navis.InputWrites.annotationsOf
    rw [List.length_map, ← List.filter_filter, ← List.countP_eq_length_filter]
    -- the `col` rows have pairwise distinct function keys (evaluated), and the rows with this key are counted by the
    -- occurrences of the key among those keys
    have := List.nodup_iff_count.mp whitelist_facts.2.1 key
    rwa [List.count_eq_countP, List.countP_map] at this

/-! ## 6c. how deep `copy()` copies: tags, cached segment lists, list members -/

open Navis.HeapDeep in
/-- **no_leak for two-level attributes copied two levels deep.**  After `{k: copy.copy(v) for k, v in outer.items()}` every
later edit made through the copy's outer container — in-place edits of any inner container, new inner containers, deleted
ones, in any number and order — leaves every cell of the old store unchanged; the copy starts with the same content. -/
theorem deep1_no_leak (s : Navis.HeapDeep.Store) (r : Nat) (es : List Edit) :
    (applyEdits (deep1 s r).1 (deep1 s r).2 es).take s.length = s ∧ absOf (deep1 s r).1 (deep1 s r).2 = absOf s r := by
  refine ⟨?_, absOf_deep1 s r⟩
  rw [applyEdits_own es (deep1_own s r), deep1_take]

open Navis.HeapDeep in
/-- … hence the input's observable content (the contents of its inner containers) is what it was. -/
theorem deep1_input_unchanged (s : Navis.HeapDeep.Store) (r : Nat) (es : List Edit) (hw : wfB s r = true) :
    absOf (applyEdits (deep1 s r).1 (deep1 s r).2 es) r = absOf s r :=
  absOf_of_take (deep1_no_leak s r es).1 hw

open Navis.HeapDeep in
/-- **a one-level copy of a two-level attribute leaks** (`copy.copy` of a dict of lists / a list of arrays): one in-place
edit of an inner container of the copy changes the input's observable content.  HISTORICAL witnesses: the shared-tag-lists
defect and the shared arrays of the cached `_segments` / `_small_segments` lists (both repaired in navis: `TreeNeuron.copy`
now copies all three two levels deep, see `nested_copied_two_levels`). -/
theorem shallow_copy_leaks (s : Navis.HeapDeep.Store) (r i k : Nat) (v : Int) (hw : wfB s r = true)
    (hk : (kidsOf s r)[i]? = some k) (hv : leafVal s k ≠ v) :
    absOf (wrInner (shallow s r).1 (shallow s r).2 i v) r ≠ absOf s r := by
  obtain ⟨ks, hr, hks⟩ := wfB_spec hw
  rw [kidsOf_node hr] at hk
  obtain ⟨v0, hsk⟩ := hks k (List.mem_of_getElem? hk)
  have hklt : k < (s ++ [Cell.node ks]).length :=
    Nat.lt_of_lt_of_le (List.getElem?_eq_some_iff.mp hsk).1 (List.length_append ▸ Nat.le_add_right ..)
  have hkr : k ≠ r := fun e => by rw [e, hr] at hsk; cases hsk
  -- the edit lands in the input's own `k`-th cell, which the input still lists at position `i`
  have hfin : wrInner (shallow s r).1 (shallow s r).2 i v = (s ++ [Cell.node ks]).set k (.leaf v) := by
    unfold wrInner
    rw [shallow_kids, kidsOf_node hr, hk]
    simp only [shallow, kidsOf_node hr]
  have hkids : kidsOf ((s ++ [Cell.node ks]).set k (.leaf v)) r = ks :=
    kidsOf_node ((List.getElem?_set_ne hkr).trans
      ((List.getElem?_append_left (List.getElem?_eq_some_iff.mp hr).1).trans hr))
  intro he
  have h1 := congrArg (·[i]?) he
  simp only [hfin, absOf, hkids, kidsOf_node hr, List.getElem?_map, hk, Option.map_some,
    leafVal_leaf (List.getElem?_set_self hklt), Option.some.injEq] at h1
  exact hv h1.symm

/-- **The generated table: every two-level attribute of a `TreeNeuron` — `tags` and the cached segment lists `_segments`,
`_small_segments` — is copied two levels deep** by `TreeNeuron.copy` in the current source. -/
theorem nested_copied_two_levels :
    (∀ e ∈ Navis.Gen.CopySpec.nestedMode, e.2.2 = Navis.HeapDeep.CopyMode.deep1) ∧
    ("TreeNeuron", "_segments", Navis.HeapDeep.CopyMode.deep1) ∈ Navis.Gen.CopySpec.nestedMode ∧
    ("TreeNeuron", "_small_segments", Navis.HeapDeep.CopyMode.deep1) ∈ Navis.Gen.CopySpec.nestedMode := by decide +kernel

open Navis.HeapDeep in
/-- Hence edits made through the result's tag dictionary or cached segment lists — in-place edits of a tag list / a segment
array, added or deleted entries — never reach the input's. -/
theorem nested_no_leak (s : Navis.HeapDeep.Store) (r : Nat) (es : List Edit) :
    ∀ e ∈ Navis.Gen.CopySpec.nestedMode,
      (applyEdits (copyWith e.2.2 s r).1 (copyWith e.2.2 s r).2 es).take s.length = s := by
  intro e he
  rw [nested_copied_two_levels.1 e he]
  exact (deep1_no_leak s r es).1

/-- **The generated table: `TreeNeuron.copy` copies `tags` two levels deep** in the current source (the element-wise
`{k: copy.copy(v) …}` after the generic shallow copy).  Removing it makes this theorem fail. -/
theorem tags_copied_two_levels :
    ∀ e ∈ Navis.Gen.CopySpec.nestedMode, e.2.1 = "tags" → e.2.2 = Navis.HeapDeep.CopyMode.deep1 :=
  fun e he _ => nested_copied_two_levels.1 e he

open Navis.HeapDeep in
/-- Hence edits of the result's tag dictionary and tag lists never reach the input's tags. -/
theorem tags_no_leak (s : Navis.HeapDeep.Store) (r : Nat) (es : List Edit) :
    ∀ e ∈ Navis.Gen.CopySpec.nestedMode, e.2.1 = "tags" →
      (applyEdits (copyWith e.2.2 s r).1 (copyWith e.2.2 s r).2 es).take s.length = s :=
  fun e he _ => nested_no_leak s r es e he

/-- **Every `copy()` method copies every attribute** (applies `copy.copy` / `copy.deepcopy` / the function chosen by the
`deepcopy` flag to each value of `__dict__`; no attribute object is handed to the copy as is), never copies `_lock`, and
`NeuronList.copy` copies every member: the premises `copyObj` = fresh containers and `lock := 0` of the heap model. -/
theorem copy_methods_copy_every_attribute :
    (∀ e ∈ Navis.Gen.CopySpec.copyMethods, e.2.1 ∈ ["copy.copy", "copy.deepcopy", "copy_fn"] ∧ "_lock" ∈ e.2.2.1) ∧
    Navis.Gen.CopySpec.listCopiesMembers = true ∧ 5 ≤ Navis.Gen.CopySpec.copyMethods.length := by decide +kernel

/-! ## 7. the run-time checkers the driver evaluates -/

theorem extendsB_sound (s t : Store) : extendsB s t = true ↔ Ext s t := by
  unfold extendsB
  simp only [Bool.and_eq_true, decide_eq_true_eq, beq_iff_eq, take_eq_iff, and_assoc]
  -- the six conjuncts are the fields of `Ext`, in order
  constructor <;> (rintro ⟨d1, d2, o1, o2, l1, l2⟩; exact ⟨d1, d2, o1, o2, l1, l2⟩)

theorem frameB_sound (s t : Store) (x : Ref) :
    frameB s t x = true ↔ (t.objs[x]? = s.objs[x]? ∧ ∀ r, r ∈ (s.obj x).refs → t.data[r]? = s.data[r]?) :=
  frameB_iff s t x

/-- the frame checker of the two-level model is exact -/
theorem deep_frameB_sound (s t : Navis.HeapDeep.Store) :
    Navis.HeapDeep.frameB s t = true ↔ t.take s.length = s := by
  simp only [Navis.HeapDeep.frameB, Bool.and_eq_true, decide_eq_true_eq, beq_iff_eq]
  -- a prefix of `t` is at most as long as `t`
  exact ⟨And.right, fun h => ⟨congrArg List.length h ▸ List.length_take_le' .., h⟩⟩

/-! ## 8. concrete instances (non-vacuity) and negative witnesses -/

/-- a skeleton with node table, connectors, a cached networkx graph and a cached igraph; and a list holding it -/
def s0 : Store :=
  { data := [10, 20, 30, 40],
    objs := [{ nodes := some 0, conns := some 1, graph := some 2, igraph := some 3, info := 7 }],
    lists := [[0]] }

private theorem s0_sep : Sep s0 0 := by
  refine ⟨by decide, ?_, ?_⟩
  · intro a r h; cases a <;> cases h <;> decide
  · intro a a' r h h'; cases a <;> cases a' <;> first | rfl | (cases h; cases h')
example : Sep s0 0 := s0_sep

/-- the pattern on a concrete body: frame holds, result is a new object, states agree -/
example : extendsB s0 (call (rerootNx bump bump) s0 0 false).1 = true := by decide +kernel
example : frameB s0 (call (rerootNx bump bump) s0 0 false).1 0 = true := by decide +kernel
example : (call (rerootNx bump bump) s0 0 false).2 = 1 ∧ (call (rerootNx bump bump) s0 0 true).2 = 0 := by decide +kernel
example : (call (rerootNx bump bump) s0 0 true).1.abs 0 = (call (rerootNx bump bump) s0 0 false).1.abs 1 :=
  (inplace_equiv _ s0 0 s0_sep).1
example : (call (rerootNx bump bump) s0 0 true).1.abs 0 ≠ s0.abs 0 := by decide +kernel

/-- **Negative witness 1.** A body statement executed *before* the copy statement violates the frame. -/
example : frameB s0 (badCall [.wr .nodes bump] [] s0 0 false).1 0 = false := by decide +kernel
example : frameB s0 (call [.wr .nodes bump] s0 0 false).1 0 = true := by decide +kernel
example : okTrace [.write, .branch, .guard] = false ∧ okTrace [.branch, .guard, .write] = true := by decide +kernel
example : okTrace [.branch, .guard, .writeIn] = false ∧ okTrace [] = false := by decide +kernel
/-- seeded change C03_3 (early `return x` before the guard) and C03_4 (discarded `subset_neuron(x, …, inplace=inplace)`) -/
example : okTrace [.retIn] = false ∧ okTrace [.branch, .guard, .write, .lostDelegate] = false := by decide +kernel
example : (runTrace bump [.retIn] s0 0 false).2 = 0 ∧ (runTrace bump [.branch, .guard, .write] s0 0 false).2 = 1 := by decide +kernel
example : (runTrace bump [.guard, .lostDelegate] s0 0 true).1.abs 0 ≠
    (runTrace bump [.guard, .lostDelegate] s0 0 false).1.abs (runTrace bump [.guard, .lostDelegate] s0 0 false).2 := by decide +kernel
example : (runTrace bump [.branch, .guard, .write] s0 0 true).1.abs 0 =
    (runTrace bump [.branch, .guard, .write] s0 0 false).1.abs 1 := okTrace_inplace_equiv bump _ s0 0 rfl s0_sep

/-- **Negative witness 2 (aliasing).** Editing the networkx graph of the copy in place, without thawing the view
first, reaches the input's graph; with the thaw it does not. -/
example : frameB s0 (call [.wr .graph bump] s0 0 false).1 0 = false := by decide +kernel
example : frameB s0 (call [.thaw, .wr .graph bump] s0 0 false).1 0 = true := by decide +kernel

/-- **Negative witness 3 (the other direction of the view).** An in-place graph edit of the *input* shows through
the view held by a copy made earlier (`TreeNeuron.copy` documents this: "changes … can propagate back"). -/
example : let p := copyObj s0 0
    (exec p.1 0 [.wr .graph bump]).abs p.2 ≠ p.1.abs p.2 := by decide +kernel

/-- **Historical witness 4.** `nl | n` as written before the fix changed the receiver's list; the repaired operator
and `nl + n` do not. -/
example : (listOrPreFix s0 0 5 false).1.lst 0 = [0, 5] ∧ (listOr s0 0 5 false).1.lst 0 = [0] ∧
    (listAdd s0 0 5).1.lst 0 = [0] := by decide +kernel
example : let r := listOr s0 0 5 false; r.1.lst r.2 = [0, 5] := by decide +kernel

/-- list mapping: same list object in place, new list object otherwise; dropping the swap loses identity -/
example : (mapList [.wr .nodes bump] s0 0 true).2 = 0 ∧ (mapList [.wr .nodes bump] s0 0 false).2 = 1 ∧
    (mapListNoSwap [.wr .nodes bump] s0 0 true).2 = 1 := by decide +kernel
example : extendsB s0 (mapList [.wr .nodes bump] s0 0 false).1 = true := by decide +kernel

/-- two neurons with disjoint tables in one list: the hypotheses of `maplist_inplace_members` are satisfiable … -/
def s1 : Store :=
  { data := [10, 20, 110, 120],
    objs := [{ nodes := some 0, conns := some 1, info := 7 }, { nodes := some 2, conns := some 3, info := 8 }],
    lists := [[0, 1], [0, 0]] }

example : (s1.lst 0).Pairwise (Disj s1) := by unfold Disj; decide +kernel

example : (mapList [.wr .nodes bump] s1 0 true).1.abs 1 = aexec (s1.abs 1) [.wr .nodes bump] := by decide +kernel

/-- … and they are needed: a list holding the *same* neuron twice gets the body applied twice in place, but once
per copy otherwise (a degenerate `NeuronList`; the harness checks that navis does exactly this). -/
example : (mapList [.wr .nodes bump] s1 1 true).1.abs 0 ≠ aexec (s1.abs 0) [.wr .nodes bump] := by decide +kernel
example : let r := mapList [.wr .nodes bump] s1 1 false
    (r.1.lst r.2).map r.1.abs = [aexec (s1.abs 0) [.wr .nodes bump], aexec (s1.abs 0) [.wr .nodes bump]] := by decide +kernel

/-- the generated table is not empty and contains the functions the property names -/
example : 50 ≤ inplaceSpec.length := by decide +kernel
example : ("morpho/manipulation.py:prune_by_strahler", true) ∈ inplaceSpec ∧
    ("core/skeleton.py:TreeNeuron.__mul__", true) ∈ inplaceSpec ∧
    ("graph/graph_utils.py:reroot_skeleton", true) ∈ inplaceSpec := by
  -- each row is reached by `mem_cons` steps down the table, not by deciding the membership; then `okTrace` is evaluated on it
  refine ⟨?_, ?_, ?_⟩
  all_goals
    apply mem_okTable_true
    · unfold inplaceTraces; repeat (first | exact List.mem_cons_self | apply List.mem_cons_of_mem)
    · rfl

/-- two-level containers: a tag dictionary with two lists; deep copy frames, shallow copy leaks -/
def d0 : Navis.HeapDeep.Store := [.leaf 3, .leaf 5, .node [0, 1]]

example : Navis.HeapDeep.wfB d0 2 = true := by decide +kernel
example : Navis.HeapDeep.frameB d0 (Navis.HeapDeep.applyEdits (Navis.HeapDeep.deep1 d0 2).1 (Navis.HeapDeep.deep1 d0 2).2
    [.inner 0 9, .add 4, .del 1, .inner 1 7]) = true := by decide +kernel
example : Navis.HeapDeep.absOf (Navis.HeapDeep.wrInner (Navis.HeapDeep.shallow d0 2).1 (Navis.HeapDeep.shallow d0 2).2 0 9) 2
    = [9, 5] ∧ Navis.HeapDeep.absOf d0 2 = [3, 5] := by decide +kernel
example : ("morpho/mmetrics.py:strahler_index", "col", "strahler_index") ∈ Navis.Gen.InputWrites.inputWrites := by
  unfold Navis.Gen.InputWrites.inputWrites
  repeat (first | exact List.mem_cons_self | apply List.mem_cons_of_mem)
example : Navis.InputWrites.allowed ("morpho/mmetrics.py:strahler_index", "col", "radius") = false := whitelist_facts.2.2

/-- parallel map: pooled jobs frame, a serial fallback under forced inplace writes the member (seed C03_5) -/
example : extendsB s0 (mapListPar [.wr .nodes bump] s0 0 false true true true).1 = true := by decide +kernel
example : extendsB s0 (mapListPar [.wr .nodes bump] s0 0 false true true false).1 = false ∧
    (mapListPar [.wr .nodes bump] s0 0 false true true false).1.lst 1 = [0] := by decide +kernel

/-! ## 9. histories: `x = f₁(x, inplace=i₁); x = f₂(x, inplace=i₂); …` with the flags chosen arbitrarily -/

/-- For every history (any bodies, any choice of `inplace` per step) on a separated receiver, the observable
state of the value that comes out is the address-free run of the bodies on the input's state: the flags play no role. -/
theorem history_value (h : List (List Stmt × Bool)) (s : Store) (x : Ref) (hx : Sep s x) :
    (runHist h (s, x)).1.abs (runHist h (s, x)).2 = ahist (s.abs x) h ∧ Sep (runHist h (s, x)).1 (runHist h (s, x)).2 :=
  ⟨(runHist_abs h (s, x) hx).2, (runHist_abs h (s, x) hx).1⟩

/-- Two histories that apply the same bodies in the same order — with `inplace` chosen in any
two ways, step by step — end in the same observable value. -/
theorem history_flags_irrelevant (h h' : List (List Stmt × Bool)) (s : Store) (x : Ref) (hx : Sep s x)
    (hb : h.map (·.1) = h'.map (·.1)) :
    (runHist h (s, x)).1.abs (runHist h (s, x)).2 = (runHist h' (s, x)).1.abs (runHist h' (s, x)).2 := by
  rw [(history_value h s x hx).1, (history_value h' s x hx).1, ahist_bodies, ahist_bodies, hb]

/-- In any history, the input of every step taken WITHOUT `inplace` — the store as it
was when that step started, hence the object passed to it and all its tables — is unchanged at the end of the history, whatever
flags the later steps use (each body respecting `writesOwn`: thaw / re-bind / clear before an in-place graph edit). -/
theorem history_noninplace_inputs_untouched (pre post : List (List Stmt × Bool)) (b : List Stmt) (s : Store) (x : Ref)
    (hb : writesOwn true b = true) (hw : ∀ op ∈ post, writesOwn true op.1 = true) :
    Ext (runHist pre (s, x)).1 (runHist (pre ++ (b, false) :: post) (s, x)).1 := by
  rw [runHist_append]
  exact runHist_frame_after_copy b post _ (Ext.refl _) hb hw

/-- … in particular a history that starts with a non-inplace step never touches the caller's original object. -/
theorem history_frame (b : List Stmt) (post : List (List Stmt × Bool)) (s : Store) (x : Ref)
    (hb : writesOwn true b = true) (hw : ∀ op ∈ post, writesOwn true op.1 = true) (hx : Sep s x) :
    Ext s (runHist ((b, false) :: post) (s, x)).1 ∧ (runHist ((b, false) :: post) (s, x)).1.abs x = s.abs x := by
  have he := runHist_frame_after_copy b post (s, x) (Ext.refl s) hb hw
  exact ⟨he, (Sep.of_ext he hx).2⟩

/-- All steps in place: the very object passed in comes out.  At least one step not in place: the object
that comes out was allocated during the history — it is none of the objects that existed before, in particular not the input. -/
theorem history_identity (h : List (List Stmt × Bool)) (s : Store) (x : Ref) :
    ((∀ op ∈ h, op.2 = true) → (runHist h (s, x)).2 = x) ∧
    ((∃ op ∈ h, op.2 = false) → s.objs.length ≤ (runHist h (s, x)).2 ∧ (x < s.objs.length → (runHist h (s, x)).2 ≠ x)) := by
  exact ⟨runHist_all_inplace h (s, x), fun hex => fresh_ne (runHist_fresh s.objs.length h (s, x) (Nat.le_refl _) (.inr hex))⟩

/-- Any sequence of NeuronList operators `+ - & |` (with neurons, members or not, or with lists),
each applied to the result of the previous one, leaves the old store — the receiver's own list and every intermediate list that
already existed — unchanged; a non-empty sequence ends in a list object that did not exist before. -/
theorem list_ops_history_frame (ops : List ListOp) (s : Store) (l : Ref) :
    Ext s (runListOps ops (s, l)).1 ∧
    (ops ≠ [] → s.lists.length ≤ (runListOps ops (s, l)).2 ∧ (l < s.lists.length → (runListOps ops (s, l)).2 ≠ l)) := by
  exact ⟨runListOps_ext ops (s, l), fun hne =>
    fresh_ne (runListOps_fresh s.lists.length ops (s, l) (Nat.le_refl _) (.inr hne))⟩

/-- non-vacuity: a three-step history on the skeleton `s0` with mixed flags; flags do not matter, the first copy protects `s0` -/
example : (runHist [(rerootNx bump bump, false), ([.wr .nodes bump], true), ([.wr .conns bump], false)] (s0, 0)).1.abs
      (runHist [(rerootNx bump bump, false), ([.wr .nodes bump], true), ([.wr .conns bump], false)] (s0, 0)).2 =
    (runHist [(rerootNx bump bump, true), ([.wr .nodes bump], true), ([.wr .conns bump], true)] (s0, 0)).1.abs 0 :=
  history_flags_irrelevant _ _ s0 0 s0_sep rfl
example : extendsB s0 (runHist [(rerootNx bump bump, false), ([.wr .nodes bump], true), ([.thaw, .wr .graph bump], true)] (s0, 0)).1
    = true := by decide +kernel
/-- … and the hypothesis is needed: an in-place graph edit of the result WITHOUT a thaw reaches the original through the view -/
example : extendsB s0 (runHist [([], false), ([.wr .graph bump], true)] (s0, 0)).1 = false := by decide +kernel
example : (runHist [([.wr .nodes bump], true), ([.wr .nodes bump], true)] (s0, 0)).2 = 0 ∧
    (runHist [([.wr .nodes bump], true), ([.wr .nodes bump], false)] (s0, 0)).2 = 1 := by decide +kernel

example : let r := runListOps [.add 5, .orOne 6 false, .filter (· != 0)] (s0, 0)
    r.1.lst 0 = [0] ∧ r.1.lst r.2 = [5, 6] ∧ r.2 = 3 := by decide +kernel

end Navis.Props.C03

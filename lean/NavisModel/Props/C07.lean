import NavisModel.Proofs.SwcLemmas
import NavisModel.Proofs.SwcTextLemmas
import NavisModel.Proofs.SwcDepthLemmas
import NavisModel.Proofs.SwcFmtLemmas
import NavisModel.Proofs.PathLemmas
/-!
# C07 — SWC files round-trip and are valid, parent-first SWC tables

Model: `Model/Swc.lean` (`makeSwcTable` = `navis.io.swc_io.make_swc_table`: stable sort by depth,
re-indexing, parent remap; `parseSwc` / `readBack` = `SwcReader.read_buffer` / `read_dataframe` on the token
level).  The theorems on the table quantify over every node table `sk.nodes` whose forest (ids + parent links) is
well-formed (`WF`, DESIGN §2.4) and every label / connector / metadata option.

After validity and the round trip come, in this order: the algorithms as written (`_node_depths`, the sequential label
assignments) compute what the model specifies; the `header=` option, on the token level and on the character level
(`Model/SwcText.lean`: the text `_write_swc` assembles, cut into lines the way the reader does; the integer printer and lexer);
file-name patterns (`parse_filename`); rows with missing data (`sanitise_nodes`); the facts about the current source that the
model rests on (`Gen/Swc.lean`, regenerated by the translator); examples.

History (DESIGN §6 #1, fixed): `make_swc_table` used to order the rows with `sort_values("parent_id")`.  The
theorems prefixed `historical_` are statements about that *former* ordering (`sortByParent`, `IsParentSort`,
`makeSwcTableHist` exist in the model only): they say precisely for which inputs it produced an invalid table.
They are not claims about the current code.
-/
namespace Navis.Props.C07
open Navis.Swc Navis.Forest Navis.SwcText

/-- The executable validity checker (evaluated by the driver on the rows parsed from navis' file)
decides the specification: ids are `1..N` in row order, a row is a root with parent `-1` or its parent id is
smaller than its id and is the id of an earlier row. -/
theorem swc_valid_iff (s : List SwcRow) : swcValidB s = true ↔ SwcValid s := by
  unfold swcValidB SwcValid
  rw [validFrom_iff]
  simp only [← forall_and, List.append_nil, List.mem_reverse, Int.add_comm 1]

/-- **The written table is valid** for every well-formed skeleton (any ids, any row order — rerooted,
shuffled, sparse, forests) and every label option: seven columns by construction, ids `1..N`, roots `-1`,
every parent listed before and numbered lower than its children. -/
theorem table_valid (op : Opts) (sk : Skel) (hw : WF (forest sk.nodes)) :
    swcValidB (makeSwcTable op sk) = true :=
  (swc_valid_iff _).mpr (depthSort_valid _ hw (sortByDepth_perm _) (sortByDepth_sorted _))

/-- Every order that is sorted by depth (any tie-break) yields a valid table. -/
theorem any_depth_order_valid (op : Opts) (sk : Skel) (o : List SNode) (hw : WF (forest sk.nodes))
    (hperm : o.Perm sk.nodes)
    (hsort : o.Pairwise (fun a b => ((depth sk.nodes a.id : Nat) : Int) ≤ ((depth sk.nodes b.id : Nat) : Int))) :
    swcValidB (finish (labelOf op sk) o) = true :=
  (swc_valid_iff _).mpr (depthSort_valid _ hw hperm hsort)

/-! ### historical ordering (`sort_values("parent_id")`, replaced by the fix) -/

/-- HISTORICAL.  For *any* admissible `sort_values("parent_id")` order (stable or not) the table was valid iff
every node that has a child has `parent_id < node_id`. -/
theorem historical_anyParentSort_valid_iff (op : Opts) (sk : Skel) (o : List SNode) (hw : WF (forest sk.nodes))
    (ho : IsParentSort sk.nodes o) :
    swcValidB (finish (labelOf op sk) o) = true ↔
      ∀ p ∈ sk.nodes, (∃ c ∈ sk.nodes, c.parent = p.id) → p.parent < p.id := by
  rw [swc_valid_iff]
  obtain ⟨hperm, hsort⟩ := ho
  have hnd : (nodeIds o).Nodup := nodup_of_perm hperm (WF_nodup hw)
  constructor
  · intro hv p hp ⟨c, hc, hcp⟩
    obtain ⟨i, hi, rfl⟩ := List.getElem_of_mem (hperm.mem_iff.mpr hp)
    obtain ⟨j, hj, rfl⟩ := List.getElem_of_mem (hperm.mem_iff.mpr hc)
    have hlt := (finish_valid_iff _ hnd).mp hv i j hi hj hcp
    have hne : o[i].parent ≠ o[i].id := WF_no_loop hw _ (mem_forest hp)
    rcases Int.lt_trichotomy o[i].parent o[i].id with h1 | h1 | h1
    · exact h1
    · exact absurd h1 hne
    · -- the child's key is then below the parent's, so the sort puts the child first
      have := pos_lt_of_key_lt (·.parent) hsort hj hi (by show o[j].parent < o[i].parent; omega)
      omega
  · intro h
    refine keySort_valid _ hnd (·.parent) hsort fun p hp n hn hpid => ?_
    have := h p (hperm.mem_iff.mp hp) ⟨n, hperm.mem_iff.mp hn, hpid⟩
    show p.parent < n.parent
    omega

/-- HISTORICAL.  The former `make_swc_table` yielded a valid table iff every node that has a child has
`parent_id < node_id`. -/
theorem historical_sortByParent_valid_iff (op : Opts) (sk : Skel) (hw : WF (forest sk.nodes)) :
    swcValidB (makeSwcTableHist op sk) = true ↔
      ∀ p ∈ sk.nodes, (∃ c ∈ sk.nodes, c.parent = p.id) → p.parent < p.id :=
  historical_anyParentSort_valid_iff op sk _ hw (sortByParent_isParentSort _)

/-- HISTORICAL.  Sufficient condition under which the former ordering was right: ids assigned parent-first
(every `parent_id < node_id`, e.g. the bundled example neurons — which is why the test-suite never noticed). -/
theorem historical_valid_of_id_topological (op : Opts) (sk : Skel) (hw : WF (forest sk.nodes))
    (h : ∀ n ∈ sk.nodes, n.parent < n.id) : swcValidB (makeSwcTableHist op sk) = true :=
  (historical_sortByParent_valid_iff op sk hw).mpr fun p hp _ => h p hp

/-- The 5-node chain `1 ← 2 ← 3 ← 4 ← 5` after `reroot_skeleton(x, 5)` (row order and ids as navis leaves them). -/
def chain5Rerooted : Skel :=
  { nodes := [{ id := 1, parent := 2, type := .end_ }, { id := 2, parent := 3 }, { id := 3, parent := 4 },
              { id := 4, parent := 5 }, { id := 5, parent := -1, type := .root }] }

theorem chain5Rerooted_wf : WF (forest chain5Rerooted.nodes) := (wfB_iff _).mp (by decide +kernel)

/-- HISTORICAL counter-example (DESIGN §6 #1): the former ordering wrote an invalid table for the rerooted chain
(row 2 had parent 3) … -/
theorem historical_rerooted_chain5_invalid : swcValidB (makeSwcTableHist {} chain5Rerooted) = false := by decide +kernel

/-- HISTORICAL … whatever tie-break the sort used … -/
theorem historical_rerooted_chain5_invalid_any_order (op : Opts) (o : List SNode) (ho : IsParentSort chain5Rerooted.nodes o) :
    swcValidB (finish (labelOf op chain5Rerooted) o) = false := by
  refine Bool.eq_false_iff.mpr fun h => ?_
  have := (historical_anyParentSort_valid_iff op chain5Rerooted o chain5Rerooted_wf ho).mp h
    { id := 2, parent := 3 } (by decide) ⟨{ id := 1, parent := 2, type := .end_ }, by decide, rfl⟩
  exact absurd this (by decide)

/-- … while the table written now is valid on it (instance of `table_valid`). -/
theorem rerooted_chain5_valid : swcValidB (makeSwcTable {} chain5Rerooted) = true :=
  table_valid {} chain5Rerooted chain5Rerooted_wf

/-! ### the node map and the round trip -/

/-- The node map (`return_node_map=True`) is a bijection from the node ids onto `1..N`. -/
theorem node_map_bijective (sk : Skel) (o : List SNode) (hw : WF (forest sk.nodes)) (hperm : o.Perm sk.nodes) :
    (nodeMapOf o).map (·.1) = nodeIds o ∧ (nodeIds o).Perm (nodeIds sk.nodes) ∧ (nodeIds o).Nodup ∧
    (nodeMapOf o).map (·.2) = (List.range sk.nodes.length).map (fun (j : Nat) => ((j : Nat) : Int) + 1) := by
  have hnd := nodup_of_perm hperm (WF_nodup hw)
  refine ⟨nodeMapOf_fst o, ?_, hnd, ?_⟩
  · unfold nodeIds; exact hperm.map _
  · rw [nodeMapOf_snd hnd, hperm.length_eq]

/-- **Round trip.**  For a well-formed skeleton, any order `o` of the rows the writer may choose, and any
options: reading back the written lines succeeds; the node table has ids `1..N`; and under the node map
`i ↦ newId o i` every original node has exactly one image row with the mapped parent (`-1` for roots), the same
coordinates, its radius (`NaN ↦ 0`) and the label the option prescribes; the map is injective; the header
properties come back. -/
theorem round_trip (cfg : ReadCfg) (wm : WriteMeta) (op : Opts) (sk : Skel) (o : List SNode)
    (hw : WF (forest sk.nodes)) (hperm : o.Perm sk.nodes) :
    ∃ r, readBack cfg (writeWith wm op sk o) = some r ∧
      r.nodes.length = sk.nodes.length ∧
      r.nodes.map (·.id) = (List.range sk.nodes.length).map (fun (j : Nat) => ((j : Nat) : Int) + 1) ∧
      (∀ n ∈ sk.nodes, ∃ row ∈ r.nodes,
        row.id = newId o n.id ∧ 1 ≤ row.id ∧ row.id ≤ sk.nodes.length ∧
        (n.parent < 0 → row.parent = -1) ∧
        (¬ n.parent < 0 → ∃ p ∈ sk.nodes, p.id = n.parent ∧ row.parent = newId o p.id) ∧
        row.x = n.x ∧ row.y = n.y ∧ row.z = n.z ∧ row.radius = some (n.radius.getD 0) ∧
        row.label = labelOf op sk n) ∧
      (∀ a ∈ sk.nodes, ∀ b ∈ sk.nodes, newId o a.id = newId o b.id → a = b) ∧
      r.props = (if cfg.readMeta then (metaProps wm sk).getD [] else []) := by
  have hnd := nodup_of_perm hperm (WF_nodup hw)
  refine ⟨_, readBack_writeWith cfg wm op sk o, ?_, ?_, ?_, ?_, rfl⟩
  · simp [ofFile, hperm.length_eq]
  · rw [← hperm.length_eq]; exact finish_ids _ hnd
  · intro n hn
    have hno : n ∈ o := hperm.mem_iff.mpr hn
    -- the parent is a row exactly when it is not the root marker
    have hpar : n.parent ∈ nodeIds o ↔ ¬ n.parent < 0 := (mem_nodeIds_perm hperm _).trans (WF_parent_mem_iff hw hn)
    refine ⟨rowOf (labelOf op sk) o n, List.mem_map.mpr ⟨n, hno, rfl⟩, rfl, ?_, ?_, ?_, ?_, rfl, rfl, rfl, rfl, rfl⟩
    · exact (newId_range hnd hno).1
    · exact hperm.length_eq ▸ (newId_range hnd hno).2
    · exact fun h => newId_of_not_mem fun hm => hpar.mp hm h
    · intro h
      obtain ⟨p, hp, hpid⟩ := mem_nodeIds.mp (hpar.mpr h)
      exact ⟨p, hperm.mem_iff.mp hp, hpid, by show newId o n.parent = _; rw [hpid]⟩
  · intro a ha b hb h
    exact newId_inj hnd (hperm.mem_iff.mpr ha) (hperm.mem_iff.mpr hb) h

/-- The round trip for the file `write_swc` produces. -/
theorem round_trip_as_written (cfg : ReadCfg) (wm : WriteMeta) (op : Opts) (sk : Skel) (hw : WF (forest sk.nodes)) :
    ∃ r, readBack cfg (write wm op sk) = some r ∧ r.nodes = makeSwcTable op sk ∧
      r.nodes.map (·.id) = (List.range sk.nodes.length).map (fun (j : Nat) => ((j : Nat) : Int) + 1) := by
  refine ⟨_, readBack_writeWith cfg wm op sk (sortByDepth sk.nodes), rfl, ?_⟩
  rw [← (sortByDepth_perm sk.nodes).length_eq]
  exact finish_ids _ (nodup_of_perm (sortByDepth_perm _) (WF_nodup hw))

/-- **Soma through the round trip** (`labels=True`, reader's `soma_label = 1`): the soma read back is the
image of a soma node whose label was not overridden by a synapse label, namely the first such node in file
order; and it is found whenever such a node exists. -/
theorem soma_round_trip (cfg : ReadCfg) (wm : WriteMeta) (ex : Bool) (sk : Skel) (o : List SNode)
    (hperm : o.Perm sk.nodes) (hc : cfg.somaLabel = some 1) :
    ∃ r, readBack cfg (writeWith wm { labels := .auto, exportConn := ex } sk o) = some r ∧
      (∀ s, r.soma = some s → ∃ n ∈ sk.nodes, n.id ∈ sk.soma ∧
          (ex = true → n.id ∉ sk.post ∧ n.id ∉ sk.pre) ∧ s = newId o n.id) ∧
      ((∃ n ∈ sk.nodes, n.id ∈ sk.soma ∧ (ex = true → n.id ∉ sk.post ∧ n.id ∉ sk.pre)) → r.soma.isSome = true) := by
  refine ⟨_, readBack_writeWith cfg wm _ sk o, ?_, ?_⟩
  · intro s hs
    simp only [ofFile] at hs
    rw [somaOf_finish _ o 1 cfg hc] at hs
    obtain ⟨n, hf, rfl⟩ := Option.map_eq_some_iff.mp hs
    have hmem := List.mem_of_find?_eq_some hf
    have hp := List.find?_some hf
    simp only [Swc.labelOf, beq_iff_eq, Option.some.injEq] at hp
    have := (autoLabel_eq_soma sk ex n).mp hp
    exact ⟨n, hperm.mem_iff.mp hmem, this.1, this.2, rfl⟩
  · rintro ⟨n, hn, hs, hx⟩
    simp only [ofFile]
    rw [somaOf_finish _ o 1 cfg hc, Option.isSome_map, List.find?_isSome]
    refine ⟨n, hperm.mem_iff.mpr hn, ?_⟩
    simp only [Swc.labelOf, beq_iff_eq, Option.some.injEq]
    exact (autoLabel_eq_soma sk ex n).mpr ⟨hs, hx⟩

/-- **Exported synapse labels through the round trip** (`labels=True, export_connectors=True`, reader's
`connector_labels = {pre: 7, post: 8}`): the postsynapse connectors read back sit exactly on the images of the
nodes carrying a postsynapse, the presynapse connectors exactly on the images of the nodes carrying a presynapse
and no postsynapse (one label per node). -/
theorem synapse_labels_round_trip (cfg : ReadCfg) (wm : WriteMeta) (sk : Skel) (o : List SNode)
    (hperm : o.Perm sk.nodes) (hc : cfg.connLabels = [("pre", 7), ("post", 8)]) :
    ∃ r, readBack cfg (writeWith wm { labels := .auto, exportConn := true } sk o) = some r ∧
      (∀ j, ("post", j) ∈ r.conns ↔ ∃ n ∈ sk.nodes, n.id ∈ sk.post ∧ j = newId o n.id) ∧
      (∀ j, ("pre", j) ∈ r.conns ↔ ∃ n ∈ sk.nodes, n.id ∈ sk.pre ∧ n.id ∉ sk.post ∧ j = newId o n.id) := by
  -- the connectors read back sit on the rows labelled 8 / 7; which nodes those are is the content of the two `autoLabel` lemmas
  have h8 : ∀ n, autoLabel sk true n = 8 ↔ n.id ∈ sk.post := autoLabel_eq_post sk
  have h7 : ∀ n, autoLabel sk true n = 7 ↔ n.id ∈ sk.pre ∧ n.id ∉ sk.post := autoLabel_eq_pre sk
  refine ⟨_, readBack_writeWith cfg wm _ sk o, fun j => ?_, fun j => ?_⟩
  all_goals simp only [ofFile, mem_connsOf_finish, hc, Swc.labelOf, Option.some.injEq, hperm.mem_iff]
  · simp [h8]
  · simp [h7, and_assoc]

/-- **Header metadata** (`write_meta=True`, `read_meta=True`): units and id come back as the text written. -/
theorem meta_round_trip (cfg : ReadCfg) (op : Opts) (sk : Skel) (o : List SNode) (hm : cfg.readMeta = true) :
    ∃ r, readBack cfg (writeWith .default op sk o) = some r ∧
      metaGet r.props "units" = some (attrOf sk "units") ∧ metaGet r.props "id" = some (attrOf sk "id") ∧
      metaGet r.props "name" = some (attrOf sk "name") := by
  refine ⟨_, readBack_writeWith cfg .default op sk o, ?_⟩
  simp only [ofFile, hm, if_true]
  exact ⟨rfl, rfl, rfl⟩

/-- Without a meta line (`write_meta=False`) nothing is restored. -/
theorem no_meta_round_trip (cfg : ReadCfg) (op : Opts) (sk : Skel) (o : List SNode) :
    ∃ r, readBack cfg (writeWith .off op sk o) = some r ∧ r.props = [] := by
  refine ⟨_, readBack_writeWith cfg .off op sk o, ?_⟩
  simp [ofFile, metaProps]

/-! ### the algorithm as written refines the model

`makeSwcTable` (used by every theorem above) orders the rows by the *specification* depth (length of the root path) and labels
them with the priority function `autoLabel`.  navis computes the sort key with the memoised walk `_node_depths` and the labels
with sequential overwriting assignments.  Both as-written algorithms are in the model (`nodeDepthsW`, `labelsAsWritten` over
the rule list the translator extracts) and are proved equal to the specification; the driver runs the as-written table
against navis. -/

/-- **`_node_depths` as written** (memo dict, walk until a memoised / absent node, assign along the reversed path) returns for
every row of a well-formed forest — whatever the row order, so also for rerooted tables whose rows come child-first — its
number of steps to the root. -/
theorem node_depths_as_written (t : List SNode) (hw : WF (forest t)) :
    nodeDepthsW t = t.map fun n => ((depth t n.id : Nat) : Int) - 1 := nodeDepthsW_eq hw

/-- **The label assignments as written**, in the order and with the `export_connectors` gating found in the source
(`Gen.Swc.labelRules`), compute `autoLabel`: fork 5 / end 6, overridden by soma 1, overridden by presynapse 7, overridden by
postsynapse 8.  Reordering the assignments in the source changes `labelRules` and this theorem stops checking. -/
theorem label_rules_as_written (sk : Skel) (ex : Bool) (n : SNode) :
    labelsAsWritten Gen.Swc.labelRules sk ex n = autoLabel sk ex n := labelsAsWritten_gen sk ex n

/-- **The table as written is the table of the model** — hence valid and round-tripping by the theorems above. -/
theorem table_as_written (op : Opts) (sk : Skel) (hw : WF (forest sk.nodes)) :
    makeSwcTableW op sk = makeSwcTable op sk := by
  unfold makeSwcTableW makeSwcTable
  rw [sortByDepthW_eq hw, labelOfW_eq]

theorem table_as_written_valid (op : Opts) (sk : Skel) (hw : WF (forest sk.nodes)) :
    swcValidB (makeSwcTableW op sk) = true := by
  rw [table_as_written op sk hw]; exact table_valid op sk hw

/-! ### the `header=` option: the reader skips exactly the header, whatever the header string

Token level (`Model/Swc.lean`): a header is any list of physical lines none of which is a data row (`noRows`: `#` lines,
Meta lines, blank lines, in any arrangement).  Character level (`Model/SwcText.lean`): the text `_write_swc` assembles from
the header string and the rendered rows, cut into lines the way the reader does. -/

/-- The reader's data rows are all row lines of a file, wherever comment / Meta / blank lines sit. -/
theorem data_rows_are_the_row_lines (ls : List Line) : dataRows ls = ls.filterMap rowLine? := dataRows_eq_filterMap ls

/-- **Whatever the header, the data rows of the written file are exactly the table rows.**  For every list of header
lines without a data row — the generated header with any `write_meta`, or any user supplied `header=` made of `#` lines
and blank lines — the parser finds exactly the rows of the SWC table, in order, and the header properties are those of the
first Meta line among the leading `#` lines of the header. -/
theorem written_rows_any_header (hl : List Line) (rs : List SwcRow) (h : noRows hl = true) :
    parseSwc (hl ++ rs.map renderRow) = some { props := metaOf hl, rows := rs } := parseSwc_append_rows hl rs h

/-- The generated header never contains a data row, for every `write_meta` / `export_connectors` option. -/
theorem generated_header_no_rows (wm : WriteMeta) (op : Opts) (sk : Skel) : noRows (headerLines wm op sk) = true :=
  noRows_headerLines wm op sk

/-- **Round trip with any header option**: the node table read back is the table written (so `table_valid`,
`round_trip`, `soma_round_trip`, `synapse_labels_round_trip` carry over verbatim), the properties are those of the header. -/
theorem round_trip_any_header (cfg : ReadCfg) (hd : Header) (op : Opts) (sk : Skel) (o : List SNode)
    (h : noRows (headerFor hd op sk) = true) :
    ∃ r, readBack cfg (writeH hd op sk o) = some r ∧ r.nodes = finish (labelOf op sk) o ∧
      r.props = (if cfg.readMeta then (metaOf (headerFor hd op sk)).getD [] else []) :=
  ⟨_, readBack_writeH cfg hd op sk o h, rfl, rfl⟩

/-- With a user supplied header `write_meta` is ignored: what comes back is what the header itself says (nothing when it
has no Meta line among its leading `#` lines). -/
theorem custom_header_props (cfg : ReadCfg) (hl : List Line) (op : Opts) (sk : Skel) (o : List SNode)
    (h : noRows hl = true) (hm : cfg.readMeta = true) :
    ∃ r, readBack cfg (writeH (.custom hl) op sk o) = some r ∧ r.props = (metaOf hl).getD [] := by
  refine ⟨_, readBack_writeH cfg (.custom hl) op sk o h, ?_⟩
  simp [ofFile, hm, headerFor]

/-- The written table is valid for every header option (`write_swc(..., header=…)` included). -/
theorem table_valid_any_header (cfg : ReadCfg) (hd : Header) (op : Opts) (sk : Skel) (hw : WF (forest sk.nodes))
    (h : noRows (headerFor hd op sk) = true) :
    ∃ r, readBack cfg (writeH hd op sk (sortByDepth sk.nodes)) = some r ∧ swcValidB r.nodes = true :=
  ⟨_, readBack_writeH cfg hd op sk _ h, table_valid op sk hw⟩

/-- HISTORICAL (finding `write_swc/custom-header/line-without-comment-prefix`, fixed).  A header line that is not a comment
is read as data: a header whose first line has fewer than seven fields (e.g. `header="no hash"`, which navis used to write
verbatim) makes the file unreadable.  This is why `noRows` is a hypothesis of the token-level theorems above; on the character
level `header_text_lines_ok` shows that the header navis writes now never contains such a line. -/
theorem header_line_without_hash_breaks (ts : List Tok) (hts : ts.length < 7) (rest : List Line) :
    parseSwc (.row ts :: rest) = none := by
  rw [parseSwc, dataRows_eq_filterMap]
  show (if columnsOK (ts :: rest.filterMap rowLine?) = true then _ else none) = none
  rw [columnsOK, decide_eq_false (Nat.not_le.mpr hts)]
  rfl

/-- What precedes the final `\n` of the line terminator of `csv.writer` (`\r` by default) holds no further `\n`: a row is one physical line. -/
theorem eolPre_no_nl : '\n' ∉ eolPre := by decide

/-- **Lines of the written text.**  With the newline-termination branch of `_write_swc` (translator fact
`Gen.Swc.headerTerminated`, see `gen_header_terminated`) the text cut at `\n` is: the lines of the header text (the user's
string with its non-comment lines turned into comments, newline-terminated), then one line per row — *for every header string
whatsoever*. -/
theorem written_text_lines (h : List Char) (rows : List (List Char)) (hrows : ∀ r ∈ rows, '\n' ∉ r) :
    lines (assemble h rows) = lines (headerText h) ++ rows.map (· ++ eolPre) := by
  unfold assemble headerText
  have ht : ∃ x, terminate (commentise h) = x ++ ['\n'] := terminateIf_true_ends _
  rw [lines_append_of_terminated (Or.inr ht), lines_rowsText eolPre eolPre_no_nl rows hrows]

/-- **Every line of the header `_write_swc` writes for a user supplied string is a comment or blank** — whatever the string
(translator fact `Gen.Swc.headerCommentPrefix = "# "`: since the fix "write_swc turns lines of a custom header … into comments"
a line that is neither is no longer written verbatim). -/
theorem header_text_lines_ok (h : List Char) : ∀ l ∈ lines (headerText h), isHdr l = true ∨ isBlank l = true :=
  commentised_lines_ok _ _ (by decide) (by decide) h

/-- **The reader skips exactly the header, for every header string.**  The lines `read_csv(skiprows=len(header_rows),
comment="#")` parses are exactly the rendered rows (each starts with its PointNo as printed by `str(int)`), and
`read_header_rows` returns the leading `#` lines of the header text itself. -/
theorem written_text_data_lines (h : List Char) (rows : List (Int × List Char)) (hrows : ∀ r ∈ rows, '\n' ∉ r.2) :
    dataLines (lines (assemble h (rows.map fun r => rowLine r.1 r.2))) = rows.map (fun r => rowLine r.1 r.2 ++ eolPre) ∧
    hdrRows (lines (assemble h (rows.map fun r => rowLine r.1 r.2))) = hdrRows (lines (headerText h)) := by
  rw [written_text_lines h _ (nl_not_mem_rowLines rows hrows), List.map_map]
  have hdat := rowLines_data eolPre rows
  exact ⟨dataLines_header_rows _ _ (header_text_lines_ok h) hdat, hdrRows_header_rows _ _ (fun l hl => (hdat l hl).1)⟩

/-- **Why the branch is needed** (the behaviour of `_write_swc` without `elif not header.endswith("\n"): header += "\n"`).
For a header whose last line `last` is a `#` line without a final line break, the first row — the root, PointNo 1 — is glued
to that comment line and disappears: the reader sees the rows *without the first one*. -/
theorem unterminated_header_swallows_first_row (x last : List Char) (r : Int × List Char) (rs : List (Int × List Char))
    (hx : x = [] ∨ ∃ x', x = x' ++ ['\n']) (hxl : ∀ l ∈ lines x, isHdr l = true ∨ isBlank l = true)
    (hlast : isHdr last = true) (hnl : '\n' ∉ last) (hr : '\n' ∉ r.2) (hrs : ∀ q ∈ rs, '\n' ∉ q.2) :
    dataLines (lines (assembleRaw (x ++ last) ((r :: rs).map fun q => rowLine q.1 q.2))) =
      rs.map (fun q => rowLine q.1 q.2 ++ eolPre) := by
  unfold assembleRaw
  -- without a line break after `last` the first row continues that line
  have hno : ∀ q ∈ (last ++ rowLine r.1 r.2) :: rs.map (fun q => rowLine q.1 q.2), '\n' ∉ q :=
    List.forall_mem_cons.mpr ⟨fun hm => (List.mem_append.mp hm).elim hnl (nl_not_mem_rowLine r.1 r.2 hr), nl_not_mem_rowLines rs hrs⟩
  rw [List.map_cons, List.append_assoc, rowsText_glue, lines_append_of_terminated hx, lines_rowsText eolPre eolPre_no_nl _ hno,
    List.map_cons, List.map_map, List.append_cons]
  -- the glued line starts with `#`: the reader takes it for one more header line, and the first row goes with it
  refine dataLines_header_rows _ _ (fun l hl => ?_) (rowLines_data eolPre rs)
  rcases List.mem_append.mp hl with h | h
  · exact hxl l h
  · rw [List.mem_singleton.mp h, List.append_assoc]
    exact Or.inl (isHdr_append_of_isHdr _ hlast)

/-- … and a valid table without its first row is never valid (its ids start at 2): the file written without the
termination branch is invalid for every skeleton with at least two nodes (with one node it is empty). -/
theorem valid_table_without_first_row_invalid (r : SwcRow) (rs : List SwcRow) (hne : rs ≠ [])
    (hv : swcValidB (r :: rs) = true) : swcValidB rs = false := by
  cases rs with
  | nil => exact absurd rfl hne
  | cons q rs =>
    -- the checker wants id 2 on `q` behind `r`, and id 1 on `q` in front
    refine Bool.eq_false_iff.mpr fun hb => ?_
    simp only [swcValidB, validFrom, Bool.and_eq_true, beq_iff_eq] at hv hb
    omega

/-- **The integer printer and the integer lexer of the token-level model round-trip**: the PointNo / Parent text
`str(i)` is lexed back to `i`, for every integer (large ids included). -/
theorem int_print_lex_round_trip (i : Int) : lexInt? (intChars i) = some i := lexInt_intChars i

/-! ### file-name patterns (`fmt`, `BaseReader.parse_filename`)

`matchSegs` / `searchSegs` model the regular expression navis builds from a pattern (literal text, every `{…}` → `(.*)`,
`re.search`).  The matcher is sound and complete for decompositions of the file name
along the pattern, and the checker the driver evaluates on navis' *own* `parse_filename` values decides "the file name
contains the pattern with the named placeholders replaced by the extracted values". -/

/-- **The matcher is sound**: the groups returned by a successful search, filled into the pattern, occur in the file name
(one group per placeholder). -/
theorem fmt_matcher_sound (segs : List Seg) (cs : List Char) (gs : List (List Char)) (h : searchSegs segs cs = some gs) :
    gs.length = groupCount segs ∧ ∃ pre rest, cs = pre ++ instSegs segs gs ++ rest := searchSegs_sound segs cs gs h

/-- **The matcher is complete**: if some filling of the pattern occurs in the file name, the search succeeds (a
`ValueError` "unable to match" is raised only when the pattern cannot be matched at all). -/
theorem fmt_matcher_complete (segs : List Seg) (cs : List Char)
    (h : ∃ gs pre rest, gs.length = groupCount segs ∧ cs = pre ++ instSegs segs gs ++ rest) :
    (searchSegs segs cs).isSome = true := searchSegs_complete segs cs h

/-- **What `parse_filename` returns (model)**: every attribute is the text found at the position of its placeholder, all
names of one placeholder share it, the `file` attribute is the file name. -/
theorem matchFmt_sound (segs : List Seg) (filename : String) (props : List (String × String × String))
    (h : matchFmt segs filename = some props) :
    ∃ gs, gs.length = groupCount segs ∧ (∃ pre rest, filename.toList = pre ++ instSegs segs gs ++ rest) ∧
      props = ("file", "str", filename) ::
        ((segs.filterMap fun s => match s with | .grp fs => some fs | _ => none).zip gs).flatMap
          fun (fs, g) => fs.map fun (nm, ty) => (nm, ty.getD "str", String.ofList g) := by
  unfold matchFmt at h
  cases hs : searchSegs segs filename.toList with
  | none => rw [hs] at h; simp at h
  | some gs =>
    rw [hs] at h
    simp only [Option.some.injEq] at h
    obtain ⟨h1, h2⟩ := searchSegs_sound segs _ gs hs
    exact ⟨gs, h1, h2, h.symm⟩

/-- **The checker decides consistency** of extracted values with the file name: it accepts exactly when the pattern, with
every named placeholder for which a value is given replaced by that value (anonymous ones left free), occurs in the name. -/
theorem fmt_checker_iff (segs : List Seg) (val : String → Option (List Char)) (filename : List Char) :
    fmtConsistentB segs val filename = true ↔
      ∃ gs pre rest, gs.length = groupCount (fixSegs val segs) ∧ filename = pre ++ instSegs (fixSegs val segs) gs ++ rest := by
  unfold fmtConsistentB
  constructor
  · intro h
    obtain ⟨gs, hg⟩ := Option.isSome_iff_exists.mp h
    obtain ⟨h1, pre, rest, h2⟩ := searchSegs_sound _ _ gs hg
    exact ⟨gs, pre, rest, h1, h2⟩
  · exact searchSegs_complete _ _

/-! ### rows with missing data (`sanitise_nodes`, DESIGN §6 #15, fixed) -/

/-- Reading never fails because of a NaN in a key column: with enough columns the parser always returns a
table, whose ids are those of the complete rows in file order. -/
theorem nan_rows_dropped (ls : List Line) (hc : columnsOK (dataRows ls) = true) :
    ∃ f, parseSwc ls = some f ∧
      f.rows.map (·.id) = (keptRows ((dataRows ls).map parseRow)).map (·.id) := by
  refine ⟨_, by unfold parseSwc; rw [if_pos hc], ?_⟩
  exact sanitiseRows_ids _

/-- If a row was dropped, no remaining row refers to a missing parent: its parent is `-1` or a remaining id. -/
theorem nan_rows_orphans_rerooted (rs : List (Option SwcRow)) (hdrop : (keptRows rs).length ≠ rs.length) :
    ∀ r ∈ sanitiseRows rs, r.parent = -1 ∨ r.parent ∈ (sanitiseRows rs).map (·.id) := by
  intro r hr
  rw [sanitiseRows_ids]
  unfold sanitiseRows at hr
  rw [if_neg hdrop] at hr
  obtain ⟨q, hq, rfl⟩ := List.mem_map.mp hr
  unfold reRoot
  split
  · rename_i hany
    right
    obtain ⟨p, hp, he⟩ := List.any_eq_true.mp hany
    exact List.mem_map.mpr ⟨p, hp, by simpa using he⟩
  · left; rfl

/-- Without missing data the table is taken as it is. -/
theorem complete_rows_unchanged (l : List SwcRow) : sanitiseRows (l.map some) = l := sanitiseRows_map_some l

/-! ### obligations over the definitions regenerated from the current source (`Gen/Swc.lean`), and the model facts that go with them
(the id width chosen from `Gen.Swc.idWidening`; a DataFrame source ends in the same `read_dataframe`) -/

/-- The writer selects, and the reader names, the seven SWC columns in the order `PointNo Label X Y Z Radius Parent`. -/
theorem gen_columns : Gen.Swc.columnOrder = ["node_id", "label", "x", "y", "z", "radius", "parent_id"] ∧
    Gen.Swc.nodeColumns = Gen.Swc.columnOrder := ⟨rfl, rfl⟩

/-- The sort the model calls `sortByDepth` (stable, ascending, on the column computed by `_node_depths` whose
loop has the recognised shape "root 0, child = parent + 1"); the new ids start at 1; a missing parent becomes -1. -/
theorem gen_reindex : Gen.Swc.sortColumn = "_depth" ∧ Gen.Swc.sortAscending = true ∧ Gen.Swc.sortKind = "stable" ∧
    Gen.Swc.sortKeySource = "_node_depths(swc.node_id.values, swc.parent_id.values)" ∧
    Gen.Swc.depthRule = "root=0;child=parent+1" ∧ Gen.Swc.firstId = 1 ∧
    Gen.Swc.missingParent = -1 := ⟨rfl, rfl, rfl, rfl, rfl, rfl, rfl⟩

/-- The radius column is written from the radius column, NaN filled with 0 (the model's `getD 0`). -/
theorem gen_radius : Gen.Swc.radiusSource = "swc.radius" ∧ Gen.Swc.radiusFill = 0 := ⟨rfl, rfl⟩

/-- The reader's default soma label is the code the writer gives the soma; labels are read as a category
(never as floats); the label codes are pairwise distinct (so no rule masks another by accident). -/
theorem gen_labels : Gen.Swc.readerSomaLabel = Gen.Swc.lblSoma ∧ Gen.Swc.readerLabelDtype = "category" ∧
    [Gen.Swc.lblUndefined, Gen.Swc.lblSoma, Gen.Swc.lblBranch, Gen.Swc.lblEnd, Gen.Swc.lblPre, Gen.Swc.lblPost].Nodup :=
  ⟨rfl, rfl, by decide⟩

/-- `write_meta=True` writes id, name and units behind the prefix the reader looks for (`# meta:` case-insensitively). -/
theorem gen_meta : Gen.Swc.metaKeys = ["id", "name", "units"] ∧ Gen.Swc.metaPrefix = "# Meta: " := ⟨rfl, rfl⟩

/-- `_write_swc` terminates a user supplied header with a line break (`if not header.endswith("\n"): header += "\n"` on the
str path, before the file is written) after putting the comment character and a blank in front of every line that is neither a
comment nor blank; the header is written before the rows.  `written_text_lines` / `header_text_lines_ok` rest on these facts. -/
theorem gen_header_terminated : Gen.Swc.headerTerminated = true ∧ Gen.Swc.writeOrder = ["header", "rows"] ∧
    Gen.Swc.headerCommentPrefix = Gen.Swc.commentChar ++ " " := ⟨rfl, rfl, rfl⟩

/-- Every line of the generated header is a comment line, every piece ends with a line break, the Meta line starts with
the prefix the reader looks for and is only written on the generated-header path (`write_meta` is ignored otherwise). -/
theorem gen_generic_header : (Gen.Swc.genericHeaderLines.all fun l => l.toList.head? == Gen.Swc.commentChar.toList.head?) = true ∧
    Gen.Swc.genericHeaderPiecesTerminated = true ∧
    (Gen.Swc.genericHeaderLines.filter fun l => l.toList.take Gen.Swc.metaPrefix.length == Gen.Swc.metaPrefix.toList).length = 1 ∧
    Gen.Swc.metaOnlyWithGeneratedHeader = true := by
  -- The characters of a literal are read off it (`String.toList_ofList`); evaluating `toList` would decode its UTF-8 bytes.
  refine ⟨?_, rfl, ?_, rfl⟩
  · unfold Gen.Swc.genericHeaderLines Gen.Swc.commentChar
    simp only [List.all_cons, List.all_nil]
    repeat rw [String.toList_ofList]
    rfl
  · rw [length_filter_toList fun cs => cs.take Gen.Swc.metaPrefix.length == Gen.Swc.metaPrefix.toList]
    unfold Gen.Swc.genericHeaderLines Gen.Swc.metaPrefix
    simp only [List.map_cons, List.map_nil]
    repeat rw [String.toList_ofList]
    decide +kernel

/-- The writer separates fields with the reader's default delimiter; the line terminator of the rows ends with its only `\n`
(so every row is one physical line); comments start with `#`. -/
theorem gen_text_format : Gen.Swc.writeDelimiter = Gen.Swc.readDelimiterDefault ∧ Gen.Swc.defaultDelimiter = Gen.Swc.readDelimiterDefault ∧
    Gen.Swc.writeLineTerminator.toList.getLast? = some '\n' ∧ '\n' ∉ eolPre ∧ Gen.Swc.commentChar = "#" :=
  ⟨rfl, rfl, by decide, eolPre_no_nl, rfl⟩

/-- How the reader cuts the file: header rows are the leading lines that start with the comment character, `read_csv` treats
that character as comment, takes no column names from the file (the first row is data) and uses the reader's delimiter. -/
theorem gen_reader_cut : Gen.Swc.headerRowTest = "not-startswith-comment" ∧
    Gen.Swc.readCsvArgs.lookup "comment" = some Gen.Swc.commentChar ∧
    Gen.Swc.readCsvArgs.lookup "header" = some "None" ∧
    Gen.Swc.readCsvArgs.lookup "delimiter" = some "self.delimiter" := ⟨rfl, rfl, rfl, rfl⟩

/-- The Meta row is looked up case-insensitively by the written prefix (without its trailing blank) and the JSON starts
right after it; `read_swc` reads the metadata by default. -/
theorem gen_meta_lookup : Gen.Swc.metaLookup = "lower:# meta:" ∧ Gen.Swc.metaSlice = "# meta:".length ∧
    Gen.Swc.metaPrefix.toList.map Char.toLower = "# meta: ".toList ∧ Gen.Swc.readMetaDefault = true := ⟨rfl, by decide +kernel, by decide +kernel, rfl⟩

/-- `precision` p ∈ {16, 32, 64} casts the id columns to `int<p>` and coordinates / radius to `float<p>`; 32 is the default. -/
theorem gen_precision : Gen.Swc.precisionTable = [(16, "int16", "float16"), (32, "int32", "float32"), (64, "int64", "float64")] ∧
    Gen.Swc.defaultPrecision = 32 ∧ Gen.Swc.readPrecisionDefault = 32 ∧
    Gen.Swc.columnDtypeKind = [("node_id", "int_"), ("parent_id", "int_"), ("label", "category"), ("x", "float_"), ("y", "float_"),
      ("z", "float_"), ("radius", "float_")] := ⟨rfl, rfl, rfl, rfl⟩

/-- **IDs never wrap** (finding `read_swc/precision/id-exceeds-int-range`, fixed): whatever `precision` is requested, the integer
width chosen for `node_id` / `parent_id` holds every id of the table (ids a 64-bit integer can hold at all) … -/
theorem id_width_holds (p : Nat) (lo hi : Int) (h : fitsBits 64 lo hi = true) : fitsBits (idBits p lo hi) lo hi = true := by
  unfold idBits
  -- the first candidate that fits, or else the last one, 64 bits, which fits by hypothesis
  cases hf : (p :: Gen.Swc.idWidening).find? (fun b => fitsBits b lo hi) with
  | some b => exact List.find?_some (p := fun b => fitsBits b lo hi) hf
  | none => exact h

/-- … and it is the requested width whenever that is enough (`precision` is honoured for every table it can represent). -/
theorem id_width_requested (p : Nat) (lo hi : Int) (h : fitsBits p lo hi = true) : idBits p lo hi = p := by
  unfold idBits
  simp [h]

/-- The widening candidates follow the requested width and end with 64 bits. -/
theorem gen_id_widening : Gen.Swc.idWidening = [32, 64] ∧ Gen.Swc.idWideningStartsWithRequested = true := ⟨rfl, rfl⟩

/-- `sanitise_nodes` drops a row exactly when one of the columns `parseRow` requires is missing. -/
theorem gen_key_columns : Gen.Swc.keyColumns = ["node_id", "parent_id", "x", "y", "z"] := rfl

/-- **Every source kind ends in the same parser.**  Following the `self.read_*` references of `BaseReader` (call table
re-extracted from the source): a file path, a zip member, a tar member, a URL, a string and a bytes object all end in
`read_buffer` and nothing else; the generic entry points end in `read_buffer`, `read_dataframe` (DataFrames) or the FTP reader;
and `read_buffer` / `read_dataframe` are the only `read_*` methods `SwcReader` defines — there is one SWC parser, whatever the
source. -/
theorem gen_sources_funnel :
    (["read_file_path", "read_from_zip", "read_zip", "read_tar", "read_directory", "read_url", "read_string", "read_bytes"].all fun m =>
      (terminals Gen.Swc.sourceFunnel 6 m).all (· == "read_buffer")) = true ∧
    (["read_any_single", "read_any_multi", "read_any"].all fun m =>
      (terminals Gen.Swc.sourceFunnel 6 m).all fun t => t == "read_buffer" || t == "read_dataframe" || t == "read_ftp") = true ∧
    Gen.Swc.swcReaderMethods = ["read_buffer", "read_dataframe"] :=
  have ⟨a, b⟩ : _ ∧ _ := by decide +kernel
  ⟨a, b, rfl⟩

/-- A DataFrame source is the node table handed to the same `read_dataframe` the text sources end in: same nodes, soma and
connectors as reading the text (no header, hence no header properties). -/
theorem dataframe_source_same_table (cfg : ReadCfg) (ls : List Line) (f : SwcFile) (h : parseSwc ls = some f) :
    ∃ r, readBack cfg ls = some r ∧ (ofFile cfg { props := none, rows := f.rows }).nodes = r.nodes ∧
      (ofFile cfg { props := none, rows := f.rows }).soma = r.soma ∧ (ofFile cfg { props := none, rows := f.rows }).conns = r.conns := by
  refine ⟨ofFile cfg f, ?_, rfl, rfl, rfl⟩
  unfold readBack; rw [h]; rfl

/-- File names: the default pattern reads the name, `include_subdirs` is off and `limit` is unset by default; a neuron
written into a folder or a zip is called `<id>.swc`. -/
theorem gen_file_names : Gen.Swc.readFmtDefault = "{name}.swc" ∧ Gen.Swc.defaultFmt = "{name}.swc" ∧
    Gen.Swc.includeSubdirsDefault = false ∧ Gen.Swc.limitDefaultIsNone = true ∧
    Gen.Swc.folderFileNameAttr = "id" ∧ Gen.Swc.zipPattern = "{neuron.id}" := ⟨rfl, rfl, rfl, rfl, rfl, rfl⟩

/-! ### non-vacuity: concrete inputs meeting the hypotheses -/

/-- A forest with shuffled ids, a branch point, a soma, synapses, a NaN radius. -/
def demo : Skel :=
  { nodes := [{ id := 25, parent := 98, type := .branch }, { id := 111, parent := 25, type := .end_, radius := none },
              { id := 167, parent := -1, type := .root }, { id := 125, parent := 167, type := .end_ },
              { id := 98, parent := -1, type := .root }, { id := 8, parent := 25, type := .end_ }],
    soma := [125], hasConn := true, pre := [25, 8], post := [25] }

private theorem demo_wf : WF (forest demo.nodes) := (wfB_iff _).mp (by decide +kernel)
example : WF (forest demo.nodes) := demo_wf
example : swcValidB (makeSwcTable {} demo) = true := table_valid {} demo demo_wf
example : IsParentSort demo.nodes (sortByParent demo.nodes) := sortByParent_isParentSort _
-- historical: the condition of `historical_sortByParent_valid_iff` fails on `demo` (node 25 has children and parent 98 > 25) …
example : swcValidB (makeSwcTableHist {} demo) = false := by decide +kernel
-- … and holds on a parent-first labelled table
def demoSeq : Skel := { nodes := [{ id := 1, parent := -1, type := .root }, { id := 2, parent := 1 }, { id := 3, parent := 2, type := .end_ }] }
private theorem demoSeq_wf : WF (forest demoSeq.nodes) := (wfB_iff _).mp (by decide +kernel)
example : WF (forest demoSeq.nodes) := demoSeq_wf
example : ∀ n ∈ demoSeq.nodes, n.parent < n.id := by decide +kernel
example : swcValidB (makeSwcTableHist {} demoSeq) = true := by decide +kernel
example : swcValidB (makeSwcTable {} demoSeq) = true := table_valid {} demoSeq demoSeq_wf
-- a dropped row: row 2 has no x; its child 3 becomes a root
example : sanitiseRows [some ⟨1, some 0, 0, 0, 0, none, -1⟩, none, some ⟨3, some 0, 0, 0, 0, none, 2⟩, some ⟨4, some 0, 0, 0, 0, none, 1⟩]
    = [⟨1, some 0, 0, 0, 0, none, -1⟩, ⟨3, some 0, 0, 0, 0, none, -1⟩, ⟨4, some 0, 0, 0, 0, none, 1⟩] := by decide +kernel
-- soma / synapse hypotheses are satisfiable: node 125 is a soma without synapse, 25 carries pre + post, 8 only pre
example : ∃ n ∈ demo.nodes, n.id ∈ demo.soma ∧ ((true = true) → n.id ∉ demo.post ∧ n.id ∉ demo.pre) := by decide +kernel
example : (makeSwcTable { exportConn := true } demo).map (·.label) = [some 0, some 0, some 8, some 1, some 6, some 7] := by decide +kernel
example : nodeMap demo = [(167, 1), (98, 2), (25, 3), (125, 4), (111, 5), (8, 6)] := by decide +kernel

-- header option: a user header with a comment, a blank line and a Meta line has no data row; the round trip returns the
-- table and (the Meta line sits behind a blank line, outside the leading `#` lines) no properties
example : noRows [.comment "# mine", .blank, .props [("id", "9")]] = true := by decide +kernel
example : metaOf [.comment "# mine", .blank, .props [("id", "9")]] = none := by decide +kernel
example : metaOf [.comment "# mine", .props [("id", "9")], .comment "# c"] = some [("id", "9")] := by decide +kernel
-- character level: '# a' without line break, two rows
example : eolPre = ['\r'] := by decide +kernel
example : lines (assemble "# a".toList ["1 0".toList, "2 1".toList]) = ["# a".toList, "1 0\r".toList, "2 1\r".toList] := by
  repeat rw [String.toList_ofList]
  decide +kernel
example : dataLines (lines (assemble "# a".toList ["1 0".toList, "2 1".toList])) = ["1 0\r".toList, "2 1\r".toList] := by
  repeat rw [String.toList_ofList]
  decide +kernel
example : dataLines (lines (assembleRaw "# a".toList ["1 0".toList, "2 1".toList])) = ["2 1\r".toList] := by
  repeat rw [String.toList_ofList]
  decide +kernel
example : lines (assemble [] ["1 0".toList]) = [[], "1 0\r".toList] := by
  repeat rw [String.toList_ofList]
  decide +kernel
-- lines without `#` become comments, blank lines stay, a line of blanks becomes a comment
example : headerText "no hash".toList = "# no hash\n".toList := by
  repeat rw [String.toList_ofList]
  decide +kernel
example : headerText "# a\n\n   \nx".toList = "# a\n\n#    \n# x\n".toList := by
  repeat rw [String.toList_ofList]
  decide +kernel
example : dataLines (lines (assemble "no hash".toList ["1 0".toList, "2 1".toList])) = ["1 0\r".toList, "2 1\r".toList] := by
  repeat rw [String.toList_ofList]
  decide +kernel
example : intChars (-1) = "-1".toList ∧ intChars 0 = "0".toList ∧ intChars 4294967301 = "4294967301".toList := by
  repeat rw [String.toList_ofList]
  decide +kernel
example : idBits 16 (-1) 33000 = 32 ∧ idBits 32 (-1) (2 ^ 31 + 5) = 64 ∧ idBits 16 (-1) 7 = 16 ∧ idBits 64 (-1) 7 = 64 := by decide +kernel
example : lexInt? "+12".toList = some 12 ∧ lexInt? "1.0".toList = none ∧ lexInt? "-".toList = none := by
  repeat rw [String.toList_ofList]
  decide +kernel

-- as written: the rerooted chain (rows child-first: every walk of `_node_depths` runs to the root) and the demo forest
example : nodeDepthsW chain5Rerooted.nodes = [4, 3, 2, 1, 0] := by decide +kernel
example : nodeDepthsW demo.nodes = [1, 2, 0, 1, 0, 2] := by decide +kernel
example : makeSwcTableW { exportConn := true } demo = makeSwcTable { exportConn := true } demo := table_as_written _ demo demo_wf
-- on a cycle the `on_path` guard stops the walk (the model follows the code; not a well-formed forest)
example : nodeDepthsW [{ id := 1, parent := 2 }, { id := 2, parent := 1 }] = [1, 0] := by decide +kernel

-- file-name patterns: `{name}_{}_{id}.swc` on `DA1_left_1234.swc`; the checker accepts the right values and rejects shifted ones
def fmtDemo : List Seg := [.grp [("name", none)], .lit ['_'], .grp [], .lit ['_'], .grp [("id", none)], .lit ".swc".toList]
example : searchSegs fmtDemo "DA1_left_1234.swc".toList = some ["DA1".toList, "left".toList, "1234".toList] := by
  repeat rw [String.toList_ofList]
  decide +kernel
example : fmtConsistentB fmtDemo (fun n => if n = "name" then some "DA1".toList else if n = "id" then some "1234".toList else none)
    "DA1_left_1234.swc".toList = true := by
  repeat rw [String.toList_ofList]
  decide +kernel
example : fmtConsistentB fmtDemo (fun n => if n = "name" then some "DA1".toList else if n = "id" then some "left".toList else none)
    "DA1_left_1234.swc".toList = false := by
  repeat rw [String.toList_ofList]
  decide +kernel

end Navis.Props.C07

import NavisModel.Proofs.CacheLemmas
import NavisModel.Proofs.CacheTraceLemmas
import NavisModel.Gen.CacheSpec
/-!
# C02 — derived views always agree with the current node table

The protocol model is `Model/Cache.lean`; `spec` (TEMP_ATTR, CORE_DATA, the `@temp_property` views, the `exclude` literal of
every `_clear_temp_attr` call site, the shapes of `is_stale` / `_clear_temp_attr` / the wrapper / `copy` /
`__getstate__`) is **generated from the navis source** (`Gen/CacheSpec.lean`), so every theorem below that
mentions `spec` speaks of the source as the translator read it.

Reading guide.  A state records, for every cache entry, the content id it was computed from; `ver` is the
content of the hashed columns now; the hash is modelled as the identity on content ids (injective hash:
trusted base).  A read "returns a value computed before a change" iff the returned tag differs from `ver`.

Predicates and composite events the statements use that are defined beside the lemmas, in `Proofs/CacheLemmas.lean`: `Sound`,
`SoundFacts`, `J`, `Inv`, `readsS`, `OpCall`, `opsRun`, `opsAdm`, `UEv`, `UAdm`, `urun`, `lockNeutral`, `roundBits`, `hashInput`;
in `Proofs/CacheTraceLemmas.lean`: `UAdmT`, `uadmT`.
-/
namespace Navis.Props.C02
open Navis.Cache Navis.Gen.CacheSpec

/-- The closed facts about the generated `spec`, evaluated together: they walk the same views and compare the same
attribute names.  The theorems below name the parts. -/
private theorem spec_facts :
    Sound spec ∧
    (∀ v ∈ wrappedViews spec, ∀ c ∈ viewDeps v.name, c ∈ spec.coreCols ∨ (v.name = "simple" ∧ c = "radius")) ∧
    ("radius" ∈ spec.coreCols ∨ ∃ c ∈ viewDeps "simple", c ∉ spec.coreCols) ∧
    (∀ n ∈ expectedWrapped, ∃ v ∈ spec.views, v.name = n ∧ v.wrapped = true) ∧
    (∀ e ∈ spec.editors, (spec.sharedOnCopy.contains e.attr = true → e.detaches = true)) ∧
    (∀ v ∈ spec.views, v.wrapped = true) := by unfold Sound; decide +kernel

/-- The source-level obligations hold for the code as it is now: every cache attribute is registered in
`TEMP_ATTR`, no `exclude` literal of any `_clear_temp_attr` call site names a cache attribute (so every
effective clear drops every cache), `is_stale` recomputes the checksum comparison, `_clear_temp_attr`
re-stamps and deletes, and the `temp_property` wrapper is `if not locked: if is_stale: clear`. -/
theorem spec_sound : Sound spec := spec_facts.1

/-- No call site keeps a cache across a clear (today the literals `"igraph"`, `"graph"`, `"segments"`, …
never match the attribute names `"_igraph"`, `"_graph_nx"`, `"_segments"`). -/
theorem excludes_retain_nothing : ∀ c ∈ spec.clearSites, ∀ v ∈ spec.views, exclMatches spec c.excl v.attr = false :=
  spec_sound.facts.exclFree

/-- The source-level checker `soundB` is **complete** as well as sound: it accepts exactly the specs that satisfy
the six obligations (registered attributes, no retaining `exclude`, shapes of `is_stale` / clear / wrapper). -/
theorem soundB_iff (sp : Spec) : soundB sp = true ↔ SoundFacts sp :=
  soundB_iff_soundFacts sp

/-- Every wrapped view is computed from hashed columns only: the checksum covers its inputs.  The one
exception is written into the statement: `simple` (a whole neuron) also carries `radius`, which no version
of `CORE_DATA` hashes — finding `TreeNeuron.simple/radius-not-in-CORE_DATA`; since `simple` carries the wrapper
(fix 77953b3) this is the one exception in use. -/
theorem deps_covered : ∀ v ∈ wrappedViews spec, ∀ c ∈ viewDeps v.name,
    c ∈ spec.coreCols ∨ (v.name = "simple" ∧ c = "radius") := spec_facts.2.1

/-- `simple` depends on a column outside the generated `CORE_DATA` (so even with the wrapper a direct edit
of `radius` is not noticed) — unless a later version hashes `radius`. -/
theorem simple_depends_on_unhashed_radius :
    "radius" ∈ spec.coreCols ∨ ∃ c ∈ viewDeps "simple", c ∉ spec.coreCols := spec_facts.2.2.1

/-- Every lazily cached view named by the property statement (graphs, segments, geodesic matrix, cable
length, adjacency) carries the staleness wrapper. -/
theorem wrapped_complete : ∀ n ∈ expectedWrapped, ∃ v ∈ spec.views, v.name = n ∧ v.wrapped = true := spec_facts.2.2.2.1

/-- Every cached view of the generated spec — graphs, segments, geodesic matrix, cable length, adjacency **and
the simplified skeleton `_simple`** — carries the staleness wrapper and is registered in `TEMP_ATTR`. -/
theorem every_cached_view_wrapped_and_registered :
    ∀ v ∈ spec.views, v.wrapped = true ∧ v.attr ∈ spec.tempAttr :=
  fun v hv => ⟨spec_facts.2.2.2.2.2 v hv, spec_sound.facts.registered v hv⟩

/-- One admissible primitive event preserves the invariant (`change` produces content not seen before,
clears use an `exclude` literal that occurs in the source, only registered attributes are written). -/
theorem step_preserves (s : St) (e : Ev) (h : J spec s) (ha : admB spec s e = true) : J spec (step spec s e) :=
  J_step spec_sound.facts h e ha

/-- **Main theorem.** After *any* admissible history — any interleaving, of any length, of `is_stale`
evaluations, clears (effective or swallowed by the lock), cache writes (reads, co-edited graphs),
content changes (direct edits, table replacement, mutations inside operations), lock / unlock, copies,
pickle round trips — if the stamp says "current" then every cache entry was computed from the
current content. -/
theorem history_fresh (es : List Ev) (ha : admAll spec init es = true) : Inv (run spec init es) :=
  (J_run spec_sound.facts J_init ha).inv

/-- A read of a wrapped view on an unlocked neuron returns a value computed from the current content,
whatever is in the cache. -/
theorem read_returns_current (s : St) (h : J spec s) (hl : s.lock = 0) (v : View) (hv : v ∈ wrappedViews spec) :
    readTag spec s v = some s.ver ∧ (readS spec s v).ver = s.ver :=
  have hv := List.mem_filter.mp hv
  have h := read_current spec_sound.facts h hl hv.1 hv.2
  ⟨h.1, h.2.1⟩

/-- **A value computed before a change is never returned after it**: after any admissible history that
leaves the neuron unlocked, the next read of any wrapped view returns the view of the current content. -/
theorem never_returns_older_value (es : List Ev) (ha : admAll spec init es = true)
    (hl : (run spec init es).lock = 0) (v : View) (hv : v ∈ wrappedViews spec) :
    readTag spec (run spec init es) v = some (run spec init es).ver :=
  (read_returns_current _ (J_run spec_sound.facts J_init ha) hl v hv).1

/-- **Freshness for every `TEMP_ATTR` view**: after any admissible history that leaves the neuron unlocked, the
next read of *any* cached view of the spec (not only the seven named in the statement: also `simple`) returns
the view of the current content. -/
theorem every_view_fresh_after_any_history (es : List Ev) (ha : admAll spec init es = true)
    (hl : (run spec init es).lock = 0) (v : View) (hv : v ∈ spec.views) :
    readTag spec (run spec init es) v = some (run spec init es).ver :=
  never_returns_older_value es ha hl v (List.mem_filter.mpr ⟨hv, (every_cached_view_wrapped_and_registered v hv).1⟩)

/-- … and so does every read in a whole *sequence* of reads of cached views: after any number of earlier reads
(which warm or rebuild caches but never change the table) the next read still returns the current content, and the
neuron is still unlocked with the invariant intact. -/
theorem read_after_reads_current (s : St) (h : J spec s) (hl : s.lock = 0) (vs : List View)
    (hvs : ∀ v ∈ vs, v ∈ spec.views) (v : View) (hv : v ∈ spec.views) :
    readTag spec (readsS spec s vs) v = some s.ver ∧ J spec (readsS spec s vs) ∧ (readsS spec s vs).lock = 0 := by
  have hw : ∀ w ∈ spec.views, w.wrapped = true := fun w hw => (every_cached_view_wrapped_and_registered w hw).1
  obtain ⟨j, l, e⟩ := J_readsS spec_sound.facts h hl (fun w hw' => ⟨hvs w hw', hw w (hvs w hw')⟩)
  refine ⟨?_, j, l⟩
  rw [← e]
  exact (read_current spec_sound.facts j l hv (hw v hv)).1

/-- Every operation of the generated table — (for `@lock_neuron` functions) the wrapper's entry check and the
lock, reads under the lock, a change, more cache writes (graphs edited in step / carried over), its
`_clear_temp_attr(exclude=…)`, unlock — preserves the invariant; in particular deleting the explicit clear
(`withClear = false`) does not break it. -/
theorem operation_preserves (c : ClearSite) (hc : c ∈ spec.clearSites) (s : St) (h : J spec s)
    (pre post : List View) (hpre : ∀ v ∈ pre, v ∈ spec.views) (hpost : ∀ v ∈ post, v ∈ spec.views)
    (v t : Nat) (hv : s.hi ≤ v) (withClear : Bool) :
    J spec (run spec s (opPrims spec s c pre post v t withClear)) :=
  J_opPrims spec_sound.facts hc h hpre hpost hv

/-- **After any sequence of catalogue operations** from any state with `J` (any call sites of the generated table, with or
without their explicit clear, locked or not, any reads under the lock and any graphs carried over): the invariant
holds — by induction over the list of operations. -/
theorem any_sequence_of_operations_preserves : ∀ (os : List OpCall) (s : St), J spec s → opsAdm spec s os →
    J spec (opsRun spec s os) ∧ Inv (opsRun spec s os) := fun _ _ h ha =>
  have j := J_opsRun spec_sound.facts h ha
  ⟨j, j.inv⟩

/-- `copy`: the copy of a stale neuron is re-stamped and carries no cache; entries are only carried over
together with a valid stamp. -/
theorem copy_of_stale_is_clean (s : St) (h : J spec s) (hst : (isStaleS spec s).stale = true) :
    (copyS spec s).md5 = s.ver ∧ (copyS spec s).stale = false ∧ (copyS spec s).cache = [] ∧ (copyS spec s).lock = 0 := by
  rw [copyS_stale spec_sound.facts rfl (by decide) h hst]
  exact ⟨rfl, rfl, rfl, rfl⟩

/-- **Copying a neuron that is not stale** carries cache entries and stamp over unchanged (only the lock counter
is reset): together with `copy_of_stale_is_clean` this is the whole behaviour of `copy`. -/
theorem copy_of_current_carries_cache (s : St) (hst : (isStaleS spec s).stale = false) :
    (copyS spec s).cache = s.cache ∧ (copyS spec s).md5 = s.md5 ∧ (copyS spec s).ver = s.ver ∧ (copyS spec s).lock = 0 := by
  rw [copyS_not_stale hst, unlocked_eq (by decide)]
  exact ⟨rfl, rfl, rfl, rfl⟩

/-- **Unpickling**: the round trip drops exactly the entries `__getstate__` pops (the two graphs): none of them is
present afterwards, so the next read rebuilds them from the table that was pickled … -/
theorem unpickled_has_no_graphs (s : St) : ∀ a ∈ spec.getstateDrops, has (pickleS spec s) a = false :=
  fun _ ha => has_pickleS_drop ha

/-- … and content, stamp and staleness flag travel unchanged. -/
theorem unpickled_keeps_stamp (s : St) :
    (pickleS spec s).ver = s.ver ∧ (pickleS spec s).md5 = s.md5 ∧ (pickleS spec s).stale = s.stale ∧
    (pickleS spec s).typeVer = s.typeVer := ⟨rfl, rfl, rfl, rfl⟩

/-- **Failed calls.** A call of a `@lock_neuron` function (reroot_skeleton, subset_neuron, dist_between, …)
that *raises* — after any reads / cache writes / changes in its body — leaves the lock counter where it
was (the generated spec says the release sits in a `finally:`), so an unlocked neuron stays unlocked and
`read_returns_current` keeps applying to it. -/
theorem failed_call_releases_lock (s : St) (body : List Ev) (hb : ∀ e ∈ body, lockNeutral e = true) (raises : Bool) :
    (run spec s (lockedCall spec s body raises)).lock = s.lock :=
  LockKept.call rfl (.neutral hb) s

/-- … and a call that raises before doing anything has exactly the effect of the wrapper's entry check
(`is_stale`, and a clear if stale) — in particular it has no effect at all on a neuron that is locked or whose
stamp is current. -/
theorem failed_call_is_noop (s : St) :
    run spec s (lockedCall spec s [] true) = run spec s (lockEntryPrims spec s) ∧
    ((0 < s.lock ∨ (s.stale = false ∧ s.md5 = s.ver)) → run spec s (lockedCall spec s [] true) = s) :=
  ⟨emptyCall_eq (.inr rfl), fun hc => (emptyCall_eq (.inr rfl)).trans (lockEntry_noop hc)⟩

/-- A locked call whose body consists of admissible events preserves the invariant (the entry check is an
`is_stale` evaluation and possibly a clear with the default `exclude`: admissible). -/
theorem locked_call_preserves (s : St) (h : J spec s) (body : List Ev) (raises : Bool)
    (hb : admAll spec (run spec s (lockEntryPrims spec s ++ [Ev.lock])) body = true) :
    J spec (run spec s (lockedCall spec s body raises)) :=
  J_lockedCall spec_sound.facts h hb

/-! ### Reads inside a locked operation (fix 4ae1633: `lock_neuron` validates the caches before locking) -/

/-- The generated spec says that `lock_neuron` evaluates `is_stale` (and clears if stale) on an unlocked neuron
before it increments the lock counter.  Reverting the fix makes this theorem fail; the theorems about reads
under the lock cite it. -/
theorem lock_validates_before_locking : spec.lockChecksStale = true := rfl

/-- When a `@lock_neuron` function (reroot_skeleton, subset_neuron, dist_between, dist_to_root, distal_to,
segment_length, classify_nodes) is entered on an unlocked neuron, then at the moment the lock is taken the
content is what it was at entry and **every** cache entry — wrapped or not — was computed from that content,
whatever was cached before and however the table was edited before the call. -/
theorem lock_entry_establishes (s : St) (h : J spec s) (hl : s.lock = 0) :
    let s1 := run spec s (lockEntryPrims spec s ++ [Ev.lock])
    s1.ver = s.ver ∧ s1.lock = 1 ∧ (∀ p ∈ s1.cache, p.2 = s.ver) ∧ J spec s1 :=
  lockEntry_establishes spec_sound.facts lock_validates_before_locking h hl

/-- **A read of a cached view inside a locked operation that was entered on an unlocked neuron returns a value
computed from the content at entry** — for every view, after any number of earlier reads under the same lock
(the staleness wrapper is skipped while the lock is held, so this rests on the entry check alone). -/
theorem locked_read_returns_entry_content (s : St) (h : J spec s) (hl : s.lock = 0) (vs : List View) (v : View) :
    readTag spec (readsS spec (run spec s (lockEntryPrims spec s ++ [Ev.lock])) vs) v = some s.ver :=
  (locked_read (locked_reads (AllCur_entry spec_sound.facts lock_validates_before_locking h hl))).1

/-- … in particular after any admissible history that leaves the neuron unlocked (warm caches, direct in-place
edits, operations, copies, pickling in any order): the graph a locked operation works on is the graph of the
table it was called with. -/
theorem locked_read_after_any_history (es : List Ev) (ha : admAll spec init es = true)
    (hl : (run spec init es).lock = 0) (v : View) :
    let s := run spec init es
    readTag spec (run spec s (lockEntryPrims spec s ++ [Ev.lock])) v = some s.ver :=
  locked_read_returns_entry_content _ (J_run spec_sound.facts J_init ha) hl [] v

/-- **Negation for the code before the fix** (`lockChecksStale = false`, everything else as generated): warm the
networkx graph, edit the table in place, call a locked operation — the read under the lock returns the graph of
the OLD table (content 0) although the table has content 1.  This is the history of finding
`lock_neuron/no-staleness-check-before-lock` (read graph → `x.nodes.loc[…,'parent_id'] = …` → `x.reroot(…)`). -/
theorem unchecked_lock_witness :
    let sp := { spec with lockChecksStale := false }
    let v : View := ⟨"graph", "_graph_nx", true, false⟩
    let s := run sp (readS sp init v) [.change 1 1]
    s.lock = 0 ∧ s.ver = 1 ∧ readTag sp (run sp s (lockEntryPrims sp s ++ [Ev.lock])) v = some 0 := by decide +kernel

/-- … and in general: without the entry check a read under the lock returns whatever is cached. -/
theorem unchecked_lock_returns_cached (sp : Spec) (hf : sp.lockChecksStale = false) (s : St) (v : View) (old : Nat)
    (ht : tagOf s v.attr = some old) :
    readTag sp (run sp s (lockEntryPrims sp s ++ [Ev.lock])) v = some old := by
  have e : run sp s (lockEntryPrims sp s ++ [Ev.lock]) = { s with lock := s.lock + 1 } := by
    unfold lockEntryPrims; rw [hf]; rfl
  rw [e]
  exact read_cached (viewPrefix_locked (Nat.succ_pos _)) ht

/-- A `@lock_neuron` call nested inside a locked function skips the entry check (the staleness wrapper and the
entry check are both disabled while the lock is held) … -/
theorem nested_call_skips_entry_check (s : St) (hl : 0 < s.lock) : lockEntryPrims spec s = [] :=
  lockEntryPrims_locked hl

/-- … **nesting is balanced**: an outer locked call whose body contains a complete inner locked call (each of
them returning or raising, any lock-neutral events before, inside and after) leaves the lock counter where it
was — so an unlocked neuron is unlocked again and `read_returns_current` applies. -/
theorem nested_locked_calls_release_lock (s : St) (pre inner post : List Ev)
    (hpre : ∀ e ∈ pre, lockNeutral e = true) (hin : ∀ e ∈ inner, lockNeutral e = true)
    (hpost : ∀ e ∈ post, lockNeutral e = true) (ri ro : Bool) :
    let s1 := run spec s (lockEntryPrims spec s ++ [Ev.lock] ++ pre)
    (run spec s (lockedCall spec s (pre ++ lockedCall spec s1 inner ri ++ post) ro)).lock = s.lock :=
  LockKept.call rfl (((LockKept.neutral hpre).append (.call rfl (.neutral hin))).append (.neutral hpost)) s

/-- … and a read of a cached view inside the *inner* call (entered while the outer call holds the lock, before any
change) still returns a value computed from the content at the entry of the OUTER call. -/
theorem nested_locked_read_returns_entry_content (s : St) (h : J spec s) (hl : s.lock = 0) (vs : List View) (v : View) :
    let s1 := readsS spec (run spec s (lockEntryPrims spec s ++ [Ev.lock])) vs
    readTag spec (run spec s1 (lockEntryPrims spec s1 ++ [Ev.lock])) v = some s.ver :=
  (locked_read (AllCur_nested (locked_reads
    (AllCur_entry spec_sound.facts lock_validates_before_locking h hl)))).1

/-! ### Observed traces refine the primitive events

The `TreeNeuron` override of `_clear_temp_attr` calls `classify_nodes`, itself a `@lock_neuron` function; a trace of
the real object shows that nested call (after the clear: `isStale`, `lock`, `unlock`, `classify`).  The driver's discipline check compares real traces with
the *observed* form of the model's event lists; these theorems say the observed form ends in the same state as
the primitive form the freshness theorems are about. -/

theorem clear_trace_refines (s : St) (excl : List String) :
    run spec s (clearTrace spec s excl) = step spec s (.clear excl) :=
  clearTrace_refines spec_sound.facts.restamps

theorem observed_trace_refines (es : List Ev) (s : St) : run spec s (expandClears spec s es) = run spec s es :=
  expandClears_refines spec_sound.facts.restamps

/-! ### Cached objects shared between a neuron and its copy (fix 7a5fe2d)

`TreeNeuron.copy()` hands the copy a *view* of the original's networkx graph (`sharedOnCopy`, generated); the
generated `editors` are the functions that edit a cached graph object in place. -/

/-- Source-level obligation over the generated facts: every function that edits, in place, a cached object that
copies share (today: `reroot_skeleton` on `_graph_nx`) first re-binds the attribute to an independent object.
Reverting 7a5fe2d makes this fail to check. -/
theorem shared_objects_are_detached_before_editing :
    ∀ e ∈ spec.editors, (spec.sharedOnCopy.contains e.attr = true → e.detaches = true) :=
  spec_facts.2.2.2.2.1

/-- The aliasing checker is exact as well: `aliasSafeB` accepts exactly the specs in which every in-place editor of an
object that copies share detaches first. -/
theorem aliasSafeB_iff (sp : Spec) :
    aliasSafeB sp = true ↔ ∀ e ∈ sp.editors, (sp.sharedOnCopy.contains e.attr = true → e.detaches = true) := by
  unfold aliasSafeB
  rw [List.all_eq_true]
  refine forall_congr' fun e => imp_congr_right fun _ => ?_
  cases sp.sharedOnCopy.contains e.attr <;> cases e.detaches <;> decide

/-- **After copying, whatever is done to one side — reads, further copies, in-place operations that co-edit the
cached object, direct edits — each side's cached object keeps describing that side's own table**, for every
cache attribute and every in-place editor of the generated spec, for all histories. -/
theorem copy_views_independent (e : Editor) (he : e ∈ spec.editors) (es : List PEv) (v0 : Nat) :
    PairOK (prun (spec.sharedOnCopy.contains e.attr) e.detaches ⟨v0, v0, none, none, false⟩ es) :=
  (pairInv_run (shared_objects_are_detached_before_editing e he)
    ⟨⟨Or.inl rfl, Or.inl rfl⟩, by simp⟩).ok

/-- an attribute that copies do not share (`_igraph`: always deep-copied) may be edited in place -/
theorem unshared_objects_may_be_edited (detaches : Bool) (es : List PEv) (v0 : Nat) :
    PairOK (prun false detaches ⟨v0, v0, none, none, false⟩ es) :=
  (pairInv_run (shared := false) (by simp) ⟨⟨Or.inl rfl, Or.inl rfl⟩, by simp⟩).ok

/-- Negation for the code before the fix (shared view, edited in place without detaching): read the graph, copy,
reroot the original — the COPY's graph now describes the original's new table (1), not the copy's own (0).
This is the history of finding `reroot_skeleton(networkx)/edits-_graph_nx-in-place`. -/
theorem shared_edit_witness :
    let p := prun true false ⟨0, 0, none, none, false⟩ [.warm false, .copy false, .edit false 1]
    p.verB = 0 ∧ p.tagB = some 1 ∧ ¬ PairOK p := by
  unfold PairOK; decide +kernel

/-! ### What the checksum is computed from: every column in its own dtype, no narrowing cast (finding
`core_md5/int64-ids-upcast-to-float64`) -/

/-- `core_md5` restricts the table to the `CORE_DATA` columns, feeds **every column in its own dtype** to the hash
function and applies no dtype conversion of its own (the generated literal of the cast expression is empty). -/
theorem hash_no_narrowing_cast : spec.hashSelectsCols = true ∧ spec.hashNative = true ∧ spec.hashCast = "" := ⟨rfl, rfl, rfl⟩

/-- What reaches the hash function determines the hashed cells — node ids of **any** size and every float
coordinate (cell = its significand): two rows with the same hash input are the same row.  Together with the
injectivity of the hash function itself (trusted base) the checksum distinguishes any two contents of the hashed
columns.  Hashing the table as one float array again (`hashNative = false`) makes this theorem fail to check. -/
theorem hash_input_injective (a b : List Int) (h : hashInput spec a = hashInput spec b) : a = b :=
  hashInput_injective (.inl rfl) (.inl rfl) h

/-- For a table hashed as ONE floating array with `p` significand bits (the code before the repair: p = 53; a
float32 cast: p = 24) the same holds only for cells up to `2^p` … -/
theorem hash_input_injective_bounded (sp : Spec) (hn : sp.hashNative = false) (a b : List Int)
    (ha : ∀ n ∈ a, n.natAbs ≤ 2 ^ sp.hashBits) (hb : ∀ n ∈ b, n.natAbs ≤ 2 ^ sp.hashBits)
    (h : hashInput sp a = hashInput sp b) : a = b :=
  -- holds with per-column hashing too (nothing is rounded there), so `hn` is not needed
  have _ := hn
  hashInput_injective (.inr ha) (.inr hb) h

/-- … negation for a float32 cast: the parent links `2^24` and `2^24 + 1` (and a coordinate move in the 25th
significant bit) reach the hash function as the same number … -/
theorem float32_cast_collides : roundBits 24 (2 ^ 24 + 1) = roundBits 24 (2 ^ 24) ∧ (2 : Int) ^ 24 + 1 ≠ 2 ^ 24 := by
  decide +kernel

/-- … and **historical** (the code before the repair of `core_md5`, `DataFrame.values` on the int64 / float64 node
table = one float64 array): node ids beyond `2^53` that differ in their low bits were hashed alike, whereas the
code as it is now tells them apart. -/
theorem float64_upcast_collided_above_2_53_historical :
    let old := { spec with hashNative := false, hashBits := 53 }
    hashInput old [2 ^ 53 + 1] = hashInput old [2 ^ 53] ∧ hashInput spec [2 ^ 53 + 1] ≠ hashInput spec [2 ^ 53] := by
  decide +kernel

/-! ### Lock-free user histories -/

/-- Edit / undo on an unlocked neuron: content may return to *any* earlier value (no freshness assumption
on `change`); as long as no operation holding the lock intervenes and only wrapped views are read, the
invariant holds after every history. -/
theorem edit_undo_fresh (us : List UEv) (hu : ∀ u ∈ us, UAdm spec u) : Inv (urun spec init us) :=
  (K_urun spec_sound.facts K_init hu).inv

/-! ### Negative results, with concrete witnesses: a view without the wrapper, restored content after a write under the
lock, the `type` column after a clear that skips the re-classification -/

/-- A cached view *without* the wrapper returns the value computed before a change: read it, change the
content, read it again.  Since fix 77953b3 gave `simple` the wrapper the generated spec lists no such view, and
the theorem says nothing about the code as it is; `simple_witness` shows the behaviour on a hand-written view. -/
theorem unwrapped_returns_stale (v : View) (hv : v ∈ unwrappedViews spec) (s : St) (habs : has s v.attr = false)
    (v' t : Nat) (hne : v' ≠ s.ver) :
    let s' := step spec (readS spec s v) (.change v' t)
    readTag spec s' v = some s.ver ∧ s'.ver = v' ∧ readTag spec s' v ≠ some s'.ver := by
  intro s'
  have hw : v.wrapped = false := by simpa using (List.mem_filter.mp hv).2
  obtain ⟨a, b⟩ := unwrapped_stale hw habs v' t
  refine ⟨a, b, ?_⟩
  rw [a, b]; intro h; exact hne (Option.some.inj h).symm

/-- The 3-event witness for `simple` (independent of the generated spec): read, change, read. -/
theorem simple_witness :
    let v : View := ⟨"simple", "_simple", false, true⟩
    let s := step spec (readS spec init v) (.change 1 0)
    readTag spec s v = some 0 ∧ s.ver = 1 := by decide +kernel

/-- Operation under the lock that writes a cache from the changed table (the graph `reroot_skeleton`
edits in step, the subgraph `subset_neuron` carries over) followed by restoring the *exact* earlier
content: the stamp says "current" and the wrapped read returns the graph of the other content.  This is the
ABA hole of a checksum taken only at effective clears; `history_fresh` excludes it by the freshness
hypothesis on `change`, `edit_undo_fresh` by excluding lock-holding operations. -/
theorem locked_coedit_aba_witness :
    let v : View := ⟨"igraph", "_igraph", true, false⟩
    let s := run spec init [.isStale, .write "_igraph", .lock, .change 1 1, .write "_igraph", .unlock,
                            .change 0 0, .classify]
    stampCurrent s = true ∧ readTag spec s v = some 1 ∧ s.ver = 0 := by decide +kernel

/-- **Historical** (the code before the in-place operators validated the caches, `iopValidates = false`): a
direct in-place edit of `parent_id` followed by `x *= 2` (its clear excludes `"classify_nodes"`) left the stamp
current and the `type` column (leaf / branch / root sets) computed from the old topology — finding
`nodes.type(…)/inplace-parent_id-edit-then-clear(exclude=classify_nodes)`.  With the code as it is the same history
ends with a current `type` column. -/
theorem type_stale_witness_historical :
    let old := { spec with iopValidates := false }
    let h : List UEv := [.edit 1 1, .arith 2 0 ["classify_nodes"]]
    (stampCurrent (urun old init h) = true ∧ (urun old init h).typeVer ≠ (urun old init h).tver) ∧
    (stampCurrent (urun spec init h) = true ∧ (urun spec init h).typeVer = (urun spec init h).tver) := by decide +kernel

/-- At the level of primitive events the hazard remains what it was: an *effective* clear that excludes
`"classify_nodes"` on a neuron whose topology changed since the last classification leaves the stamp current and
the `type` column old (this is why every caller of such a clear must validate first) … -/
theorem type_stale_primitive_witness :
    let s := run spec init [.change 1 1, .clear ["classify_nodes"]]
    stampCurrent s = true ∧ s.typeVer ≠ s.tver := by decide +kernel

/-- … and no later read repairs it while the stamp stays current. -/
theorem type_stale_persists (s : St) (hst : s.stale = false) (hm : s.md5 = s.ver) (v : View) :
    (readS spec s v).typeVer = s.typeVer ∧ (readS spec s v).tver = s.tver ∧
    (readS spec s v).md5 = (readS spec s v).ver :=
  read_keeps_type hst hm v

/-! ### The `type` column: what keeps it fresh -/

/-- Every event other than a change of `node_id,parent_id` keeps a fresh `type` column fresh
(`classify_nodes` and every clear without `"classify_nodes"` establish it). -/
theorem type_kept_fresh (s : St) (e : Ev) (h : s.typeVer = s.tver) (he : ∀ v t, e = .change v t → t = s.tver) :
    (step spec s e).typeVer = (step spec s e).tver :=
  type_kept h he

/-- After a change of the hashed content the next wrapped read re-classifies. -/
theorem read_after_change_reclassifies (s : St) (hl : s.lock = 0) (hne : s.md5 ≠ s.ver) (v : View)
    (hv : v ∈ wrappedViews spec) : (readS spec s v).typeVer = (readS spec s v).tver :=
  read_reclassifies spec_sound.facts hl hne (List.mem_filter.mp hv).2

/-- The generated spec says that the in-place operators validate the caches before they run.  Reverting the repair
makes this theorem fail; `type_fresh_all_histories` cites it. -/
theorem inplace_operators_validate_first : spec.iopValidates = true := rfl

/-- **The `type` column in every lock-free history.**  `τ` gives the topology (`node_id,parent_id`) contained in a
content of the hashed columns.  After any sequence of reads, direct in-place edits (to any content, also back to
an earlier one), table replacements, in-place arithmetic / unit conversion (which skip the re-classification),
copies and pickling: the `type` column was computed from the topology of the stamped content — hence **whenever
the stamp is current, leafs / branch points / roots are those of the current table**. -/
theorem type_fresh_all_histories (τ : Nat → Nat) (h0 : τ 0 = 0) (us : List UEv) (hu : uadmT spec τ init us) :
    let s := urun spec init us
    s.typeVer = τ s.md5 ∧ s.tver = τ s.ver ∧ (s.md5 = s.ver → s.typeVer = s.tver) := by
  intro s
  have h := TInv_urun spec_sound.facts lock_validates_before_locking inplace_operators_validate_first
    ⟨rfl, h0.symm, h0.symm⟩ hu
  exact ⟨h.typ, h.topo, h.current⟩

/-- **Lock-free user histories: entries and `type` column together.**  After any sequence of reads, direct edits
(also back to earlier content), table replacements, validated in-place arithmetic, copies and pickling: if the
stamp is current, every cache entry was computed from the current content *and* leafs / branch points / roots are
those of the current table. -/
theorem user_history_fresh_and_typed (τ : Nat → Nat) (h0 : τ 0 = 0) (us : List UEv) (hu : ∀ u ∈ us, UAdm spec u)
    (ht : uadmT spec τ init us) :
    let s := urun spec init us
    Inv s ∧ (s.md5 = s.ver → s.typeVer = s.tver) :=
  ⟨edit_undo_fresh us hu, (type_fresh_all_histories τ h0 us ht).2.2⟩

/-! ### Non-vacuity -/

-- a non-trivial admissible history: warm two caches, edit, read, locked operation, copy, pickle
example : admAll spec init
    [.enter "graph", .isStale, .write "_graph_nx", .exit "graph", .write "_segments", .change 1 1,
     .isStale, .clear [], .write "_segments", .lock, .change 2 2, .write "_igraph",
     .clear ["igraph", "classify_nodes"], .unlock, .copy, .pickle, .change 3 2, .clear ["classify_nodes"]] = true := by
  decide +kernel
example : 7 ≤ (wrappedViews spec).length := by decide +kernel
example : stampCurrent (run spec init [.isStale, .write "_segments"]) = true := by decide +kernel
example : UAdm spec (.read ⟨"segments", "_segments", true, false⟩) := ⟨by decide +kernel, rfl⟩
-- the locked operation above leaves old entries with an old stamp (premise of `Inv` false), the next read repairs
example : let s := run spec init [.write "_segments", .lock, .change 1 1, .clear ["graph", "classify_nodes"], .unlock]
    stampCurrent s = false ∧ tagOf s "_segments" = some 0 ∧
    readTag spec s ⟨"segments", "_segments", true, false⟩ = some 1 := by decide +kernel

-- the entry check of `lock_neuron` in a state with a warm cache and a pending in-place edit: `is_stale`, clear
example : lockEntryPrims spec (run spec init [.write "_graph_nx", .change 1 1]) = [.isStale, .clear []] := by decide +kernel
-- … and the read under the lock then returns the graph of the edited table (hypotheses of
-- `locked_read_returns_entry_content` are satisfiable; the value is the content at entry, 1)
example : let s := run spec init [.write "_graph_nx", .change 1 1]
    s.lock = 0 ∧ readTag spec (run spec s (lockEntryPrims spec s ++ [Ev.lock])) ⟨"graph", "_graph_nx", true, false⟩ = some 1 := by
  decide +kernel
-- a real trace (`x.graph; x.nodes = df; x.graph; x.nodes.loc[…] += 1; reroot_skeleton(x, 6, inplace=True)`) is
-- admissible and obeys the wrapper / lock-entry discipline …
example : let tr : List Ev := [.enter "graph", .isStale, .write "_graph_nx", .exit "graph", .change 1 0, .isStale, .clear [],
      .isStale, .lock, .unlock, .classify, .lock, .unlock, .classify, .enter "graph", .isStale, .write "_graph_nx", .exit "graph",
      .change 2 0, .isStale, .clear [], .isStale, .lock, .unlock, .classify, .lock, .enter "igraph", .write "_igraph",
      .exit "igraph", .change 3 1, .clear ["igraph", "classify_nodes"], .unlock, .write "_igraph", .retype 0]
    admAll spec init tr = true ∧ discipline spec init tr = [] := by decide +kernel
-- … whereas taking the lock over a stale cache without the entry check (the code before 4ae1633) is flagged
example : discipline spec init [.enter "graph", .isStale, .write "_graph_nx", .exit "graph", .change 1 0, .lock,
    .enter "graph", .exit "graph", .unlock] = [5] := by decide +kernel
example : (run spec init (lockedCall spec init [.write "_igraph", .change 1 1, .write "_igraph"] false)).lock = 0 := by decide +kernel
-- the generated facts are not empty: copies share the networkx graph, and reroot edits both graphs in place
example : ∃ e ∈ spec.editors, spec.sharedOnCopy.contains e.attr = true ∧ e.detaches = true := by decide +kernel
-- with the detaching editor the history of `shared_edit_witness` leaves the copy alone
example : let p := prun true true ⟨0, 0, none, none, false⟩ [.warm false, .copy false, .edit false 1]
    p.tagB = some 0 ∧ p.tagA = some 1 ∧ p.same = false := by decide +kernel

-- `type_fresh_all_histories` is not vacuous: edit the topology, scale in place, undo the edit, convert units, read
example : uadmT spec (fun v => v % 2) init
    [.edit 1 1, .arith 3 0 ["classify_nodes"], .edit 2 0, .arith 4 0 ["classify_nodes"], .edit 1 1,
     .read ⟨"segments", "_segments", true, false⟩, .setNodes 6 0, .copy, .pickle] := by
  simp only [uadmT, UAdmT]; decide +kernel

-- non-vacuity of `any_sequence_of_operations_preserves`: reroot (locked, keeps the igraph it edited), then `x *= 2`
example : opsAdm spec init
    [⟨⟨"graph.graph_utils.reroot_skeleton", ["igraph", "classify_nodes"], true⟩, [⟨"igraph", "_igraph", true, false⟩],
      [⟨"igraph", "_igraph", true, false⟩], 1, 1, true⟩,
     ⟨⟨"core.skeleton.TreeNeuron.__mul__", ["classify_nodes"], false⟩, [], [], 2, 1, true⟩] := by
  -- the two call sites are reached by `mem_cons` steps down the generated table, not by deciding the membership
  have walk : ∀ {c : ClearSite}, c ∈ clearSites → c ∈ spec.clearSites := id
  refine ⟨⟨walk ?_, by decide +kernel, by decide +kernel, by decide +kernel⟩, ⟨walk ?_, nofun, nofun, by decide +kernel⟩, trivial⟩
  all_goals (unfold clearSites; repeat (first | exact List.mem_cons_self | apply List.mem_cons_of_mem))

-- non-vacuity: a nested call on a concrete state; the hypotheses of `nested_locked_read_returns_entry_content`
example : let s := run spec init [.write "_graph_nx", .change 1 1]
    let s1 := readsS spec (run spec s (lockEntryPrims spec s ++ [Ev.lock])) [⟨"igraph", "_igraph", true, false⟩]
    s1.lock = 1 ∧ readTag spec (run spec s1 (lockEntryPrims spec s1 ++ [Ev.lock])) ⟨"graph", "_graph_nx", true, false⟩ = some 1 := by
  decide +kernel
example : (run spec init (lockedCall spec init ([.write "_igraph"] ++ lockedCall spec
    (run spec init (lockEntryPrims spec init ++ [Ev.lock] ++ [.write "_igraph"])) [.classify] false ++ [.change 1 1]) true)).lock = 0 := by
  decide +kernel

end Navis.Props.C02

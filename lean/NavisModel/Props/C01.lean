import NavisModel.Proofs.OpsWF
import NavisModel.Proofs.OpsAllLemmas
import NavisModel.Proofs.OpsXLemmas
/-!
# C01 — every operation that yields a skeleton yields a well-formed skeleton

`WF` (rank form: unique non-negative ids, parents present, acyclic) is the property's notion of a
well-formed forest; `wfB` is the executable check the driver evaluates on navis' own node tables and
is proved here to decide `WF` exactly.  Operation theorems are proved for every table and argument
(`insert_nodes` for requests that are edges, the ids of `remove_nodes` for ids that exist: what navis validates);
the history theorems lift them to operation sequences of any length by list induction.

Three layers: the seven operations of `Op`; the whole catalogue `OpAll`; skeleton *states* (`OpX` / `OpS`:
node table plus the stored soma), where the invariant is `GoodSt` = well-formed, correctly labelled, and
every member of a stored soma list exists (`SomaOK`) — the last clause is what "the reported soma is a node"
rests on, and every table operation re-establishes it whatever was stored before.  Its last theorems are the
tie to the source: the soma clean-up blocks and the `skip_errors` slice, as the translator extracts them,
are the model's functions.

Predicates of the statements that are defined beside the proofs: `OpAll.ok`, `OpAll.reclassifies`,
`OpAll.alwaysFresh` (`Proofs/OpsAllLemmas`); `OpX.ok`, `OpX.fresh`, `OpS.ok`, `GoodSt` (`Proofs/OpsXLemmas`).
-/
namespace Navis.Props.C01
open Navis.Forest

/-- The executable check used as the run-time oracle is sound and complete for `WF`. -/
theorem wfB_decides_WF (t : Table) : wfB t = true ↔ WF t := wfB_iff t

/-- The label check means what the property says. -/
theorem labelsOKB_spec (t : Table) :
    labelsOKB t = true ↔ ∀ n ∈ t, n.label = labelOf (childCount t n.id) (n.parent < 0) := labelsOKB_iff t

/-- navis' `classify_nodes` computes exactly the label the property demands from child count and
parent, for every node of every table (well-formed or not). -/
theorem classify_correct (t : Table) (n : Node) :
    classifyNode t n = labelOf (childCount t n.id) (n.parent < 0) := classifyNode_eq_labelOf t n

theorem classify_labels_fresh (t : Table) : labelsOKB (classify t) = true := labelsOKB_classify t

/-- **Every operation preserves well-formedness**, for every table and every argument — all
constructors of `Op` (subset, reroot, both cut halves, `remove_nodes`, `downsample`, re-classification),
with no side condition beyond `WF t`.  (`Op` is the fragment of `OpAll` that ignores the edge-length function,
so the `OpAll` theorem is used at an arbitrary one.) -/
theorem op_preserves_WF (t : Table) (hw : WF t) (op : Op) : WF (applyOp t op) := by
  rw [← applyAll_ofOp (fun _ _ => 0) t op]
  exact WF_applyAll _ hw _ fun _ h => by cases op <;> cases h

/-- **Histories**: any finite sequence of operations applied to a well-formed skeleton leaves a
well-formed skeleton — by induction over the sequence, no bound on its length. -/
theorem ops_preserve_WF (t : Table) (hw : WF t) (ops : List Op) : WF (ops.foldl applyOp t) :=
  List.foldlRecOn ops applyOp (motive := WF) hw fun t ht op _ => op_preserves_WF t ht op

theorem removeNodes_preserves_WF (t : Table) (hw : WF t) (which : List Int) : WF (removeNodes t which) :=
  WF_removeNodes hw which

/-- `remove_nodes` returns exactly the rows not listed (when all listed ids exist; navis raises otherwise). -/
theorem removeNodes_ids (t : Table) (which : List Int) (hg : ∀ w ∈ which, w ∈ ids t) :
    ids (removeNodes t which) = (ids t).filter (fun i => !which.contains i) := ids_removeNodes hg

/-- The new parent of a kept node is the first node after itself on its *old* root path that is not
removed; if every ancestor is removed it becomes a root (negative parent). -/
theorem removeNodes_parent_is_nearest_kept_ancestor (t : Table) (hw : WF t) (which : List Int)
    (hg : ∀ w ∈ which, w ∈ ids t) (m : Node) (hm : m ∈ removeNodes t which) :
    m.id ∈ ids t ∧ m.id ∉ which ∧
    ((rootPath t m.id).tail.find? (fun a => !which.contains a) = some m.parent ∨
      ((rootPath t m.id).tail.find? (fun a => !which.contains a) = none ∧ m.parent < 0)) := by
  obtain ⟨n, hn, hnw, hid, _, _, _, hnka⟩ := mem_removeNodes hw hg hm
  rw [hid]
  exact ⟨mem_ids_of_mem hn, hnw, hnka.rootPath hw⟩

theorem downsample_preserves_WF (t : Table) (hw : WF t) (f : Option Nat) (pres : List Int) :
    WF (downsample t f pres) := WF_downsample hw f pres

/-- Kept nodes are original nodes with unchanged ids and coordinates. -/
theorem downsample_subset (t : Table) (f : Option Nat) (pres : List Int) :
    ∀ m ∈ downsample t f pres, ∃ n ∈ t, n.id = m.id ∧ n.x = m.x ∧ n.y = m.y ∧ n.z = m.z :=
  Navis.Forest.downsample_subset t f pres

/-- Every fix point — labelled non-slab (root, branch, end) or listed in `pres` (preserved nodes,
somas) — survives downsampling. -/
theorem downsample_keeps_fixpoints (t : Table) (hw : WF t) (f : Option Nat) (pres : List Int) (n : Node)
    (hn : n ∈ t) (hfix : n.label ≠ .slab ∨ n.id ∈ pres) : n.id ∈ ids (downsample t f pres) :=
  Navis.Forest.downsample_keeps_fixpoints hw f pres hn hfix

/-- Every existing id is at most `maxId t` (the ids `insert_nodes` hands out start above it: `insertNodes_ids` below). -/
theorem insertNodes_ids_fresh (t : Table) : ∀ i ∈ ids t, i ≤ maxId t := fun _ hi => le_maxId hi

theorem insertNodes_ids (t : Table) (edgesPC : List (Int × Int)) (coords : List (Int × Int × Int)) :
    ids (insertNodes t edgesPC coords) =
      ids t ++ (List.range' 0 edgesPC.length).map fun (k : Nat) => maxId t + 1 + (k : Int) := by
  rw [insertNodes_eq, ids_classify, ids_append, ids_insOld, ids_insNew]

/-- `insert_nodes` preserves well-formedness when every requested `(parent, child)` pair is an edge of
the skeleton (what navis validates before inserting); duplicates in the request are allowed. -/
theorem insertNodes_preserves_WF (t : Table) (hw : WF t) (edgesPC : List (Int × Int))
    (coords : List (Int × Int × Int)) (hg : ∀ e ∈ edgesPC, ∃ n ∈ t, n.id = e.2 ∧ n.parent = e.1) :
    WF (insertNodes t edgesPC coords) := WF_insertNodes hw edgesPC coords hg

theorem insertNodes_labels_fresh (t : Table) (edgesPC : List (Int × Int)) (coords : List (Int × Int × Int)) :
    labelsOKB (insertNodes t edgesPC coords) = true := labelsOKB_insertNodes t edgesPC coords

/-- `subset` ends in a re-classification: its result has correct labels whatever the labels of the input. -/
theorem subset_labels_fresh (t : Table) (keep : Int → Bool) : labelsOKB (subset t keep) = true := labelsOKB_subset t keep

/-- Operations whose code path ends in `classify_nodes` (everything except `reroot`, which relabels
incrementally). -/
def Op.reclassifies : Op → Prop
  | .reroot _ => False
  | _ => True

/-- An operation that ends in `classify_nodes` either returns its input unchanged (the cases where navis
raises or returns early: cut at a root / absent node, `remove_nodes` with an unknown id, `downsample`
of a table with at most one row) or returns a table with correct labels. -/
theorem op_labels_fresh (t : Table) (op : Op) (hop : Op.reclassifies op) :
    applyOp t op = t ∨ labelsOKB (applyOp t op) = true := by
  rw [← applyAll_ofOp (fun _ _ => 0) t op]
  exact labels_applyAll _ t _ (by cases op <;> exact hop)

/-- Hence correct labels are an invariant of every reclassifying operation. -/
theorem op_labels_ok (t : Table) (hl : labelsOKB t = true) (op : Op) (hop : Op.reclassifies op) :
    labelsOKB (applyOp t op) = true := by
  rcases op_labels_fresh t op hop with h | h
  · rw [h]; exact hl
  · exact h

/-! ### Non-vacuity -/
def ex : Table := [⟨1, -1, 0, 0, 0, .root⟩, ⟨2, 1, 3, 0, 0, .branch⟩, ⟨3, 2, 6, 0, 0, .end_⟩, ⟨4, 2, 3, 4, 0, .end_⟩]
/-- a chain 1 ← 2 ← 3 ← 4 ← 5 ← 6 with a side twig 7 at node 4 -/
def ex2 : Table := [⟨1, -1, 0, 0, 0, .root⟩, ⟨2, 1, 0, 0, 0, .slab⟩, ⟨3, 2, 0, 0, 0, .slab⟩, ⟨4, 3, 0, 0, 0, .branch⟩,
  ⟨5, 4, 0, 0, 0, .slab⟩, ⟨6, 5, 0, 0, 0, .end_⟩, ⟨7, 4, 0, 0, 0, .end_⟩]
example : WF ex := (wfB_decides_WF ex).mp (by decide +kernel)
example : WF ex2 := (wfB_decides_WF ex2).mp (by decide +kernel)
example : WF ([Op.reroot 4, Op.subset [1, 2, 4], Op.cutDistal 2, Op.removeNodes [2], Op.downsample (some 2) [],
    Op.reclassify].foldl applyOp ex) :=
  ops_preserve_WF ex ((wfB_decides_WF ex).mp (by decide +kernel)) _
/-- `remove_nodes` rewires across a run of removed nodes (3 and 2 removed: 4 hangs on 1) -/
example : (removeNodes ex2 [3, 2]).map (fun n => (n.id, n.parent)) = [(1, -1), (4, 1), (5, 4), (6, 5), (7, 4)] := by decide +kernel
/-- removing the root makes its child a root -/
example : (removeNodes ex [1]).map (fun n => (n.id, n.parent, n.label)) =
    [(2, -1, .root), (3, 2, .end_), (4, 2, .end_)] := by decide +kernel
/-- `downsample` keeps root, branch, ends; factor 1 skips one slab per step (as the loop of
`_downsample_treeneuron` does), factor 2 two; `inf` keeps only the fix points; factor 0 keeps everything
(`downsample_neuron` itself refuses factors ≤ 1 before it reaches the loop) -/
example : (downsample ex2 (some 1) []).map (fun n => (n.id, n.parent)) = [(1, -1), (2, 1), (4, 2), (6, 4), (7, 4)] := by decide +kernel
example : (downsample ex2 (some 2) []).map (fun n => (n.id, n.parent)) = [(1, -1), (4, 1), (6, 4), (7, 4)] := by decide +kernel
example : (downsample ex2 (some 2) [3]).map (fun n => (n.id, n.parent)) = [(1, -1), (3, 1), (4, 3), (6, 4), (7, 4)] := by decide +kernel
example : (downsample ex2 (some 0) []).map (fun n => (n.id, n.parent)) = ex2.map (fun n => (n.id, n.parent)) := by decide +kernel
example : (downsample ex2 none []).map (fun n => (n.id, n.parent)) = [(1, -1), (4, 1), (6, 4), (7, 4)] := by decide +kernel
example : (downsample ex2 none [5]).map (fun n => (n.id, n.parent)) = [(1, -1), (4, 1), (5, 4), (6, 5), (7, 4)] := by decide +kernel
example : wfB (downsample ex2 (some 2) [3]) = true := by decide +kernel
/-- `insert_nodes` on two edges -/
example : (insertNodes ex [(2, 3), (1, 2)] []).map (fun n => (n.id, n.parent)) =
    [(1, -1), (2, 6), (3, 5), (4, 2), (5, 2), (6, 1)] := by decide +kernel
example : WF (insertNodes ex [(2, 3), (1, 2)] []) :=
  insertNodes_preserves_WF ex ((wfB_decides_WF ex).mp (by decide +kernel)) _ _ (by decide +kernel)
/-- the edge guard of `insertNodes_preserves_WF` is needed: a non-edge `(3, 2)` closes a cycle 2 → 5 → 3 → 2 -/
example : wfB (insertNodes ex [(3, 2)] []) = false := by decide +kernel
/-- the fall-back disjunct of `op_labels_fresh` is needed: with an unknown id `remove_nodes` returns its
input (navis raises), stale labels included -/
example : labelsOKB (applyOp [⟨1, -1, 0, 0, 0, .slab⟩] (.removeNodes [9])) = false := by decide +kernel
/-- a cyclic table is rejected -/
example : wfB [⟨1, 2, 0, 0, 0, .slab⟩, ⟨2, 1, 0, 0, 0, .slab⟩] = false := by decide +kernel

/-! ## The whole modelled catalogue: `OpAll`

`OpAll` (`Model/OpsAll.lean`) has one constructor per modelled skeleton-returning operation, the seven of `Op`
among them (`insertNodes` is applied only under the edge guard navis validates).  `applyAll len` dispatches to the
model functions; the theorems hold for EVERY edge-length function `len` (no symmetry or positivity needed).

The only side condition is `OpAll.ok op`: the *foreign* skeletons an operation takes as further inputs
(only `stitchWith` has any) are themselves well-formed forests.  It is `True` for every other constructor,
decidable by `OpAll.okB`; `applyAllChecked` evaluates `okB` itself and refuses the operation otherwise. -/

/-- The side condition is decided by the executable check. -/
theorem opAll_okB_decides_ok (op : OpAll) : op.okB = true ↔ op.ok := OpAll.okB_iff op

/-- … and holds trivially for every operation without foreign inputs (all but `stitchWith`). -/
theorem opAll_ok_of_no_operands (op : OpAll) (h : op.operands = []) : op.ok := by
  intro u hu; rw [h] at hu; cases hu

theorem opsAll_ok_of_okB (ops : List OpAll) (h : ops.all OpAll.okB = true) : ∀ op ∈ ops, op.ok :=
  fun op hop => (OpAll.okB_iff op).mp (List.all_eq_true.mp h op hop)

/-- The guard `applyAll` evaluates before `insert_nodes` is the hypothesis of `insertNodes_preserves_WF`. -/
theorem insertGuard_spec (t : Table) (edgesPC : List (Int × Int)) :
    insertGuard t edgesPC = true ↔ ∀ e ∈ edgesPC, ∃ n ∈ t, n.id = e.2 ∧ n.parent = e.1 := insertGuard_iff

/-- `OpAll` extends `Op`: histories over `Op` are histories over `OpAll` with the same result. -/
theorem opAll_extends_op (len : Int → Int → Nat) (t : Table) (ops : List Op) :
    (ops.map OpAll.ofOp).foldl (applyAll len) t = ops.foldl applyOp t := by
  induction ops generalizing t with
  | nil => rfl
  | cons op ops ih => simp only [List.map_cons, List.foldl_cons, applyAll_ofOp]; exact ih _

/-- **Every modelled operation preserves well-formedness** — one case per constructor of `OpAll`, each by
the lemma of the operation's home file; for every table, every argument and every `len`. -/
theorem opAll_preserves_WF (len : Int → Int → Nat) (t : Table) (hw : WF t) (op : OpAll) (hok : op.ok) :
    WF (applyAll len t op) := WF_applyAll len hw op hok

/-- When the dispatcher evaluates the side condition itself there is no hypothesis besides `WF t`. -/
theorem opAllChecked_preserves_WF (len : Int → Int → Nat) (t : Table) (hw : WF t) (op : OpAll) :
    WF (applyAllChecked len t op) := by
  unfold applyAllChecked
  split
  · rename_i h; exact WF_applyAll len hw op ((OpAll.okB_iff op).mp h)
  · exact hw

/-- **Histories over the whole catalogue**: any finite sequence of modelled operations — of any length,
in any order, with any arguments — applied to a well-formed skeleton returns a well-formed skeleton,
provided every foreign skeleton stitched in along the way is well-formed. -/
theorem opsAll_preserve_WF (len : Int → Int → Nat) (t : Table) (hw : WF t) (ops : List OpAll)
    (hok : ∀ op ∈ ops, op.ok) : WF (ops.foldl (applyAll len) t) :=
  List.foldlRecOn ops (applyAll len) (motive := WF) hw fun t ht op hop => opAll_preserves_WF len t ht op (hok op hop)

/-- The same with no side condition at all, for the dispatcher that evaluates `okB`. -/
theorem opsAllChecked_preserve_WF (len : Int → Int → Nat) (t : Table) (hw : WF t) (ops : List OpAll) :
    WF (ops.foldl (applyAllChecked len) t) :=
  List.foldlRecOn ops (applyAllChecked len) (motive := WF) hw fun t ht op _ => opAllChecked_preserves_WF len t ht op

/-- The same when the edge-length function is recomputed from the current table at every step
(`lenOf = coordLen`: Euclidean lengths of the current coordinates). -/
theorem opsAllG_preserve_WF (lenOf : Table → Int → Int → Nat) (t : Table) (hw : WF t) (ops : List OpAll)
    (hok : ∀ op ∈ ops, op.ok) : WF (ops.foldl (applyAllG lenOf) t) :=
  List.foldlRecOn ops (applyAllG lenOf) (motive := WF) hw fun t ht op hop =>
    opAll_preserves_WF (lenOf t) t ht op (hok op hop)

/-- An operation that ends in `classify_nodes` (all constructors except `reroot`) returns its input
unchanged (where navis raises / returns early) or a table with correct labels — whatever the input's
labels were. -/
theorem opAll_labels_fresh (len : Int → Int → Nat) (t : Table) (op : OpAll) (hop : op.reclassifies) :
    applyAll len t op = t ∨ labelsOKB (applyAll len t op) = true := labels_applyAll len t op hop

/-- Correct labels are an invariant of EVERY operation on well-formed forests, `reroot` included (its
incremental relabelling is correct on a well-formed, correctly labelled input). -/
theorem opAll_labels_ok (len : Int → Int → Nat) (t : Table) (hw : WF t) (hl : labelsOKB t = true) (op : OpAll) :
    labelsOKB (applyAll len t op) = true := labelsOKB_applyAll len hw hl op

/-- **Label invariant for histories**: from a well-formed, correctly labelled skeleton every history
returns a correctly labelled (and well-formed) skeleton. -/
theorem opsAll_labels_ok (len : Int → Int → Nat) (t : Table) (hw : WF t) (hl : labelsOKB t = true)
    (ops : List OpAll) (hok : ∀ op ∈ ops, op.ok) :
    WF (ops.foldl (applyAll len) t) ∧ labelsOKB (ops.foldl (applyAll len) t) = true :=
  List.foldlRecOn ops (applyAll len) (motive := fun t => WF t ∧ labelsOKB t = true) ⟨hw, hl⟩ fun t ht op hop =>
    ⟨opAll_preserves_WF len t ht.1 op (hok op hop), opAll_labels_ok len t ht.1 ht.2 op⟩

/-- **Histories whose last operation re-classifies** (anything but `reroot`): the result has correct
labels, or that last operation returned its input unchanged (navis raised / returned early) — no
assumption on the labels of the start table. -/
theorem opsAll_labels_last (len : Int → Int → Nat) (t : Table) (ops : List OpAll) (op : OpAll)
    (hop : op.reclassifies) :
    (ops ++ [op]).foldl (applyAll len) t = ops.foldl (applyAll len) t ∨
      labelsOKB ((ops ++ [op]).foldl (applyAll len) t) = true := by
  rw [List.foldl_append]
  exact opAll_labels_fresh len _ op hop

/-- **Strongest form without a label assumption on the input**: if somewhere in the history there is an
operation that re-classifies unconditionally (`subset`, `reclassify`, `pruneAtDepth`, `longestNeurite`,
`rewire`, `dropFluff`, `resample`, `resampleCounts` — `OpAll.alwaysFresh`), the final result has correct
labels, whatever comes before and after it (`reroot`s included). -/
theorem opsAll_labels (len : Int → Int → Nat) (t : Table) (hw : WF t) (pre post : List OpAll) (op : OpAll)
    (hfresh : op.alwaysFresh) (hok : ∀ o ∈ pre ++ op :: post, o.ok) :
    labelsOKB ((pre ++ op :: post).foldl (applyAll len) t) = true := by
  rw [List.foldl_append, List.foldl_cons]
  have hpre : WF (pre.foldl (applyAll len) t) :=
    opsAll_preserve_WF len t hw pre (fun o ho => hok o (List.mem_append_left _ ho))
  have hop : WF (applyAll len (pre.foldl (applyAll len) t) op) :=
    opAll_preserves_WF len _ hpre op (hok op (List.mem_append_right _ (List.mem_cons_self ..)))
  exact (opsAll_labels_ok len _ hop (labelsOKB_applyAll_fresh len _ op hfresh) post
    (fun o ho => hok o (List.mem_append_right _ (List.mem_cons_of_mem _ ho)))).2

/-! ### Non-vacuity for `OpAll` -/

/-- two fragments (a chain 1 ← 2 ← 3 with a twig 4 at node 2, and a chain 5 ← 6) -/
def exF : Table := [⟨1, -1, 0, 0, 0, .root⟩, ⟨2, 1, 3, 0, 0, .branch⟩, ⟨3, 2, 6, 0, 0, .end_⟩, ⟨4, 2, 3, 4, 0, .end_⟩,
  ⟨5, -1, 9, 0, 0, .root⟩, ⟨6, 5, 12, 0, 0, .end_⟩]
/-- a foreign skeleton (a fork 4 ← {6, 7}) whose ids clash with the running table -/
def exO : Table := [⟨4, -1, 20, 0, 0, .root⟩, ⟨6, 4, 23, 0, 0, .end_⟩, ⟨7, 4, 20, 3, 0, .end_⟩]
def unitLen : Int → Int → Nat := fun _ _ => 1

theorem exF_WF : WF exF := (wfB_decides_WF exF).mp (by decide +kernel)

/-- a mixed history over the whole catalogue -/
def hist : List OpAll :=
  [.heal {}, .reroot 4, .pruneTwigs 1 0 none, .resampleCounts [([6, 5, 3, 2, 4], some 4)], .insertNodes [(8, 7)] [],
   .removeNodes [7], .stitchWith [exO] .first (some {}), .cutFragment [9] 0, .keepFragment 0 0, .pruneByStrahler (.int 1),
   .longestNeurite 0 1 false, .rewire [(9, 10)], .downsample none [], .cutDistal 10]

example : WF (hist.foldl (applyAll unitLen) exF) :=
  opsAll_preserve_WF unitLen exF exF_WF hist (opsAll_ok_of_okB hist (by decide +kernel))
example : WF (hist.foldl (applyAllChecked unitLen) exF) := opsAllChecked_preserve_WF unitLen exF exF_WF hist
/-- `rewire` (12th operation) re-classifies unconditionally: labels are correct at the end -/
example : labelsOKB (hist.foldl (applyAll unitLen) exF) = true :=
  opsAll_labels unitLen exF exF_WF (hist.take 11) (hist.drop 12) (.rewire [(9, 10)]) trivial
    (opsAll_ok_of_okB hist (by decide +kernel))
/-- the history does something at every step — ids and parent links after each prefix:
heal hangs 5 on 3; reroot to 4; `prune_twigs` drops the one-edge twig 1; resampling the remaining chain
6 → 4 with 4 sample positions replaces 5, 3, 2 by the fresh nodes 7, 8; `insert_nodes` puts 9 on the edge
8 ← 7; `remove_nodes` takes 7 out again; stitching with `exO` renames its clashing ids 4, 6 to 10, 11
and hangs it on 6; cut at 9, first piece; `break_fragments`; Strahler index 1 (the two tips) pruned;
longest neurite; rewire on the single edge 9–10; downsample; the part distal to 10. -/
example : (List.range hist.length).map
      (fun k => ((hist.take (k + 1)).foldl (applyAll unitLen) exF).map fun n => (n.id, n.parent)) =
    [[(1, -1), (2, 1), (3, 2), (4, 2), (5, 3), (6, 5)],
     [(1, 2), (2, 4), (3, 2), (4, -1), (5, 3), (6, 5)],
     [(2, 4), (3, 2), (4, -1), (5, 3), (6, 5)],
     [(6, 7), (7, 8), (8, 4), (4, -1)],
     [(6, 7), (7, 9), (8, 4), (4, -1), (9, 8)],
     [(6, 9), (8, 4), (4, -1), (9, 8)],
     [(6, 9), (8, 4), (4, -1), (9, 8), (10, 6), (11, 10), (7, 10)],
     [(6, 9), (9, -1), (10, 6), (11, 10), (7, 10)],
     [(6, 9), (9, -1), (10, 6), (11, 10), (7, 10)],
     [(6, 9), (9, -1), (10, 6)],
     [(6, 9), (9, -1), (10, 6)],
     [(6, -1), (9, -1), (10, 9)],
     [(6, -1), (9, -1), (10, 9)],
     [(10, -1)]] := by
  decide +kernel
example : wfB (hist.foldl (applyAll unitLen) exF) = true ∧ labelsOKB (hist.foldl (applyAll unitLen) exF) = true := by
  decide +kernel

/-- a second history with Euclidean edge lengths recomputed from the current table at every step
(`coordLen`), `resample_skeleton(resample_to=2)`, depth pruning, `drop_fluff`, `heal(drop_disc=True)` -/
def hist2 : List OpAll :=
  [.heal { maxD2 := some 10 }, .resample 2, .pruneAtDepth 1 4, .dropFluff none none, .healDrop {}]
example : WF (hist2.foldl (applyAllG coordLen) exF) :=
  opsAllG_preserve_WF coordLen exF exF_WF hist2 (opsAll_ok_of_okB hist2 (by decide +kernel))
example : (List.range hist2.length).map
      (fun k => ((hist2.take (k + 1)).foldl (applyAllG coordLen) exF).map fun n => (n.id, n.parent)) =
    [[(1, -1), (2, 1), (3, 2), (4, 2), (5, 3), (6, 5)],               -- 3–5 (3² = 9 < 10) is bridged
     [(2, 1), (4, 2), (6, 11), (11, 12), (12, 2), (1, -1)],           -- 3 and 5 replaced by fresh 11, 12
     [(2, 1), (1, -1)], [(2, 1), (1, -1)], [(2, 1), (1, -1)]] := by
  decide +kernel
/-- the `insert_nodes` guard: a pair that is not an edge is refused (without the guard the result has a
cycle, see above), an edge is accepted -/
example : applyAll unitLen ex (.insertNodes [(3, 2)] []) = ex := by decide +kernel
example : (applyAll unitLen ex (.insertNodes [(2, 3)] [])).map (fun n => (n.id, n.parent)) =
    [(1, -1), (2, 1), (3, 5), (4, 2), (5, 2)] := by decide +kernel
/-- the side condition `OpAll.ok` is needed: stitching in a cyclic table yields a cyclic table;
`OpAll.okB` detects it and `applyAllChecked` refuses -/
def exBad : Table := [⟨8, 9, 0, 0, 0, .slab⟩, ⟨9, 8, 0, 0, 0, .slab⟩]
example : wfB (applyAll unitLen exF (.stitchWith [exBad] .first none)) = false := by decide +kernel
example : (OpAll.stitchWith [exBad] .first none).okB = false := by decide +kernel
example : applyAllChecked unitLen exF (.stitchWith [exBad] .first none) = exF := by decide +kernel
/-- `reroot` is rightly excluded from `OpAll.reclassifies`: it does not repair stale labels -/
example : labelsOKB (applyAll unitLen [⟨1, -1, 0, 0, 0, .root⟩, ⟨2, 1, 0, 0, 0, .slab⟩, ⟨3, 2, 0, 0, 0, .slab⟩]
    (.reroot 2)) = false := by decide +kernel
/-- the fall-back disjunct of `opsAll_labels_last` is needed: a last operation that returns early
(`heal` of a single fragment) leaves stale labels in place -/
example : labelsOKB ([OpAll.reroot 1, .heal {}].foldl (applyAll unitLen) [⟨1, -1, 0, 0, 0, .slab⟩]) = false := by decide +kernel

/-! ## Skeleton states (node table + soma bookkeeping): `OpX` / `OpS`

`Model/OpsX.lean` adds the constructors `OpAll` lacks — `resample_skeleton` with ANY interpolation
`method` and `skip_errors` (`resampleSkip`: per segment collapsed / interpolated / kept because
`interp1d` refused it), construction from a graph or edge list (`fromEdges`: `nx2neuron`, `edges2neuron`,
`TreeNeuron(nx.Graph | (vertices, edges))`), assignment of a node table (`setNodes`: `x.nodes = df`,
`TreeNeuron(DataFrame)`, `read_swc`), and the operations that leave ids / parents / labels alone
(`touch`: arithmetic, smoothing, copy, pickle) — and the soma bookkeeping as a state component. -/

/-! ### `resample_skeleton`, every `method=`, `skip_errors=True` -/

/-- Whatever segments `interp1d` refuses (`act` is arbitrary): the result is a well-formed forest. -/
theorem resampleSkip_preserves_WF (t : Table) (hw : WF t) (act : List Int → Resample.SegAct) :
    WF (Resample.resampleSkip t act) := Resample.WF_resampleSkip hw act

/-- … for ANY order in which the segments are visited (the order of `x.small_segments` depends on the
row order and on the back-end; fresh ids are handed out in that order). -/
theorem resampleSkipOn_preserves_WF (t : Table) (hw : WF t) (segs : List (List Int))
    (hp : segs.Perm (smallSegments t)) (act : List Int → Resample.SegAct) :
    WF (Resample.resampleSkipOn t segs act) := Resample.WF_resampleSkipOn hw hp act

/-- The rows collected by the loop never contain an id twice: the `~node_id.duplicated()` filter drops
nothing, in particular a kept segment contributes no second row for its proximal branch point. -/
theorem resampleSkipOn_no_duplicates (t : Table) (hw : WF t) (segs : List (List Int))
    (hp : segs.Perm (smallSegments t)) (act : List Int → Resample.SegAct) :
    (ids ((Resample.planX t act segs (maxId t + 1)).map (Resample.mkNode t) ++ t.filter isRootNode)).Nodup :=
  Resample.ids_skipTable_nodup hw (Resample.segsOK_of_perm hw hp) act

/-- Without failures the loop is the linear model of `Model/Resample.lean` (C13). -/
theorem resampleSkip_refines (t : Table) (cnt : List Int → Option Nat) :
    Resample.resampleSkip t (Resample.actOfCnt cnt) = Resample.resampleStruct t cnt :=
  Resample.resampleSkip_actOfCnt t cnt

/-- Every id of the result is an original id or a fresh one above the old maximum. -/
theorem resampleSkipOn_ids (t : Table) (hw : WF t) (segs : List (List Int)) (hp : segs.Perm (smallSegments t))
    (act : List Int → Resample.SegAct) :
    ∀ i ∈ ids (Resample.resampleSkipOn t segs act), i ∈ ids t ∨ maxId t < i := by
  have hok := Resample.segsOK_of_perm hw hp
  intro i hi
  rw [Resample.resampleSkipOn_eq, Resample.dedupById_of_nodup _ (Resample.ids_skipTable_nodup hw hok act), ids_classify] at hi
  exact Resample.ids_skipTable_sub hw hok act i hi

/-! ### construction from a graph / an edge list -/

/-- Whatever the edge list (cycles, self loops, repeated edges, edges leaving the vertex set) and whatever
roots are requested: the parents derived by traversal form a well-formed forest on exactly the given
vertices (distinct, non-negative), with correct labels. -/
theorem fromEdges_WF (verts : List Int) (hv : WF (isoTable verts)) (E : List (Int × Int)) (roots : List Int) :
    WF (fromEdges verts E roots) ∧ labelsOKB (fromEdges verts E roots) = true ∧ ids (fromEdges verts E roots) = verts :=
  ⟨WF_fromEdges hv E roots, labelsOKB_fromEdges verts E roots, ids_fromEdges verts E roots⟩

theorem opX_okB_decides_ok (op : OpX) : op.okB = true ↔ op.ok := OpX.okB_iff op

/-- Every operation of `OpX` preserves well-formedness (side condition: foreign inputs —
stitched skeletons, the vertex list of a graph, an assigned table — are well-formed). -/
theorem opX_preserves_WF (len : Int → Int → Nat) (t : Table) (hw : WF t) (op : OpX) (hok : op.ok) :
    WF (applyX len t op) := WF_applyX len hw op hok

theorem opX_labels_ok (len : Int → Int → Nat) (t : Table) (hw : WF t) (hl : labelsOKB t = true) (op : OpX) :
    labelsOKB (applyX len t op) = true := labelsOKB_applyX len hw hl op

/-- Resampling (any method), construction and table assignment return freshly classified nodes whatever
the labels were before. -/
theorem opX_labels_fresh (len : Int → Int → Nat) (t : Table) (op : OpX) (h : op.fresh) :
    labelsOKB (applyX len t op) = true := by
  cases op with
  | base op => exact labelsOKB_applyAll_fresh len t op h
  | resampleSkip acts => exact labelsOKB_classify _
  | fromEdges verts E roots => exact labelsOKB_fromEdges verts E roots
  | setNodes t' => exact labelsOKB_classify t'
  | touch => exact False.elim h

/-! ### "The soma it reports is always a node that exists" -/

/-- The run-time oracle clause is the property's clause. -/
theorem somaOKB_spec (t : Table) (l : List Int) : somaOKB t l = true ↔ ∀ i ∈ l, i ∈ ids t := by
  unfold somaOKB
  simp

/-- The getter reports only existing nodes as long as the members of a stored id LIST exist (a stored
single id and a detection function are checked by the getter itself). -/
theorem soma_exists (s : St) (hok : SomaOK s.nodes s.soma) (l : List Int) (h : report s = some l) :
    ∀ i ∈ l, i ∈ ids s.nodes := report_mem hok h

/-- The hypothesis of `soma_exists` is needed: the getter returns a stored list as it is when at least one
member exists. -/
example : report { nodes := [⟨1, -1, 0, 0, 0, .root⟩], soma := .many [1, 7] } = some [1, 7] := by decide +kernel

/-- **Every table operation establishes the invariant**, whatever was stored before: each ends in the
clean-up of `_clear_temp_attr` or `_subset_treeneuron` evaluated on the NEW table (for resampling: after
re-attaching the soma to new nodes, whatever the nearest-neighbour map `nn` returns). -/
theorem soma_invariant_after_op (len : Int → Int → Nat) (s : St) (op : OpX) (nn : Int → Nat) (th : List Int) :
    SomaOK (stepS len s (.tab op nn th)).nodes (stepS len s (.tab op nn th)).soma :=
  SomaOK_stepSoma s _ nn _

/-- Hence after every table operation the reported soma exists — no hypothesis on the state before. -/
theorem soma_exists_after_op (len : Int → Int → Nat) (s : St) (op : OpX) (nn : Int → Nat) (th : List Int)
    (l : List Int) (h : report (stepS len s (.tab op nn th)) = some l) :
    ∀ i ∈ l, i ∈ ids (stepS len s (.tab op nn th)).nodes :=
  report_mem (soma_invariant_after_op len s op nn th) h

/-- A freshly constructed skeleton (detection function, no soma, or one validated id) satisfies the
invariant. -/
theorem soma_invariant_initial (t : Table) (s : Soma) (h : ∀ l, s ≠ .many l) : SomaOK t s := by
  cases s with
  | many l => exact absurd rfl (h l)
  | _ => trivial

/-- **Histories of states**: from a well-formed, correctly labelled skeleton whose stored soma satisfies
the invariant, every finite sequence of table operations (with any nearest-neighbour maps and detection
results), soma assignments and soma resets leaves a state that is well-formed, correctly labelled and
whose stored soma satisfies the invariant. -/
theorem states_stay_good (len : Int → Int → Nat) (s : St) (h : GoodSt s) (ops : List OpS) (hok : ∀ op ∈ ops, op.ok) :
    GoodSt (ops.foldl (stepS len) s) :=
  List.foldlRecOn ops (stepS len) (motive := GoodSt) h fun _ hs op hop => GoodSt_stepS len hs op (hok op hop)

/-- **The property's last sentence, for all histories**: whatever is done to a skeleton, every id its
`.soma` reports afterwards is a node of its table. -/
theorem soma_exists_history (len : Int → Int → Nat) (s : St) (h : GoodSt s) (ops : List OpS) (hok : ∀ op ∈ ops, op.ok)
    (l : List Int) (hr : report (ops.foldl (stepS len) s) = some l) : ∀ i ∈ l, i ∈ ids (ops.foldl (stepS len) s).nodes :=
  report_mem (states_stay_good len s h ops hok).soma hr

theorem opS_okB_decides_ok (op : OpS) : op.okB = true ↔ op.ok := OpS.okB_iff op

/-! ### Tie to the source: facts re-extracted on every run (`translator/gen_somaspec.py` → `Gen/SomaSpec.lean`)

The soma clean-up blocks of `TreeNeuron._clear_temp_attr` and `_subset_treeneuron` and the `skip_errors`
fall-back of `resample_skeleton` are re-read from the current source; the statements below are about the
GENERATED definitions and stop checking when the code changes what it does there (e.g. the stored id list is
no longer filtered by `np.isin`, or the fall-back copies `seg` instead of `seg[:-1]`). -/

/-- The block at the end of `TreeNeuron._clear_temp_attr`, as extracted, is the model's `filterSoma`. -/
theorem clearTemp_cleanup_is_filterSoma (t : Table) (s : Soma) :
    cleanUpBy Navis.Gen.SomaSpec.clearTemp t s = filterSoma t s := cleanUpBy_eq_filterSoma rfl rfl rfl rfl t s

/-- The block in `_subset_treeneuron`, as extracted, is the model's `filterSomaSubset` (its guard excludes a
stored detection function, like the one of `_clear_temp_attr`). -/
theorem subset_cleanup_is_filterSomaSubset (t : Table) (s : Soma) :
    cleanUpBy Navis.Gen.SomaSpec.subsetTree t s = filterSomaSubset t s :=
  (cleanUpBy_eq_filterSoma rfl rfl rfl rfl t s).trans (filterSomaSubset_eq t s).symm

/-- Hence both blocks, as they are written today, establish the invariant behind `soma_exists`. -/
theorem source_cleanups_establish_invariant (t : Table) (s : Soma) :
    SomaOK t (cleanUpBy Navis.Gen.SomaSpec.clearTemp t s) ∧
      SomaOK t (cleanUpBy Navis.Gen.SomaSpec.clearTemp t (cleanUpBy Navis.Gen.SomaSpec.subsetTree t s)) := by
  rw [cleanUpBy_eq_filterSoma rfl rfl rfl rfl, cleanUpBy_eq_filterSoma rfl rfl rfl rfl]
  exact ⟨SomaOK_filterSoma t s, SomaOK_filterSoma t _⟩

/-- The rows the `skip_errors` fall-back copies are those of `seg[:-1]`: the model's `.keep` outcome. -/
theorem resample_keep_rows_are_dropLast (t : Table) (s : List Int) (base : Int) :
    (Resample.segRowsX t s base .keep).1 =
      (t.filter fun m => (pySlice Navis.Gen.SomaSpec.keepSlice s).contains m.id).map (fun m => (m.id, m.parent)) := by
  rw [show Navis.Gen.SomaSpec.keepSlice = (none, some (-1)) from rfl, pySlice_none_neg_one]; rfl

/-- What else the hand-written model of `resample_skeleton` assumes of the source, recorded as extracted (no
definition is parametrised by these flags): the fall-back `continue`s without advancing the id counter,
duplicates are resolved in favour of the first row, the soma is re-attached to ids of the NEW table (or reset
when there is none), and the function ends in an unconditional `_clear_temp_attr()`. -/
theorem resample_source_facts :
    Navis.Gen.SomaSpec.keepContinues = true ∧ Navis.Gen.SomaSpec.dedupKeepsFirst = true ∧
    Navis.Gen.SomaSpec.pinsToNewIds = true ∧ Navis.Gen.SomaSpec.noSomaSetsNone = true ∧
    Navis.Gen.SomaSpec.endsWithClear = true := ⟨rfl, rfl, rfl, rfl, rfl⟩

/-! ### Non-vacuity for the state layer -/

/-- a trunk 1 ← 2 ← 3 ← 4 (branch point) with the arms 4 ← 5 ← 6 ← 7 and 4 ← 8 ← 9; nodes 3 and 6 are thick -/
def exY : Table := [⟨9, 8, 0, 0, 0, .end_⟩, ⟨8, 4, 0, 0, 0, .slab⟩, ⟨7, 6, 0, 0, 0, .end_⟩, ⟨6, 5, 0, 0, 0, .slab⟩,
  ⟨5, 4, 0, 0, 0, .slab⟩, ⟨4, 3, 0, 0, 0, .branch⟩, ⟨3, 2, 0, 0, 0, .slab⟩, ⟨2, 1, 0, 0, 0, .slab⟩, ⟨1, -1, 0, 0, 0, .root⟩]
def sY : St := { nodes := exY, soma := .detect, thick := [3, 6] }
theorem sY_good : GoodSt sY := ⟨(wfB_decides_WF exY).mp (by decide +kernel), by decide +kernel, trivial⟩

/-- the segments of `exY` in table order (children before parents): the arm of 9, the arm of 7, the trunk -/
example : smallSegments exY = [[9, 8, 4], [7, 6, 5, 4], [4, 3, 2, 1]] := by decide +kernel

/-- the arm 7 → 4 is KEPT (interpolation refused), the arm of 9 collapses, the trunk gets two fresh nodes:
the kept rows 7, 6, 5 keep their parents and the branch point 4 has ONE row, pointing at fresh node 11 -/
def actsY : List (List Int × Resample.SegAct) := [([7, 6, 5, 4], .keep), ([4, 3, 2, 1], .fresh 4)]
example : (Resample.resampleSkip exY (Resample.actTable actsY)).map (fun n => (n.id, n.parent)) =
    [(9, 4), (7, 6), (6, 5), (5, 4), (4, 10), (10, 11), (11, 1), (1, -1)] := by decide +kernel
/-- the defect `isin(seg)` instead of `isin(seg[:-1])` would add the stale row (4, 3) before (4, 10);
with "first occurrence wins" node 4 would point at the replaced node 3: not well-formed -/
example : wfB [⟨9, 4, 0, 0, 0, .end_⟩, ⟨7, 6, 0, 0, 0, .end_⟩, ⟨6, 5, 0, 0, 0, .slab⟩, ⟨5, 4, 0, 0, 0, .slab⟩, ⟨4, 3, 0, 0, 0, .branch⟩,
    ⟨10, 11, 0, 0, 0, .slab⟩, ⟨11, 1, 0, 0, 0, .slab⟩, ⟨1, -1, 0, 0, 0, .root⟩] = false := by decide +kernel

/-- a history of states: resample with a kept segment (pins the detected somas 6 and 3 to the new nodes
`nn` picks: here rows 2 and 5 of the new table, ids 6 and 10), then `remove_nodes([6])` drops one of the
two pinned ids, then a subset that drops the other, then a soma assignment, then construction from edges -/
def histS : List OpS :=
  [.tab (.resampleSkip actsY) (fun i => if i = 3 then 5 else 2) [],
   .tab (.base (.removeNodes [6])) (fun _ => 0) [],
   .tab (.base (.subset [1, 11, 5, 4, 9])) (fun _ => 0) [],
   .setSoma 9, .setSoma 77,
   .tab (.fromEdges [3, 1, 2] [(1, 2), (2, 3), (3, 1), (2, 2)] [2]) (fun _ => 0) [1]]
example : (List.range histS.length).map (fun k => ((histS.take (k + 1)).foldl (stepS unitLen) sY).soma) =
    [.many [6, 10], .many [10], .none, .one 9, .one 9, .detect] := by decide +kernel
example : (List.range histS.length).map (fun k => report ((histS.take (k + 1)).foldl (stepS unitLen) sY)) =
    [some [6, 10], some [10], none, some [9], some [9], some [1]] := by decide +kernel
example : GoodSt (histS.foldl (stepS unitLen) sY) :=
  states_stay_good unitLen sY sY_good histS fun op hop =>
    (opS_okB_decides_ok op).mp (List.all_eq_true.mp (show histS.all OpS.okB = true by decide +kernel) op hop)
/-- the cyclic edge list (1–2, 2–3, 3–1 and a self loop) is turned into a tree rooted at the requested node 2 -/
example : (fromEdges [3, 1, 2] [(1, 2), (2, 3), (3, 1), (2, 2)] [2]).map (fun n => (n.id, n.parent, n.label)) =
    [(3, 2, .end_), (1, 2, .end_), (2, -1, .root)] := by decide +kernel
/-- neither clean-up touches a stored detection FUNCTION: after a subset the surviving thick node is still
reported (before the repair of `_subset_treeneuron` the function was replaced by `None` there) -/
example : (stepS unitLen sY (.tab (.base (.subset [1, 2, 3])) (fun _ => 0) [3])).soma = .detect := by decide +kernel
example : report (stepS unitLen sY (.tab (.base (.subset [1, 2, 3])) (fun _ => 0) [3])) = some [3] := by decide +kernel
example : report (stepS unitLen sY (.tab (.base (.removeNodes [9])) (fun _ => 0) [3, 6])) = some [6, 3] := by decide +kernel
/-- the side conditions are needed: a vertex list with a repeated id / an assigned cyclic table -/
example : wfB (applyX unitLen exY (.fromEdges [1, 1] [] [])) = false := by decide +kernel
example : wfB (applyX unitLen exY (.setNodes exBad)) = false := by decide +kernel

end Navis.Props.C01

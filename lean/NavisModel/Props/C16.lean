import NavisModel.Proofs.XformLemmas
import NavisModel.Proofs.XformImageLemmas
import NavisModel.Gen.XformFacts
/-!
# C16 — transforming or mirroring a neuron moves its coordinates and nothing else

`xfm_funcs.xform` collates ONE block `points ++ helper points ++ connectors`, transforms it once and slices it back by
counts (`xformNeuron`); the property is `specXform`: every table moved row by row by `f`, nothing else changed except
radius / units / soma radius by the detected power of ten and the recomputed tangents.  §1 proves the two equal, under `helpersOK` (a k-less Dotprops has one tangent per point; otherwise the code raises), for every
row function; §2–§4 say the same of `mirror_brain` / `symmetrize_brain` (the flip is `x ↦ size − x`, an involution; mesh
faces are re-wound because a reflection negates signed volumes; tangents of k-less Dotprops travel through helper points);
§5 what follows the power of ten; §6 that the run-time checkers accept only such results; §8 the image path (resampling
through the inverse sequence); §9 `xform_brain` and `mirror_brain(via=…)`; §10 that the current source still says what
the models hard-wire.

Reading of `Model/Xform.lean` the statements rely on:

* `f : RowFn` is what the transform — any transform, affine or not, or a sequence — does to one coordinate row.
* Every column other than `x, y, z` is an opaque value (`cols`, `info`): "nothing else changes" is a statement about those.
* `guess` is the order of magnitude `_guess_change` detected: a parameter, its random sample is not modelled.
* `g` in `mirrorNeuron g n` stands for `mirrorFn axis (lo + hi) warp`.
* `flipVec a v` (defined in `Proofs/XformLemmas.lean`) is `v` with its component on axis `a` negated: the linear part of the flip.
-/
namespace Navis.Props.C16
open Navis.Xform

/-! ## 1. stack, transform once, slice back by counts -/

/-- For EVERY row function and ALL block sizes (any of them zero): slicing the
transformed block by the counts gives back each part transformed on its own — the front slice is the points,
the `[n : n + h]` slice the helper points, the back slice (taken from the end, `k > 0`) the connectors.
Nothing is mixed up between the blocks. -/
theorem stack_slice_blocks (f : RowFn) (pts helpers conns : List V3) :
    sliceFront pts.length ((stack pts helpers conns).map f) = pts.map f
    ∧ (((stack pts helpers conns).map f).drop pts.length).take helpers.length = helpers.map f
    ∧ (helpers.length = pts.length → sliceHelpers pts.length ((stack pts helpers conns).map f) = helpers.map f)
    ∧ (conns.length ≠ 0 → sliceBack conns.length ((stack pts helpers conns).map f) = conns.map f) :=
  ⟨sliceFront_stack f _ _ _, drop_take_stack f _ _ _, sliceHelpers_stack f _ _ _, sliceBack_stack f _ _ _⟩

/-- For every row function `f`, every detected magnitude and every neuron of every
kind — zero points, zero / absent / empty connectors, Dotprops with `k` and without — `xform` (as coded) does
not fail and returns exactly `specXform`: under the only guard that a k-less Dotprops has one tangent per
point (otherwise the code raises, see `xform_raises_without_tangents`). -/
theorem stack_slice_exact {α β μ} (f : RowFn) (guess : Int) (n : Neuron α β μ) (h : helpersOK n) :
    xformNeuron f guess n = some (specXform f guess n) :=
  xformNeuron_eq_spec f guess n h

/-- What `specXform` (hence, by `stack_slice_exact`, the code) returns,
field by field: point and connector coordinates are the input's mapped by `f` in the same row order; every
other column of both tables, the faces, `k`, the kind, the sampling resolution and all meta data are the
input's. -/
theorem moves_coordinates_and_nothing_else {α β μ} (f : RowFn) (guess : Int) (n : Neuron α β μ) :
    (specXform f guess n).pts.xyz = n.pts.xyz.map f
    ∧ (specXform f guess n).pts.cols = n.pts.cols
    ∧ (specXform f guess n).conns = n.conns.map (fun t => { t with xyz := t.xyz.map f })
    ∧ (specXform f guess n).faces = n.faces
    ∧ (specXform f guess n).k = n.k
    ∧ (specXform f guess n).kind = n.kind
    ∧ (specXform f guess n).res = n.res
    ∧ (specXform f guess n).info = n.info :=
  ⟨rfl, rfl, rfl, rfl, rfl, rfl, rfl, rfl⟩

/-- Skeletons and meshes never hit the guard. -/
theorem stack_slice_exact_tree_mesh {α β μ} (f : RowFn) (guess : Int) (n : Neuron α β μ)
    (hk : n.kind ≠ Kind.dots) : xformNeuron f guess n = some (specXform f guess n) :=
  xformNeuron_eq_spec f guess n (fun h => absurd h hk)

/-- Outside the guard the code raises: k-less Dotprops whose tangents are missing or of the wrong length. -/
theorem xform_raises_without_tangents {α β μ} (f : RowFn) (guess : Int) (n : Neuron α β μ)
    (hk : n.kind = Kind.dots) (hu : usesHelpers n.k = true)
    (hbad : ∀ v, n.vect = some v → v.length ≠ n.pts.xyz.length) : xformNeuron f guess n = none := by
  have hH : xformHelpers n = none := by
    unfold xformHelpers helperPts
    simp only [hk, hu, beq_self_eq_true, Bool.and_self, if_true]
    cases hv : n.vect with
    | none => rfl
    | some v => simp [hbad v hv]
  unfold xformNeuron
  simp only [hH]

/-- DataFrame / array / Trimesh / Volume branch: coordinates mapped, every other column kept, never fails. -/
theorem xform_table_exact {α} (f : RowFn) (t : Table α) :
    xformTable f t = some { xyz := t.xyz.map f, cols := t.cols } := by
  unfold xformTable
  rw [setXYZ_map]
  rfl

/-- A `TransformSequence` is the composition of its members, applied in list order (so transforming with the
sequence `ts ++ us` is transforming with `ts`, then with `us`). -/
theorem sequence_is_composition (ts us : List Aff) (blk : List V3) :
    blk.map (seqApply (ts ++ us)) = (blk.map (seqApply ts)).map (seqApply us) := by
  rw [List.map_map]
  exact List.map_congr_left fun p _ => seqApply_append ts us p

/-! ## 2. mirroring -/

/-- The flip matrix `mirror` builds is the map `x ↦ size − x` on the chosen axis (every axis, every size). -/
theorem mirror_matrix_is_formula (a : Axis) (s : Rat) (p : V3) :
    mirrorFn a s none p = mirrorPt a s p ∧ (mirrorMat a s).det = -1 :=
  ⟨mirrorMat_apply a s p, by cases a <;> simp only [mirrorMat, Aff.det] <;> ring⟩

/-- With `size = lo + hi` (what `mirror_brain` reads off the template's bounding box) the flip is the
reflection about the midplane `(lo + hi) / 2`: the signed distance to it is negated on the mirror axis and the
other two coordinates are kept. -/
theorem mirror_about_midplane (a : Axis) (lo hi : Rat) (p : V3) :
    (mirrorPt a (axisSize lo hi) p).get a - (lo + hi) / 2 = -(p.get a - (lo + hi) / 2)
    ∧ ∀ b, b ≠ a → (mirrorPt a (axisSize lo hi) p).get b = p.get b := by
  refine ⟨?_, fun b hb => ?_⟩
  · have hget : (mirrorPt a (axisSize lo hi) p).get a = lo + hi - p.get a := by cases a <;> rfl
    rw [hget]; ring
  · cases a <;> cases b <;> first | rfl | exact absurd rfl hb

/-- Without a warp, mirroring a point twice is the identity — every axis, every size. -/
theorem mirror_involution (a : Axis) (s : Rat) (p : V3) :
    mirrorFn a s none (mirrorFn a s none p) = p := by
  simp only [mirrorFn, mirrorMat_apply, mirrorPt_mirrorPt]

/-- Whole skeletons and meshes: `mirror_brain ∘ mirror_brain` without warp returns the
neuron itself — coordinates of nodes/vertices and connectors restored, faces re-wound twice, everything else
never touched. -/
theorem mirror_involution_neuron {α β μ} (a : Axis) (s : Rat) (n : Neuron α β μ) (hk : n.kind ≠ Kind.dots) :
    (mirrorNeuron (mirrorFn a s none) n).bind (mirrorNeuron (mirrorFn a s none)) = some n :=
  mirrorNeuron_twice _ (mirror_involution a s) n hk

/-- What one `mirror_brain` does to a mesh: vertices and connectors moved by `g`, every face re-wound,
nothing else. -/
theorem mirror_mesh_spec {α β μ} (g : RowFn) (n : Neuron α β μ) (h : n.kind = Kind.mesh) :
    mirrorNeuron g n = some { n with pts := n.pts.mapXYZ g, faces := n.faces.map rewind,
                                     conns := n.conns.map (Table.mapXYZ g) } := by
  unfold mirrorNeuron
  rw [connsIf_eq]
  simp [h]

theorem mirror_tree_spec {α β μ} (g : RowFn) (n : Neuron α β μ) (h : n.kind = Kind.tree) :
    mirrorNeuron g n = some { n with pts := n.pts.mapXYZ g, conns := n.conns.map (Table.mapXYZ g) } := by
  unfold mirrorNeuron
  rw [connsIf_eq]
  simp [h]

/-- Dotprops: points and connectors moved by `g`; with `k` the tangents are dropped for regeneration, without
`k` the new direction of row `i` is `g pᵢ − g (pᵢ + 2·res·vᵢ)`. -/
theorem mirror_dots_spec {α β μ} (g : RowFn) (n : Neuron α β μ) (h : n.kind = Kind.dots) :
    (usesHelpers n.k = false →
      mirrorNeuron g n = some { n with pts := n.pts.mapXYZ g, vect := none, alpha := none,
                                       conns := n.conns.map (Table.mapXYZ g) })
    ∧ (usesHelpers n.k = true → ∀ v, n.vect = some v → v.length = n.pts.xyz.length →
      mirrorNeuron g n = some { n with
        pts := n.pts.mapXYZ g
        vect := some (List.zipWith (fun p w => V3.sub (g p) (g (V3.add p (V3.smul (n.res * 2) w)))) n.pts.xyz v)
        conns := n.conns.map (Table.mapXYZ g) }) := by
  unfold mirrorNeuron
  rw [connsIf_eq]
  exact ⟨fun hu => by simp [h, hu], fun hu v hv hl => by
    simp only [h, hu, if_true, helperPts, hv, hl, Table.mapXYZ, tangentDirs_helpers]⟩

/-- `symmetrize_brain` on a coordinate array (masked assignment `x[is_left] = …`): exactly the rows right of
the midplane `lo + (hi − lo)/2` are replaced by `g0 (g p)`, all other rows and the row order are kept. -/
theorem symmetrize_spec (lo hi : Rat) (g g0 : RowFn) (xyz : List V3) :
    symmetrize lo hi g g0 xyz = xyz.map fun p => if lo + (hi - lo) / 2 < p.x then g0 (g p) else p := by
  simp only [symmetrize]
  rw [List.map_map, scatter_filter_map]
  apply List.map_congr_left
  intro p _
  by_cases h : lo + (hi - lo) / 2 < p.x <;> simp [h]

/-- `symmetrize_brain` on a whole neuron, with `h p = if p right of the midplane
then g0 (g p) else p`: node/vertex/point and connector coordinates are moved by `h` and nothing else changes
(faces are not re-wound: two flips cancel); a Dotprops with `k` has its tangents dropped for regeneration; a
k-less Dotprops *keeps* tangents — the direction of row `i` is `h pᵢ − h (pᵢ + 2·res·vᵢ)`, carried through
helper points exactly as `mirror_brain` does (the behaviour since navis' `fix:` commit; before it the tangents
were dropped and `.vect` raised). -/
theorem symmetrize_neuron_spec {α β μ} (lo hi : Rat) (g g0 : RowFn) (n : Neuron α β μ) :
    let h : RowFn := fun p => if lo + (hi - lo) / 2 < p.x then g0 (g p) else p
    (n.kind ≠ Kind.dots →
      symmetrizeNeuron (symmetrize lo hi g g0) n
        = some { n with pts := n.pts.mapXYZ h, conns := n.conns.map (Table.mapXYZ h) })
    ∧ (n.kind = Kind.dots → usesHelpers n.k = false →
      symmetrizeNeuron (symmetrize lo hi g g0) n
        = some { n with pts := n.pts.mapXYZ h, vect := none, alpha := none, conns := n.conns.map (Table.mapXYZ h) })
    ∧ (n.kind = Kind.dots → usesHelpers n.k = true → ∀ v, n.vect = some v → v.length = n.pts.xyz.length →
      symmetrizeNeuron (symmetrize lo hi g g0) n = some { n with
        pts := n.pts.mapXYZ h
        vect := some (List.zipWith (fun p w => V3.sub (h p) (h (V3.add p (V3.smul (n.res * 2) w)))) n.pts.xyz v)
        conns := n.conns.map (Table.mapXYZ h) }) := by
  intro h
  have hS : symmetrize lo hi g g0 = List.map h := funext fun xyz => symmetrize_spec lo hi g g0 xyz
  rw [hS]
  unfold symmetrizeNeuron
  have hc := connsIf_eq h n.conns
  simp only [Table.mapXYZ] at hc
  refine ⟨fun hk => ?_, fun hk hu => ?_, fun hk hu v hv hl => ?_⟩
  · cases hkk : n.kind with
    | dots => exact absurd hkk hk
    | tree => simp only [hc, Table.mapXYZ]
    | mesh => simp only [hc, Table.mapXYZ]
  · simp only [hk, hu, hc, Table.mapXYZ, Bool.false_eq_true, if_false]
  · simp only [hk, hu, if_true, helperPts, hv, hl, Table.mapXYZ, tangentDirs_helpers, hc]

/-! ## 3. face re-winding -/

/-- Re-winding twice is the identity (one face, and a whole face table). -/
theorem rewind_involution (f : Face) (fs : List Face) :
    rewind (rewind f) = f ∧ (fs.map rewind).map rewind = fs :=
  ⟨rewind_rewind f, map_rewind_rewind fs⟩

/-- Re-winding reverses the orientation of every face: the normal `(B − A) × (C − A)` is negated, for any
vertex positions. -/
theorem rewind_reverses_orientation (verts : List V3) (f : Face) :
    faceNormal verts (rewind f) = V3.neg (faceNormal verts f) := by
  simp only [faceNormal, rewind]
  exact triNormal_swap _ _ _

/-- Why mirrored meshes must be re-wound: a reflection negates the signed volume of every (face, point)
tetrahedron — inside and outside are swapped — and re-winding the face restores it.  Every axis, every size. -/
theorem mirror_rewind_preserves_orientation (a : Axis) (s : Rat) (A B C Q : V3) :
    triple (mirrorPt a s A) (mirrorPt a s B) (mirrorPt a s C) (mirrorPt a s Q) = - triple A B C Q
    ∧ triple (mirrorPt a s C) (mirrorPt a s B) (mirrorPt a s A) (mirrorPt a s Q) = triple A B C Q := by
  have flip : triple (mirrorPt a s A) (mirrorPt a s B) (mirrorPt a s C) (mirrorPt a s Q) = - triple A B C Q := by
    simp only [← mirrorMat_apply, triple_apply, (mirror_matrix_is_formula a s A).2, neg_one_mul]
  exact ⟨flip, by rw [triple_swap, flip, neg_neg]⟩

/-! ## 4. tangents of k-less Dotprops carried through helper points -/

/-- The recomputed tangent is the difference `d = p' − hp'` scaled by `1/‖d‖`;
in squared-norm form over `Rat`: any scaling `s • d` with `s² ‖d‖² = 1` has squared norm `1` (and there is no
such `s` when `d = 0`, i.e. when the transform collapses the helper onto its point — navis yields NaN). -/
theorem tangent_from_helper_unit (d : V3) (s : Rat) (h : s * s * V3.normSq d = 1) :
    V3.normSq (V3.smul s d) = 1 ∧ d ≠ ⟨0, 0, 0⟩ := by
  refine ⟨by rw [normSq_smul, h], ?_⟩
  intro hd
  rw [hd] at h
  simp [V3.normSq, V3.dot] at h

/-- For an affine transform (and any sequence of them is one) the direction obtained through the helper point
is the original tangent pushed forward by the linear part, times `−res`: only the sense flips (tangents are
direction-less), independent of where the point sits. -/
theorem tangent_affine_pushforward (T : Aff) (res : Rat) (p v : V3) :
    V3.sub (T.apply p) (T.apply (V3.add p (V3.smul res v))) = V3.smul (-res) (T.lin v) := by
  rw [aff_sub, sub_add_smul, lin_smul]

/-- Mirroring a k-less Dotprops twice returns a positive multiple of the original tangent (so, after
normalisation, the original unit tangent): first pass direction `−c₁ • flip v`, normalised by any `t`,
second pass `−c₂ • flip (t • −c₁ • flip v) = (c₁ c₂ t) • v`. -/
theorem mirror_tangent_twice (a : Axis) (s c₁ c₂ t : Rat) (p q v : V3) :
    V3.sub (mirrorPt a s p) (mirrorPt a s (V3.add p (V3.smul c₁ v))) = V3.smul (-c₁) (flipVec a v)
    ∧ V3.sub (mirrorPt a s q) (mirrorPt a s (V3.add q (V3.smul c₂ (V3.smul t (V3.smul (-c₁) (flipVec a v))))))
        = V3.smul (c₁ * c₂ * t) v := by
  have dir : ∀ (c : Rat) (p v : V3),
      V3.sub (mirrorPt a s p) (mirrorPt a s (V3.add p (V3.smul c v))) = V3.smul (-c) (flipVec a v) := by
    intro c p v
    rw [mirrorPt_sub, sub_add_smul, flipVec_smul]
  refine ⟨dir c₁ p v, ?_⟩
  rw [dir, flipVec_smul, flipVec_smul, flipVec_flipVec, smul_smul, smul_smul]
  congr 1; ring

/-- Soundness of the run-time tangent checker at zero tolerance: it accepts `v` only if `v` is *the* unit
vector in the direction of `d` (a positive multiple of `d` with squared norm one). -/
theorem tangentOK_sound (d v : V3) (h : tangentOK 0 d v = true) :
    V3.normSq v = 1 ∧ ∃ s : Rat, 0 < s ∧ v = V3.smul s d ∧ s * s * V3.normSq d = 1 :=
  let ⟨h1, _, h3⟩ := tangentOK_zero h
  ⟨h1, h3⟩

/-! ## 5. radius and units follow the detected power of ten; the scale guess `round(log10 ·)` -/

/-- With detected magnitude `m` (and at least two rows in the block): skeleton radii
and a numeric soma radius are multiplied by `10^m`, units divided by `10^m`; meshes and dotprops have no radius
to scale. -/
theorem scale_follows_guess {α β μ} (f : RowFn) (m : Int) (n : Neuron α β μ)
    (h2 : 1 < n.pts.xyz.length) :
    (specXform f m n).radius = (if n.kind = Kind.tree then scaleRadius m n.radius else n.radius)
    ∧ (specXform f m n).units = scaleUnits m n.units
    ∧ (specXform f m n).somaRadius = n.somaRadius.map (· * pow10 m) := by
  have : 1 < n.pts.xyz.length + (if (n.kind == Kind.dots && usesHelpers n.k) = true then n.pts.xyz.length else 0)
      + (connXYZ n.conns).length := by omega
  simp only [specXform, this, if_true]
  refine ⟨?_, trivial, trivial⟩
  cases n.kind <;> simp

/-- With fewer than two rows in the block nothing is scaled, whatever the guess. -/
theorem single_row_no_scale {α β μ} (f : RowFn) (m : Int) (n : Neuron α β μ) (h : n.pts.xyz.length ≤ 1)
    (hc : (connXYZ n.conns).length = 0) (hd : n.kind ≠ Kind.dots) :
    (specXform f m n).radius = n.radius ∧ (specXform f m n).units = n.units
    ∧ (specXform f m n).somaRadius = n.somaRadius := by
  have hw : (n.kind == Kind.dots && usesHelpers n.k) = false := by
    rw [beq_false_of_ne hd, Bool.false_and]
  have : ¬ (1 < n.pts.xyz.length + 0 + (connXYZ n.conns).length) := by omega
  simp only [specXform, hw, Bool.false_eq_true, if_false, this, scaleRadius_zero, ite_self, scaleUnits_zero,
    map_mul_pow10_zero, and_self]

/-- The physical radius is invariant: `(r · 10^m) · (u / 10^m) = r · u` for every magnitude (`10^m ≠ 0`), and
magnitude `0` changes nothing. -/
theorem physical_radius_invariant (m : Int) (r u : Rat) :
    (r * pow10 m) * (u / pow10 m) = r * u ∧ pow10 m ≠ 0 ∧ pow10 0 = 1 :=
  ⟨scale_cancel m r u, pow10_ne_zero m, pow10_zero⟩

/-- `nm → µm`‐style transforms: for `m = k ≥ 0` the factor is literally `10^k`. -/
theorem pow10_spec (k : Nat) : pow10 (k : Int) = (10 : Rat) ^ k := by
  rw [pow10_eq_zpow, zpow_natCast]

/-- `roundLog10 c = m` (what `round(math.log10(c))` is, computed without logarithms)
exactly when `10^(2m−1) ≤ c² < 10^(2m+1)`, i.e. `|log10 c − m| < ½` — for every positive rational `c` and every
`m ∈ [−40, 40]`. -/
theorem round_log10_characterised (c : Rat) (m : Int) (hm : -40 ≤ m ∧ m ≤ 40) :
    roundLog10 c = some m ↔ (0 < c ∧ pow10 (2 * m - 1) ≤ c * c ∧ c * c < pow10 (2 * m + 1)) :=
  ⟨roundLog10_sound c m, fun ⟨h0, h1, h2⟩ => roundLog10_complete c m h0 hm h1 h2⟩

/-- A transform that multiplies every distance by exactly `10^k` (nm → µm, µm → nm, …) is
detected as magnitude `k`: together with `scale_follows_guess` radii are multiplied by `10^k` and units divided by it. -/
theorem guess_of_power_of_ten (k : Int) (hk : -20 ≤ k ∧ k ≤ 20) : guessUniform (pow10 k) = k := by
  have h : roundLog10 (pow10 k) = some k := by
    apply roundLog10_complete _ _ (pow10_pos k) ⟨by omega, by omega⟩
    · rw [pow10_sq]; exact pow10_mono (by omega)
    · rw [pow10_sq]; exact pow10_strict (by omega)
  simp [guessUniform, h]

example : roundLog10 8 = some 1 ∧ roundLog10 (1/4) = some (-1) ∧ roundLog10 2 = some 0 ∧ roundLog10 (1/1000) = some (-3) := by
  decide +kernel

/-! ## 6. the run-time checkers for `xform`, `mirror_brain`, `symmetrize_brain`, tables and meshes are sound -/

/-- `checkXform` (evaluated by the driver on navis' own output) accepts, for any tolerance, only outputs whose
coordinates, other columns, connector table, faces, `k` and meta data are exactly those of `specXform`. -/
theorem checkXform_sound {α β μ} [DecidableEq α] [DecidableEq β] [DecidableEq μ]
    (eps : Rat) (f : RowFn) (guess : Int) (n out : Neuron α β μ) (h : checkXform eps f guess n out = true) :
    out.kind = n.kind ∧ out.pts = n.pts.mapXYZ f ∧ out.conns = n.conns.map (Table.mapXYZ f) ∧
    out.faces = n.faces ∧ out.k = n.k ∧ out.info = n.info :=
  -- `checkXform` unfolds to `sameNeuron` against `specXform f guess n`
  sameNeuron_exact eps _ (specXform f guess n) out h

/-- At zero tolerance also radius, units and soma radius are exact. -/
theorem checkXform_sound_scale {α β μ} [DecidableEq α] [DecidableEq β] [DecidableEq μ]
    (f : RowFn) (guess : Int) (n out : Neuron α β μ) (h : checkXform 0 f guess n out = true) :
    out.radius = (specXform f guess n).radius ∧ out.units = (specXform f guess n).units ∧
    out.somaRadius = (specXform f guess n).somaRadius :=
  sameNeuron_zero_scale _ _ out h

/-- `checkMirror` (evaluated by the driver on navis' own `mirror_brain` result) accepts, for any
tolerance, only results whose node/vertex/point and connector coordinates are the input's moved by `g`, whose faces
are re-wound exactly for meshes, and whose other columns, `k` and meta data are the input's — every neuron kind,
with `k` and without. -/
theorem checkMirror_sound {α β μ} [DecidableEq α] [DecidableEq β] [DecidableEq μ]
    (eps : Rat) (g : RowFn) (n out : Neuron α β μ) (h : checkMirror eps g n out = true) :
    out.kind = n.kind ∧ out.pts = n.pts.mapXYZ g ∧ out.conns = n.conns.map (Table.mapXYZ g)
    ∧ out.faces = (if n.kind = Kind.mesh then n.faces.map rewind else n.faces) ∧ out.k = n.k ∧ out.info = n.info := by
  unfold checkMirror at h
  cases hm : mirrorNeuron g n with
  | none => simp [hm] at h
  | some m =>
    rw [hm] at h
    obtain ⟨h1, h2, h3, h4, h5, h6⟩ := sameNeuron_exact eps _ m out h
    obtain ⟨m1, m2, m3, m4, m5, m6⟩ := mirrorNeuron_some g n m hm
    exact ⟨h1.trans m1, h2.trans m2, h3.trans m3, h4.trans m4, h5.trans m5, h6.trans m6⟩

/-- `checkSymm` accepts only results that are, field by field, what `symmetrizeNeuron` returns
(whose content is `symmetrize_neuron_spec`). -/
theorem checkSymm_sound {α β μ} [DecidableEq α] [DecidableEq β] [DecidableEq μ]
    (eps : Rat) (S : List V3 → List V3) (n out : Neuron α β μ) (h : checkSymm eps S n out = true) :
    ∃ m, symmetrizeNeuron S n = some m ∧ out.kind = m.kind ∧ out.pts = m.pts ∧ out.conns = m.conns ∧
      out.faces = m.faces ∧ out.k = m.k ∧ out.info = m.info := by
  unfold checkSymm at h
  cases hm : symmetrizeNeuron S n with
  | none => simp [hm] at h
  | some m =>
    rw [hm] at h
    exact ⟨m, rfl, sameNeuron_exact eps _ m out h⟩

/-- `checkTable` / `checkMesh` accept exactly the specified results (sound and complete). -/
theorem checkTable_checkMesh_exact {α} [DecidableEq α] (f : RowFn) (t out : Table α)
    (v : List V3) (fs : List Face) (v' : List V3) (fs' : List Face) :
    (checkTable f t out = true ↔ out = t.mapXYZ f)
    ∧ (checkMesh f v fs v' fs' = true ↔ (v', fs') = mirrorMesh f v fs) := by
  constructor
  · cases t; cases out
    simp [checkTable, Table.mapXYZ]
  · simp [checkMesh, mirrorMesh]

/-! ## 7. non-vacuity of §1–§6 -/

def T1 : Aff := ⟨2, 0, 0, 1, 0, 1/2, 0, -2, 0, 0, 4, 3⟩

/-- k-less Dotprops, two points, one tangent each, two connectors: helper points sit between points and
connectors in the block -/
def sampleDots : Neuron String String String :=
  { kind := .dots, pts := ⟨[⟨0, 0, 0⟩, ⟨1, 0, 0⟩], ["a", "b"]⟩, radius := none,
    vect := some [⟨1, 0, 0⟩, ⟨0, 1, 0⟩], alpha := none, k := none, res := 1, faces := [],
    conns := some ⟨[⟨5, 5, 5⟩, ⟨6, 6, 6⟩], ["c10", "c11"]⟩, units := some 8, somaRadius := none, info := "dp" }

example : helpersOK sampleDots := fun _ _ => ⟨_, rfl, rfl⟩
example : (xformNeuron T1.apply 0 sampleDots).map (·.conns) =
    some (some ⟨[⟨11, 1/2, 23⟩, ⟨13, 1, 27⟩], ["c10", "c11"]⟩) := by decide +kernel
example : (xformNeuron T1.apply 0 sampleDots).map (·.vect) = some (some [⟨-2, 0, 0⟩, ⟨0, -1/2, 0⟩]) := by
  decide +kernel
example : (xformNeuron T1.apply 0 sampleDots).map (·.pts.cols) = some ["a", "b"] := by decide +kernel

/-- a skeleton with radius column, no connectors, magnitude 3 -/
def sampleTree : Neuron String String String :=
  { kind := .tree, pts := ⟨[⟨0, 0, 0⟩, ⟨1, 2, 2⟩, ⟨3, 2, 2⟩], ["1:-1", "2:1", "3:2"]⟩,
    radius := some [some (1/100), none, some 2], vect := none, alpha := none, k := none, res := 0, faces := [],
    conns := none, units := some 8, somaRadius := some 5, info := "sk" }

example : (xformNeuron (V3.smul 1000) 3 sampleTree).map (·.radius) = some (some [some 10, none, some 2000]) := by
  decide +kernel
example : (xformNeuron (V3.smul 1000) 3 sampleTree).map (·.units) = some (some (8 / 1000)) := by decide +kernel
/-- a row function that is not affine -/
example : (xformNeuron (fun p => ⟨p.x * p.y, p.y * p.y, p.z + p.x⟩) 0 sampleTree).map (·.pts.xyz) =
    some [⟨0, 0, 0⟩, ⟨2, 4, 3⟩, ⟨6, 4, 5⟩] := by decide +kernel
/-- k-less Dotprops without tangents: the code raises -/
example : xformNeuron T1.apply 0 { sampleDots with vect := none } = none := by decide +kernel
example : mirrorFn .y (axisSize 0 (15/2)) none ⟨1, 2, 3⟩ = ⟨1, 11/2, 3⟩ := by decide +kernel
example : rewind ⟨0, 2, 1⟩ = ⟨1, 2, 0⟩ := rfl
example : tangentOK 0 ⟨0, -1/2, 0⟩ ⟨0, -1, 0⟩ = true := by decide +kernel
example : tangentOK 0 ⟨0, -1/2, 0⟩ ⟨0, 1, 0⟩ = false := by decide +kernel
example : (2 : Rat) * 2 * V3.normSq ⟨0, -1/2, 0⟩ = 1 := by decide +kernel
example : symmetrize 0 10 (mirrorFn .x 10 none) (mirrorFn .x 10 (some (V3.add ⟨1, 0, 0⟩))) [⟨2, 0, 0⟩, ⟨7, 1, 1⟩]
    = [⟨2, 0, 0⟩, ⟨8, 1, 1⟩] := by decide +kernel
/-- a k-less Dotprops keeps (un-normalised) tangents through `symmetrize_brain`: the point right of the midplane
`x = 5` is moved by the warp, the other one is kept -/
def sampleDots2 : Neuron String String String :=
  { sampleDots with pts := ⟨[⟨2, 0, 0⟩, ⟨7, 1, 1⟩], ["a", "b"]⟩, conns := none }

example : (symmetrizeNeuron (symmetrize 0 10 (mirrorFn .x 10 (some (V3.add ⟨1, 0, 0⟩))) (mirrorFn .x 10 none))
    sampleDots2).map (fun n => (n.pts.xyz, n.vect))
    = some ([⟨2, 0, 0⟩, ⟨6, 1, 1⟩], some [⟨-2, 0, 0⟩, ⟨0, -2, 0⟩]) := by decide +kernel
example : checkXform 0 T1.apply 0 sampleTree (specXform T1.apply 0 sampleTree) = true := by decide +kernel

example : checkMirror 0 (mirrorFn .x 10 none) sampleTree
    { sampleTree with pts := ⟨[⟨10, 0, 0⟩, ⟨9, 2, 2⟩, ⟨7, 2, 2⟩], ["1:-1", "2:1", "3:2"]⟩ } = true := by decide +kernel
example : checkMirror 0 (mirrorFn .x 10 none) sampleTree sampleTree = false := by decide +kernel

/-! ## 8. images (VoxelNeuron): resampling through the inverse of the sequence

Vocabulary (`Model/XformImage.lean`): `inv T` = `AffineTransform.__neg__`; `negSeq ts` = `TransformSequence.__neg__`
as written (every member inverted, order REVERSED); `negSeqWith false` = the same comprehension without `[::-1]`;
`Img` = shape + `offset` + voxel size + content; `worldOf off pitch idx = off + idx · pitch`;
`imageOff / imagePitch / imageVal true ts g` = what `_xform_image` returns for the sequence `ts`: offset and voxel
size from the forward-transformed bounding box, every target voxel the tri-linear sample (`order=1`, outside → 0) of
the source at `(negSeq ts)(world position of the target voxel)`. -/
section Image
open Navis.XformImage

/-- `-T` undoes `T` and vice versa, for every non-singular affine transform. -/
theorem affine_neg_inverts (T : Aff) (h : T.det ≠ 0) (p : V3) :
    (inv T).apply (T.apply p) = p ∧ T.apply ((inv T).apply p) = p :=
  ⟨inv_apply_apply T h p, apply_inv_apply T h p⟩

/-- `-seq` as written (inverted members, reversed order) is a two-sided inverse of the
sequence, for every length and all non-singular members. -/
theorem sequence_neg_inverts (ts : List Aff) (h : invertible ts = true) (p : V3) :
    seqApply (negSeq ts) (seqApply ts p) = p ∧ seqApply ts (seqApply (negSeq ts) p) = p :=
  ⟨negSeq_left ts h p, negSeq_right ts h p⟩

/-- Pulling a point back through the inverse of a composition `ts ; us`
is pulling it back through the inverse of `us` FIRST and the inverse of `ts` second — the inverse of a
concatenation is the concatenation of the inverses in reversed order.  This is where the order in `__neg__`
matters. -/
theorem pullback_through_reversed_inverses (ts us : List Aff) (w : V3) :
    negSeq (ts ++ us) = negSeq us ++ negSeq ts
    ∧ seqApply (negSeq (ts ++ us)) w = seqApply (negSeq ts) (seqApply (negSeq us) w) := by
  have happ : negSeq (ts ++ us) = negSeq us ++ negSeq ts := by simp [negSeq, negSeqWith, List.reverse_append]
  exact ⟨happ, by rw [happ, seqApply_append]⟩

/-- Inverting the members WITHOUT reversing their order gives an inverse of
a two-member sequence exactly when the two members commute: commuting controls cannot see the difference, every
non-commuting pair does. -/
theorem unreversed_inverse_iff_commute (A B : Aff) (hA : A.det ≠ 0) (hB : B.det ≠ 0) :
    (∀ p, seqApply (negSeqWith false [A, B]) (seqApply [A, B] p) = p)
      ↔ (∀ p, B.apply (A.apply p) = A.apply (B.apply p)) := by
  have e1 : ∀ q, seqApply (negSeqWith false [A, B]) q = (inv B).apply ((inv A).apply q) := fun _ => rfl
  have e2 : ∀ p, seqApply [A, B] p = B.apply (A.apply p) := fun _ => rfl
  constructor
  · intro h p
    have := h p
    rw [e1, e2] at this
    have h2 := congrArg (fun q => A.apply (B.apply q)) this
    simp only [apply_inv_apply B hB, apply_inv_apply A hA] at h2
    exact h2
  · intro h p
    rw [e1, e2, h p, inv_apply_apply A hA, inv_apply_apply B hB]

def S2 : Aff := ⟨2, 0, 0, 0, 0, 2, 0, 0, 0, 0, 2, 0⟩
def Sh : Aff := ⟨1, 0, 0, 12, 0, 1, 0, 0, 0, 0, 1, -4⟩

/-- … and "scale by 2, then shift by (12, 0, −4)" is such a pair: un-reversed inverses send the image of the
origin to `(−6, 0, 2)`, not back to the origin. -/
theorem unreversed_inverse_wrong :
    S2.det ≠ 0 ∧ Sh.det ≠ 0 ∧ seqApply (negSeqWith false [S2, Sh]) (seqApply [S2, Sh] ⟨0, 0, 0⟩) = ⟨-6, 0, 2⟩
    ∧ seqApply (negSeq [S2, Sh]) (seqApply [S2, Sh] ⟨0, 0, 0⟩) = ⟨0, 0, 0⟩ := by decide +kernel

/-- Two sequences of non-singular affine transforms that move every point the same
way — a single composed affine, a sequence of several members, the transforms along a bridging path — give the
same image: same offset, same voxel size, same content in every voxel. -/
theorem image_depends_only_on_map (ts us : List Aff) (hts : invertible ts = true) (hus : invertible us = true)
    (heq : ∀ p, seqApply ts p = seqApply us p) (g : Img) :
    imageOff ts g = imageOff us g ∧ imagePitch ts g = imagePitch us g
    ∧ ∀ i j k, imageVal true ts g i j k = imageVal true us g i j k := by
  have hf : seqApply ts = seqApply us := funext heq
  have hb : seqApply (negSeqWith true ts) = seqApply (negSeqWith true us) :=
    funext (negSeq_unique ts us hts hus heq)
  refine ⟨by simp only [imageOff, hf], by simp only [imagePitch, hf], fun i j k => ?_⟩
  simp only [imageVal, hf, hb]

/-- For every target voxel: the source position it is resampled from, pushed
FORWARD through the sequence, is exactly the world position of that target voxel (`offset' + index · voxel size'`).
All non-singular sequences, all grids with non-zero voxel size. -/
theorem image_signal_follows_transform (ts : List Aff) (h : invertible ts = true) (g : Img)
    (hx : g.pitch.x ≠ 0) (hy : g.pitch.y ≠ 0) (hz : g.pitch.z ≠ 0) (i j k : Int) :
    seqApply ts (worldOf g.off g.pitch (pull (seqApply ts) (seqApply (negSeq ts)) g i j k))
      = worldOf (imageOff ts g) (imagePitch ts g) (idxV i j k) := by
  simp only [pull]
  rw [world_srcIndex _ g _ _ _ hx hy hz, negSeq_right ts h]
  rfl

/-- Sampling (`map_coordinates`, `order=1`) at the position of a voxel returns that voxel. -/
theorem sample_at_voxel (val : Int → Int → Int → Rat) (nx ny nz : Nat) (i j k : Int)
    (hi : 0 ≤ i ∧ i < nx) (hj : 0 ≤ j ∧ j < ny) (hk : 0 ≤ k ∧ k < nz) :
    sample val nx ny nz (idxV i j k) = val i j k := by
  simp only [sample, idxV, inRange_int nx i hi.1 hi.2, inRange_int ny j hj.1 hj.2, inRange_int nz k hk.1 hk.2,
    Bool.and_self, if_true, Rat.floor_intCast, sub_self, tri_zero]

/-- If the forward image of the source voxel `(i, j, k)` is the world position of the target
voxel `(a, b, c)`, the target voxel holds exactly the value of that source voxel: every bright voxel lands where
the forward transform sends it. -/
theorem image_voxel_lands (ts : List Aff) (h : invertible ts = true) (g : Img)
    (hx : g.pitch.x ≠ 0) (hy : g.pitch.y ≠ 0) (hz : g.pitch.z ≠ 0) (i j k a b c : Int)
    (hi : 0 ≤ i ∧ i < g.nx) (hj : 0 ≤ j ∧ j < g.ny) (hk : 0 ≤ k ∧ k < g.nz)
    (hland : worldOf (imageOff ts g) (imagePitch ts g) (idxV a b c) = seqApply ts (worldOf g.off g.pitch (idxV i j k))) :
    imageVal true ts g a b c = g.val i j k := by
  have hs : srcIndex (seqApply (negSeqWith true ts)) g (outOff (seqApply ts) g) (outPitch (seqApply ts) g) (idxV a b c)
      = idxV i j k := by
    apply srcIndex_of_world _ g _ _ _ _ hx hy hz
    have e : worldOf (outOff (seqApply ts) g) (outPitch (seqApply ts) g) (idxV a b c)
        = seqApply ts (worldOf g.off g.pitch (idxV i j k)) := hland
    rw [e]
    exact negSeq_left ts h _
  simp only [imageVal, outVal, outValWith, hs]
  exact sample_at_voxel g.val g.nx g.ny g.nz i j k hi hj hk

/-- When the sequence as a whole is an axis-aligned, orientation-preserving map
`p ↦ (dx·x + tx, dy·y + ty, dz·z + tz)` with positive `d` (any scale-and-translate sequence, in any order): the
new offset is the image of the old one, the voxel size is multiplied by `d`, and the grid content is unchanged
voxel for voxel — whatever the members are. -/
theorem image_axis_aligned_exact (ts : List Aff) (h : invertible ts = true) (g : Img) (d t : V3)
    (hF : ∀ p : V3, seqApply ts p = ⟨d.x * p.x + t.x, d.y * p.y + t.y, d.z * p.z + t.z⟩)
    (hd : 0 < d.x ∧ 0 < d.y ∧ 0 < d.z) (hp : 0 < g.pitch.x ∧ 0 < g.pitch.y ∧ 0 < g.pitch.z)
    (hn : 0 < g.nx ∧ 0 < g.ny ∧ 0 < g.nz) :
    imageOff ts g = seqApply ts g.off ∧ imagePitch ts g = cmul d g.pitch
    ∧ ∀ i j k : Int, 0 ≤ i ∧ i < g.nx → 0 ≤ j ∧ j < g.ny → 0 ≤ k ∧ k < g.nz →
        imageVal true ts g i j k = g.val i j k := by
  have ho : imageOff ts g = seqApply ts g.off := congrArg Prod.fst (bboxXf_diag hF g hd hp)
  have hq : imagePitch ts g = cmul d g.pitch := outPitch_diag hF g hd hp hn
  refine ⟨ho, hq, fun i j k hi hj hk => ?_⟩
  apply image_voxel_lands ts h g (ne_of_gt hp.1) (ne_of_gt hp.2.1) (ne_of_gt hp.2.2) i j k i j k hi hj hk
  rw [ho, hq]
  exact world_diag hF g.off g.pitch (idxV i j k)

/-- A sequence that composes to the identity (e.g. `×2` then `×½`, or
`[S, T, S⁻¹, T']`) returns the input image: same offset, same voxel size, same content. -/
theorem image_identity (ts : List Aff) (h : invertible ts = true) (g : Img) (hid : ∀ p, seqApply ts p = p)
    (hp : 0 < g.pitch.x ∧ 0 < g.pitch.y ∧ 0 < g.pitch.z) (hn : 0 < g.nx ∧ 0 < g.ny ∧ 0 < g.nz) :
    imageOff ts g = g.off ∧ imagePitch ts g = g.pitch
    ∧ ∀ i j k : Int, 0 ≤ i ∧ i < g.nx → 0 ≤ j ∧ j < g.ny → 0 ≤ k ∧ k < g.nz →
        imageVal true ts g i j k = g.val i j k := by
  have hF : ∀ p : V3, seqApply ts p = ⟨(1 : Rat) * p.x + 0, (1 : Rat) * p.y + 0, (1 : Rat) * p.z + 0⟩ := by
    intro p; rw [hid p]; simp
  obtain ⟨a, b, c⟩ := image_axis_aligned_exact ts h g ⟨1, 1, 1⟩ ⟨0, 0, 0⟩ hF ⟨by decide, by decide, by decide⟩ hp hn
  refine ⟨by rw [a, hid], ?_, c⟩
  rw [b]; simp [cmul]

/-- navis computes the target bounding box from the corners of the source box PLUS the
edge mid-points `subdivide()` adds; for a sequence of affine transforms those mid-points cannot change any
coordinate-wise minimum or maximum, so the 8 corners (what the model uses) give the same box. -/
theorem bbox_midpoints_irrelevant (ts : List Aff) (p : V3) (ps : List V3) (pairs : List (V3 × V3))
    (hp : ∀ pr ∈ pairs, pr.1 ∈ p :: ps ∧ pr.2 ∈ p :: ps) :
    bboxOfPts (((p :: ps) ++ pairs.map fun pr => mid pr.1 pr.2).map (seqApply ts))
      = bboxOfPts ((p :: ps).map (seqApply ts)) := by
  have key : ∀ (sel : V3 → Rat), (∀ a b, sel (mid a b) = (sel a + sel b) / 2) →
      ∀ q ∈ (pairs.map fun pr => mid pr.1 pr.2).map (seqApply ts),
        (∃ r ∈ seqApply ts p :: ps.map (seqApply ts), sel r ≤ sel q) ∧
        (∃ r ∈ seqApply ts p :: ps.map (seqApply ts), sel q ≤ sel r) := by
    intro sel hsel q hq
    simp only [List.mem_map] at hq
    obtain ⟨m, ⟨pr, hpr, rfl⟩, rfl⟩ := hq
    obtain ⟨h1, h2⟩ := hp pr hpr
    rw [seqApply_mid]
    exact mid_mem_between sel hsel (L := (p :: ps).map (seqApply ts)) (List.mem_map_of_mem h1) (List.mem_map_of_mem h2)
  have kx := key V3.x (fun _ _ => rfl)
  have ky := key V3.y (fun _ _ => rfl)
  have kz := key V3.z (fun _ _ => rfl)
  simp only [List.map_append, List.map_cons, List.cons_append, bboxOfPts]
  rw [minOf_append V3.x _ _ _ (fun q hq => (kx q hq).1), minOf_append V3.y _ _ _ (fun q hq => (ky q hq).1),
    minOf_append V3.z _ _ _ (fun q hq => (kz q hq).1), maxOf_append V3.x _ _ _ (fun q hq => (kx q hq).2),
    maxOf_append V3.y _ _ _ (fun q hq => (ky q hq).2), maxOf_append V3.z _ _ _ (fun q hq => (kz q hq).2)]

/-- The run-time checker evaluated on navis' own result accepts (at zero tolerance) only the
modelled image: no singular member, offset and voxel size those of the forward-transformed box, every voxel of the
grid the sample at the pulled-back position. -/
theorem imageOK_sound (ts : List Aff) (g : Img) (off' pitch' : V3) (val' : Int → Int → Int → Rat)
    (h : imageOK 0 ts g off' pitch' val' = true) :
    invertible ts = true ∧ off' = imageOff ts g ∧ pitch' = imagePitch ts g
    ∧ ∀ a b c : Nat, a < g.nx → b < g.ny → c < g.nz → val' a b c = imageVal true ts g a b c := by
  simp only [imageOK, Bool.and_eq_true, List.all_eq_true] at h
  obtain ⟨⟨⟨h1, h2⟩, h3⟩, h4⟩ := h
  exact ⟨h1, closeV3_zero h2, closeV3_zero h3, fun a b c ha hb hc =>
    closeRat_zero (h4 ((a : Int), (b : Int), (c : Int)) (mem_allIdx g.nx g.ny g.nz a b c ha hb hc))⟩

/-- The forward checker (no inverse involved) accepts only results in which every listed source
voxel whose forward image falls exactly on a voxel of the result grid is found there with its value. -/
theorem landsOK_sound (fwd : RowFn) (g : Img) (src : List Vox) (off' pitch' : V3) (val' : Int → Int → Int → Rat)
    (h : landsOK 0 fwd g src off' pitch' val' = true) (c : Vox) (hc : c ∈ src)
    (hin : inGrid g.nx g.ny g.nz (landIdx fwd g off' pitch' c.i c.j c.k) = true) :
    val' (landIdx fwd g off' pitch' c.i c.j c.k).x.floor (landIdx fwd g off' pitch' c.i c.j c.k).y.floor
      (landIdx fwd g off' pitch' c.i c.j c.k).z.floor = c.v := by
  simp only [landsOK, List.all_eq_true] at h
  have := h c hc
  simp only [hin, if_true] at this
  exact closeRat_zero this

/-! non-vacuity: a 3×2×2 grid, voxel size 2, pushed through "×2 then shift" -/
def gridEx : Img := ⟨3, 2, 2, ⟨3, 5, 7⟩, ⟨2, 2, 2⟩, sparseVal [⟨0, 0, 0, 1/2⟩, ⟨2, 1, 1, 3⟩]⟩

example : invertible [S2, Sh] = true := by decide +kernel
example : imageOff [S2, Sh] gridEx = ⟨18, 10, 10⟩ ∧ imagePitch [S2, Sh] gridEx = ⟨4, 4, 4⟩ := by decide +kernel
example : imageSparse [S2, Sh] gridEx = [⟨0, 0, 0, 1/2⟩, ⟨2, 1, 1, 3⟩] := by decide +kernel
/-- a flip moves the content to the mirrored index (and crops index 0, which would land on index 3) -/
example : imageSparse [mirrorMat .x 10] gridEx = [⟨1, 1, 1, 3⟩] := by decide +kernel
/-- a permutation of axes on a 2×2×2 grid with voxel size (1, 2, 2) interpolates (half indices) -/
example : imageVal true [⟨0, 1, 0, 0, 1, 0, 0, 0, 0, 0, 1, 0⟩]
    ⟨2, 2, 2, ⟨0, 0, 0⟩, ⟨1, 2, 2⟩, sparseVal [⟨0, 0, 0, 1⟩, ⟨1, 0, 0, 3⟩]⟩ 0 1 0 = 3 := by decide +kernel
/-- with the un-reversed inverses the same image is resampled from the wrong place (nothing is left of it) -/
example : (allIdx 3 2 2).map (fun (i, j, k) => imageVal false [S2, Sh] gridEx i j k) ≠
    (allIdx 3 2 2).map (fun (i, j, k) => imageVal true [S2, Sh] gridEx i j k) := by decide +kernel
example : imageOK 0 [S2, Sh] gridEx ⟨18, 10, 10⟩ ⟨4, 4, 4⟩ (sparseVal [⟨0, 0, 0, 1/2⟩, ⟨2, 1, 1, 3⟩]) = true := by
  decide +kernel
example : landsOK 0 (seqApply [S2, Sh]) gridEx [⟨0, 0, 0, 1/2⟩, ⟨2, 1, 1, 3⟩] ⟨18, 10, 10⟩ ⟨4, 4, 4⟩
    (sparseVal [⟨0, 0, 0, 1/2⟩, ⟨2, 1, 1, 3⟩]) = true
    ∧ landCount (seqApply [S2, Sh]) gridEx [⟨0, 0, 0, 1/2⟩, ⟨2, 1, 1, 3⟩] ⟨18, 10, 10⟩ ⟨4, 4, 4⟩ = 2 := by
  decide +kernel

end Image

/-! ## 9. `xform_brain` and `mirror_brain(via=…)` -/

/-- `xform_brain` on a neuron is `xform` with the sequence along the bridging path — so
coordinates move and nothing else does (`stack_slice_exact`) — followed by the units override: when the last
non-alias template of the path carries `_navis_units`, the units are exactly those, otherwise they follow the
detected power of ten. -/
theorem xform_brain_spec {α β μ} (f : RowFn) (guess : Int) (o : Option Rat) (n : Neuron α β μ) (h : helpersOK n) :
    xformBrainNeuron f guess o n = some (match o with
      | some u => { specXform f guess n with units := some u }
      | none => specXform f guess n) := by
  simp only [xformBrainNeuron, xformNeuron_eq_spec f guess n h, Option.map_some]
  cases o <;> rfl

/-- Which template decides the units: the one the LAST non-alias edge of the path leads to (trailing alias edges
are skipped, whatever they carry); a path of aliases only decides nothing. -/
theorem brain_units_last_non_alias (es as : List (Bool × Option Rat)) (u : Option Rat)
    (h : ∀ e ∈ as, e.1 = true) :
    brainUnits (es ++ (false, u) :: as) = u ∧ brainUnits as = none := by
  have hrev : ∀ e ∈ as.reverse, e.1 = true := fun e he => h e (List.mem_reverse.mp he)
  constructor
  · simp only [brainUnits, List.reverse_append, List.reverse_cons, List.append_assoc, List.singleton_append]
    rw [brainUnitsRev_skip _ _ hrev]
    rfl
  · have := brainUnitsRev_skip as.reverse [] hrev
    simpa [brainUnits, brainUnitsRev] using this

/-- `mirror_brain(x, template, via=V)` on a skeleton or mesh — bridge to `V` (`f1`), flip
(+ warp) there (`g`), bridge back (`f2`) — never fails and moves node/vertex and connector coordinates by
`f2 ∘ g ∘ f1`, re-winds mesh faces exactly once, and changes no other column, link or meta datum, whatever
magnitudes the two `xform` calls detect. -/
theorem mirror_via_spec {α β μ} (f1 : RowFn) (m1 : Int) (o1 : Option Rat) (g : RowFn) (f2 : RowFn) (m2 : Int)
    (o2 : Option Rat) (n : Neuron α β μ) (hk : n.kind ≠ Kind.dots) :
    ∃ out, mirrorViaNeuron f1 m1 o1 g f2 m2 o2 n = some out ∧ out.kind = n.kind
      ∧ out.pts = n.pts.mapXYZ (fun p => f2 (g (f1 p)))
      ∧ out.conns = n.conns.map (Table.mapXYZ fun p => f2 (g (f1 p)))
      ∧ out.faces = (if n.kind = Kind.mesh then n.faces.map rewind else n.faces) ∧ out.k = n.k ∧ out.info = n.info := by
  obtain ⟨a, ha, ak, ap, ac, af, akk, ai⟩ := xformBrain_fields f1 m1 o1 n hk
  obtain ⟨b, hb⟩ := mirrorNeuron_isSome g a (ak ▸ hk)
  obtain ⟨bk, bp, bc, bf, bkk, bi⟩ := mirrorNeuron_some g a b hb
  obtain ⟨c, hc, ck, cp, cc, cf, ckk, ci⟩ := xformBrain_fields f2 m2 o2 b (bk ▸ ak ▸ hk)
  refine ⟨c, by simp [mirrorViaNeuron, ha, hb, hc], by rw [ck, bk, ak], ?_, ?_, ?_, by rw [ckk, bkk, akk],
    by rw [ci, bi, ai]⟩
  · rw [cp, bp, ap, mapXYZ_comp, mapXYZ_comp]
  · rw [cc, bc, ac, conns_mapXYZ_comp, conns_mapXYZ_comp]
  · rw [cf, bf, af, ak]

/-- Bridging there and back with inverse sequences around a warp-free flip is again an involution on points:
`(f⁻¹ ∘ flip ∘ f) ∘ (f⁻¹ ∘ flip ∘ f) = id`. -/
theorem mirror_via_involution (ts : List Aff) (h : XformImage.invertible ts = true) (a : Axis) (s : Rat) (p : V3) :
    let m : RowFn := fun q => seqApply (XformImage.negSeq ts) (mirrorFn a s none (seqApply ts q))
    m (m p) = p := by
  intro m
  simp only [m]
  rw [XformImage.negSeq_right ts h, mirror_involution, XformImage.negSeq_left ts h]

/-- `checkXformBrain` (evaluated by the driver on navis' own `xform_brain` result) is sound: coordinates, columns,
faces, `k`, meta data exactly `specXform`. -/
theorem checkXformBrain_sound {α β μ} [DecidableEq α] [DecidableEq β] [DecidableEq μ]
    (eps : Rat) (f : RowFn) (guess : Int) (o : Option Rat) (n out : Neuron α β μ)
    (h : checkXformBrain eps f guess o n out = true) :
    out.kind = n.kind ∧ out.pts = n.pts.mapXYZ f ∧ out.conns = n.conns.map (Table.mapXYZ f) ∧
    out.faces = n.faces ∧ out.k = n.k ∧ out.info = n.info := by
  cases o with
  | none => exact checkXform_sound eps f guess n out h
  | some u =>
    simp only [checkXformBrain, Bool.and_eq_true] at h
    exact checkXform_sound eps f guess n { out with units := (specXform f guess n).units } h.1

/-- At zero tolerance the units are exactly the override. -/
theorem checkXformBrain_sound_units {α β μ} [DecidableEq α] [DecidableEq β] [DecidableEq μ]
    (f : RowFn) (guess : Int) (u : Rat) (n out : Neuron α β μ)
    (h : checkXformBrain 0 f guess (some u) n out = true) : out.units = some u := by
  simp only [checkXformBrain, Bool.and_eq_true] at h
  exact closeOpt_zero h.2

example : brainUnits [(false, some 1), (false, some (1/1000)), (true, some 5)] = some (1/1000) := by decide +kernel
example : (xformBrainNeuron (V3.smul 1000) 3 (some 1) sampleTree).map (fun o => (o.units, o.radius)) =
    some (some 1, some [some 10, none, some 2000]) := by decide +kernel
example : (mirrorViaNeuron T1.apply 0 none (mirrorFn .x 10 none) (XformImage.inv T1).apply 0 none sampleTree).map
    (·.pts.xyz) = some [⟨4, 0, 0⟩, ⟨3, 2, 2⟩, ⟨1, 2, 2⟩] := by decide +kernel

/-! ## 10. the current source still says what the models assume (translator facts, `Gen/XformFacts.lean`) -/
section SourceFacts
open Navis.XformImage Navis.XformSpec

/-- With the iteration order and the per-member negation the translator reads off
`TransformSequence.__neg__` in the CURRENT source, `-seq` is a two-sided inverse of every non-singular sequence.
(Stops checking when the `[::-1]` or the `-t` disappears: `unreversed_inverse_wrong`.) -/
theorem neg_as_written_inverts (ts : List Aff) (h : invertible ts = true) (p : V3) :
    Gen.XformFacts.negInvertsEachMember = true
    ∧ seqApply (negSeqWith Gen.XformFacts.negReversesOrder ts) (seqApply ts p) = p
    ∧ seqApply ts (seqApply (negSeqWith Gen.XformFacts.negReversesOrder ts) p) = p :=
  ⟨rfl, negSeq_left ts h p, negSeq_right ts h p⟩

/-- With the way the CURRENT source creates the working array of
`TransformSequence.xform` (a copy: `.astype` / `.copy()` / `np.array`), the caller's array is untouched and the
result is the members applied in list order.  (With `np.asarray(points, dtype=…)` the generated fact is `false`
and the caller's float64 array would hold the transformed rows: the statement is no longer provable.) -/
theorem seq_xform_as_written_keeps_input (ts : List Aff) (pts : List V3) :
    Gen.XformFacts.seqAppliesInListOrder = true
    ∧ (seqXformBuffers Gen.XformFacts.seqXformCopiesInput ts pts).1 = pts.map (seqApply ts)
    ∧ (seqXformBuffers Gen.XformFacts.seqXformCopiesInput ts pts).2 = pts :=
  ⟨rfl, rfl, rfl⟩

/-- The stacking order and the five slice expressions of `xfm_funcs.xform`
as the CURRENT source has them (`xyz_xf[:n]`, `xyz_xf[n : 2 * n]`, `xyz_xf[-n_connectors:]`, …), interpreted with
numpy's slicing rules: every part comes back transformed on its own, for every row function and all block sizes. -/
theorem slices_as_written_recover_parts (f : RowFn) (pts helpers conns : List V3)
    :
    let blk := (stackBy Gen.XformFacts.stackOrder pts helpers conns).map f
    sliceBy pts.length conns.length Gen.XformFacts.sliceNodes blk = pts.map f
    ∧ sliceBy pts.length conns.length Gen.XformFacts.slicePoints blk = pts.map f
    ∧ sliceBy pts.length conns.length Gen.XformFacts.sliceVertices blk = pts.map f
    ∧ (helpers.length = pts.length → sliceBy pts.length conns.length Gen.XformFacts.sliceHelpers blk = helpers.map f)
    ∧ (conns.length ≠ 0 → sliceBy pts.length conns.length Gen.XformFacts.sliceConnectors blk = conns.map f) := by
  intro blk
  have hb : blk = (stack pts helpers conns).map f := congrArg (List.map f) (stackBy_as_modelled pts helpers conns)
  rw [hb]
  exact ⟨(sliceBy_front ..).trans (sliceFront_stack f ..), (sliceBy_front ..).trans (sliceFront_stack f ..),
    (sliceBy_front ..).trans (sliceFront_stack f ..),
    fun h => (sliceBy_helpers ..).trans (sliceHelpers_stack f _ _ _ h),
    fun h => (sliceBy_back ..).trans (sliceBack_stack f _ _ _ h)⟩

/-- the scale guess runs exactly when the block has at least two rows -/
theorem guess_guard_as_written (rows : Nat) :
    guardHolds Gen.XformFacts.guessGuard rows = decide (1 < rows) := by
  simp only [guardHolds, Gen.XformFacts.guessGuard, Cmp.holdsInt]
  rw [decide_eq_decide]
  omega

/-- Operators and base as the CURRENT source has them: radius and soma radius are
multiplied by `10^m`, units divided by it, so the physical radius `radius · units` is invariant. -/
theorem scale_rules_as_written (r u s : Rat) (m : Int) :
    applyScale Gen.XformFacts.radiusScale r m = r * pow10 m
    ∧ applyScale Gen.XformFacts.unitsScale u m = u / pow10 m
    ∧ applyScale Gen.XformFacts.somaScale s m = s * pow10 m
    ∧ applyScale Gen.XformFacts.radiusScale r m * applyScale Gen.XformFacts.unitsScale u m = r * u := by
  simp only [applyScale, Gen.XformFacts.radiusScale, Gen.XformFacts.unitsScale,
    Gen.XformFacts.somaScale, powBase_ten]
  exact ⟨trivial, trivial, trivial, scale_cancel m r u⟩

/-- `np.eye(4)` with the two writes `mirror` performs, through the axis → index table of
the CURRENT source, is the flip matrix of the model (`x ↦ size − x` on that axis) for every axis and size. -/
theorem flip_matrix_as_written (a : Axis) (s : Rat) :
    flipOf Gen.XformFacts.axisIndex Gen.XformFacts.mirrorEntries a s = some (mirrorMat a s) := by
  cases a <;> rfl

/-- the rows `symmetrize_brain` mirrors are exactly those with `x > center` -/
theorem symmetrize_side_as_written (center : Rat) (p : V3) :
    sideHolds Gen.XformFacts.symmSideTest center p = decide (center < p.x) := by
  simp only [sideHolds, Gen.XformFacts.symmSideTest, Cmp.holdsRat, colOf]

/-- For BOTH bounding-box layouts `mirror_brain` accepts, the cells the CURRENT source
of `symmetrize_brain` reads as `(x_min, x_max)` are the template's `lo_x` and `hi_x`: the rows that are symmetrized are
those right of the template's real midplane `lo_x + (hi_x − lo_x) / 2` (`symmetrize_spec`).  (Before navis' `fix:` the
extent was read as `bbox[0][0], bbox[0][1]` whatever the layout — `(lo_x, lo_y)` for a `(2, 3)` box.) -/
theorem symmetrize_extent_as_written (lo hi : V3) :
    Gen.XformFacts.symmExtent.map (·.1) = ["(2, 3)", "(3, 2)"]
    ∧ ∀ e ∈ Gen.XformFacts.symmExtent, cellOf e.1 lo hi e.2.1 = lo.x ∧ cellOf e.1 lo hi e.2.2 = hi.x := by
  refine ⟨rfl, ?_⟩
  intro e he
  simp only [Gen.XformFacts.symmExtent, List.mem_cons, List.mem_nil_iff, or_false] at he
  rcases he with rfl | rfl <;> exact ⟨rfl, rfl⟩

/-- The remaining literal facts the models hard-wire, as the CURRENT source states them:
how the axis size is read from both bounding-box layouts (`bbox[ix, :].sum()` / `bbox[:, ix].sum()`, i.e. `lo + hi`),
faces re-wound for MeshNeuron and Trimesh in `mirror_brain` and never in `symmetrize_brain`, the un-warped flip back
of `symmetrize_brain`, and for images: linear interpolation, constant 0 outside, the box pushed forward with
`transform`, the target positions pulled back through `-transform`.  (Facts that are not property-relevant — helper
point factors, names of locals, the literal index expressions — are extracted for the record; no theorem depends on them.) -/
theorem source_facts_as_modelled :
    Gen.XformFacts.axisSize = [("(2, 3)", ":,ix", "sum"), ("(3, 2)", "ix,:", "sum")]
    ∧ Gen.XformFacts.mirrorRewinds = ["MeshNeuron", "Trimesh"] ∧ Gen.XformFacts.symmetrizeRewinds = []
    ∧ Gen.XformFacts.symmFlipBackWarp = "False"
    ∧ Gen.XformFacts.imageInterpOrder = 1 ∧ Gen.XformFacts.imageMode = "constant"
    ∧ Gen.XformFacts.imageCval = 0
    ∧ Gen.XformFacts.imagePullsBackThroughNeg = true ∧ Gen.XformFacts.imagePushesBoxForward = true :=
  ⟨rfl, rfl, rfl, rfl, rfl, rfl, rfl, rfl, rfl⟩

end SourceFacts

end Navis.Props.C16

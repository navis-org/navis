import NavisModel.Proofs.ResampleLemmas
import NavisModel.Proofs.ResampleGeomLemmas
import NavisModel.Proofs.DownsampleLemmas
import NavisModel.Proofs.BranchingLemmas
import NavisModel.Proofs.SamplingLemmas
import NavisModel.Proofs.SamplingGeomLemmas
import NavisModel.Proofs.ResampleNormedLemmas
import NavisModel.Proofs.ResampleBranchLemmas
import NavisModel.Proofs.ResampleEuclidLemmas
import NavisModel.Gen.Sampling
import NavisModel.Props.C01
/-!
# C13 — down- and resampling preserve branching structure and geometry

**Downsampling** (`Forest.downsample`, the line-by-line model of `_downsample_treeneuron`; `f = none`
is `factor = inf`; `pres` = preserved nodes and somas).  `DsSpec t u f fix` is the property's clause list
for an output table `u`; `downsample_satisfies_spec` proves it for the model for every well-formed,
correctly labelled forest, every factor and every preserved set; `dsCheck_sound` shows that the executable
checker the driver evaluates on navis' own output is sound for that same clause list.

**Resampling** (`Resample.resampleStruct` for ids / parent links, `Resample.polyAt` for positions and
radius over `Rat`): anchors are kept, between the two anchors of every small segment the result is a
chain of fresh ids, every sampled point lies on the original cable, no new edge is longer than the arc it
replaces (so cable length does not increase), the result is a well-formed forest, and the remap of
soma / connectors / tags picks a nearest node.

All theorems quantify over every table / factor / resolution / count function; no bound on sizes.

Sections 1–6 are about the hand-written models.  Section 7 ties them to the code as written (`Model/Sampling.lean`, the
facts of `Gen/Sampling.lean`) and opens `Navis.Sampling` for the rest of the file: 8 float factors and inherited root
paths, 9 re-attachment, 10 further columns, 11 real-valued lengths, 12 branching, 13 histories, 14 the examples.

Predicates of the statements that are defined in `Proofs/`: `DsSpec` (DownsampleLemmas), `OnCable`, `LensOK`
(ResampleGeomLemmas), `AttachSpec`, `Attach.located` (SamplingGeomLemmas), `OpAll.ok` (OpsAllLemmas); functions: `planIds` (ResamplePlanLemmas),
`remap0` (SamplingGeomLemmas), `chainLen`, `toE`, `castK` (ResampleEuclidLemmas), `polyAtR`, `knotsR`, `samplesR`,
`chainLenR` (ResampleNormedLemmas).
-/
namespace Navis.Props.C13
open Navis.Forest Navis.Resample

/-! ## 1. Downsampling -/

/-- Kept nodes are original nodes with unchanged ids and coordinates. -/
theorem downsample_subset_ids_coords (t : Table) (f : Option Nat) (pres : List Int) :
    ∀ m ∈ downsample t f pres, ∃ n ∈ t, n.id = m.id ∧ n.x = m.x ∧ n.y = m.y ∧ n.z = m.z :=
  downsample_subset t f pres

/-- Every fix point — labelled non-slab, or listed in `pres` (preserved nodes, somas) — survives. -/
theorem downsample_keeps_fixpoints (t : Table) (hw : WF t) (f : Option Nat) (pres : List Int) (n : Node)
    (hn : n ∈ t) (hfix : n.label ≠ .slab ∨ n.id ∈ pres) : n.id ∈ ids (downsample t f pres) :=
  Navis.Forest.downsample_keeps_fixpoints hw f pres hn hfix

/-- With correct labels: roots, leafs and branch points (every node that is not a non-root with exactly
one child) survive, for every factor. -/
theorem downsample_keeps_roots_leafs_branches (t : Table) (hw : WF t) (hl : labelsOKB t = true)
    (f : Option Nat) (pres : List Int) (n : Node) (hn : n ∈ t)
    (ha : n.parent < 0 ∨ childCount t n.id ≠ 1) : n.id ∈ ids (downsample t f pres) := by
  refine Navis.Forest.downsample_keeps_fixpoints hw f pres hn (Or.inl fun hslab => ?_)
  -- a node labelled `slab` is a non-root with exactly one child
  rw [label_slab_iff hl hn] at hslab
  rcases ha with h | h
  · exact absurd h hslab.1
  · exact h hslab.2

/-- The executable checker evaluated by the driver on navis' output is sound for the clause list `DsSpec`. -/
theorem dsCheck_sound (t u : Table) (f : Option Nat) (fix : List Int) (h : dsCheck t u f fix = true) :
    DsSpec t u f fix := by
  unfold dsCheck at h
  simp only [Bool.and_eq_true, List.all_eq_true] at h
  obtain ⟨⟨h1, h2⟩, h3⟩ := h
  refine ⟨?_, ?_, ?_⟩
  · intro m hm
    have := h1 m hm
    cases hf : find? t m.id with
    | none => rw [hf] at this; cases this
    | some n =>
      rw [hf] at this
      simp only [Bool.and_eq_true, beq_iff_eq] at this
      exact ⟨n, (find?_some hf).1, (find?_some hf).2, this.1.1, this.1.2, this.2⟩
  · intro i hi
    simpa using h2 i hi
  · intro m hm
    have := h3 m hm
    cases hfd : (rootPath t m.id).tail.find? (fun a => (ids u).contains a) with
    | none =>
      rw [hfd] at this
      exact Or.inl ⟨rfl, by simpa using this⟩
    | some a =>
      rw [hfd] at this
      simp only [Bool.and_eq_true, beq_iff_eq] at this
      refine Or.inr ⟨a, rfl, this.1, ?_⟩
      intro k hk
      subst hk
      simpa using this.2

/-- **The model satisfies the whole downsampling clause list**, for every well-formed correctly labelled
forest, every factor (`none` = inf) and every preserved set: kept rows are original rows; all fix points
are kept; every kept node is linked to the first kept node on the tail of its old root path; with a
finite factor `k` at most `k` nodes are dropped in between. -/
theorem downsample_satisfies_spec (t : Table) (hw : WF t) (hl : labelsOKB t = true) (f : Option Nat)
    (pres : List Int) (fix : List Int)
    (hfix : ∀ i ∈ fix, ∃ n ∈ t, n.id = i ∧ (n.label ≠ .slab ∨ i ∈ pres)) :
    DsSpec t (downsample t f pres) f fix :=
  downsample_spec hw f pres (one_child_of_labels hw hl pres) fix hfix

/-- **Nearest kept ancestor**: the new parent of a kept node is negative (the node was a root) or a
*proper ancestor* of it in `t` that is itself kept, and no kept node lies strictly between the two. -/
theorem downsample_parent_is_kept_ancestor (t : Table) (hw : WF t) (hl : labelsOKB t = true)
    (f : Option Nat) (pres : List Int) (m : Node) (hm : m ∈ downsample t f pres) :
    m.parent < 0 ∨
    (m.parent ∈ ids (downsample t f pres) ∧
      ∃ between above, (rootPath t m.id).tail = between ++ m.parent :: above ∧
        ∀ x ∈ between, x ∉ ids (downsample t f pres)) := by
  by_cases hp : m.parent < 0
  · exact Or.inl hp
  · obtain ⟨between, above, h1, h2, h3⟩ := (downsample_contracts hw hl f pres).path hm rfl (not_lt.mp hp)
    exact Or.inr ⟨h2, between, above, by rw [h1]; rfl, h3⟩

/-- **Gap ≤ factor**: with a finite factor `k` the new parent is among the first `k + 1` proper
ancestors, i.e. at most `k` original nodes are dropped between a kept node and its new parent. -/
theorem downsample_gap_le_factor (t : Table) (hw : WF t) (hl : labelsOKB t = true) (k : Nat)
    (pres : List Int) (m : Node) (hm : m ∈ downsample t (some k) pres) (hp : 0 ≤ m.parent) :
    m.parent ∈ (rootPath t m.id).tail ∧ (rootPath t m.id).tail.idxOf m.parent ≤ k := by
  obtain ⟨_, _, h3⟩ := downsample_satisfies_spec t hw hl (some k) pres [] (by simp)
  rcases h3 m hm with ⟨_, h⟩ | ⟨a, hfd, hpa, hgap⟩
  · omega
  · rw [hpa]
    exact ⟨List.mem_of_find?_eq_some hfd, hgap k rfl⟩

/-- Downsampling yields a well-formed forest with correct labels (or returns a ≤ 1-row input unchanged). -/
theorem downsample_WF (t : Table) (hw : WF t) (f : Option Nat) (pres : List Int) :
    WF (downsample t f pres) ∧ (downsample t f pres = t ∨ labelsOKB (downsample t f pres) = true) :=
  ⟨WF_downsample hw f pres, labels_downsample t f pres⟩

/-- **Branching structure unchanged**: every kept node has exactly as many children in the result as in
`t` — the children of a kept node `i` in the result are in bijection with the children of `i` in `t` (each
child's chain of dropped single-child nodes leads to exactly one kept node). -/
theorem downsample_branching_unchanged (t : Table) (hw : WF t) (hl : labelsOKB t = true) (f : Option Nat)
    (pres : List Int) (i : Int) (hi : i ∈ ids (downsample t f pres)) :
    childCount (downsample t f pres) i = childCount t i :=
  childCount_contract hw (downsample_contracts hw hl f pres) hi

/-- Hence every root, tip and fork of `t` is a root, tip resp. fork of the result: it is kept, with the same child
count and the same root status. -/
theorem downsample_same_forks_and_tips (t : Table) (hw : WF t) (hl : labelsOKB t = true) (f : Option Nat)
    (pres : List Int) (n : Node) (hn : n ∈ t) (ha : n.parent < 0 ∨ childCount t n.id ≠ 1) :
    ∃ m ∈ downsample t f pres, m.id = n.id ∧ childCount (downsample t f pres) m.id = childCount t n.id ∧
      (m.parent < 0 ↔ n.parent < 0) := by
  have hk := downsample_keeps_roots_leafs_branches t hw hl f pres n hn ha
  obtain ⟨m, hm, hmid⟩ := mem_ids.mp hk
  refine ⟨m, hm, hmid, by rw [hmid]; exact downsample_branching_unchanged t hw hl f pres n.id hk, ?_⟩
  have hf := find?_of_mem hw.1 hn
  obtain ⟨_, _, h3⟩ := downsample_satisfies_spec t hw hl f pres [] (by simp)
  constructor
  · intro hneg
    -- a kept node with a negative new parent was a root: otherwise the root of its tree is a kept ancestor
    apply Classical.byContradiction
    intro hnr
    rcases h3 m hm with ⟨hnone, _⟩ | ⟨a, ha', hpa, _⟩
    · rw [hmid, rootPath_of_nonroot hw hf hnr] at hnone
      simp only [List.tail_cons] at hnone
      obtain ⟨r, nr, hlast, hfr, hrp⟩ := rootPath_ends hw n.parent (WF_parent_mem hw hn hnr)
      have hrk : r ∈ ids (downsample t f pres) :=
        (find?_some hfr).2 ▸ downsample_keeps_roots_leafs_branches t hw hl f pres nr (find?_some hfr).1 (Or.inl hrp)
      exact List.find?_eq_none.mp hnone r (List.mem_of_getLast? hlast) (by simpa using hrk)
    · have hka : a ∈ ids (downsample t f pres) := by simpa using List.find?_some ha'
      have := ids_nonneg (WF_downsample hw f pres).2.1 hka
      omega
  · intro hneg
    rcases h3 m hm with ⟨_, h⟩ | ⟨a, ha', _, _⟩
    · exact h
    · rw [hmid, rootPath_of_root hf hneg] at ha'
      simp at ha'

/-! ## 2. Downsampling after an arbitrary history

The downsampling theorems above assume correct labels because navis reads its current `type` column.  That
assumption is discharged along histories: every operation of the unified catalogue (`OpsAll`, C01) returns a
well-formed, correctly labelled skeleton, so the clause list holds wherever a downsample is applied. -/

/-- **The downsampling clauses hold after every history**: start from any well-formed, correctly
labelled skeleton, apply any finite sequence of catalogue operations (subset, reroot, cuts, pruning, healing,
stitching with well-formed foreign skeletons, resampling, earlier downsamplings, …) and downsample the
result with any factor and preserved set.  The clause list is taken with the empty `fix` list, i.e. without its clause
"the listed fix points are kept" (that is `downsample_keeps_fixpoints` at `u`). -/
theorem downsample_spec_after_history (len : Int → Int → Nat) (t : Table) (hw : WF t) (hl : labelsOKB t = true)
    (ops : List OpAll) (hok : ∀ op ∈ ops, op.ok) (f : Option Nat) (pres : List Int) :
    let u := ops.foldl (applyAll len) t
    DsSpec u (downsample u f pres) f [] ∧ WF (downsample u f pres) ∧
      ∀ i ∈ ids (downsample u f pres), childCount (downsample u f pres) i = childCount u i := by
  intro u
  obtain ⟨hwu, hlu⟩ := Navis.Props.C01.opsAll_labels_ok len t hw hl ops hok
  exact ⟨downsample_satisfies_spec u hwu hlu f pres [] (by simp), (downsample_WF u hwu f pres).1,
    fun i hi => downsample_branching_unchanged u hwu hlu f pres i hi⟩

/-! ## 3. Resampling: rounding and node count -/

/-- `roundHalfEven` is numpy's `round`: within ½ of the argument, the unique nearest integer when there
is one, and the even neighbour on an exact tie. -/
theorem roundHalfEven_spec (q : Rat) :
    (roundHalfEven q : Rat) - q ≤ 1 / 2 ∧ q - (roundHalfEven q : Rat) ≤ 1 / 2 ∧
    (∀ n : Int, (n : Rat) - q < 1 / 2 → q - (n : Rat) < 1 / 2 → roundHalfEven q = n) ∧
    ((q - (roundHalfEven q : Rat) = 1 / 2 ∨ (roundHalfEven q : Rat) - q = 1 / 2) → roundHalfEven q % 2 = 0) :=
  ⟨halfEven.upper q, halfEven.lower q, halfEven.nearest q, halfEven.tie_even q⟩

/-- Segments shorter than the target collapse to their end points; all others get
`round(total / res) ≥ 1` sample positions. -/
theorem sampleCount_spec (total res : Rat) (hres : 0 < res) :
    (total < res → sampleCount total res = none) ∧
    (res ≤ total → ∃ n, sampleCount total res = some n ∧ 1 ≤ n ∧ (n : Int) = roundHalfEven (total / res)) := by
  unfold sampleCount
  refine ⟨fun h => by rw [if_pos h], fun h => ?_⟩
  rw [if_neg (by exact not_lt.mpr h)]
  have h1 : 1 ≤ total / res := by rw [le_div_iff₀ hres]; linarith
  have := round_pos_of_ge_one _ h1
  exact ⟨_, rfl, by omega, by omega⟩

/-! ## 4. Resampling: structure -/

/-- **Well-formedness**: the resampled node table is a well-formed forest, for every well-formed input
and every per-segment count function (in particular `cntOf len res` for every resolution). -/
theorem resample_WF (t : Table) (hw : WF t) (cnt : List Int → Option Nat) :
    WF (resampleStruct t cnt) ∧ labelsOKB (resampleStruct t cnt) = true :=
  ⟨WF_resampleStruct hw cnt, labelsOKB_classify _⟩

/-- **Anchors**: roots, leafs and branch points — i.e. the first and last node of every small segment —
keep their id and coordinates. -/
theorem resample_keeps_anchors (t : Table) (hw : WF t) (cnt : List Int → Option Nat) (n : Node) (hn : n ∈ t)
    (ha : n.parent < 0 ∨ childCount t n.id ≠ 1) :
    ∃ m ∈ resampleStruct t cnt, m.id = n.id ∧ m.x = n.x ∧ m.y = n.y ∧ m.z = n.z := by
  by_cases hp : n.parent < 0
  · obtain ⟨m, hm, h1, _, h3, h4, h5⟩ := root_mem_resampleStruct hw cnt hn hp
    exact ⟨m, hm, h1, h3, h4, h5⟩
  · obtain ⟨s, hs, hf⟩ := (segsOK_of_perm hw (List.Perm.refl _)).seed n hn hp (ha.resolve_left hp)
    obtain ⟨o, ho, h1, _, _⟩ := plan_of_mem (cnt := cnt) (base := maxId t + 1) hs
    rw [hf] at h1
    have hrow := linkPairs_first_mem o.first o.last o.base o.k
    obtain ⟨m, hm, hid, _, hco⟩ := row_mem_resampleStruct hw cnt (o := o) ho (e := (o.first, if o.k = 0 then o.last else o.base)) hrow
    obtain ⟨hx, hy, hz⟩ := hco n hn h1.symm
    exact ⟨m, hm, by rw [hid]; exact h1, hx, hy, hz⟩

/-- Roots stay roots. -/
theorem resample_keeps_roots (t : Table) (hw : WF t) (cnt : List Int → Option Nat) (n : Node) (hn : n ∈ t)
    (hp : n.parent < 0) : ∃ m ∈ resampleStruct t cnt, m.id = n.id ∧ m.parent = n.parent :=
  let ⟨m, hm, h1, h2, _⟩ := root_mem_resampleStruct hw cnt hn hp
  ⟨m, hm, h1, h2⟩

/-- The plan has one entry per small segment, in order, with that segment's two anchors and
`k = interior (cnt s)` fresh nodes. -/
theorem resample_plan_segments (t : Table) (cnt : List Int → Option Nat) :
    (planOf t cnt).length = (smallSegments t).length ∧
    (planOf t cnt).map (·.first) = (smallSegments t).map segFirst ∧
    ∀ o ∈ planOf t cnt, ∃ s ∈ smallSegments t, o.first = segFirst s ∧ o.last = segLast s ∧ o.k = interior (cnt s) := by
  refine ⟨plan_length _ _ _, plan_map_first _ _ _, ?_⟩
  intro o ho
  obtain ⟨s, hs, h1, h2, h3, _⟩ := mem_plan ho
  exact ⟨s, hs, h1, h2, h3⟩

/-- **Structure between two anchors**: for every small segment (plan entry `o`) the result contains the
chain `first → base → base+1 → … → base+k-1 → last` (for `k = 0`: `first → last`), and the `k` interior
ids are fresh (above every id of `t`). -/
theorem resample_structure (t : Table) (hw : WF t) (cnt : List Int → Option Nat) (o : SegOut)
    (ho : o ∈ planOf t cnt) :
    maxId t < o.base ∧
    (∃ m ∈ resampleStruct t cnt, m.id = o.first ∧ m.parent = (if o.k = 0 then o.last else o.base)) ∧
    (∀ j : Nat, j < o.k → ∃ m ∈ resampleStruct t cnt, m.id = o.base + (j : Int) ∧
      m.parent = (if j + 1 = o.k then o.last else o.base + (j : Int) + 1)) := by
  refine ⟨?_, ?_, ?_⟩
  · obtain ⟨_, _, _, _, _, hb⟩ := mem_plan ho
    exact Int.lt_of_add_one_le hb
  · obtain ⟨m, hm, h1, h2, _⟩ := row_mem_resampleStruct hw cnt ho (linkPairs_first_mem o.first o.last o.base o.k)
    exact ⟨m, hm, h1, h2⟩
  · intro j hj
    obtain ⟨m, hm, h1, h2, _⟩ := row_mem_resampleStruct hw cnt ho (linkPairs_fresh_mem o.first o.last o.base o.k j hj)
    exact ⟨m, hm, h1, h2⟩

/-- **New ids are fresh and unique**: the ids of the result are exactly the first anchors with their fresh
interior ids, followed by the roots — a duplicate-free list; every interior id exceeds all ids of `t`, and
the id ranges of different segments are disjoint. -/
theorem resample_ids_fresh_unique (t : Table) (hw : WF t) (cnt : List Int → Option Nat) :
    ids (resampleStruct t cnt) = planIds (planOf t cnt) ++ ids (t.filter isRootNode) ∧
    (ids (resampleStruct t cnt)).Nodup ∧
    (∀ o ∈ planOf t cnt, ∀ i ∈ fresh o.base o.k, ∀ j ∈ ids t, j < i) ∧
    (planOf t cnt).Pairwise (fun o o' => o.base + (o.k : Int) ≤ o'.base) := by
  refine ⟨ids_resampleStruct hw cnt, (WF_resampleStruct hw cnt).1, ?_, plan_pairwise _ _ _⟩
  intro o ho i hi j hj
  exact Int.lt_of_le_of_lt (le_maxId hj) (fresh_gt_maxId ho hi)

/-- **Node count**: one node per segment (its first anchor) plus its interior nodes, plus the roots. -/
theorem resample_node_count (t : Table) (hw : WF t) (cnt : List Int → Option Nat) :
    (resampleStruct t cnt).length =
      (smallSegments t).length + ((planOf t cnt).map (·.k)).sum + (t.filter isRootNode).length := by
  have := congrArg List.length (ids_resampleStruct hw cnt)
  simp only [ids, List.length_map, List.length_append] at this
  rw [this, ← List.length_map (f := fun n : Node => n.id), planIds_length]
  unfold planOf
  rw [plan_length]

/-! ## 5. Resampling: geometry (over `Rat`) -/

/-- **On the cable**: every sampled point — in particular every new node — is `a + τ·(b − a)` with
`0 ≤ τ ≤ 1` for two *consecutive* nodes `a, b` of the original segment (all four columns x, y, z, radius
with the same `τ`). -/
theorem resample_on_cable (k0 k1 : Rat × Pt) (rest : List (Rat × Pt)) (s : Rat) :
    ∃ (pre post : List (Rat × Pt)) (a b : Rat × Pt) (τ : Rat),
      k0 :: k1 :: rest = pre ++ a :: b :: post ∧ 0 ≤ τ ∧ τ ≤ 1 ∧
      polyAt (k0 :: k1 :: rest) s = lerpPt a.2 b.2 τ :=
  polyAt_onCable k0 k1 rest s

/-- The same for the list of interior points of a segment. -/
theorem resample_interior_on_cable (k0 k1 : Rat × Pt) (rest : List (Rat × Pt)) (total : Rat) (k : Nat) :
    ∀ p ∈ interiorPts (k0 :: k1 :: rest) total k, OnCable (k0 :: k1 :: rest) p := by
  intro p hp
  unfold interiorPts at hp
  obtain ⟨j, _, rfl⟩ := List.mem_map.mp hp
  exact polyAt_onCable k0 k1 rest _

/-- The first sample is the first anchor's own position (`np.linspace` starts at 0), provided the arc
lengths do not under-estimate the edge lengths (then a zero arc step means coincident nodes). -/
theorem resample_first_sample_at_anchor (p : Pt) (ps : List Pt) (lens : List Rat) (h : LensOK (p :: ps) lens)
    (total : Rat) (k : Nat) :
    (polyAt (knots 0 (p :: ps) lens) (samplePos total k 0)).x = p.x ∧
    (polyAt (knots 0 (p :: ps) lens) (samplePos total k 0)).y = p.y ∧
    (polyAt (knots 0 (p :: ps) lens) (samplePos total k 0)).z = p.z := by
  rw [samplePos_zero]
  obtain ⟨tl, htl⟩ := knots_head 0 p ps lens
  have hok := knots_arcOK 0 (p :: ps) lens h
  rw [htl] at hok ⊢
  have := sqd_first_polyAt (0, p) tl hok 0 (le_refl _)
  have h0 : sqd p (polyAt ((0, p) :: tl) 0) = 0 := by
    have h1 := sqd_nonneg p (polyAt ((0, p) :: tl) 0)
    simp only [sub_self, mul_zero] at this
    linarith
  obtain ⟨hx, hy, hz⟩ := sqd_eq_zero h0
  exact ⟨hx.symm, hy.symm, hz.symm⟩

/-- **Chord ≤ arc** (squared form over `Rat`): consecutive samples of a segment are at most
`total / (k + 1)` apart — every new edge is no longer than the piece of cable it replaces.  Hypothesis:
the arc lengths used for the interpolation are non-negative and not smaller than the Euclidean edge lengths
(`LensOK`; for exact lengths: equality). -/
theorem resample_chord_le_arc (pts : List Pt) (lens : List Rat) (h : LensOK pts lens) (total : Rat)
    (ht : 0 ≤ total) (k j : Nat) :
    sqd (polyAt (knots 0 pts lens) (samplePos total k j)) (polyAt (knots 0 pts lens) (samplePos total k (j + 1))) ≤
      (total / ((k : Rat) + 1)) * (total / ((k : Rat) + 1)) :=
  chord_le_arc _ (knots_arcOK 0 pts lens h) total ht k j

/-- **Cable length does not increase** (real-valued): the Euclidean length of the chain through the
`k + 2` samples of a segment is at most the segment's arc length `total`. -/
theorem resample_not_longer (pts : List Pt) (lens : List Rat) (h : LensOK pts lens) (total : Rat)
    (ht : 0 ≤ total) (k : Nat) :
    chainLen (samples (knots 0 pts lens) total k) ≤ (total : ℝ) :=
  chainLen_samples_le _ (knots_arcOK 0 pts lens h) total ht k

/-- **Whole skeleton**: the resampled skeleton — the chains through the samples of all small segments,
with any number `kOf s` of interior nodes per segment — is at most as long as the original cable, whenever
the (integer-valued) edge-length function never under-estimates the distance of two nodes; for exact Euclidean
lengths see `resample_total_not_longer_real`. -/
theorem resample_total_not_longer (t : Table) (hw : WF t) (pt : Int → Pt) (len : Int → Int → Nat)
    (hlen : ∀ a b, sqd (pt a) (pt b) ≤ ((len a b : Nat) : Rat) * ((len a b : Nat) : Rat)) (kOf : List Int → Nat) :
    ((smallSegments t).map fun s =>
        chainLen (samples (segKnots pt len s) ((pathLen len s : Nat) : Rat) (kOf s))).sum ≤ ((cable t len : Nat) : ℝ) := by
  rw [← sum_pathLen_eq_cable hw.1 len (smallSegments t) (smallSegments_isParentPath hw) (smallSegments_cover hw)]
  apply sum_chain_le
  intro s
  have := chainLen_samples_le (segKnots pt len s) (knots_arcOK 0 _ _ (lensOK_seg pt len hlen s))
    ((pathLen len s : Nat) : Rat) (Nat.cast_nonneg _) (kOf s)
  exact_mod_cast this

/-! ## 6. Resampling: nearest-node remap -/

/-- Soma / connectors / tags are re-attached to a node of the new table with minimal squared distance
to the old position; such a node exists whenever the new table is non-empty. -/
theorem nearest_is_argmin (nodes : List (Int × Pt)) (q : Pt) :
    (nodes ≠ [] → (nearest nodes q).isSome) ∧
    ∀ i, nearest nodes q = some i → ∃ n ∈ nodes, n.1 = i ∧ ∀ n' ∈ nodes, sqd n.2 q ≤ sqd n'.2 q :=
  ⟨nearest_isSome q, fun _ h => nearest_spec h⟩


/-! ## 7. The code as written: the facts of the current source are what the model hard-wires

`Model/Sampling.lean` restates `_downsample_treeneuron` and the segment loop / re-attachment of `resample_skeleton`
*as written*, with every operator, constant and def-before-use decision as a parameter; `Gen/Sampling.lean` is
re-extracted from the navis source on every run (`translator/gen_sampling.py`).  The theorems of this section build the
rules from the extracted facts and prove that the as-written code with those rules **is** the hand-written model the
theorems above are about — an edit of one of the facts makes a theorem stop checking.  `downsample_gap_le_floor_factor` (8)
and `reattach_all_nearest` (9) are about the as-written model too; the rest of section 9 is about the checker `attachOKB`
and the hand-written `remap0`, and sections 8 and 10–13 add clauses about the hand-written models. -/
open Navis.Sampling

def labelOfName : String → Option Label
  | "slab" => some .slab | "root" => some .root | "end" => some .end_ | "branch" => some .branch | _ => none

/-- The walk rule read off `_downsample_treeneuron`; `none` when the code no longer has the shape the model assumes
(a two-way `or` of a membership test and a root test, `while True`, the scan stepping after the test, …).
`"trunc"` is read as `.floor`: the two differ only for negative factors, which `downsample_neuron` rejects (`≤ 1`). -/
def genWalkRule : Option WalkRule := do
  let smallCmp ← Cmp.ofName Gen.Sampling.smallGuardCmp
  let fixCmp ← Cmp.ofName Gen.Sampling.fixCmp
  let fixType ← labelOfName Gen.Sampling.fixType
  let contCmp ← Cmp.ofName Gen.Sampling.contCmp
  let loopCmp ← Cmp.ofName Gen.Sampling.loopCmp
  let stopRootCmp ← Cmp.ofName Gen.Sampling.stopRootCmp
  let factorRound ← (match Gen.Sampling.factorRound with
    | "none" => some FactorRound.asGiven | "floor" => some .floor | "trunc" => some .floor | "ceil" => some .ceil | _ => none)
  if Gen.Sampling.smallGuardAxis = 0 ∧ (factorRound = .asGiven ∨ Gen.Sampling.factorRoundSkipsInf = true)
      ∧ Gen.Sampling.factorRoundBeforeWalk = true ∧ Gen.Sampling.parentMapKey = "node_id" ∧ Gen.Sampling.parentMapValue = "parent_id"
      ∧ Gen.Sampling.fixColumn = "type" ∧ Gen.Sampling.presOp = "BitOr" ∧ Gen.Sampling.presColumn = "node_id"
      ∧ Gen.Sampling.presArgIsPreserveNodes = true ∧ Gen.Sampling.fixIdColumn = "node_id"
      ∧ Gen.Sampling.somaAppendsToFix = true ∧ Gen.Sampling.stopSetFromFix = true ∧ Gen.Sampling.startsFromFix = true
      ∧ Gen.Sampling.outerWhileTrue = true ∧ Gen.Sampling.rootBreaks = true ∧ Gen.Sampling.loopRhsIsFactor = true
      ∧ Gen.Sampling.loopStepOp = "Add" ∧ Gen.Sampling.stopBool = "Or" ∧ Gen.Sampling.stopMemLhsIsCand = true
      ∧ Gen.Sampling.stopRootLhsIsCand = true ∧ Gen.Sampling.stopRecords = true ∧ Gen.Sampling.stopBreaks = true
      ∧ Gen.Sampling.stepAfterStopTest = true ∧ Gen.Sampling.stoppedBreaksOuter = true
      ∧ Gen.Sampling.exhaustedRecordsAndMoves = true ∧ Gen.Sampling.flagResetEachRound = true
      ∧ Gen.Sampling.keepColumn = "node_id" ∧ Gen.Sampling.keepUsesKeys = true ∧ Gen.Sampling.mapColumn = "node_id"
      ∧ Gen.Sampling.mapTarget = "parent_id" then
    pure { factorRound := factorRound, smallCmp := smallCmp, smallK := Gen.Sampling.smallGuardK, sentinelKey := Gen.Sampling.sentinelKey,
           sentinelValue := Gen.Sampling.sentinelValue, fixCmp := fixCmp, fixType := fixType,
           presUnion := Gen.Sampling.presKeepsSelection, stopSetHasSoma := Gen.Sampling.stopSetHasSoma,
           startsHaveSoma := Gen.Sampling.startsHaveSoma, contCmp := contCmp, contK := Gen.Sampling.contK,
           rootRecord := Gen.Sampling.rootRecord, loopInit := Gen.Sampling.loopInit, loopCmp := loopCmp,
           loopStep := Gen.Sampling.loopStep, stopMem := Gen.Sampling.stopMemOp == "In", stopRootCmp := stopRootCmp,
           stopRootK := Gen.Sampling.stopRootK }
  else none

/-- The extracted walk rule is the one the model hard-wires: a finite factor is rounded down before the walk (`inf` is
left alone), fix points are the rows whose type is not `slab`,
preserved ids are OR-ed in, the soma ids reach both the start list and the membership test of the walk, the scan runs
`i = 0; while i < factor; i += 1`, stops on `new_p in fix or new_p < 0` and continues while `new_p >= 0`. -/
theorem gen_walk_rule : genWalkRule = some walkRule0 := by decide +kernel

/-- **`_downsample_treeneuron` as written today is the model `downsample`** — for every well-formed table, every
factor (`none` = inf; a float `q` acts as `⌊q⌋`), `preserve_nodes` given or `None`, and every soma list: the soma ids
are fix points of the walk exactly like preserved ids. -/
theorem gen_downsample_is_model (t : Table) (hw : WF t) (q : Option Rat) (pres : Option (List Int)) (soma : List Int)
    (hs : ∀ s ∈ soma, s ∈ ids t) :
    genWalkRule.map (fun r => downsampleG r t q pres soma) = some (downsample t (q.map floorNat) (pres.getD [] ++ soma)) := by
  rw [gen_walk_rule, Option.map_some, downsampleG_rule0 hw q pres soma hs]

/-- Hence the code as written satisfies the whole downsampling clause list, with the soma and the preserved nodes among
the fix points and at most `⌊factor⌋ ≤ factor` nodes dropped between a kept node and its new parent. -/
theorem gen_downsample_satisfies_spec (t : Table) (hw : WF t) (hl : labelsOKB t = true) (q : Option Rat)
    (pres : Option (List Int)) (soma : List Int) (hs : ∀ s ∈ soma, s ∈ ids t) (fix : List Int)
    (hfix : ∀ i ∈ fix, ∃ n ∈ t, n.id = i ∧ (n.label ≠ .slab ∨ i ∈ pres.getD [] ∨ i ∈ soma)) :
    ∀ r, genWalkRule = some r → DsSpec t (downsampleG r t q pres soma) (q.map floorNat) fix := by
  intro r hr
  rw [gen_walk_rule] at hr
  cases hr
  rw [downsampleG_rule0 hw q pres soma hs]
  apply downsample_satisfies_spec t hw hl _ _ fix
  intro i hi
  obtain ⟨n, hn, hid, hc⟩ := hfix i hi
  refine ⟨n, hn, hid, ?_⟩
  rcases hc with h | h | h
  · exact Or.inl h
  · exact Or.inr (List.mem_append_left _ h)
  · exact Or.inr (List.mem_append_right _ h)

/-- `downsample_neuron`: factors `<= 1` are rejected, the input is copied unless `inplace`, skeletons go to
`_downsample_treeneuron` with the factor and `preserve_nodes` forwarded, the (copied) neuron is returned; the other
neuron types have their own branches (the C13 statement is about skeletons only). -/
theorem gen_downsample_entry :
    Cmp.ofName Gen.Sampling.factorGuardCmp = some .le ∧ Gen.Sampling.factorGuardK = 1
    ∧ Gen.Sampling.dsCopiesUnlessInplace = true ∧ Gen.Sampling.dsReturnsX = true
    ∧ ("TreeNeuron", "_downsample_treeneuron") ∈ Gen.Sampling.dsDispatch
    ∧ Gen.Sampling.dsDispatch.map (·.1) = ["TreeNeuron", "Dotprops", "VoxelNeuron", "MeshNeuron"]
    ∧ Gen.Sampling.dsTreeArgs = ["downsampling_factor=downsampling_factor", "preserve_nodes=preserve_nodes"]
    ∧ ("inplace", "False") ∈ Gen.Sampling.dsDefaults ∧ ("preserve_nodes", "None") ∈ Gen.Sampling.dsDefaults
    ∧ "map_neuronlist" ∈ Gen.Sampling.dsDecorators ∧ Gen.Sampling.dsClearsCache = true
    ∧ Gen.Sampling.somaGuard = "not isinstance(X.soma, type(None))" :=
  have ⟨a, b, c, d, e⟩ : _ ∧ _ ∧ _ ∧ _ ∧ _ := by decide +kernel
  ⟨a, rfl, rfl, rfl, b, rfl, rfl, c, d, e, rfl, rfl⟩

/-- With the extracted guard the entry point raises exactly for factors `≤ 1` (and never for `inf`). -/
theorem gen_factor_guard (r : WalkRule) (t : Table) (q : Option Rat) (pres : Option (List Int)) (soma : List Int) :
    (Cmp.ofName Gen.Sampling.factorGuardCmp).map (fun c => downsampleNeuronG c Gen.Sampling.factorGuardK r t q pres soma) =
      some (match q with
        | some f => if f ≤ 1 then none else some (downsampleG r t q pres soma)
        | none => some (downsampleG r t q pres soma)) := by
  have h1 : Cmp.ofName Gen.Sampling.factorGuardCmp = some .le := gen_downsample_entry.1
  have h2 : Gen.Sampling.factorGuardK = 1 := gen_downsample_entry.2.1
  rw [h1, h2, Option.map_some]
  unfold downsampleNeuronG
  cases q with
  | none => simp
  | some f => by_cases h : f ≤ 1 <;> simp [Cmp.evalRat, h]

/-- The segment-loop rule read off `resample_skeleton`. -/
def genResRule : Option ResRule := do
  let shortCmp ← Cmp.ofName Gen.Sampling.shortCmp
  let countFn ← CountFn.ofName Gen.Sampling.countFn
  let zipA ← Gen.Sampling.rowsZip[0]?
  let zipB ← Gen.Sampling.rowsZip[1]?
  let c0 ← Gen.Sampling.collapseIdx[0]?
  let c1 ← Gen.Sampling.collapseIdx[1]?
  if Gen.Sampling.rsLoopOver = "small_segments" ∧ Gen.Sampling.idBaseColumn = "node_id" ∧ Gen.Sampling.shortLhs = "dist[-1]"
      ∧ Gen.Sampling.shortRhsIsRes = true ∧ Gen.Sampling.countOp = "Div" ∧ Gen.Sampling.countLhs = "dist[-1]"
      ∧ Gen.Sampling.countRhsIsRes = true ∧ Gen.Sampling.linspaceArgs = ["dist[0]", "dist[-1]", "int(n)"]
      ∧ Gen.Sampling.distLeading = [0, 0] ∧ Gen.Sampling.distIsCumsumOfNorms = true
      ∧ Gen.Sampling.freshLhsIsCounter = true ∧ Gen.Sampling.freshRhsIsLoopVar = true ∧ Gen.Sampling.freshRangeOp = "Sub"
      ∧ Gen.Sampling.freshRangeLenOf = "new_dist" ∧ 0 ≤ Gen.Sampling.freshRangeK ∧ Gen.Sampling.advanceAfterNewIds = true
      ∧ Gen.Sampling.rowsZip.length = 2 ∧ Gen.Sampling.rowsEnumerated = true ∧ Gen.Sampling.rowsNodeParent = true
      ∧ Gen.Sampling.rowsValueIndexIsRowIndex = true ∧ Gen.Sampling.dedupColumn = "node_id"
      ∧ Gen.Sampling.dedupInverted = true ∧ Gen.Sampling.idBaseIsPyInt = true then
    pure { idBase := if Gen.Sampling.idBaseAgg = "max" then .maxId
                     else if Gen.Sampling.idBaseColumn = "X.nodes.shape[0]" then .rowCount else .other,
           idBasePlus := Gen.Sampling.idBasePlus, shortCmp := shortCmp, countFn := countFn,
           freshMinus := Gen.Sampling.freshRangeK.toNat,
           advance := if Gen.Sampling.advanceLenOf = "new_ids" then .newIds else .newDist,
           first := Gen.Sampling.newIdsFirst, last := Gen.Sampling.newIdsLast, zipA := zipA, zipB := zipB, c0 := c0, c1 := c1,
           rootRows := Gen.Sampling.rootRowsAdded, dedupFirst := Gen.Sampling.dedupKeep == "first" }
  else none

/-- The extracted rule is the one the model hard-wires: ids start at `int(node_id.max()) + 1`, a segment collapses when
`dist[-1] < resample_to`, otherwise gets `np.round(dist[-1] / resample_to)` sample positions, `range(len(new_dist) - 2)`
fresh ids between `seg[:1]` and `seg[-1:]`, the counter advances by `len(new_ids)`, rows are
`zip(new_ids[:-1], new_ids[1:])`, root rows are appended and duplicates dropped keeping the first occurrence. -/
theorem gen_res_rule : genResRule = some resRule0 := by decide +kernel

/-- **The segment loop of `resample_skeleton` as written today is the model `resampleStruct`**, and its per-segment
count function is `cntOf`. -/
theorem gen_resample_is_model (t : Table) (cnt : List Int → Option Nat) (len : Int → Int → Nat) (res : Rat) :
    genResRule.map (fun r => resampleStructG r t cnt) = some (resampleStruct t cnt)
    ∧ genResRule.map (fun r => cntG r len res) = some (cntOf len res) := by
  rw [gen_res_rule, Option.map_some, Option.map_some, resampleStructG_rule0, cntG_rule0]
  exact ⟨rfl, rfl⟩

/-- The glue around the loop: defaults, `map_units(resample_to, on_error='raise')`, copy unless `inplace`, non-skeletons
rejected, the numeric columns, `interp1d(dist, …, kind=method)` for numeric and `kind='nearest'` for categorical columns
evaluated at the `linspace` positions, the cubic clause of the collapse test, the `skip_errors` fall-back (the original
rows of `seg[:-1]`, counter untouched, `continue`; otherwise re-raise), caches cleared at the end. -/
theorem gen_resample_glue :
    (∀ d ∈ [("inplace", "False"), ("method", "'linear'"), ("map_columns", "None"), ("skip_errors", "True")], d ∈ Gen.Sampling.rsDefaults)
    ∧ "map_neuronlist" ∈ Gen.Sampling.rsDecorators
    ∧ Gen.Sampling.rsMapUnitsArg = true ∧ Gen.Sampling.rsMapUnitsOnError = "raise"
    ∧ Gen.Sampling.rsCopiesUnlessInplace = true ∧ Gen.Sampling.rsTypeGuardRaises = true
    ∧ Gen.Sampling.rsNumCols = ["x", "y", "z", "radius"]
    ∧ Gen.Sampling.interp = [("dist", "'nearest'"), ("dist", "method")]
    ∧ Gen.Sampling.interpLoops = [("cat", "'nearest'"), ("num", "method")]
    ∧ Gen.Sampling.sampledAtNewDist = true
    ∧ Gen.Sampling.shortOther = ["method == 'cubic' and len(seg) <= 3"]
    ∧ Gen.Sampling.collapseIdx = [0, -1, 0]
    ∧ Gen.Sampling.skipCatches = "ValueError" ∧ Gen.Sampling.skipContinues = true ∧ Gen.Sampling.skipElseRaises = true
    ∧ Gen.Sampling.skipRowsColumn = "node_id" ∧ Gen.Sampling.skipRowsSlice = (none, some (-1)) ∧ Gen.Sampling.skipAdvancesCounter = false
    ∧ Gen.Sampling.rsClearsCache = true :=
  have ⟨a, b⟩ : _ ∧ _ := by decide +kernel
  ⟨a, b, rfl, rfl, rfl, rfl, rfl, rfl, rfl, rfl, rfl, rfl, rfl, rfl, rfl, rfl, rfl, rfl, rfl⟩

/-- When the block `kind` runs: it is a top-level block (`.always`), or it only occurs nested in the `else` of the block
`prev` (4th component of an entry of `Gen.Sampling.attachBlocks`: tree queries nested in its `else`/`elif`), or not at all. -/
def guardOf (blocks : List (String × String × Nat × Nat × Bool × Bool × Bool × Bool)) (kind prev : String) : Guard :=
  if blocks.any (fun b => b.1 == kind) then .always
  else if blocks.any (fun b => b.1 == prev && b.2.2.2.1 > 0) then .unlessPrev
  else .never

/-- The re-attachment rule read off `resample_skeleton`: which of the three blocks are top-level `if`s (a block that
only occurs nested in the previous block's `else` is an `elif`), where the KD-tree and the query positions come from. -/
def genAttachRule : Option AttachRule :=
  let bs := Gen.Sampling.attachBlocks
  if Gen.Sampling.treeAfterDedup = true ∧ Gen.Sampling.treeColumns = ["x", "y", "z"] ∧ Gen.Sampling.oldIndexColumn = "node_id"
      ∧ Gen.Sampling.oldIndexBeforeAssign = true
      ∧ bs.all (fun b => b.2.2.1 == 1 && b.2.2.2.2.2.1 && b.2.2.2.2.2.2.1 && b.2.2.2.2.2.2.2) = true then
    some { soma := guardOf bs "soma" "", conn := guardOf bs "connectors" "soma", tags := guardOf bs "tags" "connectors",
           treeFromNew := Gen.Sampling.treeFromNew, posFromOld := bs.all (fun b => b.2.2.2.2.1),
           somaElseClears := Gen.Sampling.somaElseClears }
  else none

/-- Three independent top-level blocks (soma, connectors, tags), one tree query each, the tree built from the new node
table after the de-duplication, positions read from the old table, results indexing the new ids, all before the new
table is assigned to the neuron. -/
theorem gen_attach_rule : genAttachRule = some attachRule0 := by decide +kernel

/-- **The re-attachment as written today maps every soma, every connector and every tagged node to the nearest new
node** (`remap0`), each block independently of the other two. -/
theorem gen_reattach_is_model (old new : List (Int × Pt)) (a : Attach) :
    genAttachRule.map (fun r => reattachG r old new a) =
      some { soma := a.soma.map (·.map (remap0 old new)), conn := a.conn.map (·.map (remap0 old new)),
             tags := a.tags.map (·.map fun e => (e.1, e.2.map (remap0 old new))) } := by
  rw [gen_attach_rule, Option.map_some, reattachG_rule0]

/-- `TreeNeuron.downsample` / `.resample` call the functions above with their arguments forwarded; `.simple` is
`downsample(float('inf'))`. -/
theorem gen_methods :
    ("downsample", "downsample_neuron", ["factor", "inplace"], ["**kwargs", "factor", "inplace=True"], [("factor", "5"), ("inplace", "False")]) ∈ Gen.Sampling.methods
    ∧ ("resample", "resample_skeleton", ["resample_to", "inplace"], ["inplace=True", "resample_to"], [("inplace", "False")]) ∈ Gen.Sampling.methods
    ∧ ("simple", "downsample", [], ["float('inf')", "inplace=True"], []) ∈ Gen.Sampling.methods := by decide +kernel

/-! ## 8. Downsampling: float factors, inherited root paths -/

/-- **Gap ≤ factor for float factors**: a finite factor `q` is rounded down before the walk, so at most `⌊q⌋` — hence
at most `q` — nodes are dropped between a kept node and its new parent.  (Before navis' fix `5174d76` the unrounded
factor was compared with an integer counter and `⌈q⌉` nodes could be dropped.) -/
theorem downsample_gap_le_floor_factor (t : Table) (hw : WF t) (hl : labelsOKB t = true) (q : Rat) (hq : 0 ≤ q)
    (pres : Option (List Int)) (soma : List Int) (hs : ∀ s ∈ soma, s ∈ ids t) (m : Node)
    (hm : m ∈ downsampleG walkRule0 t (some q) pres soma) (hp : 0 ≤ m.parent) :
    m.parent ∈ (rootPath t m.id).tail ∧ (rootPath t m.id).tail.idxOf m.parent ≤ floorNat q ∧
    (((rootPath t m.id).tail.idxOf m.parent : Nat) : Rat) ≤ q := by
  rw [downsampleG_rule0 hw (some q) pres soma hs] at hm
  obtain ⟨h1, h2⟩ := downsample_gap_le_factor t hw hl (floorNat q) _ m hm hp
  exact ⟨h1, h2, (Nat.cast_le.mpr h2).trans (floorNat_le hq)⟩

/-- **Branching structure unchanged, full strength**: the root path of every kept node in the result is its old root
path restricted to the kept nodes. -/
theorem downsample_root_paths_inherited (t : Table) (hw : WF t) (hl : labelsOKB t = true) (f : Option Nat)
    (pres : List Int) (i : Int) (hi : i ∈ ids (downsample t f pres)) :
    rootPath (downsample t f pres) i = (rootPath t i).filter (fun a => (ids (downsample t f pres)).contains a) :=
  rootPath_contract hw (WF_downsample hw f pres) (downsample_contracts hw hl f pres) hi

/-- Hence the ancestor relation among kept nodes is exactly the old one: no branch is re-attached elsewhere, no two
branches are merged or swapped. -/
theorem downsample_ancestry_unchanged (t : Table) (hw : WF t) (hl : labelsOKB t = true) (f : Option Nat)
    (pres : List Int) (a d : Int) (ha : a ∈ ids (downsample t f pres)) (hd : d ∈ ids (downsample t f pres)) :
    a ∈ rootPath (downsample t f pres) d ↔ a ∈ rootPath t d := by
  rw [downsample_root_paths_inherited t hw hl f pres d hd, List.mem_filter]
  constructor
  · exact fun h => h.1
  · exact fun h => ⟨h, by simpa using ha⟩

/-! ## 9. Resampling: re-attachment of soma, connectors and tags -/

/-- The checker evaluated on navis' own output is sound for the clause "re-attaches soma, connectors and tags to the
nearest new node" (`AttachSpec`: shapes kept, every entry at minimal distance). -/
theorem attachCheck_sound (old new : List (Int × Pt)) (a b : Attach) (h : attachOKB old new a b = true) :
    AttachSpec old new a b := attachOKB_sound h

/-- **All three re-attachments pick a nearest new node**: for the as-written model with `attachRule0`, whenever the
new table is non-empty with unique ids and every attached id has an old position. -/
theorem reattach_all_nearest (old new : List (Int × Pt)) (hnd : (new.map (·.1)).Nodup) (hne : new ≠ []) (a : Attach)
    (hloc : a.located old) : AttachSpec old new a (reattachG attachRule0 old new a) :=
  attachOKB_sound (attachOKB_reattach hnd hne a hloc)

/-- Each single id: `remap0` returns the id of a node of the new table that minimises the distance to the old position
(this ties `nearest_is_argmin` to the three blocks). -/
theorem reattach_id_is_argmin (old new : List (Int × Pt)) (i : Int) (q : Pt) (hq : posOf old i = some q) (hne : new ≠ []) :
    ∃ n ∈ new, n.1 = remap0 old new i ∧ ∀ n' ∈ new, sqd n.2 q ≤ sqd n'.2 q := by
  unfold remap0
  rw [hq]
  dsimp only
  obtain ⟨j, hj⟩ := Option.isSome_iff_exists.mp (nearest_isSome q hne)
  rw [hj]
  exact nearest_spec hj

/-! ## 10. Resampling: radius, mapped numeric columns, categorical columns -/

/-- **One bracket and one parameter for all columns**: x, y, z and the radius of a sampled point are each the
1-d interpolation `interpCol` of that column over the arc lengths — with the same knot pair and the same `τ ∈ [0, 1]`
(`locate`), which is also how any further numeric column passed in `map_columns` is computed. -/
theorem resample_columns_same_parameter (ks : List (Rat × Pt)) (s : Rat) :
    (polyAt ks s).x = interpCol (ks.map (·.1)) (ks.map (·.2.x)) s ∧
    (polyAt ks s).y = interpCol (ks.map (·.1)) (ks.map (·.2.y)) s ∧
    (polyAt ks s).z = interpCol (ks.map (·.1)) (ks.map (·.2.z)) s ∧
    (polyAt ks s).r = interpCol (ks.map (·.1)) (ks.map (·.2.r)) s ∧
    0 ≤ (locate (ks.map (·.1)) s).2 ∧ (locate (ks.map (·.1)) s).2 ≤ 1 :=
  ⟨(interpCol_of_polyAt ks s (·.x) (fun _ _ _ => rfl) rfl).symm, (interpCol_of_polyAt ks s (·.y) (fun _ _ _ => rfl) rfl).symm,
   (interpCol_of_polyAt ks s (·.z) (fun _ _ _ => rfl) rfl).symm, (interpCol_of_polyAt ks s (·.r) (fun _ _ _ => rfl) rfl).symm,
   locate_range _ s⟩

/-- A mapped numeric column never leaves the interval spanned by the two original values it is interpolated from. -/
theorem resample_column_between (ds vs : List Rat) (s : Rat) :
    (vs.getD (locate ds s).1 0 ≤ interpCol ds vs s ∧ interpCol ds vs s ≤ vs.getD ((locate ds s).1 + 1) 0) ∨
    (vs.getD ((locate ds s).1 + 1) 0 ≤ interpCol ds vs s ∧ interpCol ds vs s ≤ vs.getD (locate ds s).1 0) := by
  obtain ⟨h0, h1⟩ := locate_range ds s
  unfold interpCol
  by_cases h : vs.getD (locate ds s).1 0 ≤ vs.getD ((locate ds s).1 + 1) 0
  · have hΔ := sub_nonneg.mpr h
    exact Or.inl ⟨le_add_of_nonneg_right (mul_nonneg h0 hΔ), le_sub_iff_add_le'.mp (mul_le_of_le_one_left hΔ h1)⟩
  · have hΔ := sub_nonpos.mpr (not_le.mp h).le
    exact Or.inr ⟨sub_le_iff_le_add'.mp (le_mul_of_le_one_left hΔ h1),
      add_le_of_nonpos_right (mul_nonpos_of_nonneg_of_nonpos h0 hΔ)⟩

/-- **Categorical columns take the value of a nearest original node of the segment** (`kind='nearest'`): the picked
knot is at minimal arc distance from the sample position and the value is an original one (the code ↔ category
translation is the identity).  Exactly half-way the lower knot is picked: `Sampling.nearestIdx_half`. -/
theorem resample_categorical_nearest {α} [BEq α] [LawfulBEq α] [Inhabited α] (ds : List Rat) (hs : ds.Pairwise (· ≤ ·))
    (vs : List α) (hlen : vs.length = ds.length) (hne : ds ≠ []) (s : Rat) :
    ∃ h : nearestIdx ds s < vs.length, catCol ds vs s = vs[nearestIdx ds s] ∧
      ∀ d ∈ ds, (ds.getD (nearestIdx ds s) 0 - s) * (ds.getD (nearestIdx ds s) 0 - s) ≤ (d - s) * (d - s) := by
  have h : nearestIdx ds s < vs.length := hlen ▸ nearestIdx_lt ds s hne
  exact ⟨h, catCol_eq ds vs s h, nearestIdx_spec ds s hs⟩

/-! ## 11. Resampling never increases cable length — over ℝ, exact (irrational) edge lengths -/
open Navis.ResampleR in
/-- **Full strength**: for every polyline `pts` in a real normed space (ℝ³ with the Euclidean norm in particular),
with its exact arc lengths `dist pᵢ pᵢ₊₁`, the chain through the `k + 2` points sampled by arc-length linear
interpolation at `np.linspace(0, L, k + 2)` is at most `L = length of pts` long; the first sample is the first point. -/
theorem resample_not_longer_real {E : Type*} [NormedAddCommGroup E] [NormedSpace ℝ E] (pts : List E) (k : ℕ) :
    chainLenR (samplesR (knotsR 0 pts) (chainLenR pts) k) ≤ chainLenR pts ∧
    ∀ p ps, pts = p :: ps → polyAtR (knotsR 0 pts) 0 = p :=
  ⟨resample_segment_not_longer pts k, fun p ps h => h ▸ polyAtR_knotsR_zero p ps⟩

open Navis.ResampleR in
/-- … and summed over all small segments of a skeleton, with any number of interior nodes per segment. -/
theorem resample_total_not_longer_real {E : Type*} [NormedAddCommGroup E] [NormedSpace ℝ E] (segs : List (List E))
    (kOf : List E → ℕ) :
    (segs.map fun pts => chainLenR (samplesR (knotsR 0 pts) (chainLenR pts) (kOf pts))).sum ≤ (segs.map chainLenR).sum := by
  exact List.sum_le_sum fun s _ => resample_segment_not_longer s (kOf s)

open Navis.ResampleR in
/-- The sampling map is 1-Lipschitz in the arc-length parameter: two samples are never further apart than the piece
of cable between them (the real-valued form of `resample_chord_le_arc`). -/
theorem resample_chord_le_arc_real {E : Type*} [NormedAddCommGroup E] [NormedSpace ℝ E] (pts : List E) (s s' : ℝ)
    (h : s ≤ s') : ‖polyAtR (knotsR 0 pts) s' - polyAtR (knotsR 0 pts) s‖ ≤ s' - s :=
  norm_polyAtR_sub_le _ (knotsR_arcOK 0 pts) s s' h

open Navis.ResampleR in
/-- **The real model is the executable model on rational data**: in Euclidean 3-space, interpolating cast knots at a cast
position gives the cast of `polyAt` (the function the harness compares with navis' output), the sample lists correspond,
and the real chain length of cast points is the chain length used in `resample_not_longer`. -/
theorem resample_real_model_is_executable_model (ks : List (Rat × Pt)) (s total : Rat) (k : ℕ) (l : List Pt) :
    polyAtR (ks.map castK) (s : ℝ) = toE (polyAt ks s) ∧
    samplesR (ks.map castK) (total : ℝ) k = (samples ks total k).map toE ∧
    chainLenR (l.map toE) = chainLen l :=
  ⟨polyAtR_cast ks s, samplesR_cast ks total k, chainLenR_map_toE l⟩

/-! ## 12. Resampling preserves the branching structure -/

/-- **Branching structure unchanged by resampling, full strength**: every root, leaf and branch point of `t` has exactly
as many children in the resampled table as in `t` (one chain per small segment ending in it), and every fresh node has
exactly one child — so the roots, tips and forks of the result are those of `t` and everything in between is a chain. -/
theorem resample_branching_unchanged (t : Table) (hw : WF t) (cnt : List Int → Option Nat) :
    (∀ n ∈ t, (n.parent < 0 ∨ childCount t n.id ≠ 1) → childCount (resampleStruct t cnt) n.id = childCount t n.id) ∧
    (∀ o ∈ planOf t cnt, ∀ i ∈ fresh o.base o.k, childCount (resampleStruct t cnt) i = 1) :=
  ⟨fun _ hn ha => childCount_resample_anchor hw cnt hn ha, fun _ ho _ hi => childCount_resample_fresh hw cnt ho hi⟩

/-- The children of a root or branch point are counted by the small segments ending in it (what both sides of
`resample_branching_unchanged` are compared through). -/
theorem children_are_segment_ends (t : Table) (hw : WF t) (a : Int) (ha0 : 0 ≤ a) (ha : isBranchOrRoot t a = true) :
    childCount t a = ((smallSegments t).map segLast).count a := childCount_eq_count_last hw ha0 ha

/-! ## 13. Resampling after an arbitrary history -/

/-- **The structural resampling clauses hold after every history** of catalogue operations: the result is a
well-formed, correctly labelled forest, every root / leaf / branch point of the current skeleton keeps id and
coordinates and its number of children, and the ids are the kept anchors plus fresh ids above every current id,
without duplicates. -/
theorem resample_spec_after_history (len : Int → Int → Nat) (t : Table) (hw : WF t) (hl : labelsOKB t = true)
    (ops : List OpAll) (hok : ∀ op ∈ ops, op.ok) (cnt : List Int → Option Nat) :
    let u := ops.foldl (applyAll len) t
    WF (resampleStruct u cnt) ∧ labelsOKB (resampleStruct u cnt) = true ∧
    (∀ n ∈ u, (n.parent < 0 ∨ childCount u n.id ≠ 1) →
      ∃ m ∈ resampleStruct u cnt, m.id = n.id ∧ m.x = n.x ∧ m.y = n.y ∧ m.z = n.z) ∧
    (ids (resampleStruct u cnt)).Nodup ∧
    (∀ o ∈ planOf u cnt, ∀ i ∈ fresh o.base o.k, ∀ j ∈ ids u, j < i) ∧
    (∀ n ∈ u, (n.parent < 0 ∨ childCount u n.id ≠ 1) → childCount (resampleStruct u cnt) n.id = childCount u n.id) := by
  intro u
  obtain ⟨hwu, _⟩ := Navis.Props.C01.opsAll_labels_ok len t hw hl ops hok
  obtain ⟨h1, h2⟩ := resample_WF u hwu cnt
  obtain ⟨_, h4, h5, _⟩ := resample_ids_fresh_unique u hwu cnt
  exact ⟨h1, h2, fun n hn ha => resample_keeps_anchors u hwu cnt n hn ha, h4, h5,
    (resample_branching_unchanged u hwu cnt).1⟩

/-! ## 14. Non-vacuity: concrete inputs meeting the hypotheses -/

/-- root 1 — 2 — 3 (branch) with tips 4 and 5–6–7–8, plus an isolated root 9; all edges have length 3 or 4. -/
def ex : Table :=
  [⟨1, -1, 0, 0, 0, .root⟩, ⟨2, 1, 3, 0, 0, .slab⟩, ⟨3, 2, 6, 0, 0, .branch⟩, ⟨4, 3, 9, 0, 0, .end_⟩,
   ⟨5, 3, 6, 4, 0, .slab⟩, ⟨6, 5, 6, 8, 0, .slab⟩, ⟨7, 6, 6, 12, 0, .slab⟩, ⟨8, 7, 6, 16, 0, .end_⟩, ⟨9, -1, 100, 0, 0, .root⟩]

theorem ex_WF : WF ex := wfB_sound (by decide +kernel)
example : labelsOKB ex = true := by decide +kernel
example : smallSegments ex = [[3, 2, 1], [4, 3], [8, 7, 6, 5, 3]] := by decide +kernel
-- downsampling by 2: 8 → 5 (two dropped: 7, 6), 5 is kept because the scan reaches the `(f+1)`-th ancestor
example : (downsample ex (some 2) []).map (fun n => (n.id, n.parent)) =
    [(1, -1), (3, 1), (4, 3), (5, 3), (8, 5), (9, -1)] := by decide +kernel
example : (downsample ex none []).map (fun n => (n.id, n.parent)) = [(1, -1), (3, 1), (4, 3), (8, 3), (9, -1)] := by decide +kernel
example : dsCheck ex (downsample ex (some 2) [6]) (some 2) [1, 3, 4, 8, 9, 6] = true := by decide +kernel
-- a table that violates the gap clause is rejected by the checker
example : dsCheck ex [⟨1, -1, 0, 0, 0, .root⟩, ⟨3, 1, 6, 0, 0, .branch⟩, ⟨4, 3, 9, 0, 0, .end_⟩, ⟨8, 3, 6, 16, 0, .end_⟩,
    ⟨9, -1, 100, 0, 0, .root⟩] (some 2) [] = false := by decide +kernel
-- resampling with one node every 2 units: 3→1 (length 6) gets 1 interior node, 4→3 (length 3) gets no interior node
-- (round(1.5) = 2 sample positions: its two ends; the counter still advances, 13 → 15), 8→3 (length 16) gets 6
example : (resampleStruct ex (cntOf (coordLen ex) 2)).map (fun n => (n.id, n.parent)) =
    [(3, 10), (10, 1), (4, 3), (8, 15), (15, 16), (16, 17), (17, 18), (18, 19), (19, 20), (20, 3), (1, -1), (9, -1)] := by
  decide +kernel
example : roundHalfEven (5 / 2) = 2 ∧ roundHalfEven (7 / 2) = 4 ∧ roundHalfEven (13 / 5) = 3 := by decide +kernel
example : sampleCount 3 2 = some 2 ∧ sampleCount 1 2 = none ∧ sampleCount 2 2 = some 1 := by decide +kernel
example : LensOK [⟨6, 0, 0, 1⟩, ⟨3, 0, 0, 2⟩, ⟨0, 0, 0, 4⟩] [3, 3] := by
  refine ⟨by norm_num, by norm_num [sqd], by norm_num, by norm_num [sqd], trivial⟩
example : interiorPts (knots 0 [⟨6, 0, 0, 1⟩, ⟨3, 0, 0, 2⟩, ⟨0, 0, 0, 4⟩] [3, 3]) 6 1 = [⟨3, 0, 0, 2⟩] := by
  decide +kernel
example : nearest [(1, ⟨0, 0, 0, 0⟩), (2, ⟨10, 0, 0, 0⟩), (3, ⟨4, 0, 0, 0⟩)] ⟨6, 0, 0, 0⟩ = some 3 := by decide +kernel

-- instances of `downsampleG_rule0` / `resampleStructG_rule0`: what is evaluated is the floor and the soma guard
example : downsampleG walkRule0 ex (some (5 / 2)) none [6] = downsample ex (some 2) [6] :=
  (downsampleG_rule0 ex_WF _ _ _ (by decide +kernel)).trans
    (congrArg (downsample ex · [6]) (by decide +kernel : (some (5 / 2 : Rat)).map floorNat = some 2))
example : downsampleG walkRule0 ex (some (7 / 2)) none [] = downsample ex (some 3) [] :=
  (downsampleG_rule0 ex_WF _ _ _ (by decide +kernel)).trans
    (congrArg (downsample ex · []) (by decide +kernel : (some (7 / 2 : Rat)).map floorNat = some 3))
example : downsampleNeuronG .le 1 walkRule0 ex (some 1) none [] = none := by decide +kernel
example : rootPath (downsample ex (some 2) []) 8 = [8, 5, 3, 1] ∧ rootPath ex 8 = [8, 7, 6, 5, 3, 2, 1] := by decide +kernel
example : resampleStructG resRule0 ex (cntOf (coordLen ex) 2) = resampleStruct ex (cntOf (coordLen ex) 2) :=
  resampleStructG_rule0 _ _
example : childCount (resampleStruct ex (cntOf (coordLen ex) 2)) 3 = 2 ∧ childCount ex 3 = 2 := by decide +kernel
-- soma on node 2, connectors on 2 and 3, a tag on 1; new table = nodes 1 and 3: node 2 is half-way (tie: the first wins)
example : reattachG attachRule0 [(1, ⟨0, 0, 0, 0⟩), (2, ⟨3, 0, 0, 0⟩), (3, ⟨6, 0, 0, 0⟩)] [(3, ⟨6, 0, 0, 0⟩), (1, ⟨0, 0, 0, 0⟩)]
    ⟨some [2], some [2, 3], some [("a", [1])]⟩ = ⟨some [3], some [3, 3], some [("a", [1])]⟩ := by decide +kernel
example : attachOKB [(1, ⟨0, 0, 0, 0⟩), (2, ⟨3, 0, 0, 0⟩), (3, ⟨6, 0, 0, 0⟩)] [(3, ⟨6, 0, 0, 0⟩), (1, ⟨0, 0, 0, 0⟩)]
    ⟨some [2], some [2, 3], none⟩ ⟨some [1], some [3, 3], none⟩ = true := by decide +kernel
example : attachOKB [(1, ⟨0, 0, 0, 0⟩), (2, ⟨4, 0, 0, 0⟩), (3, ⟨6, 0, 0, 0⟩)] [(3, ⟨6, 0, 0, 0⟩), (1, ⟨0, 0, 0, 0⟩)]
    ⟨some [2], none, none⟩ ⟨some [1], none, none⟩ = false := by decide +kernel
example : interpCol [0, 3, 6] [1, 2, 4] 5 = 10 / 3 ∧ nearestIdx [0, 3, 6] (3 / 2) = 0 ∧ nearestIdx [0, 3, 6] 2 = 1 := by decide +kernel
example : catCol [0, 3, 6] ["ax", "de", "ax"] 4 = "de" ∧ catCol [0, 3, 6] ["ax", "de", "ax"] 5 = "ax" := by decide +kernel

end Navis.Props.C13

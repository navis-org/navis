import NavisModel.Proofs.PartitionLemmas
import NavisModel.Proofs.ZipLemmas
import NavisModel.Proofs.SmartLemmas
import NavisModel.Proofs.JobSpecLemmas
import NavisModel.Gen.NblastJobs
/-!
# C09 — results are independent of cores, job partitioning and completion order

Predicates of the statements that are defined in `Proofs/JobSpecLemmas.lean`: `JobSpec.Sound`, `JobSpec.ValidEnum`.
`f r c` is the score of query `r` against target `c` (any type, any function): the theorems do not
look inside it, so they hold for every score mode and every scoring table.
-/
namespace Navis.Props.C09
open Navis.Partition Navis.Zip

/-- `np.array_split(np.arange(n), k)` concatenates back to `arange(n)` for every `n` and `k ≥ 1`. -/
theorem arraySplit_concat (n k : Nat) (hk : 0 < k) : (arraySplit n k).flatten = List.range n :=
  arraySplit_flatten n k hk

/-- **Main theorem (nblast).** For every number of queries and targets, every partition
`rows × cols` (both ≥ 1) and *every order in which the jobs complete* (any permutation of the job
list), the assembled matrix holds exactly `f r c` in every cell `(r, c)` of the matrix and nothing
outside it. -/
theorem assemble_any_order {α} (f : Nat → Nat → α) (nq nt rows cols : Nat) (hr : 0 < rows) (hc : 0 < cols)
    (done : List Job) (hperm : done.Perm (jobs nq nt rows cols)) (r c : Nat) :
    assemble f done r c = if r < nq ∧ c < nt then some (f r c) else none :=
  foldl_place_grid f hr hc (jobResult f) (fun _ => hperm.mem_iff) (fun j _ => jobResult_eq f j ▸ blockHolds_map f j)
    emptyMat r c

/-- Hence any two partitions and any two completion orders give the same matrix; in particular
every parallel run equals the serial `1 × 1` run. -/
theorem partition_and_order_irrelevant {α} (f : Nat → Nat → α) (nq nt rows cols rows' cols' : Nat)
    (hr : 0 < rows) (hc : 0 < cols) (hr' : 0 < rows') (hc' : 0 < cols')
    (done done' : List Job) (h : done.Perm (jobs nq nt rows cols)) (h' : done'.Perm (jobs nq nt rows' cols')) :
    assemble f done = assemble f done' := by
  funext r c
  rw [assemble_any_order f nq nt rows cols hr hc done h, assemble_any_order f nq nt rows' cols' hr' hc' done' h']

/-- **All-by-all.** The job-local list is *any* enumeration `enum j` of `set(qix) | set(tix)` (Python
set order is arbitrary): as long as it contains the job's indices, the local remap `ixmap` addresses
the right neurons and the assembled matrix is `f`. -/
theorem allbyall_any_enumeration {α} (f : Nat → Nat → α) (n rows cols : Nat) (hr : 0 < rows) (hc : 0 < cols)
    (enum : Job → List Nat)
    (henum : ∀ j ∈ jobs n n rows cols, (∀ x ∈ j.qix, x ∈ enum j) ∧ (∀ x ∈ j.tix, x ∈ enum j))
    (done : List Job) (hperm : done.Perm (jobs n n rows cols)) (r c : Nat) :
    assembleAll f enum done r c = if r < n ∧ c < n then some (f r c) else none :=
  foldl_place_grid f hr hc (fun j => jobResultAll f (enum j) j) (fun _ => hperm.mem_iff)
    (fun j hj => jobResultAll_eq f (enum j) j (henum j (hperm.mem_iff.mp hj)).1 (henum j (hperm.mem_iff.mp hj)).2 ▸
      blockHolds_map f j)
    emptyMat r c

/-- All-by-all equals query-against-itself for every partition and order of either. -/
theorem allbyall_eq_nblast_self {α} (f : Nat → Nat → α) (n rows cols rows' cols' : Nat)
    (hr : 0 < rows) (hc : 0 < cols) (hr' : 0 < rows') (hc' : 0 < cols')
    (enum : Job → List Nat)
    (henum : ∀ j ∈ jobs n n rows cols, (∀ x ∈ j.qix, x ∈ enum j) ∧ (∀ x ∈ j.tix, x ∈ enum j))
    (done done' : List Job) (h : done.Perm (jobs n n rows cols)) (h' : done'.Perm (jobs n n rows' cols')) :
    assembleAll f enum done = assemble f done' := by
  funext r c
  rw [allbyall_any_enumeration f n rows cols hr hc enum henum done h,
      assemble_any_order f n n rows' cols' hr' hc' done' h']

/-- The partition chosen by `find_optimal_partition` is always usable: `1 ≤ rows ≤ nq`, `1 ≤ cols ≤ nt`,
whatever the core count. -/
theorem optimal_partition_in_range (N nq nt r c : Nat) (hnt : 0 < nt)
    (h : findOptimalPartition N nq nt = some (r, c)) : 1 ≤ r ∧ r ≤ nq ∧ 1 ≤ c ∧ c ≤ nt :=
  findOptimalPartition_range N nq nt r c hnt h

/-- … and it exists whenever there is at least one query and one core. -/
theorem optimal_partition_exists (N nq nt : Nat) (hN : 0 < N) (hq : 0 < nq) :
    (findOptimalPartition N nq nt).isSome :=
  findOptimalPartition_isSome N nq nt hN hq

/-! ### Mapping a function over a NeuronList

A first, coarse model of `NeuronProcessor.__call__` (`Arg`: scalar or list; one function for all neurons; parsing cannot
fail).  Section E has the call as written (`Val`, `parseCall`, `processW`: position 0, keywords, one function per neuron,
arguments whose `len` or `[i]` raises) and a counterpart of each of the four statements below; both models end in
`Zip.collect` over the ordered list of runs, and in both the order of the results rests on `collect_in_order`, serial =
parallel on `map_chunks_flatten`. -/

/-- Per-neuron arguments are matched to the right neuron: neuron `i` receives element `i` of every
zipped argument, the whole value of every other argument. -/
theorem zip_args_matched {β} (n i : Nat) (hi : i < n) (args : List (Bool × Arg β)) :
    (parseArgs n args)[i]? = some (args.map fun (ex, a) =>
      if ex then a else match a with
        | .scalar v => .scalar v
        | .many vs => if vs.length = n then (match vs[i]? with | some v => .scalar v | none => .many vs) else .many vs) := by
  unfold parseArgs
  rw [List.getElem?_map, List.getElem?_range hi]
  refine congrArg some (List.map_congr_left ?_)
  rintro ⟨ex, a⟩ _
  cases ex with
  | true => rfl
  | false =>
    cases a with
    | scalar v => rfl
    | many vs => exact ite_not ..

/-- Results come back in list order: when nothing fails the `k`-th result is `f` of the `k`-th neuron
with the `k`-th argument vector. -/
theorem zip_results_in_order {ν β γ} (f : ν → List (Arg β) → Res γ) (nl : List ν) (args : List (Bool × Arg β))
    (omitF : Bool) (out : List γ) (hall : ∀ k (hk : k < nl.length), (f nl[k] ((parseArgs nl.length args).getD k [])).isSome)
    (h : process f nl args omitF = some out) :
    out.length = nl.length ∧ ∀ k (hk : k < nl.length), (f nl[k] ((parseArgs nl.length args).getD k [])) = out[k]? := by
  have hpl := parseArgs_length nl.length args
  have h' : collect ((nl.zip (parseArgs nl.length args)).map fun (x, a) => f x a) omitF = some out := h
  refine collect_in_order (fun k hk => f nl[k] ((parseArgs nl.length args).getD k [])) ?_ (fun k hk => ?_) hall h'
  · rw [List.length_map, List.length_zip, hpl, Nat.min_self]
  · have hk2 : k < (parseArgs nl.length args).length := hpl.symm ▸ hk
    have hz : (nl.zip (parseArgs nl.length args))[k]? = some (nl[k], (parseArgs nl.length args)[k]) :=
      List.getElem?_zip_eq_some.mpr ⟨List.getElem?_eq_getElem hk, List.getElem?_eq_getElem hk2⟩
    rw [List.getElem?_map, hz, List.getD_eq_getElem?_getD, List.getElem?_eq_getElem hk2]
    rfl

/-- `omit_failures=True` removes exactly the failing neurons and keeps the others in order. -/
theorem omit_failures_removes_only_failures {ν β γ} (f : ν → List (Arg β) → Res γ) (nl : List ν)
    (args : List (Bool × Arg β)) :
    process f nl args true =
      some ((nl.zip (parseArgs nl.length args)).filterMap fun (x, a) => f x a) := by
  unfold process
  rw [if_pos rfl, List.filterMap_map]
  rfl

/-- Serial and parallel execution agree for every chunk size (ordered `imap`). -/
theorem serial_eq_parallel {ν β γ} (f : ν → List (Arg β) → Res γ) (nl : List ν) (args : List (Bool × Arg β))
    (omitF : Bool) (cs : Nat) : processParallel f nl args omitF cs = process f nl args omitF := by
  unfold processParallel process
  simp only [map_chunks_flatten]

/-! ### Non-vacuity: concrete instances meet the hypotheses -/

example : (jobs 5 3 2 2).reverse.Perm (jobs 5 3 2 2) := List.reverse_perm _
example : jobs 5 3 2 2 = [⟨[0,1,2],[0,1]⟩, ⟨[0,1,2],[2]⟩, ⟨[3,4],[0,1]⟩, ⟨[3,4],[2]⟩] := by decide +kernel
example : assemble (fun r c => 10*r+c) (jobs 5 3 2 2).reverse 4 2 = some 42 := by decide +kernel
example : findOptimalPartition 4 3 5 = some (2, 2) := by decide +kernel
example : process (fun (x : Nat) (a : List (Arg Nat)) => if x = 2 then none else some (x, a)) [1,2,3]
    [(false, .many [7,8,9]), (true, .many [7,8,9])] true =
    some [(1, [.scalar 7, .many [7,8,9]]), (3, [.scalar 9, .many [7,8,9]])] := by decide +kernel

/-! ## A. The index expressions of the *current source* (translator: `Gen/NblastJobs.lean`)

`Gen.NblastJobs.nblast` … are the job loops of `navis/nbl/*.py` as re-extracted on this run: which array
each append loop walks, whether neuron / self hit are looked up by element or by counter, the expressions
behind `this.queries`, `this.targets`, `q_idx=`, `t_idx=`, the rows / columns of the `.iloc` placement,
which lists give the matrix its shape and labels.  `Program.run` interprets them with jobs completing in
an arbitrary order; `f x y` is the score of blaster entry `x` against `y` (an entry = which neuron of which
list + whose pre-computed self hit), so the statements cover values *and* the self hit used to
normalise them. -/
section Source
open Navis.JobSpec Navis.Gen.NblastJobs

theorem nblast_source_sound : Sound nblast true (fun _ _ => True) :=
  sound_concat nblast true "query_dps" "target_dps" rfl rfl rfl rfl rfl rfl rfl (by decide +kernel)

theorem allbyall_source_sound : Sound allbyall true ValidEnum :=
  sound_union allbyall true "dps" rfl rfl rfl rfl rfl rfl rfl rfl (by decide +kernel)

theorem smartPre_source_sound : Sound smartPre true (fun _ _ => True) :=
  sound_concat smartPre true "query_dps_simp" "target_dps_simp" rfl rfl rfl rfl rfl rfl rfl (by decide +kernel)

theorem synblast_source_sound : Sound synblast true (fun _ _ => True) :=
  sound_concat synblast true "query" "target" rfl rfl rfl rfl rfl rfl rfl (by decide +kernel)

theorem nblastAlign_source_sound : Sound nblastAlign false (fun _ _ => True) :=
  sound_concat nblastAlign false "query" "target" rfl rfl rfl rfl rfl rfl rfl (by decide +kernel)

/-- **`nblast` as written**: for every partition and every completion order the matrix assembled
through the source's own index expressions holds, in cell `(r, c)`, the score of query `r` (with query
`r`'s self hit) against target `c` (with target `c`'s self hit) — rows and columns in input order. -/
theorem nblast_source_any_order {α} (f : Ent → Ent → α) (nq nt rows cols : Nat) (hr : 0 < rows) (hc : 0 < cols)
    (enum : Job → List Nat) (done : List Job) (hperm : done.Perm (jobs nq nt rows cols)) (r c : Nat) :
    nblast.run f enum done r c =
      if r < nq ∧ c < nt then some (some (f (mkEnt true "query_dps" r) (mkEnt true "target_dps" c))) else none :=
  run_sound nblast true _ nblast_source_sound f nq nt rows cols hr hc enum (fun _ _ => trivial) done hperm r c

/-- **`nblast_allbyall` as written**, for every order in which Python enumerates
`set(qix) | set(tix)` inside each job. -/
theorem allbyall_source_any_order {α} (f : Ent → Ent → α) (n rows cols : Nat) (hr : 0 < rows) (hc : 0 < cols)
    (enum : Job → List Nat) (henum : ∀ j ∈ jobs n n rows cols, ValidEnum (enum j) j)
    (done : List Job) (hperm : done.Perm (jobs n n rows cols)) (r c : Nat) :
    allbyall.run f enum done r c =
      if r < n ∧ c < n then some (some (f (mkEnt true "dps" r) (mkEnt true "dps" c))) else none :=
  run_sound allbyall true _ allbyall_source_sound f n n rows cols hr hc enum henum done hperm r c

/-- **pre-NBLAST of `nblast_smart` as written** (on the simplified dotprops, with *their* self hits). -/
theorem smartPre_source_any_order {α} (f : Ent → Ent → α) (nq nt rows cols : Nat) (hr : 0 < rows) (hc : 0 < cols)
    (enum : Job → List Nat) (done : List Job) (hperm : done.Perm (jobs nq nt rows cols)) (r c : Nat) :
    smartPre.run f enum done r c =
      if r < nq ∧ c < nt then
        some (some (f (mkEnt true "query_dps_simp" r) (mkEnt true "target_dps_simp" c))) else none :=
  run_sound smartPre true _ smartPre_source_sound f nq nt rows cols hr hc enum (fun _ _ => trivial) done hperm r c

/-- **`synblast` as written.** -/
theorem synblast_source_any_order {α} (f : Ent → Ent → α) (nq nt rows cols : Nat) (hr : 0 < rows) (hc : 0 < cols)
    (enum : Job → List Nat) (done : List Job) (hperm : done.Perm (jobs nq nt rows cols)) (r c : Nat) :
    synblast.run f enum done r c =
      if r < nq ∧ c < nt then some (some (f (mkEnt true "query" r) (mkEnt true "target" c))) else none :=
  run_sound synblast true _ synblast_source_sound f nq nt rows cols hr hc enum (fun _ _ => trivial) done hperm r c

/-- **`nblast_align` as written** (no pre-computed self hits are passed). -/
theorem nblastAlign_source_any_order {α} (f : Ent → Ent → α) (nq nt rows cols : Nat) (hr : 0 < rows) (hc : 0 < cols)
    (enum : Job → List Nat) (done : List Job) (hperm : done.Perm (jobs nq nt rows cols)) (r c : Nat) :
    nblastAlign.run f enum done r c =
      if r < nq ∧ c < nt then some (some (f (mkEnt false "query" r) (mkEnt false "target" c))) else none :=
  run_sound nblastAlign false _ nblastAlign_source_sound f nq nt rows cols hr hc enum (fun _ _ => trivial) done hperm r c

/-- The hand-written model (`assemble`, `jobResult`) and the interpreted source agree. -/
theorem nblast_source_agrees_with_model {α} (g : Nat → Nat → α) (nq nt rows cols : Nat) (hr : 0 < rows) (hc : 0 < cols)
    (enum : Job → List Nat) (done done' : List Job) (h : done.Perm (jobs nq nt rows cols))
    (h' : done'.Perm (jobs nq nt rows cols)) (r c : Nat) :
    nblast.run (fun x y => g x.neuron.2 y.neuron.2) enum done r c = (assemble g done' r c).map some := by
  rw [nblast_source_any_order _ nq nt rows cols hr hc enum done h, assemble_any_order g nq nt rows cols hr hc done' h',
    apply_ite (Option.map some)]
  rfl

/-- The rows the source uses for `scores='both'` are `2q, 2q+1` for each query `q` of the job, the matrix has
twice as many rows as queries. -/
theorem nblast_source_both_rows :
    nblast.bothFactor = some 2 ∧
    ∃ e, nblast.bothRows = some e ∧ ∀ env : Env, e.eval env = env.j.qix.flatMap fun q => [2 * q, 2 * q + 1] :=
  ⟨rfl, _, rfl, fun env => by rw [both_rows_eval, bothRows_eq]⟩

/-- Only `nblast` has a `both` mode that is assembled from jobs. -/
theorem other_sources_have_no_both :
    allbyall.bothRows = none ∧ smartPre.bothRows = none ∧ synblast.bothRows = none ∧ nblastAlign.bothRows = none :=
  ⟨rfl, rfl, rfl, rfl⟩

/-- Full phase of `nblast_smart` as written: the extracted expressions for `this.pairs`, `this.mask`
and the job's neuron list are those of the model (`Smart.pairs`, `Smart.jobMask`, `qix ++ tix`), and the
declarative facts hold (`np.where` order, `pairs=this.pairs`, `scr[this.mask] = res` for the job that owns
the future, the single-job path uses the global mask). -/
theorem smart_source_facts :
    smartFull.declOk = true ∧
    (∀ mask j, smartFull.pairs mask j = Smart.pairs mask j) ∧
    (∀ mask j, smartFull.jobMask mask j = Smart.jobMask mask j) ∧
    (∀ j, smartFull.localList j = j.qix.map (mkEnt true "query_dps") ++ j.tix.map (mkEnt true "target_dps")) ∧
    smartFull.outerLen = "query_dps" ∧ smartFull.innerLen = "target_dps" :=
  ⟨by decide +kernel, smart_pairs_eq smartFull rfl rfl rfl rfl, smart_jobMask_eq smartFull rfl rfl,
   smart_local_eq smartFull "query_dps" "target_dps" rfl, rfl, rfl⟩

/-- `nblast_smart` — whose job loop reads `qix[0]` and therefore needs non-empty row blocks — never hands
`n_cores` to `find_batch_partition` (with it the row count may exceed the number of queries, see
`batch_partition_cores_may_exceed`; `nblast` itself tolerates empty blocks). -/
theorem smart_batch_never_gets_cores :
    (∃ sc ∈ batchCalls, sc.1 = "nblast_funcs.py:nblast_smart") ∧
    ∀ sc ∈ batchCalls, sc.1 = "nblast_funcs.py:nblast_smart" → sc.2 = false := by decide +kernel

/-- Every pool map whose results are consumed by position is an ordered one. -/
theorem ordered_maps_in_source : ∀ sm ∈ mapSites, sm.2 = "imap" ∨ sm.2 = "map" := by decide +kernel

/-- `NeuronProcessor.__call__` applies, to positional and keyword arguments alike, the rule modelled by
`Zip.parseVal`: excluded ⇒ whole; not iterable or `len(a) != len(self.nl)` ⇒ whole; else `a[i]` with `i` the
position of the neuron. -/
theorem zip_rule_in_source :
    zipOver = "self.nl" ∧ zipRules.map (·.kind) = ["args", "kwargs"] ∧
    ∀ rl ∈ zipRules, rl.excludeTestsLoopKey = true ∧ rl.iterableAndLenShape = true ∧ rl.lenOp = "NotEq" ∧
      rl.lenOf = "self.nl" ∧ rl.excludedGetsWhole = true ∧ rl.unzippedGetsWhole = true ∧
      rl.zippedIndexedByNeuronCounter = true := ⟨rfl, rfl, by decide +kernel⟩

/-- `map_neuronlist` excludes exactly the positions of the positional arguments *after* the neuron list
(`proc(nl, *args, **kwargs)`: position 0 is the list), as `Zip.mapNeuronlist` does, and keeps a keyword
zippable only if it is named in `can_zip` / `must_zip`. -/
theorem map_neuronlist_excl_in_source (nargs : Nat) :
    procCalledWithListFirst = true ∧ exclKeywordUnlessIn = ["can_zip", "must_zip"] ∧
    List.range' exclPosStart (nargs + exclPosStopPlus - exclPosStart) = List.range' 1 nargs :=
  ⟨rfl, rfl, by simp [exclPosStart, exclPosStopPlus]⟩

end Source

/-! ## B. `scores='both'` -/

/-- **`nblast(scores='both')`**: every job returns the `hstack` + `reshape` interleaving of its forward and
reverse blocks and it is written to rows `np.repeat(2·qix, 2)` with `[1::2] += 1`.  For every partition and
completion order row `2r` of the result is the forward, row `2r+1` the reverse score of query `r`. -/
theorem assemble_both_any_order {α} (f : Nat → Nat → α × α) (nq nt rows cols : Nat) (hr : 0 < rows) (hc : 0 < cols)
    (done : List Job) (hperm : done.Perm (jobs nq nt rows cols)) (R c : Nat) :
    assembleBoth f done R c =
      if R < 2 * nq ∧ c < nt then some (if R % 2 = 0 then (f (R / 2) c).1 else (f (R / 2) c).2) else none := by
  unfold assembleBoth assembleBlocks
  rw [List.foldl_map, foldl_place (fun R c => if R % 2 = 0 then (f (R / 2) c).1 else (f (R / 2) c).2) bothJob
    (jobResultBoth f) done (fun j _ => jobResultBoth_eq f j ▸ blockHolds_map _ (bothJob j))]
  have hR : R / 2 < nq ↔ R < 2 * nq := by rw [Nat.div_lt_iff_lt_mul (by decide), Nat.mul_comm]
  simp only [bothJob, mem_bothRows, covered_iff hr hc (fun _ => hperm.mem_iff), hR]
  rfl

/-- … hence independent of partition and order, and equal to the single-job result. -/
theorem both_partition_and_order_irrelevant {α} (f : Nat → Nat → α × α) (nq nt rows cols rows' cols' : Nat)
    (hr : 0 < rows) (hc : 0 < cols) (hr' : 0 < rows') (hc' : 0 < cols')
    (done done' : List Job) (h : done.Perm (jobs nq nt rows cols)) (h' : done'.Perm (jobs nq nt rows' cols')) :
    assembleBoth f done = assembleBoth f done' := by
  funext R c
  rw [assemble_both_any_order f nq nt rows cols hr hc done h, assemble_both_any_order f nq nt rows' cols' hr' hc' done' h']

/-! ## C. smart NBLAST -/
section SmartSec
open Navis.Smart

/-- **Full phase of `nblast_smart`.** For *every* selection mask, every partition with `1 ≤ rows ≤ |q|`,
`1 ≤ cols ≤ |t|` and every completion order, navis does not raise and each refined score lands in its own
`(query, target)` cell; unselected cells keep their pre-NBLAST score. -/
theorem smart_refine_any_order {α} (g : Nat → Nat → α) (mask : Nat → Nat → Bool) (nq nt rows cols : Nat)
    (hr : 0 < rows) (hrq : rows ≤ nq) (hc : 0 < cols) (hct : cols ≤ nt) (scr : Mat α)
    (done : List Job) (hperm : done.Perm (jobs nq nt rows cols)) :
    ∃ s, refine g mask nq nt scr done = some s ∧
      ∀ r c, s r c = if r < nq ∧ c < nt ∧ mask r c = true then some (g r c) else scr r c := by
  refine ⟨_, foldl_bind_some _ (fun m (j : Job) r c =>
      if (r ∈ j.qix ∧ c ∈ j.tix) ∧ mask r c = true then some (g r c) else m r c) done
    (fun j hj m => by
      -- with `1 ≤ rows ≤ |q|`, `1 ≤ cols ≤ |t|` no chunk is empty, so no job of the grid raises
      obtain ⟨a, ha, b, hb, rfl⟩ := mem_jobs.mp (hperm.mem_iff.mp hj)
      exact placeJob_block g mask nq nt _ _ _ _ (chunkSize_pos nq rows a hr hrq) (chunkSize_pos nt cols b hc hct)
        (chunk_end_le nq rows a ha) (chunk_end_le nt cols b hb) m)
    scr, fun r c => ?_⟩
  have hcov : (∃ j ∈ done, (r ∈ j.qix ∧ c ∈ j.tix) ∧ mask r c = true) ↔ r < nq ∧ c < nt ∧ mask r c = true := by
    rw [← and_assoc, ← covered_iff hr hc (fun _ => hperm.mem_iff)]
    exact ⟨fun ⟨j, hj, h, hm⟩ => ⟨⟨j, hj, h⟩, hm⟩, fun ⟨⟨j, hj, h⟩, hm⟩ => ⟨j, hj, h, hm⟩⟩
  rw [foldl_overwrite (fun (j : Job) r c => (r ∈ j.qix ∧ c ∈ j.tix) ∧ mask r c = true) g _ done fun _ _ _ _ _ => rfl]
  simp only [hcov]

/-- The single-job path (`scr[mask] = this.pair_query_target(this.pairs)`) gives the same matrix. -/
theorem smart_refine_serial {α} (g : Nat → Nat → α) (mask : Nat → Nat → Bool) (nq nt : Nat) (scr : Mat α) (r c : Nat) :
    refineSerial g mask nq nt scr r c = if r < nq ∧ c < nt ∧ mask r c = true then some (g r c) else scr r c := by
  have hvals : jobScores g mask ⟨List.range nq, List.range nt⟩ = (maskCells nq nt mask).map fun x => g x.1 x.2 := by
    have hj : (⟨List.range nq, List.range nt⟩ : Job) = blockJob 0 nq 0 nt := by
      rw [blockJob, List.range_eq_range', List.range_eq_range']
    -- at offset 0 the local coordinates of `np.where(submask)` are the global ones
    rw [hj, jobScores_block]
    simp only [Nat.zero_add]
  exact placeMask_spec scr nq nt mask (fun x => g x.1 x.2) _ hvals r c

/-- **`nblast_smart` end to end**: pre-NBLAST assembled from jobs finishing in order `done1` (any partition),
selection by *any* function of the pre-NBLAST matrix (percentile, score, top-N …), refinement from jobs
finishing in order `done2` (any admissible partition): the result is fixed by the inputs alone. -/
theorem smart_any_partition_any_order {α} (pre g : Nat → Nat → α) (select : Mat α → Nat → Nat → Bool)
    (nq nt rows1 cols1 rows2 cols2 : Nat) (hr1 : 0 < rows1) (hc1 : 0 < cols1)
    (hr2 : 0 < rows2) (hrq2 : rows2 ≤ nq) (hc2 : 0 < cols2) (hct2 : cols2 ≤ nt)
    (done1 done2 : List Job) (h1 : done1.Perm (jobs nq nt rows1 cols1)) (h2 : done2.Perm (jobs nq nt rows2 cols2)) :
    ∃ s, smart pre g select nq nt done1 done2 = some s ∧
      ∀ r c, s r c =
        if r < nq ∧ c < nt then
          some (if select (fun r c => if r < nq ∧ c < nt then some (pre r c) else none) r c = true
                then g r c else pre r c)
        else none := by
  unfold smart
  rw [show assemble pre done1 = fun r c => if r < nq ∧ c < nt then some (pre r c) else none from
    funext fun r => funext fun c => assemble_any_order pre nq nt rows1 cols1 hr1 hc1 done1 h1 r c]
  obtain ⟨s, hs, hspec⟩ := smart_refine_any_order g (select _) nq nt rows2 cols2 hr2 hrq2 hc2 hct2 _ done2 h2
  refine ⟨s, hs, fun r c => ?_⟩
  rw [hspec]
  by_cases hrc : r < nq ∧ c < nt
  · rw [if_pos hrc, if_pos hrc]
    by_cases hm : select (fun r c => if r < nq ∧ c < nt then some (pre r c) else none) r c = true
    · rw [if_pos ⟨hrc.1, hrc.2, hm⟩, if_pos hm]
    · rw [if_neg fun h => hm h.2.2, if_neg hm]
  · rw [if_neg hrc, if_neg (fun h => hrc ⟨h.1, h.2.1⟩), if_neg hrc]

/-- An empty row block makes navis raise (`qix[0]`): the range theorems of section D are needed. -/
example : refine (fun r c => r + c) (fun _ _ => true) 1 2 emptyMat (jobs 1 2 2 1) = none := by decide +kernel

example : (refine (fun r c => 10 * r + c) (fun r c => r == c) 3 3 (fun _ _ => some 0) (jobs 3 3 2 2).reverse).map
    (fun s => [s 0 0, s 0 1, s 1 1, s 2 2, s 2 1]) = some [some 0, some 0, some 11, some 22, some 0] := by decide +kernel

end SmartSec

/-! ## D. The partition functions -/

/-- The `while (n_rows * n_cols) % n_cores: n_rows += 1` loop of `find_batch_partition` ends after fewer
than `n_cores` increments, on a multiple of `n_cores`. -/
theorem batch_loop_terminates (cols n rows : Nat) (hn : 0 < n) :
    (batchRowsLoop cols n n rows * cols) % n = 0 ∧ batchRowsLoop cols n n rows < rows + n := by
  obtain ⟨_, hmin, hstop⟩ := batchRowsLoop_spec cols n n rows
  -- `n * q`, the first multiple of `n` from `rows` on, stops the loop
  have hdm := Nat.div_add_mod (rows + n - 1) n
  have hlt := Nat.mod_lt (rows + n - 1) hn
  generalize (rows + n - 1) / n = q at hdm
  have hq : rows ≤ n * q ∧ n * q < rows + n := by omega
  have hle : batchRowsLoop cols n n rows ≤ n * q :=
    Nat.le_of_not_lt fun h => hmin (n * q) hq.1 h (by rw [Nat.mul_assoc]; exact Nat.mul_mod_right _ _)
  have hlt' := Nat.lt_of_le_of_lt hle hq.2
  exact ⟨hstop.resolve_right (Nat.ne_of_lt hlt'), hlt'⟩

/-- `find_batch_partition` as navis calls it (without `n_cores`): `1 ≤ rows ≤ |q|`, `1 ≤ cols ≤ |t|` for
every timing measurement. -/
theorem batch_partition_in_range (npb nq nt : Nat) (hq : 0 < nq) (ht : 0 < nt) :
    1 ≤ (findBatchPartition npb nq nt none).1 ∧ (findBatchPartition npb nq nt none).1 ≤ nq ∧
    1 ≤ (findBatchPartition npb nq nt none).2 ∧ (findBatchPartition npb nq nt none).2 ≤ nt := by
  rw [findBatchPartition_none]
  exact ⟨Nat.le_max_left _ _, Nat.max_le.mpr ⟨hq, Nat.div_le_self _ _⟩,
    Nat.le_max_left _ _, Nat.max_le.mpr ⟨ht, Nat.div_le_self _ _⟩⟩

/-- With `n_cores`: columns unchanged; rows only grow, by less than `n_cores`, to the *first* count that
makes the number of jobs a multiple of `n_cores` — and only if there are more jobs than cores. -/
theorem batch_partition_cores (npb nq nt n : Nat) :
    let base := max 1 (nq / npb)
    let cols := max 1 (nt / npb)
    let rc := findBatchPartition npb nq nt (some n)
    rc.2 = cols ∧ base ≤ rc.1 ∧
      (n ≠ 0 ∧ base * cols > n → (rc.1 * rc.2) % n = 0 ∧ rc.1 < base + n ∧
          ∀ r, base ≤ r → r < rc.1 → (r * cols) % n ≠ 0) ∧
      (¬ (n ≠ 0 ∧ base * cols > n) → rc.1 = base) := by
  intro base cols rc
  by_cases h : n ≠ 0 ∧ base * cols > n
  · have hrc : rc = (batchRowsLoop cols n n base, cols) := if_pos h
    obtain ⟨h1, h3, _⟩ := batchRowsLoop_spec cols n n base
    obtain ⟨t1, t2⟩ := batch_loop_terminates cols n base (Nat.pos_of_ne_zero h.1)
    rw [hrc]
    exact ⟨rfl, h1, fun _ => ⟨t1, t2, h3⟩, fun hn => absurd h hn⟩
  · have hrc : rc = (base, cols) := if_neg h
    rw [hrc]
    exact ⟨rfl, Nat.le_refl _, fun hp => absurd hp h, fun _ => rfl⟩

/-- … in which case `rows ≤ |q|` is *not* guaranteed (3 queries, 4 cores ⇒ 4 row blocks). -/
theorem batch_partition_cores_may_exceed : findBatchPartition 1 3 3 (some 4) = (4, 3) := by decide +kernel

/-- `find_optimal_partition`: `rows` divides `n_cores`, `cols = min(n_cores / rows, |t|)`, never more jobs
than cores. -/
theorem optimal_partition_cores (N nq nt r c : Nat) (h : findOptimalPartition N nq nt = some (r, c)) :
    N % r = 0 ∧ c = min (N / r) nt ∧ r * c ≤ N := by
  obtain ⟨_, _, h3, _, h5⟩ := mem_optCandidates (argminFirst_mem _ _ _ h)
  refine ⟨h3, h5, ?_⟩
  subst h5
  exact Nat.le_trans (Nat.mul_le_mul_left r (Nat.min_le_left _ _)) (Nat.mul_div_le N r)

/-- Whatever `n_cores`, `progress` and the timing measurement: the partition `nblast` ends up with exists
and satisfies `1 ≤ rows ≤ |q|`, `1 ≤ cols ≤ |t|`. -/
theorem nblast_partition_in_range (ncores : Option Nat) (progress : Bool) (npbP npbM nq nt : Nat)
    (hq : 0 < nq) (ht : 0 < nt) :
    ∃ r c, chooseNblast ncores progress npbP npbM nq nt = some (r, c) ∧ 1 ≤ r ∧ r ≤ nq ∧ 1 ≤ c ∧ c ≤ nt := by
  have one : Usable nq nt (some (1, 1)) := usable_some ⟨Nat.le_refl 1, hq, Nat.le_refl 1, ht⟩
  have batch := fun npb => usable_some (batch_partition_in_range npb nq nt hq ht)
  unfold chooseNblast
  cases ncores with
  | none => exact one
  | some n =>
    dsimp only
    by_cases hn : n > 1
    · rw [if_pos hn]
      cases progress with
      | true => exact batch npbP
      | false =>
        rw [if_neg Bool.false_ne_true]
        split
        · exact findOptimalPartition_usable n nq nt (Nat.lt_trans Nat.zero_lt_one hn) hq ht
        · exact batch npbM
    · rw [if_neg hn]; exact one

/-- Same for `nblast_allbyall`, `nblast_smart`, `synblast`. -/
theorem simple_partition_in_range (ncores : Option Nat) (progress : Bool) (npbP nq nt : Nat)
    (hq : 0 < nq) (ht : 0 < nt) :
    ∃ r c, chooseSimple ncores progress npbP nq nt = some (r, c) ∧ 1 ≤ r ∧ r ≤ nq ∧ 1 ≤ c ∧ c ≤ nt := by
  have one : Usable nq nt (some (1, 1)) := usable_some ⟨Nat.le_refl 1, hq, Nat.le_refl 1, ht⟩
  unfold chooseSimple
  cases ncores with
  | none => exact one
  | some n =>
    dsimp only
    by_cases hn : n > 1
    · rw [if_pos hn]
      cases progress with
      | true => exact usable_some (batch_partition_in_range npbP nq nt hq ht)
      | false => exact findOptimalPartition_usable n nq nt (Nat.lt_trans Nat.zero_lt_one hn) hq ht
    · rw [if_neg hn]; exact one

/-- `n_cores`, `progress` and timing never change the `nblast` result (placement theorem + range theorem). -/
theorem nblast_cores_irrelevant {α} (f : Nat → Nat → α) (nq nt : Nat) (hq : 0 < nq) (ht : 0 < nt)
    (nc nc' : Option Nat) (pg pg' : Bool) (p1 p2 p1' p2' : Nat) :
    ∃ r c r' c', chooseNblast nc pg p1 p2 nq nt = some (r, c) ∧ chooseNblast nc' pg' p1' p2' nq nt = some (r', c') ∧
      ∀ done done', done.Perm (jobs nq nt r c) → done'.Perm (jobs nq nt r' c') → assemble f done = assemble f done' := by
  obtain ⟨r, c, h, h1, _, h3, _⟩ := nblast_partition_in_range nc pg p1 p2 nq nt hq ht
  obtain ⟨r', c', h', h1', _, h3', _⟩ := nblast_partition_in_range nc' pg' p1' p2' nq nt hq ht
  exact ⟨r, c, r', c', h, h', fun done done' hd hd' =>
    partition_and_order_irrelevant f nq nt r c r' c' h1 h3 h1' h3' done done' hd hd'⟩

/-! ## E. `NeuronProcessor.__call__` / `map_neuronlist` as written -/

/-- The zip rule for sequences (list, tuple, ndarray, NeuronList): one element per neuron ⇒ neuron `i` gets
element `i`; any other length ⇒ every neuron gets the whole value. -/
theorem zip_rule_seq {β} (n i : Nat) (vs : List β) (hi : i < n) :
    (∀ h : vs.length = n, parseVal n i false (.seq vs) = some (.atom (vs[i]'(by omega)))) ∧
    (vs.length ≠ n → parseVal n i false (.seq vs) = some (.seq vs)) :=
  ⟨fun h => parseVal_seq_match n i vs h hi, fun h => by simp [parseVal, Val.isIterable, Val.len?, h]⟩

/-- `None`, numbers, strings (whatever their length), DataFrames and everything listed in `exclude_zip` are
passed to every neuron unchanged. -/
theorem zip_rule_whole {β} (n i : Nat) (a : Val β) :
    parseVal n i true a = some a ∧ (a.isIterable = false → ∀ ex, parseVal n i ex a = some a) :=
  ⟨by simp [parseVal], fun h ex => by cases ex <;> simp [parseVal, h]⟩

/-- A dict with as many keys as neurons is looked up *by key* `i` (a missing key makes the call raise before
any neuron is processed); generators and sets of matching size raise as well. -/
theorem zip_rule_dict {β} (n i : Nat) (kvs : List (Nat × β)) (o : Nat) (h : kvs.length + o = n) :
    parseVal n i false (.dict kvs o) = (kvs.lookup i).map .atom ∧
    parseVal n i false (Val.unsized : Val β) = none ∧ parseVal n i false (Val.unindexable n : Val β) = none :=
  ⟨by simp [parseVal, Val.isIterable, Val.len?, Val.index?, h], by simp [parseVal, Val.isIterable, Val.len?],
   by simp [parseVal, Val.isIterable, Val.len?, Val.index?]⟩

/-- What neuron `i`'s call looks like: unless position 0 is excluded the first argument is neuron `i`
itself; positional argument `k` (counted after the list) and every keyword follow the zip rule. -/
theorem zipW_call_spec {ν β} (nl : List ν) (exclPos : List Nat) (exclKw : List String)
    (args : List (Val β)) (kwargs : List (String × Val β)) (i : Nat) (c : Call ν β)
    (h : parseCall nl exclPos exclKw args kwargs i = some c) :
    (0 ∉ exclPos → c.first = (nl[i]?).elim (.inr []) .inl ∧ (nl[i]?).isSome) ∧
    c.args.length = args.length ∧
    (∀ k (hk : k < args.length), c.args[k]? = parseVal nl.length i (decide (k + 1 ∈ exclPos)) args[k]) ∧
    c.kwargs.length = kwargs.length ∧
    (∀ k (hk : k < kwargs.length), c.kwargs[k]? =
        (parseVal nl.length i (decide (kwargs[k].1 ∈ exclKw)) kwargs[k].2).map fun v => (kwargs[k].1, v)) := by
  unfold parseCall at h
  split at h
  · rename_i first as kws hfirst has hkws
    cases h
    obtain ⟨hl1, hg1⟩ := mapM_some_spec _ _ _ has
    obtain ⟨hl2, hg2⟩ := mapM_some_spec _ _ _ hkws
    rw [List.length_zipIdx] at hl1
    refine ⟨fun h0 => ?_, hl1, fun k hk => ?_, hl2, hg2⟩
    · unfold parseFirst at hfirst
      rw [if_neg h0] at hfirst
      obtain ⟨x, hx, rfl⟩ := Option.map_eq_some_iff.mp hfirst
      rw [hx]
      exact ⟨rfl, rfl⟩
    · rw [hg1 k (by rw [List.length_zipIdx]; exact hk), List.getElem_zipIdx, Nat.add_comm 1 k]
  · cases h

/-- Results in list order, each from its own function and its own call. -/
theorem zipW_results_in_order {ν β γ} (f : Nat → Call ν β → Res γ) (nl : List ν) (exclPos : List Nat)
    (exclKw : List String) (args : List (Val β)) (kwargs : List (String × Val β)) (omitF : Bool)
    (calls : List (Call ν β)) (hcalls : (List.range nl.length).mapM (parseCall nl exclPos exclKw args kwargs) = some calls)
    (hall : ∀ k (hk : k < calls.length), (f k calls[k]).isSome) (out : List γ)
    (h : processW f nl exclPos exclKw args kwargs omitF = some out) :
    out.length = nl.length ∧ ∀ k (hk : k < calls.length), f k calls[k] = out[k]? := by
  have hlen := (mapM_some_spec _ _ _ hcalls).1
  rw [List.length_range] at hlen
  unfold processW at h
  rw [hcalls] at h
  have := collect_in_order (fun k hk => f k calls[k]) (by rw [List.length_map, List.length_zipIdx])
    (fun k hk => by
      rw [List.getElem?_map, List.getElem?_zipIdx, List.getElem?_eq_getElem hk, Option.map_some, Option.map_some,
        Nat.zero_add])
    hall h
  exact ⟨this.1.trans hlen, this.2⟩

/-- `omit_failures=True`: exactly the failing runs disappear, the rest keeps its order. -/
theorem zipW_omit_failures {ν β γ} (f : Nat → Call ν β → Res γ) (nl : List ν) (exclPos : List Nat)
    (exclKw : List String) (args : List (Val β)) (kwargs : List (String × Val β)) :
    processW f nl exclPos exclKw args kwargs true =
      ((List.range nl.length).mapM (parseCall nl exclPos exclKw args kwargs)).map fun calls =>
        calls.zipIdx.filterMap fun p => f p.2 p.1 := by
  unfold processW
  cases (List.range nl.length).mapM (parseCall nl exclPos exclKw args kwargs) with
  | none => rfl
  | some calls =>
    show collect _ true = _
    unfold collect
    rw [if_pos rfl, List.filterMap_map]
    rfl

/-- `parallel=True` (ordered `imap`) with any chunk size — and any number of workers, which the model does
not even mention — returns what the serial loop returns, failures and exceptions included. -/
theorem zipW_serial_eq_parallel {ν β γ} (f : Nat → Call ν β → Res γ) (nl : List ν) (exclPos : List Nat)
    (exclKw : List String) (args : List (Val β)) (kwargs : List (String × Val β)) (omitF : Bool) (cs : Nat) :
    processWParallel f nl exclPos exclKw args kwargs omitF cs = processW f nl exclPos exclKw args kwargs omitF := by
  unfold processWParallel processW
  simp only [map_chunks_flatten]

/-- When every run returns a neuron the result is the NeuronList of those neurons in that order. -/
theorem finish_neurons_in_order {ν γ} (xs : List ν) : finish (xs.map (Ret.neuron (γ := γ))) = .neuronlist xs := by
  have hall : (xs.map (Ret.neuron (γ := γ))).all Ret.isNeuron = true :=
    List.all_eq_true.mpr (List.forall_mem_map.mpr fun _ _ => rfl)
  unfold finish
  rw [if_pos hall, List.flatMap_map]
  exact congrArg _ (List.flatMap_singleton' xs)

/-- `map_neuronlist`: if the wrapper gets as far as calling the processor, (1) the positions excluded from
zipping are exactly `1 … nargs` — never position 0, the list itself; (2) no `can_zip` / `must_zip` keyword is
excluded; (3) every `must_zip` value has one entry per neuron; (4) every iterable `can_zip` value has. -/
theorem map_neuronlist_plan {β} (cfg : MapCfg) (n nargs : Nat) (kwargs : List (String × Val β)) (parallel : Bool)
    (inplaceKw omitKw : Option Bool) (plan : MapPlan)
    (h : mapNeuronlist cfg n nargs kwargs parallel inplaceKw omitKw = .ok plan) :
    plan.exclPos = List.range' 1 nargs ∧ 0 ∉ plan.exclPos ∧
    (∀ k ∈ plan.exclKw, ¬ k ∈ cfg.canZip ∧ ¬ k ∈ cfg.mustZip) ∧
    (∀ p ∈ cfg.mustZip, ∀ v, kwargs.lookup p = some v → v ≠ .pyNone → v.makeIterableLen = some n) ∧
    (∀ p ∈ cfg.canZip, ∀ v, kwargs.lookup p = some v → v.isIterable = true → v.len? = some n) := by
  unfold mapNeuronlist at h
  have h := ok_of_ite_error h
  dsimp only at h
  -- the two validation lists must be empty
  generalize hcan : List.filterMap _ cfg.canZip = canBad at h
  cases canBad with
  | cons _ _ => cases h
  | nil =>
    dsimp only at h
    generalize hmust : List.filterMap _ cfg.mustZip = mustBad at h
    cases mustBad with
    | cons _ _ => cases h
    | nil =>
      cases h
      refine ⟨rfl, ?_, fun k hk => ?_, fun p hp v hv hnn => ?_, fun p hp v hv hit => ?_⟩
      · exact fun h0 => absurd (List.mem_range'_1.mp h0).1 (by decide)
      · simpa using (List.mem_filter.mp hk).2
      -- so the test of keyword `p` reported nothing
      · have := List.filterMap_eq_nil_iff.mp hmust p hp
        rw [hv] at this
        cases v with
        | pyNone => exact absurd rfl hnn
        | unsized => cases this
        | atom _ | seq _ | dict _ _ | unindexable _ => exact congrArg some (eq_of_ite_ne_none this)
      · have := List.filterMap_eq_nil_iff.mp hcan p hp
        rw [hv] at this
        cases v with
        | pyNone | atom _ => cases hit
        | unsized => cases this
        | seq _ | dict _ _ | unindexable _ => exact congrArg some (eq_of_ite_ne_none this)

/-- Hence a `must_zip` list survives validation only with one value per neuron, is not excluded, and neuron
`i` receives value `i`. -/
theorem map_neuronlist_mustzip_matched {β} (cfg : MapCfg) (n nargs : Nat) (kwargs : List (String × Val β))
    (parallel : Bool) (inplaceKw omitKw : Option Bool) (plan : MapPlan)
    (h : mapNeuronlist cfg n nargs kwargs parallel inplaceKw omitKw = .ok plan)
    (p : String) (hp : p ∈ cfg.mustZip) (vs : List β) (hv : kwargs.lookup p = some (.seq vs)) (i : Nat) (hi : i < n) :
    ∃ hlen : vs.length = n,
      parseVal n i (decide (p ∈ plan.exclKw)) (.seq vs) = some (.atom (vs[i]'(by omega))) := by
  obtain ⟨_, _, h2, h3, _⟩ := map_neuronlist_plan cfg n nargs kwargs parallel inplaceKw omitKw plan h
  have hlen : vs.length = n := Option.some.inj (h3 p hp _ hv nofun)
  refine ⟨hlen, ?_⟩
  have hne : ¬ p ∈ plan.exclKw := fun hk => (h2 p hk).2 hp
  rw [decide_eq_false hne]
  exact parseVal_seq_match n i vs hlen hi

/-! ### Non-vacuity (sections A, B, D, E; the examples for C stand in C) -/

example : (jobs 4 3 2 2).reverse.Perm (jobs 4 3 2 2) := List.reverse_perm _
example : assembleBoth (fun r c => (10 * r + c, 100 + 10 * r + c)) (jobs 3 2 2 1).reverse 5 1 = some 121 := by decide +kernel
example : assembleBoth (fun r c => (10 * r + c, 100 + 10 * r + c)) (jobs 3 2 2 1).reverse 4 1 = some 21 := by decide +kernel
example : bothRows [3, 4] = [6, 7, 8, 9] := by decide +kernel
example : Navis.JobSpec.ValidEnum [5, 3, 4, 9] ⟨[3, 4], [5]⟩ := ⟨by decide +kernel, by decide +kernel⟩
example : chooseNblast (some 4) false 3 1 3 5 = some (3, 5) := by decide +kernel
example : chooseNblast (some 8) false 3 9 3 5 = some (2, 4) := by decide +kernel
example : findBatchPartition 2 9 9 (some 5) = (5, 4) := by decide +kernel
example : mapNeuronlist (β := Nat) ⟨["cz"], ["mz"], true, true, false⟩ 3 2
    [("mz", .seq [1, 2, 3]), ("other", .seq [1, 2, 3])] true none none =
    .ok ⟨[1, 2], ["other", "inplace"], ["mz", "other", "inplace"], true, false, false⟩ := by rfl
example : mapNeuronlist (β := Nat) ⟨["cz"], ["mz"], true, true, false⟩ 3 0
    [("mz", .seq [1, 2])] false none none = .error .mustZipLen := by rfl
example : processW (fun i (c : Call Nat Nat) => if i = 1 then none else some (c.first, c.args)) [7, 8, 9] [2] []
    [.seq [1, 2, 3], .seq [1, 2, 3], .atom 5] [] true =
    some [(.inl 7, [.atom 1, .seq [1, 2, 3], .atom 5]), (.inl 9, [.atom 3, .seq [1, 2, 3], .atom 5])] := by decide +kernel

/-! ### `map_neuronlist_df` (`segment_analysis` on a NeuronList)

The surviving frames are zipped with the *surviving* neurons
(`ok = [n for n, failed in zip(nl, proc.failed) if not failed]`). -/

/-- **Full strength**: with `omit_failures=True`, for every failure pattern, each surviving neuron's frame
carries that neuron's own id, in list order; failing neurons remove only themselves (if nothing survives
`pd.concat([])` raises). -/
theorem mapdf_labels {ν γ} (f : ν → Res γ) (nl : List ν) :
    mapDfW f nl true =
      if (nl.filterMap f).isEmpty then none else some (nl.filterMap fun x => (f x).map fun v => (x, v)) := by
  unfold mapDfW collect
  rw [if_pos rfl, Option.bind_some, survivors_zip, List.filterMap_map]
  rfl

/-- Without failures the same holds whatever `omit_failures` is … -/
theorem mapdf_labels_no_failure {ν γ} (g : ν → γ) (nl : List ν) (hne : nl ≠ []) (omitF : Bool) :
    mapDfW (fun x => some (g x)) nl omitF = some (nl.map fun x => (x, g x)) := by
  have hall : (nl.map fun x => some (g x)).all Option.isSome = true :=
    List.all_eq_true.mpr (List.forall_mem_map.mpr fun _ _ => rfl)
  unfold mapDfW collect
  rw [if_pos hall, ite_self, Option.bind_some, survivors_zip]
  simp [List.filterMap_map, hne]

/-- … and without `omit_failures` one failing neuron makes the whole call raise. -/
theorem mapdf_strict_failure {ν γ} (f : ν → Res γ) (nl : List ν) (h : ∃ x ∈ nl, f x = none) :
    mapDfW f nl false = none := by
  obtain ⟨x, hx, hfx⟩ := h
  have hall : ¬ (nl.map f).all Option.isSome = true := fun hall => by
    have := List.all_eq_true.mp hall (f x) (List.mem_map.mpr ⟨x, hx, rfl⟩)
    rw [hfx] at this
    cases this
  unfold mapDfW collect
  rw [if_neg Bool.false_ne_true, if_neg hall]
  rfl

/-- **Tie to the source**: what the translator reads off the *current* `map_neuronlist_df` /
`NeuronProcessor.__call__` (zip partner of the results = the survivors, computed from `proc.failed`, which the
processor records before dropping the failed runs) labels correctly for every failure pattern.  Reverting
fix 88dbed7 turns `Gen.NblastJobs.dfFacts.zipPartner` into `"list"`, `mapDfOf` into `mapDfPreFix`, and this
theorem stops checking. -/
theorem mapdf_source_labels {ν γ} (f : ν → Res γ) (nl : List ν) :
    mapDfOf Navis.Gen.NblastJobs.dfFacts f nl true =
      if (nl.filterMap f).isEmpty then none else some (nl.filterMap fun x => (f x).map fun v => (x, v)) := by
  have : mapDfOf Navis.Gen.NblastJobs.dfFacts f nl true = mapDfW f nl true := by
    unfold mapDfOf
    rw [if_pos (by decide +kernel)]
  rw [this]; exact mapdf_labels f nl

/-- HISTORICAL witness (the labelling before fix 88dbed7 was wrong): neurons 0, 1, 2, neuron 1 fails —
`zip(nl, res)` labels neuron 2's frame (value 20) with id 1 and loses id 2; the repaired code does not. -/
theorem mapdf_labels_counterexample :
    mapDfPreFix (fun x => if x = 1 then none else some (10 * x)) [0, 1, 2] true = some [(0, 0), (1, 20)] ∧
    mapDfW (fun x => if x = 1 then none else some (10 * x)) [0, 1, 2] true = some [(0, 0), (2, 20)] := by
  decide +kernel

/-! ### The in-place swap of `map_neuronlist` (tie to the source)

`Gen.NblastJobs.swapFacts` is the `if` guarding `nl.neurons = res.neurons` as it stands in the source. -/

/-- The swap happens exactly when `inplace` is true — for serial and parallel runs alike — and otherwise the
result list is returned: no combination of the flags leaves the input list untouched *and* returned. -/
theorem map_neuronlist_swap_in_source :
    Navis.Gen.NblastJobs.swapFacts.swapAssignsResultNeurons = true ∧
    Navis.Gen.NblastJobs.swapFacts.elseReturnsResult = true ∧
    ∀ inplace parallel, swapOf Navis.Gen.NblastJobs.swapFacts inplace parallel = some inplace := by
  refine ⟨rfl, rfl, ?_⟩
  intro i p; cases i <;> cases p <;> rfl

/-- Hence, for every input list and every processor result `res` (the survivors' results in list order, see
`zipW_omit_failures`): the returned list holds exactly `res`; it *is* the input list iff `inplace`; the input
list afterwards holds `res` iff `inplace` and is unchanged otherwise — whatever `parallel` is. -/
theorem map_neuronlist_swap_outcome {ν} (inplace parallel : Bool) (nl res : List ν) :
    swapOutcome (swapOf Navis.Gen.NblastJobs.swapFacts inplace parallel) nl res =
      (inplace, res, if inplace then res else nl) := by
  rw [map_neuronlist_swap_in_source.2.2 inplace parallel]
  cases inplace <;> rfl

/-- Serial and parallel runs end in the same observable state. -/
theorem map_neuronlist_swap_serial_eq_parallel {ν} (inplace : Bool) (nl res : List ν) :
    swapOutcome (swapOf Navis.Gen.NblastJobs.swapFacts inplace false) nl res =
    swapOutcome (swapOf Navis.Gen.NblastJobs.swapFacts inplace true) nl res := by
  rw [map_neuronlist_swap_outcome, map_neuronlist_swap_outcome]

/-- Whatever `swapInplace` a plan holds, the extracted swap test takes the branch that flag names (this holds for
every Boolean: the hypothesis that the plan comes from `mapNeuronlist` is not used). -/
theorem map_neuronlist_plan_swap {β} (cfg : MapCfg) (n nargs : Nat) (kwargs : List (String × Val β)) (parallel : Bool)
    (inplaceKw omitKw : Option Bool) (plan : MapPlan)
    (_h : mapNeuronlist cfg n nargs kwargs parallel inplaceKw omitKw = .ok plan) :
    swapOf Navis.Gen.NblastJobs.swapFacts plan.swapInplace parallel = some plan.swapInplace :=
  map_neuronlist_swap_in_source.2.2 _ _

/-- What a guard `inplace and parallel` / `elif not inplace` would do to a serial in-place run: neither branch. -/
example : swapOf ⟨.and .inplace .parallel, some (.not .inplace), true, true⟩ true false = none := by decide +kernel
example : swapOutcome (none : Option Bool) [1, 2, 3] [1, 3] = (true, [1, 2, 3], [1, 2, 3]) := by decide +kernel

end Navis.Props.C09

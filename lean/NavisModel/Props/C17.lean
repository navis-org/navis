import NavisModel.Proofs.FlowLemmas
import NavisModel.Proofs.FlowPathLemmas
import NavisModel.Proofs.TortuosityLemmas
import NavisModel.Proofs.SegRealLemmas
import NavisModel.Proofs.SegAnalysisLemmas
import NavisModel.Proofs.MmetricsGenLemmas
/-!
# C17 — morphometrics obey their defining recurrences and path counts

`navis/morpho/mmetrics.py` over the forest model (`WF t`: the rank form of well-formedness, DESIGN §2.4; synapses are
lists of node ids, one entry per synapse).  What is proved, by subject:
* **Strahler index** (`Model/Prune.lean`): the index is the one solution of the recurrence "rule applied to the
  children's indices", which is what the checker run on navis' column tests; ignored twigs take the index of the branch
  they hang on.
* **Flow centralities** (`Model/Flow.lean`): the formulas over distal synapse counts are numbers of tree paths — through a
  node on their descending or ascending leg (synapse flow), bending at a fork (bending flow; a node has at most one child
  above any given node, `child_anc_unique`), from tip to tip (`flow_centrality`, whose formula is constant along
  unbranched chains, so the code may propagate it) — and forks take their largest child's value.
  `flow_centrality_le_spec` / `flow_centrality_deviation` record the scheme of the code before the two `fix:` commits
  for terminal twigs and forking roots (`flowCentralityHist`), which fell short of the path count there.
* **Tortuosity**: chord ≤ arc, with equality on straight chains, in squared integer form.
* **Segregation index**: in [0, 1] by Jensen's inequality for the concave guarded entropy, with the exact cases 0 and 1 —
  over `Rat` for the executable model, over any ordered field, and over ℝ with the logarithmic binary entropy navis
  evaluates (Mathlib: `Real.binEntropy`), up to float rounding.
* **`segment_analysis`** (`Model/SegAnalysis.lean`): a column is a function of the small segments, so lengths and
  volumes add up to the neuron's totals and the Strahler column is well defined.
* **navis-fastcore** (`Model/StrahlerFc.lean`): without `to_ignore` / `min_twig_size` its observed recurrence is the
  Strahler recurrence.
* **The source** (`Gen/Mmetrics.lean`, extracted from `mmetrics.py` on every run): the rule, the formulas and the glue
  the code spells out are the model's.
Defined in `Proofs/` and used in the statements below: `guardG`, `ConcaveNonnegG` (SegIdxLemmas); `navisEntropy`
(SegRealLemmas); `genRule`, `genSelect`, `flowEnv`, `segEnv`, `volEnv`, `expectedFork`, `expectedPropagation`,
`bendFactorsOK`, `symLabelsOK` (MmetricsGenLemmas).
Trusted, not proved: IEEE rounding (floats are compared with tolerance 1e-9) and navis-fastcore itself (compiled): its
behaviour under `to_ignore` / `min_twig_size` is a model fitted to navis-fastcore 0.13 and compared with it exactly on
every run.
-/
namespace Navis.Props.C17
open Navis.Forest Navis.Flow

/-- **Fuel independence**: the height of a well-formed forest is at most `|t|`, so the structural
recurrence evaluated with any fuel `≥ |t|` is the same function. -/
theorem strahler_fuel_independent (t : Table) (hw : WF t) (g : Bool) (ign : List Int) (i : Int) (hi : i ∈ ids t)
    (f : Nat) (hf : t.length ≤ f) :
    strahlerRaw t g ign f i = strahlerRaw t g ign (t.length + 1) i :=
  strahlerRaw_fuel hw g ign hi f hf

/-- **The Strahler recurrence holds at every node, roots included**: the index of a node is the rule
applied to its children's indices (no children ↦ 1; one child ↦ that child's index; a fork ↦ the
maximum, plus one when it occurs at least twice; `greedy` ↦ the sum). -/
theorem strahler_recurrence (t : Table) (hw : WF t) (g : Bool) (i : Int) (hi : i ∈ ids t) :
    strahler t g [] i = strahlerRule g ((children t i).map (strahler t g [])) := by
  have e : strahler t g [] = strahlerRaw t g [] (t.length + 1) := funext (strahler_nil t g)
  rw [e]
  exact strahlerRaw_rec_nil hw g i

/-- The three cases of the rule, spelled out. -/
theorem strahler_rule_cases (g : Bool) :
    strahlerRule g [] = 1 ∧ (∀ c, strahlerRule g [c] = c) ∧
    (∀ c1 c2 cs, strahlerRule true (c1 :: c2 :: cs) = (c1 :: c2 :: cs).sum) ∧
    (∀ c1 c2 cs, strahlerRule false (c1 :: c2 :: cs) =
      (if (c1 :: c2 :: cs).count (maxList (c1 :: c2 :: cs)) ≥ 2 then maxList (c1 :: c2 :: cs) + 1
       else maxList (c1 :: c2 :: cs))) :=
  ⟨rfl, fun _ => rfl, strahlerRule_greedy, strahlerRule_standard⟩

theorem strahler_ge_one (t : Table) (hw : WF t) (g : Bool) (i : Int) (hi : i ∈ ids t) : 1 ≤ strahler t g [] i := by
  rw [strahler_nil]; exact one_le_strahlerRaw_nil t g _ i

/-- A parent's index is at least each child's (both methods). -/
theorem strahler_monotone (t : Table) (hw : WF t) (g : Bool) (i c : Int) (hi : i ∈ ids t) (hc : c ∈ children t i) :
    strahler t g [] c ≤ strahler t g [] i := by
  rw [strahler_nil, strahler_nil, strahlerRaw_rec_nil hw g i]
  exact le_strahlerRule g (List.mem_map.mpr ⟨c, hc, rfl⟩)

/-- **Meaning of the checker run on navis' column**: a column satisfies the recurrence at every row
iff it is the model's Strahler index (the recurrence has exactly one solution). -/
theorem strahler_checker_sound (t : Table) (hw : WF t) (g : Bool) (v : Int → Nat) :
    strahlerOKB t g v = true ↔ ∀ i ∈ ids t, v i = strahler t g [] i := by
  unfold strahlerOKB
  rw [List.all_eq_true]
  constructor
  · -- the recurrence has one solution: induction from the leaves
    intro h
    refine children_induct hw _ fun i hi ih => ?_
    obtain ⟨r, hr, rfl⟩ := mem_ids.mp hi
    rw [beq_iff_eq.mp (h r hr), strahler_recurrence t hw g r.id hi]
    exact congrArg _ (List.map_congr_left ih)
  · intro h r hr
    have hi := mem_ids_of_mem hr
    rw [beq_iff_eq, h r.id hi, strahler_recurrence t hw g r.id hi]
    congr 1
    exact (List.map_congr_left fun c hc => h c (child_facts hw hc).1).symm

/-- **Ignored twigs take their parent branch's index**: every node `i` of the unbranched chain that
ends in an ignored leaf `l` gets the (raw) index of the first branch point or root `s` above `l`. -/
theorem strahler_ignored_takes_parent (t : Table) (g : Bool) (ign : List Int) (i l s : Int)
    (h1 : chainLeaf t (t.length + 1) i = some l) (h2 : ign.contains l = true) (h3 : stopAbove t l = some s) :
    strahler t g ign i = strahlerRaw t g ign (t.length + 1) s :=
  strahler_of_ignored t g ign h1 h2 h3

/-- An ignored leaf contributes 0 to the branch it hangs on. -/
theorem strahler_ignored_contributes_zero (t : Table) (g : Bool) (ign : List Int) (l : Int) (f : Nat)
    (hl : children t l = []) (h : ign.contains l = true) : strahlerRaw t g ign (f + 1) l = 0 := by
  rw [strahlerRaw_succ, if_pos hl, if_pos h]

/-- Nodes not on an ignored twig keep the raw index. -/
theorem strahler_not_ignored_keeps_raw (t : Table) (g : Bool) (ign : List Int) (i : Int)
    (h : ∀ l, chainLeaf t (t.length + 1) i = some l → ign.contains l = false) :
    strahler t g ign i = strahlerRaw t g ign (t.length + 1) i :=
  strahler_of_not_ignored t g ign h

/-- In a well-formed forest the "parent branch" of a non-root node exists: a branch point or root among
its proper ancestors, reached through unbranched non-root nodes only. -/
theorem parent_branch_exists (t : Table) (hw : WF t) (n : Node) (hn : n ∈ t) (hp : ¬ n.parent < 0) :
    ∃ mid s, stopAbove t n.id = some s ∧ isBranchOrRoot t s = true ∧
      rootPath t n.id = (n.id :: mid) ++ rootPath t s ∧ ∀ x ∈ mid, isBranchOrRoot t x = false := by
  obtain ⟨mid, last, h1, h2⟩ := segOf_spec hw hn hp
  exact ⟨mid, last, segOf_stopAbove h1, h2.stop, h2.path, h2.nostop⟩

/-- **Synapse flow centrality counts paths.**  For every node `n` of a well-formed forest the formula
`(total_post − distal_post)·distal_pre` (totals per tree) equals the number of (postsynapse,
presynapse) pairs whose tree path runs through `n` on its *descending* leg (centrifugal: enters `n`
from its parent); `distal_post·(total_pre − distal_pre)` the number of pairs whose path runs through
`n` on its *ascending* leg (centripetal: leaves `n` towards its parent); `sum` adds both.  Pairs in
different trees have no path and are not counted. -/
theorem flow_counts_paths (t : Table) (hw : WF t) (m : Mode) (pre post : List Int) (n : Int) :
    sfcRaw t true m pre post n = pathCount t m pre post n :=
  (pathCount_eq hw m pre post n).symm

/-- The count formulas themselves, as numbers of pairs (`a` post, `b` pre). -/
theorem flow_count_formula (t : Table) (hw : WF t) (pre post : List Int) (n : Int) :
    centrifugal t true pre post n =
      ((product post pre).filter fun p => (sameTree t p.1 n && !isDistal t n p.1) && isDistal t n p.2).length ∧
    centripetal t true pre post n =
      ((product post pre).filter fun p => isDistal t n p.1 && (sameTree t p.2 n && !isDistal t n p.2)).length :=
  ⟨centrifugal_eq_count hw pre post n, centripetal_eq_count hw pre post n⟩

/-- Which nodes a path runs through on its way up: exactly the ancestors-or-self of the start that are
not ancestors-or-self of the end (same tree) — and they do lie on the explicit tree path. -/
theorem path_leg_characterisation (t : Table) (hw : WF t) (a b n : Int) :
    (n ∈ legUp t a b ↔ n ∈ rootPath t a ∧ n ∉ rootPath t b ∧ sameTree t b n = true) ∧
    (∀ p, treePath t a b = some p → (n ∈ legUp t a b ∨ n ∈ legUp t b a) → n ∈ p) := by
  refine ⟨mem_legUp_iff hw a b n, fun p h hn => ?_⟩
  unfold treePath at h
  split at h
  · cases h
  · obtain rfl := Option.some.inj h
    rcases hn with hn | hn
    · exact List.mem_append_left _ hn
    · exact List.mem_append_right _ (List.mem_cons_of_mem _ (List.mem_reverse.mpr hn))

/-- **Forks take their largest child's value** (the value replaces the fork's own formula value). -/
theorem fork_takes_max_child (t : Table) (pt : Bool) (m : Mode) (pre post : List Int) (n : Int) (h : isFork t n = true) :
    sfc t pt m pre post n = maxList ((children t n).map (sfcRaw t pt m pre post)) ∧
    (∀ c ∈ children t n, sfcRaw t pt m pre post c ≤ sfc t pt m pre post n) ∧
    (∃ c ∈ children t n, sfc t pt m pre post n = sfcRaw t pt m pre post c) := by
  have e : sfc t pt m pre post n = maxList ((children t n).map (sfcRaw t pt m pre post)) := if_pos h
  refine ⟨e, ?_, ?_⟩
  · intro c hc
    rw [e]; exact le_maxList (List.mem_map.mpr ⟨c, hc, rfl⟩)
  · have hne : (children t n).map (sfcRaw t pt m pre post) ≠ [] := by
      simpa using children_ne_nil_of_isFork h
    obtain ⟨c, hc, hv⟩ := List.mem_map.mp (maxList_mem hne)
    exact ⟨c, hc, by rw [e, hv]⟩

theorem nonfork_keeps_formula (t : Table) (pt : Bool) (m : Mode) (pre post : List Int) (n : Int) (h : isFork t n = false) :
    sfc t pt m pre post n = sfcRaw t pt m pre post n :=
  if_neg (ne_true_of_eq_false h)

/-- **Meaning of the checker run on navis' column**: accepted iff every row carries the path count
(forks: the largest child's path count), i.e. the model value with per-tree totals. -/
theorem flow_checker_sound (t : Table) (hw : WF t) (m : Mode) (pre post : List Int) (v : Int → Nat) :
    sfcOKB t m pre post v = true ↔ ∀ r ∈ t, v r.id = sfc t true m pre post r.id := by
  unfold sfcOKB
  rw [List.all_eq_true]
  exact forall₂_congr fun r _ => by rw [beq_iff_eq, sfcSpec_eq hw]

/-- Leaf ("tip-to-tip") flow: the formula `(total_leafs − distal)·distal` of `flow_centrality` is the
number of ordered leaf pairs whose path leaves `n` towards its parent (totals per tree).
`_partial`: the theorem is about the formula alone; where `flow_centrality` evaluates it, and what the other nodes
inherit, is `flow_centrality_counts_tip_paths`. -/
theorem flow_centrality_counts_tip_pairs_partial (t : Table) (hw : WF t) (n : Int) :
    leafFormula t true n = pathsUp t (Flow.leafIds t) (Flow.leafIds t) n :=
  leafFormula_eq_tipPaths hw n

/-- Bending flow at a fork is the number of (child pair, synapse pair) incidences: a postsynapse below
one child and a presynapse below another. -/
theorem bending_counts_pairs_partial (t : Table) (pre post : List Int) (b : Int) :
    bendAt t pre post b = bendPairs t pre post b := bendAt_eq_bendPairs t pre post b

/-- **Tortuosity is never below 1** (squared form: chord² ≤ arc²) for every small segment of a
well-formed skeleton with exact integer edge lengths — the triangle inequality. -/
theorem tortuosity_ge_one (t : Table) (hw : WF t) (hex : exactEdgesB t = true) (s : List Int) (hs : s ∈ smallSegments t) :
    chordSq t s ≤ ((arcLen t s : Nat) : Int) * (arcLen t s : Nat) :=
  chordSq_le_arcSq hex s (smallSegments_linked hw s hs)

/-- The same for any chain of points whose consecutive distances are *at most* the given lengths. -/
theorem arc_ge_chord (pos : Int → P3) (len : Int → Int → Nat) (a z : Int) (rest : List Int)
    (h : edgesWithin pos len (a :: rest)) (hz : (a :: rest).getLast? = some z) :
    sqd (pos a) (pos z) ≤ ((pathLen len (a :: rest) : Nat) : Int) * (pathLen len (a :: rest) : Nat) :=
  chord_le_arc pos len rest a z h hz

/-- **Straight segments have tortuosity exactly 1**: consecutive points advance by natural multiples of
one direction of integer length. -/
theorem tortuosity_straight_eq_one (pos : Int → P3) (len : Int → Int → Nat) (d : P3) (m : Nat)
    (hd : d.1 * d.1 + d.2.1 * d.2.1 + d.2.2 * d.2.2 = (m : Int) * m) (a z : Int) (rest : List Int)
    (hs : straight pos len d m (a :: rest)) (hz : (a :: rest).getLast? = some z) :
    sqd (pos a) (pos z) = ((pathLen len (a :: rest) : Nat) : Int) * (pathLen len (a :: rest) : Nat) := by
  obtain ⟨C, g1, g2, g3, g4⟩ := straight_sum pos len d m rest a z hs hz
  have e : sqd (pos a) (pos z) = (C : Int) * C * (d.1 * d.1 + d.2.1 * d.2.1 + d.2.2 * d.2.2) := by
    rw [sqd_comm]
    unfold sqd
    rw [g1, g2, g3]
    ring
  rw [e, hd, g4, Nat.cast_mul]
  ring

/-- **Exact cases** of the segregation index with both kinds of synapse present: exactly 1 when no fragment mixes the
two kinds; exactly 0 when every non-empty fragment has the neuron's overall mixture and `H` does not vanish there. -/
theorem segregation_bounds_partial (H : Rat → Rat) (fs : List Frag) (hp : totPre fs ≠ 0) (hq : totPost fs ≠ 0) :
    ((∀ f ∈ fs, f.pre = 0 ∨ f.post = 0) → segIdx H fs = some 1) ∧
    (H ((totPost fs : Rat) / ((totPre fs + totPost fs : Nat) : Rat)) ≠ 0 →
      (∀ f ∈ fs, f.tot ≠ 0 → (f.post : Rat) / (f.tot : Rat) = (totPost fs : Rat) / ((totPre fs + totPost fs : Nat) : Rat)) →
      segIdx H fs = some 0) :=
  ⟨fun h => (segIdx_eq_G H fs).trans (segIdxG_separated H fs hp hq h),
   fun hH h => (segIdx_eq_G H fs).trans (segIdxG_identical H fs hp hq hH h)⟩

/-- The index is 0 when only one kind of synapse exists. -/
theorem segregation_one_kind_zero (H : Rat → Rat) (fs : List Frag) (htot : totPre fs + totPost fs ≠ 0)
    (h : totPre fs = 0 ∨ totPost fs = 0) : segIdx H fs = some 0 :=
  (segIdx_eq_G H fs).trans (segIdxG_one_kind H fs htot h)

/-- **The index lies in [0, 1]** for every entropy function whose guarded form (`H` on (0,1), 0
elsewhere — what the code evaluates) is non-negative and concave on [0,1]: the synapse-weighted mean of
the fragment entropies is at most the entropy of the pooled mixture (Jensen). -/
theorem segregation_in_unit_interval_of_concave (H : Rat → Rat) (hG : ConcaveNonneg (guardH H)) (fs : List Frag)
    (v : Rat) (h : segIdx H fs = some v) : 0 ≤ v ∧ v ≤ 1 :=
  segIdxG_bounds H ((concaveNonneg_guardH_iff H).mp hG) fs v ((segIdx_eq_G H fs).symm.trans h)

/-- The driver's exact classification is sound. -/
theorem segregation_exact_sound (H : Rat → Rat) (hH : ∀ p : Rat, 0 < p → p < 1 → H p ≠ 0) (fs : List Frag) (k : Nat)
    (h : segExact fs = some k) : segIdx H fs = some (k : Rat) :=
  (segIdx_eq_G H fs).trans (segExactG_sound H hH fs k h)

/-- **Subtrees of distinct children of a node are disjoint** in a well-formed forest: no node is distal to two
different children of the same node (so a path is incident to at most one ordered pair of child branches). -/
theorem subtrees_of_distinct_children_disjoint (t : Table) (hw : WF t) (b c1 c2 : Int) (hb : b ∈ ids t)
    (h1 : c1 ∈ children t b) (h2 : c2 ∈ children t b) (hne : c1 ≠ c2) (p : Int) :
    ¬ (isDistal t c1 p = true ∧ isDistal t c2 p = true) :=
  fun ⟨a1, a2⟩ => hne (child_anc_unique hw hb h1 h2 (isDistal_iff.mp a1) (isDistal_iff.mp a2))

/-- **Bending flow counts paths** (the full statement; `bending_counts_pairs_partial` is its counting half): at every node `b`
of a well-formed forest, `Σ distal_post[left]·distal_pre[right]` over the ordered pairs of distinct children equals
the number of (postsynapse, presynapse) pairs whose tree path *bends at* `b` — `b` is the apex of the path and
neither of its ends. -/
theorem bending_counts_paths (t : Table) (hw : WF t) (pre post : List Int) (b : Int) (hb : b ∈ ids t) :
    bendAt t pre post b = bendSpec t pre post b := by
  rw [bendAt_eq_bendPairs]
  unfold bendPairs bendSpec
  rw [length_flatMap_filter_disjoint (childPairs t b) (product post pre)
    (fun c x => isDistal t c.1 x.1 && isDistal t c.2 x.2)]
  · exact congrArg List.length (List.filter_congr fun x _ => any_childPairs_iff_bendsAt hw hb x.1 x.2)
  · -- two different child pairs differ in a component, and no node lies below two children
    refine List.Pairwise.imp_of_mem ?_ (childPairs_nodup hw.1 b)
    intro c c' hc hc' hne x _ hx
    obtain ⟨h1, h2, _⟩ := mem_childPairs.mp hc
    obtain ⟨h1', h2', _⟩ := mem_childPairs.mp hc'
    simp only [Bool.and_eq_true, isDistal_iff] at hx
    obtain ⟨⟨a1, a2⟩, a1', a2'⟩ := hx
    exact hne (Prod.ext (child_anc_unique hw hb h1 h1' a1 a1') (child_anc_unique hw hb h2 h2' a2 a2'))

/-- What "bends at `b`" means on the explicit tree path: it is `up ++ b :: down` with both legs non-empty, `up`
climbing from the postsynapse, `down` descending to the presynapse. -/
theorem bending_path_shape (t : Table) (b p q : Int) (h : bendsAt t b p q = true) :
    treePath t p q = some (legUp t p q ++ b :: (legUp t q p).reverse) ∧ legUp t p q ≠ [] ∧ legUp t q p ≠ [] := by
  unfold bendsAt at h
  unfold treePath
  cases hl : lca t p q with
  | none => rw [hl] at h; cases h
  | some l =>
    rw [hl] at h
    simp only [Bool.and_eq_true, beq_iff_eq, Bool.not_eq_true', List.isEmpty_eq_false_iff] at h
    obtain ⟨⟨rfl, hp⟩, hq⟩ := h
    exact ⟨rfl, hp, hq⟩

/-- `bending_flow` as written: a fork (≥ 2 children, roots included) carries its own path count; every other node
inherits the count of the fork at the proximal end of its small segment (0 when that end is a non-forking root). -/
theorem bending_flow_values (t : Table) (hw : WF t) (pre post : List Int) (n : Int) (hn : n ∈ ids t) :
    (2 ≤ childCount t n → bendingFlow t pre post n = bendSpec t pre post n) ∧
    (childCount t n < 2 → ∀ s, stopAbove t n = some s → s ∈ ids t →
      bendingFlow t pre post n = if 2 ≤ childCount t s then bendSpec t pre post s else 0) := by
  constructor
  · intro h
    unfold bendingFlow; rw [if_pos h]; exact bending_counts_paths t hw pre post n hn
  · intro h s hs hsi
    unfold bendingFlow
    rw [if_neg (by omega), hs]
    exact if_congr Iff.rfl (bending_counts_paths t hw pre post s hsi) rfl

/-- The child-pair test the code performs is the "bends at" test (per synapse pair). -/
theorem bending_pair_test (t : Table) (hw : WF t) (b : Int) (hb : b ∈ ids t) (p q : Int) :
    ((childPairs t b).any fun c => isDistal t c.1 p && isDistal t c.2 q) = bendsAt t b p q :=
  any_childPairs_iff_bendsAt hw hb p q

/-- **Specification** of `flow_centrality`: the number of tip-to-tip paths leaving the node towards its parent,
forks taking their largest child's count.  It is the formula `(L − d)·d` evaluated at *every* node (per tree), and
it is `synapse_flow_centrality(mode="centripetal")` of the neuron with one pre- and one postsynapse on each leaf. -/
theorem flow_centrality_spec (t : Table) (hw : WF t) (n : Int) :
    fcSpec t n = (if isFork t n then maxList ((children t n).map (leafFormula t true)) else leafFormula t true n) ∧
    fcSpec t n = sfc t true .centripetal (Flow.leafIds t) (Flow.leafIds t) n :=
  ⟨forkRule_congr (fun _ c _ => (leafFormula_eq_tipPaths hw c).symm) fun _ => (leafFormula_eq_tipPaths hw n).symm,
   forkRule_congr (fun _ c _ => pathsUp_eq hw _ _ c) fun _ => pathsUp_eq hw _ _ n⟩

/-- **`flow_centrality` as written counts tip-to-tip paths** — unconditionally since the two `fix:` commits
(`flow_centrality/terminal-twig/zero-instead-of-tip-count`, `flow_centrality/forking-root/inherits-first-segment`): at
every node of a well-formed forest the value the code computes (formula at branch points, leafs and roots; the other
nodes inherit from the distal seed of their segment; branch points then take their largest child's value) is the
number of ordered leaf pairs whose path leaves the node towards its parent, forks taking the largest such count among
their children. -/
theorem flow_centrality_counts_tip_paths (t : Table) (hw : WF t) (n : Int) (hn : n ∈ ids t) :
    flowCentrality t true n = fcSpec t n :=
  forkRule_congr (fun _ _ hc => fcPre_eq_tipPaths hw (child_anc hw hn hc).1) fun _ => fcPre_eq_tipPaths hw hn

/-- Meaning of comparing navis' column with `fcSpec`: it is the model of the code (`flowCentrality`) at every row. -/
theorem flow_centrality_checker_sound (t : Table) (hw : WF t) (v : Int → Nat) :
    (∀ r ∈ t, v r.id = fcSpec t r.id) ↔ (∀ r ∈ t, v r.id = flowCentrality t true r.id) :=
  forall₂_congr fun r hr => by rw [flow_centrality_counts_tip_paths t hw r.id (mem_ids_of_mem hr)]

/-- **Historical** (the code before the fixes, `flowCentralityHist`: only branch points computed): the value never
exceeded the path count, and equalled it wherever no terminal twig was involved… -/
theorem flow_centrality_le_spec (t : Table) (hw : WF t) (n : Int) (hn : n ∈ ids t) :
    flowCentralityHist t true n ≤ fcSpec t n ∧
    ((if isFork t n then ∀ c ∈ children t n, seedIsFork t c = true else seedIsFork t n = true) →
      flowCentralityHist t true n = fcSpec t n) := by
  refine ⟨?_, fun h => forkRule_congr
    (fun hf c hc => fcPreHist_of_seedIsFork hw (child_anc hw hn hc).1 ((if_pos hf).mp h c hc))
    fun hf => fcPreHist_of_seedIsFork hw hn ((if_neg hf).mp h)⟩
  unfold flowCentralityHist fcSpec
  by_cases hf : isFork t n = true
  · rw [if_pos hf, if_pos hf]
    exact maxList_map_mono _ _ _ fun c hc => fcPreHist_le_tipPaths hw (child_anc hw hn hc).1
  · rw [if_neg hf, if_neg hf]
    exact fcPreHist_le_tipPaths hw hn

/-- …**historical**: and this was the clause false of the old code (finding
`flow_centrality/terminal-twig/zero-instead-of-tip-count`, fixed): on a terminal twig its pre-fork value was 0,
whatever the number of tip-to-tip paths through the node.  The repaired model `fcPre` has no such case
(`flow_centrality_counts_tip_paths`). -/
theorem flow_centrality_deviation (t : Table) (n : Int) (h : seedIsFork t n = false) : fcPreHist t true n = 0 :=
  fcPreHist_of_not_seedIsFork h

/-- The formula is constant along an unbranched chain (why the code may propagate it along small segments). -/
theorem leaf_formula_constant_on_chain (t : Table) (hw : WF t) (n c : Int) (hn : n ∈ ids t) (hc : children t n = [c]) :
    leafFormula t true n = leafFormula t true c :=
  leafFormula_single_child hw hn hc

/-! ### segregation index over ℝ with the logarithmic binary entropy (what navis evaluates, up to rounding) -/

/-- The executable `Rat` model is the generic definition at `K = Rat`. -/
theorem segregation_model_is_generic (H : Rat → Rat) (fs : List Frag) : segIdx H fs = segIdxG H fs := segIdx_eq_G H fs

/-- navis' entropy `-(p·ln p + (1−p)·ln(1−p))` is Mathlib's `Real.binEntropy`. -/
theorem navis_entropy_is_binEntropy : navisEntropy = Real.binEntropy := navisEntropy_eq_binEntropy

/-- **The segregation index lies in [0, 1]** — for the real-valued function navis computes
(`segIdxG` at `K = ℝ` with the logarithmic binary entropy), for every list of fragments. -/
theorem segregation_real_in_unit_interval (fs : List Frag) (v : ℝ) (h : segIdxG navisEntropy fs = some v) :
    0 ≤ v ∧ v ≤ 1 :=
  segIdxG_bounds navisEntropy concave_navisEntropy fs v h

/-- **Exactly 1 iff perfectly separated** (both kinds of synapse present). -/
theorem segregation_real_one_iff_separated (fs : List Frag) (hp : totPre fs ≠ 0) (hq : totPost fs ≠ 0) :
    segIdxG navisEntropy fs = some 1 ↔ ∀ f ∈ fs, f.pre = 0 ∨ f.post = 0 :=
  segIdxG_eq_one_iff navisEntropy navisEntropy_pos fs hp hq

/-- **0 for identical mixtures**, and 0 when only one kind of synapse exists. -/
theorem segregation_real_zero_cases (fs : List Frag) :
    (totPre fs ≠ 0 → totPost fs ≠ 0 →
      (∀ f ∈ fs, f.tot ≠ 0 → (f.post : ℝ) / (f.tot : ℝ) = (totPost fs : ℝ) / ((totPre fs + totPost fs : Nat) : ℝ)) →
      segIdxG navisEntropy fs = some 0) ∧
    (totPre fs + totPost fs ≠ 0 → (totPre fs = 0 ∨ totPost fs = 0) → segIdxG navisEntropy fs = some 0) := by
  constructor
  · intro hp hq h
    have b := (share_guard_iff (K := ℝ) _ _).mpr ⟨hp, hq⟩
    exact segIdxG_identical navisEntropy fs hp hq (navisEntropy_pos _ b.1 b.2).ne' h
  · intro htot h
    exact segIdxG_one_kind navisEntropy fs htot h

/-- The bound over any linearly ordered field and any concave non-negative guarded entropy (generalises
`segregation_in_unit_interval_of_concave`). -/
theorem segregation_generic_in_unit_interval {K : Type} [Field K] [LinearOrder K] [IsStrictOrderedRing K]
    (H : K → K) (hG : ConcaveNonnegG (guardG H)) (fs : List Frag) (v : K) (h : segIdxG H fs = some v) : 0 ≤ v ∧ v ≤ 1 :=
  segIdxG_bounds H hG fs v h

/-! ### `segment_analysis`, row by row -/

/-- **Per-segment lengths sum to the cable length** (for the row-by-row model of `segment_analysis`). -/
theorem segment_analysis_lengths_sum_to_cable (t : Table) (hw : WF t) (rad : Int → Option Int) :
    ((segAnalysis t rad).map (·.length)).sum = cable t (coordLen t) := by
  rw [segAnalysis_map rad (·.length) (pathLen (coordLen t)) fun _ _ h => (segRow_fields h).1]
  exact sum_pathLen_eq_cable hw.1 _ _ (smallSegments_isParentPath hw) (smallSegments_cover hw)

/-- **The Strahler column is well defined**: every node of a small segment except its last (a branch point or root)
has the Strahler index of the segment's first node, which is what the column reports. -/
theorem segment_analysis_strahler_well_defined (t : Table) (hw : WF t) (g : Bool) (s : List Int) (hs : s ∈ smallSegments t)
    (a : Int) (ha : s.head? = some a) : ∀ x ∈ s.dropLast, strahler t g [] x = strahler t g [] a := by
  obtain ⟨n, _, _, _, mid, last, rfl, hseg⟩ := mem_smallSegments hw hs
  intro x hx
  obtain rfl : n.id = a := Option.some.inj ha
  rw [List.dropLast_concat] at hx
  rcases List.mem_cons.mp hx with rfl | hx
  · rfl
  · exact strahler_chain hw g mid n.id hseg.linked_init (fun y hy => (hseg.mid_slab y hy).1) x hx

/-- `dist_to_root` of a segment's first node = its length + the `root_dist` column (of its last node). -/
theorem segment_analysis_root_dist (t : Table) (hw : WF t) (len : Int → Int → Nat) (s : List Int) (hs : s ∈ smallSegments t)
    (a b : Int) (ha : s.head? = some a) (hb : s.getLast? = some b) :
    distToRoot t len a = pathLen len s + distToRoot t len b := by
  obtain ⟨n, _, _, _, mid, last, rfl, hseg⟩ := mem_smallSegments hw hs
  obtain rfl : n.id = a := Option.some.inj ha
  obtain rfl : last = b := Option.some.inj (List.getLast?_concat.symm.trans hb)
  exact distToRoot_stretch len hseg.path hseg.hlast

/-- **Per-segment volumes sum to the total** over all node→parent frusta (NaN radii dropped as `nansum` does). -/
theorem segment_analysis_volumes_sum (t : Table) (hw : WF t) (rad : Int → Option Int) :
    ((segAnalysis t rad).map (·.volume3)).sum = totalVolume3 t rad := by
  have e : (segAnalysis t rad).map (·.volume3) =
      (smallSegments t).map fun s => nanSum (s.dropLast.map (frustum3 t rad)) :=
    segAnalysis_map rad _ _ fun _ _ h => (segRow_fields h).2.2.2.2.2
  rw [e, ← nanSum_flatMap]
  unfold totalVolume3
  apply nanSum_perm
  apply List.Perm.map
  exact smallSegments_filter_long hw ▸ smallSegments_cover hw

/-- Per-segment tortuosity is never below 1 (row form of `tortuosity_ge_one`). -/
theorem segment_analysis_tortuosity_ge_one (t : Table) (hw : WF t) (hex : exactEdgesB t = true) (rad : Int → Option Int)
    (s : List Int) (hs : s ∈ smallSegments t) (r : SegRow) (hr : segRow t rad s = some r) :
    r.chordSq ≤ ((r.length : Nat) : Int) * (r.length : Nat) := by
  rw [(segRow_fields hr).1, (segRow_fields hr).2.1]
  exact chordSq_le_arcSq hex s (smallSegments_linked hw s hs)

/-! ### ignored twigs on navis' column, and navis-fastcore without an ignore list -/

/-- **Meaning of the twig checker run on navis' column**: accepted iff every small segment that starts at an ignored
leaf and ends in a branch point (≥ 2 children, root or not) carries the branch point's value on all its nodes —
"ignored or too-short twigs take their parent branch's index". -/
theorem ignored_twigs_checker_sound (t : Table) (eff : List Int) (v : Int → Nat) :
    ignoredTwigsOKB t eff v = true ↔
      ∀ s ∈ smallSegments t, ∀ h e, s.head? = some h → s.getLast? = some e → h ∈ eff → childCount t h = 0 →
        2 ≤ childCount t e → ∀ x ∈ s.dropLast, v x = v e := by
  unfold ignoredTwigsOKB
  rw [List.all_eq_true]
  exact forall₂_congr fun s _ => twigOKB_iff t eff v s

/-- The checker is not vacuous and the specification model passes it: `strahler t g eff` (Python semantics: ignored
twigs take the raw index of the branch they hang on) satisfies the twig clause for every well-formed forest, ignore
list and method. -/
theorem strahler_model_passes_twig_checker (t : Table) (hw : WF t) (g : Bool) (eff : List Int) :
    ignoredTwigsOKB t eff (strahler t g eff) = true := by
  unfold ignoredTwigsOKB
  rw [List.all_eq_true]
  intro s hs
  rw [twigOKB_iff]
  intro h e hh he hin hc0 hc2 x hx
  obtain ⟨n, mid, last, _, _, rfl, hseg, hstop⟩ := mem_smallSegments_stop hw hs
  obtain rfl : n.id = h := Option.some.inj hh
  obtain rfl : last = e := Option.some.inj (List.getLast?_concat.symm.trans he)
  rw [List.dropLast_concat] at hx
  -- the chain leaf of every node of the twig is its first node
  have hcl : chainLeaf t (t.length + 1) x = some n.id :=
    chainLeaf_of_mem_seg hw hseg (children_nil_iff.mpr hc0) x hx
  -- the branch point itself is not on a twig: its chain forks
  have hlastv : strahler t g eff last = strahlerRaw t g eff (t.length + 1) last :=
    strahler_of_not_ignored t g eff fun l hl => by rw [chainLeaf_of_fork hc2] at hl; cases hl
  rw [strahler_of_ignored t g eff hcl (List.contains_iff_mem.mpr hin) hstop, hlastv]

/-- Without `to_ignore` / `min_twig_size` the accelerator model is the Strahler recurrence: the open finding
concerns the ignore options only. -/
theorem fastcore_model_is_recurrence_without_ignore (t : Table) (g : Bool) (i : Int) :
    strahlerFc t g [] 0 i = strahler t g [] i := by
  rw [strahler_nil]
  unfold strahlerFc
  simp only [beq_self_eq_true, if_true, List.append_nil, List.contains_nil, Bool.false_eq_true, if_false]
  cases chainLeaf t (t.length + 1) i with
  | none => exact fcRaw_nil t g _ i
  | some l => exact fcRaw_nil t g _ i

/-! ### the source: what `Gen/Mmetrics.lean` extracts from `navis/morpho/mmetrics.py` -/
section Source
open Navis.Gen Navis.PyExpr

/-- **The rule chain the source spells out is `strahlerRule`**: `0` for ignored starts, `1` for leafs, the single
child's index, `sum` for `"greedy"`, `max + 1` when `count(max) >= 2`, else `max`. -/
theorem source_strahler_rule (g : Bool) (cs : List Nat) :
    genRule g cs = some (strahlerRule g cs) ∧ Mmetrics.siIgnoredValue = 0 ∧ Mmetrics.siLeafValue = 1 ∧
    Mmetrics.siGreedyLiteral = "greedy" ∧ Mmetrics.siMethods = ["standard", "greedy"] ∧
    Mmetrics.siDefaults = [("method", "'standard'"), ("min_twig_size", "None"), ("to_ignore", "[]")] :=
  ⟨genRule_eq g cs, rfl, rfl, rfl, rfl, rfl⟩

/-- Forking roots are branch points (`> 1`), twigs are compared with `len(seg) < min_twig_size` on segments starting
(`seg[0]`) at an end node, the walk stops at roots and branch points, ignored twigs (`s[0] == tn`) take
`SI.get(this_seg[-1], 1)`, unreached nodes get 1, and the accelerator receives ids, parents and the three options. -/
theorem source_strahler_glue (c len k : Nat) :
    cmpInt Mmetrics.siRootForkCmp c Mmetrics.siRootForkK = some (decide (2 ≤ c)) ∧
    cmpInt Mmetrics.siTwigCmp len k = some (decide (len < k)) ∧ Mmetrics.siTwigLeft = "len(seg)" ∧ Mmetrics.siTwigLeafIndex = 0 ∧
    Mmetrics.siWalkWhile = ["parent_node >= 0", "parent_node not in branch_nodes"] ∧
    Mmetrics.siFixSegIndex = 0 ∧ Mmetrics.siFixSegCmp = "Eq" ∧ Mmetrics.siFixIndex = -1 ∧ Mmetrics.siFixDefault = 1 ∧
    Mmetrics.siUnreachedDefault = 1 ∧
    Mmetrics.siFastcoreArgs = ["nodes.node_id.values", "nodes.parent_id.values", "method=method", "min_twig_size=min_twig_size", "to_ignore=to_ignore"] :=
  ⟨gen_rootFork c, gen_twigCmp len k, rfl, rfl, rfl, rfl, rfl, rfl, rfl, rfl, rfl⟩

/-- **The flow formulas of the source are the model's**: `(total_post − distal_post)·distal_pre`,
`distal_post·(total_pre − distal_pre)`, their sum, and `(L − d)·d` for the leaf flow (totals per component). -/
theorem source_flow_formulas (t : Table) (hw : WF t) (pre post : List Int) (n : Int) :
    evalInt (flowEnv t pre post n) Mmetrics.sfcCentrifugalE = some ((sfcRaw t true .centrifugal pre post n : Nat) : Int) ∧
    evalInt (flowEnv t pre post n) Mmetrics.sfcCentripetalE = some ((sfcRaw t true .centripetal pre post n : Nat) : Int) ∧
    evalInt (flowEnv t pre post n) Mmetrics.sfcSumE = some ((sfcRaw t true .sum pre post n : Nat) : Int) ∧
    evalInt (flowEnv t [] [] n) Mmetrics.fcFormulaE = some ((leafFormula t true n : Nat) : Int) :=
  ⟨gen_centrifugal hw pre post n, gen_centripetal hw pre post n, gen_sum t pre post n, gen_leafFormula hw n⟩

/-- Each mode selects its own formula; the literals and the default are the documented ones; totals are per
connected component with default 0; the leaf-flow formula is evaluated at branch points, leafs and roots (the two
`fix:` commits for flow_centrality); distal counts come from the directed, unweighted geodesic matrix (`< inf`). -/
theorem source_flow_modes (m : Mode) :
    genSelect m = some (match m with | .centrifugal => "centrifugal" | .centripetal => "centripetal" | .sum => "sum") ∧
    Mmetrics.sfcModes = ["centrifugal", "centripetal", "sum"] ∧ Mmetrics.sfcDefaults = [("mode", "'sum'")] ∧
    Mmetrics.sfcComputedUnlessMode = [("centrifugal", "centripetal"), ("centripetal", "centrifugal")] ∧
    Mmetrics.sfcTotals = [("total_post", "post_per_comp", "comp[n]", 0), ("total_pre", "pre_per_comp", "comp[n]", 0)] ∧
    Mmetrics.sfcCalcMasks = ["is_bp", "is_cn", "is_root"] ∧
    Mmetrics.sfcGeodesic = ("True", "None", "Lt") ∧ Mmetrics.fcGeodesic = ("True", "None", "Lt") ∧
    Mmetrics.bendGeodesic = ("True", "None", "Lt") ∧ Mmetrics.arborGeodesic = ("True", "None", "Lt") ∧
    Mmetrics.sfcFormulaOver = "calc_node_ids" ∧ Mmetrics.fcFormulaOver = "calc_node_ids" ∧
    Mmetrics.fcLeafs = "x.leafs.node_id.values" ∧ Mmetrics.fcCalcTypes = ["branch", "end", "root"] ∧
    Mmetrics.fcEmptyValue = 0 ∧ Mmetrics.fcDistalSumAxis = "0" :=
  ⟨genSelect_eq m, rfl, rfl, rfl, rfl, rfl, rfl, rfl, rfl, rfl, rfl, rfl, rfl, rfl, rfl, rfl⟩

/-- **The fork rule is written back by id** in all three code paths (navis-fastcore and Python branch of
`synapse_flow_centrality`, `flow_centrality`): branch points are `type == "branch"`, their children are selected by
`parent_id`, grouped by `parent_id`, aggregated with `max`, and assigned through `.loc[bp]` with `bp` read off the
same mask — not positionally (seeded change C17_1). -/
theorem source_fork_rule :
    Mmetrics.sfcForkRules = [expectedFork "synapse_flow_centrality", expectedFork "synapse_flow_centrality"] ∧
    Mmetrics.fcForkRules = [expectedFork "flow_centrality"] :=
  ⟨rfl, rfl⟩

/-- Segment propagation (`flow[s[0]] = flow.get(s[0], 0)`, `flow[s[i]] = flow[s[i − 1]]` for `i ≥ 1`, only where
missing) in both flow functions; navis-fastcore receives per-node synapse counts built by id (`node_id.map(value_counts)`,
missing ↦ 0) — presynapses from the `pre` label, postsynapses from the `post` label. -/
theorem source_flow_glue :
    Mmetrics.sfcPropagation = expectedPropagation ∧ Mmetrics.fcPropagation = expectedPropagation ∧
    Mmetrics.sfcFastcorePre = ("pre", "value_counts", 0, true) ∧ Mmetrics.sfcFastcorePost = ("post", "value_counts", 0, true) ∧
    Mmetrics.sfcFastcoreMode = "mode" ∧ Mmetrics.sfcFastcoreIds = ["nodes.node_id.values", "nodes.parent_id.values"] ∧
    Mmetrics.sfcLabels = [("any", ["pre", "post"], ["pre", "post"]), ("any", ["0", "1"], ["0", "1"])] ∧
    Mmetrics.arborLabels = Mmetrics.sfcLabels ∧
    Mmetrics.sfcSetsCentralityMethod = 2 :=
  ⟨rfl, rfl, rfl, rfl, rfl, rfl, rfl, rfl, rfl⟩

/-- **`bending_flow`**: a root is a branch point when `degree(root) > 1` (seeded change C17_2), branch points are
`type == "branch"`, children are the sources of the in-edges, ordered pairs come from `permutations(…, r=2)`, the
product takes one factor per synapse kind, indexed by the two different branches (the sum over ordered pairs is
symmetric in both, so which is which is not a fact), segments drop a first node that already has a value and inherit
from their last node (default 0), missing values become 0. -/
theorem source_bending (d : Nat) :
    cmpInt Mmetrics.bendRootCmp d Mmetrics.bendRootK = some (decide (2 ≤ d)) ∧
    Mmetrics.bendBpCmp = "Eq" ∧ Mmetrics.bendBpVal = "branch" ∧ Mmetrics.bendChildsVia = "in_edges" ∧ Mmetrics.bendChildEnd = 0 ∧
    Mmetrics.bendPairs = ("permutations", 2) ∧ bendFactorsOK Mmetrics.bendFactors = true ∧ symLabelsOK Mmetrics.bendLabels = true ∧
    Mmetrics.bendPreserve = "'connectors'" ∧ Mmetrics.bendDropIfIndex = 0 ∧ Mmetrics.bendDropSlice = "s[1:]" ∧
    Mmetrics.bendInheritIndex = -1 ∧ Mmetrics.bendInheritDefault = 0 ∧ Mmetrics.bendFillna = 0 :=
  ⟨gen_bendRoot d, rfl, rfl, rfl, rfl, rfl, gen_bend_sym.1, gen_bend_sym.2, rfl, rfl, rfl, rfl, rfl, rfl⟩

/-- **The entropy expression of the source is the real binary entropy** used in `segregation_real_in_unit_interval`,
the guards are `0 < p < 1`, `p` is one kind's share of the total (the entropy is symmetric, either kind will do), `H = 1 − S / S_norm` with fall-backs 0, the mean is
`1/total · Σ e·total_syn`; `arbor_segregation_index` cuts into (distal, total − distal) and inherits from `s[-2]`. -/
theorem source_segregation (p post tot totalPost S Sn e : ℝ) :
    evalK Real.pi Real.log (fun _ => p) Mmetrics.segEntropyE = navisEntropy p ∧
    evalK Real.pi Real.log (fun _ => p) Mmetrics.segEntropyNormE = navisEntropy p ∧
    (Mmetrics.segPE = .div (.v "postsynapses") (.v "total_syn") ∨ Mmetrics.segPE = .div (.v "presynapses") (.v "total_syn")) ∧
    (Mmetrics.segPnormE = .div (.v "total_post") (.v "total_syn") ∨ Mmetrics.segPnormE = .div (.v "total_pre") (.v "total_syn")) ∧
    evalK Real.pi Real.log (segEnv post tot totalPost tot S Sn e) Mmetrics.segHE = 1 - S / Sn ∧
    evalK Real.pi Real.log (segEnv post tot totalPost tot S Sn e) Mmetrics.segMeanScaleE = 1 / tot ∧
    evalK Real.pi Real.log (segEnv post tot totalPost tot S Sn e) Mmetrics.segMeanTermE = e * tot ∧
    Mmetrics.segGuard = (0, "Lt", "Lt", 1) ∧ Mmetrics.segElseEntropy = 0 ∧ Mmetrics.segElseH = 0 ∧
    Mmetrics.segFragTotalE = .add (.v "postsynapses") (.v "presynapses") ∧
    Mmetrics.segTotalE = .add (.v "total_pre") (.v "total_post") ∧
    Mmetrics.segRecord = [("postsynapses", "n_postsynapses"), ("presynapses", "n_presynapses")] ∧
    Mmetrics.arborFrags = [[("postsynapses", .v "post"), ("presynapses", .v "pre")],
      [("postsynapses", .sub (.v "total_post") (.v "post")), ("presynapses", .sub (.v "total_pre") (.v "pre"))]] ∧
    Mmetrics.arborBpTypes = ["branch", "root"] ∧ Mmetrics.arborCalcMasks = ["is_bp", "is_bp_child", "is_cn"] ∧
    Mmetrics.arborInheritIndex = -2 ∧ Mmetrics.arborInheritTo = "s[:-2]" :=
  ⟨(gen_entropy_real p).1, (gen_entropy_real p).2, by decide +kernel, by decide +kernel, (gen_seg_formulas post tot totalPost S Sn e).2.2.1,
   (gen_seg_formulas post tot totalPost S Sn e).2.2.2.1, (gen_seg_formulas post tot totalPost S Sn e).2.2.2.2,
   rfl, rfl, rfl, rfl, rfl, rfl, rfl, rfl, rfl, rfl, rfl⟩

/-- **`tortuosity` / `segment_analysis`**: arc over chord between the two ends, mean over `x.small_segments`; the
Strahler column and the chord start read `s[0]`, chord end and `root_dist` read `s[-1]`, looked up by id; the volume
is `1/3·π·(r1² + r1·r2 + r2²)·h` (`= π/3 · frustum3`) summed with `nansum` over `s[:-1]`, `r2` from the parent with
`fillna(0)`, `h = parent_dist(root_dist=0)`; radius statistics use the NaN-aware aggregates over all of `s`; and the
function performs **no store through a `.values` array** (the pandas-3 defect fixed in 416ff90 stays fixed). -/
theorem source_geometry (piQ : Rat) (lg : Rat → Rat) (r1 r2 h : Int) :
    evalK piQ lg (volEnv r1 r2 h) Mmetrics.saVolE = 1 / 3 * piQ * (((r1 * r1 + r1 * r2 + r2 * r2) * h : Int) : Rat) ∧
    Mmetrics.tortE = .div (.v "L") (.v "R") ∧ Mmetrics.saTortE = .div (.v "seg_lengths") (.v "L") ∧
    Mmetrics.tortChordEnds = [-1, 0] ∧ Mmetrics.tortArc = ["diff", "norm", "sum"] ∧ Mmetrics.tortAggregate = "mean" ∧
    Mmetrics.tortOver = "x.small_segments" ∧ Mmetrics.tortDispatch = ["_tortuosity_simple", "_tortuosity_segmented"] ∧
    Mmetrics.saSegs = "_break_segments" ∧ Mmetrics.saSiIndex = 0 ∧ Mmetrics.saStartIndex = 0 ∧ Mmetrics.saEndIndex = -1 ∧
    Mmetrics.saRootDistIndex = -1 ∧ Mmetrics.saSiColumn = "strahler_index" ∧ Mmetrics.saSiById = true ∧
    Mmetrics.saLengthFn = "segment_length" ∧ Mmetrics.saRootDistWeight = "'weight'" ∧
    Mmetrics.saR1From = "index" ∧ Mmetrics.saR2From = "parent_id" ∧ Mmetrics.saR2Fill = 0 ∧ Mmetrics.saHRootDist = 0 ∧
    Mmetrics.saVolAgg = "nansum" ∧ Mmetrics.saVolOver = "s[:-1]" ∧ Mmetrics.saVolDefault = 0 ∧
    Mmetrics.saRadStats = [("radius_max", "nanmax"), ("radius_mean", "nanmean"), ("radius_min", "nanmin")] ∧
    Mmetrics.saRadOver = "s" ∧ Mmetrics.saStoresThroughValues = 0 ∧
    Mmetrics.saColumns = ["length", "tortuosity", "root_dist", "strahler_index", "radius_mean", "radius_min", "radius_max", "volume"] :=
  ⟨gen_volume piQ lg r1 r2 h, rfl, rfl, rfl, rfl, rfl, rfl, rfl, rfl, rfl, rfl, rfl, rfl, rfl, rfl, rfl, rfl, rfl, rfl, rfl, rfl,
   rfl, rfl, rfl, rfl, rfl, rfl, rfl⟩

/-- **Which entry points are mapped over NeuronLists / accept MeshNeurons** (decorator names and the semantic
keyword arguments; free-text `desc=` is ignored): all node-property functions write `node_props=[<their column>]`,
Strahler and `segment_analysis` re-root MeshNeuron skeletons to the soma, the three flows heal and carry connectors. -/
theorem source_decorators :
    Mmetrics.siDecorators = [("map_neuronlist", ["allow_parallel=True"]),
      ("meshneuron_skeleton", ["method='node_properties'", "node_props=['strahler_index']", "reroot_soma=True"])] ∧
    Mmetrics.sfcDecorators = [("map_neuronlist", ["allow_parallel=True"]),
      ("meshneuron_skeleton", ["heal=True", "include_connectors=True", "method='node_properties'", "node_props=['synapse_flow_centrality']"])] ∧
    Mmetrics.fcDecorators = [("map_neuronlist", ["allow_parallel=True"]),
      ("meshneuron_skeleton", ["heal=True", "include_connectors=True", "method='node_properties'", "node_props=['flow_centrality']"])] ∧
    Mmetrics.bendDecorators = [("map_neuronlist", ["allow_parallel=True"]),
      ("meshneuron_skeleton", ["heal=True", "include_connectors=True", "method='node_properties'", "node_props=['bending_flow']"])] ∧
    Mmetrics.arborDecorators = [("map_neuronlist", ["allow_parallel=True"]),
      ("meshneuron_skeleton", ["method='node_properties'", "node_props=['segregation_index']"])] ∧
    Mmetrics.saDecorators = [("map_neuronlist_df", ["allow_parallel=True", "reset_index=True"]),
      ("meshneuron_skeleton", ["method='pass_through'", "reroot_soma=True"])] ∧
    Mmetrics.segDecorators = [] :=
  ⟨rfl, rfl, rfl, rfl, rfl, rfl, rfl⟩

end Source

/-! ### Non-vacuity: concrete inputs meet the hypotheses -/

/-- forking root 1 (children 2, 6), fork 2 (children 3, 4), chain 3–5; straight integer edges. -/
def ex : Table := [⟨1, -1, 0, 0, 0, .root⟩, ⟨2, 1, 3, 0, 0, .branch⟩, ⟨3, 2, 6, 0, 0, .slab⟩, ⟨4, 2, 3, 4, 0, .end_⟩,
  ⟨5, 3, 8, 0, 0, .end_⟩, ⟨6, 1, 0, 0, 2, .end_⟩]
def exPre : List Int := [5, 5, 3, 1]
def exPost : List Int := [4, 6, 2]
/-- two trees -/
def exF : Table := [⟨1, -1, 0, 0, 0, .root⟩, ⟨2, 1, 1, 0, 0, .end_⟩, ⟨0, -1, 5, 0, 0, .root⟩, ⟨7, 0, 5, 1, 0, .end_⟩]

example : wfB ex = true ∧ wfB exF = true := by decide +kernel
private theorem ex_WF : WF ex := wfB_sound (by decide +kernel)
example : WF ex := ex_WF
example : (ids ex).map (strahler ex false []) = [2, 2, 1, 1, 1, 1] := by decide +kernel
example : (ids ex).map (strahler ex true []) = [3, 2, 1, 1, 1, 1] := by decide +kernel
example : strahlerOKB ex false (strahler ex false []) = true := (strahler_checker_sound ex ex_WF false _).mpr fun _ _ => rfl
example : strahlerOKB ex false (fun i => if i = 1 then 1 else strahler ex false [] i) = false := by decide +kernel
-- ignored twig 4 takes the index of fork 2; the fork does not see it
example : chainLeaf ex (ex.length + 1) 4 = some 4 ∧ stopAbove ex 4 = some 2 ∧
    (ids ex).map (strahler ex false [4]) = [2, 1, 1, 1, 1, 1] := by decide +kernel
example : (ids ex).map (sfc ex true .centrifugal exPre exPost) = [0, 9, 9, 0, 6, 0] := by decide +kernel
example : (ids ex).map (sfc ex true .centripetal exPre exPost) = [0, 4, 0, 4, 0, 4] := by decide +kernel
example : (ids ex).map (pathCount ex .sum exPre exPost) = [0, 5, 9, 4, 6, 4] := by decide +kernel
example : isFork ex 2 = true ∧ isFork ex 1 = false ∧ sfcOKB ex .sum exPre exPost (sfc ex true .sum exPre exPost) = true :=
  ⟨by decide +kernel, by decide +kernel, (flow_checker_sound ex ex_WF .sum exPre exPost _).mpr fun _ _ => rfl⟩
example : treePath ex 4 5 = some [4, 2, 3, 5] ∧ legUp ex 5 4 = [5, 3] := by decide +kernel
-- pairs in different trees are not counted (`true`); the second value is historical: what the pure-Python
-- path returned before it was repaired to count per tree (whole-table totals, `perTree = false`)
example : (ids exF).map (sfc exF true .centrifugal [2] [1, 0]) = [0, 1, 0, 0] ∧
    (ids exF).map (sfc exF false .centrifugal [2] [1, 0]) = [1, 2, 0, 0] := by decide +kernel
example : (ids ex).map (bendingFlow ex exPre exPost) = [3, 3, 3, 3, 3, 3] ∧ bendPairs ex exPre exPost 2 = 3 := by decide +kernel
example : exactEdgesB ex = true ∧ tortParts ex = [(2, 1, 3, 9), (4, 2, 4, 16), (5, 2, 5, 25), (6, 1, 2, 4)] := by decide +kernel
example : segExact [⟨3, 6⟩, ⟨1, 2⟩] = some 0 ∧ segExact [⟨3, 0⟩, ⟨0, 2⟩] = some 1 ∧ segExact [⟨3, 1⟩, ⟨1, 2⟩] = none := by decide +kernel
example : (ids ex).map (bendSpec ex exPre exPost) = [3, 3, 0, 0, 0, 0] ∧ bendsAt ex 2 4 5 = true ∧ bendsAt ex 2 2 5 = false := by decide +kernel
example : (ids ex).map (fcSpec ex) = [0, 2, 2, 2, 2, 2] ∧ (ids ex).map (flowCentrality ex true) = [0, 2, 2, 2, 2, 2] ∧
    (ids ex).map (flowCentralityHist ex true) = [0, 0, 0, 0, 0, 0] ∧
    (ids ex).map (seedIsFork ex) = [false, true, false, false, false, false] := by decide +kernel
/-- chain 1←2←3 with fork 3 (leafs 4, 5) and a second leaf 6 on the root: historically only node 2 (off the terminal twigs) got the path count -/
def exT : Table := [⟨1, -1, 0, 0, 0, .root⟩, ⟨2, 1, 1, 0, 0, .slab⟩, ⟨3, 2, 2, 0, 0, .branch⟩, ⟨4, 3, 3, 0, 0, .end_⟩,
  ⟨5, 3, 2, 1, 0, .end_⟩, ⟨6, 1, 0, 1, 0, .end_⟩]
example : wfB exT = true ∧ seedIsFork exT 2 = true ∧ flowCentralityHist exT true 2 = 2 ∧ fcSpec exT 2 = 2 ∧
    flowCentralityHist exT true 4 = 0 ∧ flowCentrality exT true 4 = 2 ∧ fcSpec exT 4 = 2 := by decide +kernel
example : (segAnalysis ex fun i => if i = 4 then none else some (i + 1)).map (fun r => (r.first, r.last, r.length, r.si, r.radCount, r.volume3)) =
    [(2, 1, 3, 2, 2, 57), (4, 2, 4, 1, 1, 0), (5, 2, 5, 1, 3, 263), (6, 1, 2, 1, 2, 134)] := by decide +kernel
example : (ids ex).map (strahlerFc ex false [6] 0) = [2, 2, 1, 1, 1, 0] ∧ (ids ex).map (strahler ex false [6]) = [2, 2, 1, 1, 1, 2] := by decide +kernel
example : ignoredTwigsOKB ex [4] (strahler ex false [4]) = true ∧ ignoredTwigsOKB ex [4] (strahler ex false []) = false := by decide +kernel
/-- a concave, non-negative entropy-like function exists (`p(1−p)`), so the bound is not vacuous -/
example : ConcaveNonneg (guardH fun p => p * (1 - p)) := concave_example
example : straight (posOf ex) (coordLen ex) (-1, 0, 0) 1 [5, 3, 2] :=
  ⟨⟨2, by decide, by decide, by decide, by decide⟩, ⟨3, by decide, by decide, by decide, by decide⟩, trivial⟩

end Navis.Props.C17

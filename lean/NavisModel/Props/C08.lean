import NavisModel.Proofs.AffineLemmas
import NavisModel.Proofs.BridgeLemmas
import NavisModel.Proofs.TpsLemmas
import NavisModel.Gen.Bridge
/-!
# C08 — transforms, sequences and bridging paths map points as defined

The idea is **telescoping**: if every bridging registration is the change of frame between its two templates, then every
chain of edges of the bridging graph — forward or inverted, any parallel edge, any route, in particular the one navis
picks — composes to `frame target ∘ (frame source)⁻¹`, in every group of transforms.  Around it: the affine maps (the one group the theorems are
instantiated at) and `TransformSequence` act row by row as their matrices and members say, merged or nested; a path answer
honours `via` and `avoid`, and for known templates (and `nx.shortest_path` raising only when there is no path) an error is raised EXACTLY when no
admissible path exists — the loop body of navis before
`0eaf94d` (`acceptAsWritten`, HISTORICAL) accepted a path lacking `via`; coefficients that solve the thin-plate-spline
system interpolate the landmarks, for every kernel; the two caches (the `lru_cache` of `bridging_graph`, the TPS
coefficients) never serve stale values; and what the models hard-wire is proved of what the translator extracts from the
CURRENT source (`source_*`).

Predicates and definitions of `Proofs/BridgeLemmas.lean` that the statements use: `Consistent` (every bridging
registration is the change of frame between its templates), `EChain` (a chain of graph edges), `SimplePath`,
`MergeSound` (a successful `append`-merge is the composition), `runRef` (the cache-free run of a registry history);
of `Proofs/AffineLemmas.lean`: `InvAff` / `affGroup` (the invertible affine maps as a `TGroup`).

`np.linalg.solve` (inside morphops) and the moving-least-squares numerics (molesq) are external: the
driver evaluates the residual of navis' own coefficients in `Rat`; MLS landmark interpolation is tested
by the harness with a tolerance, not proved (it is approximate by construction: molesq adds an epsilon
to every squared distance).
-/
namespace Navis.Props.C08
open Navis.Affine Navis.Bridge

/-! ## Affine transforms -/

/-- `AffineTransform.__neg__` is the exact inverse, in both orders, for every matrix with
non-zero determinant and every point. -/
theorem affine_neg_inverse (T : Aff) (h : det T ≠ 0) (p : Pt) :
    xform (neg T) (xform T p) = p ∧ xform T (xform (neg T) p) = p :=
  ⟨xform_neg_xform T h p, xform_xform_neg T h p⟩

/-- The matrix of `-T` is a two-sided matrix inverse and negating twice restores `T`. -/
theorem affine_neg_matrix (T : Aff) (h : det T ≠ 0) :
    comp T (neg T) = Affine.one ∧ comp (neg T) T = Affine.one ∧ neg (neg T) = T :=
  ⟨comp_neg T h, neg_comp T h, neg_neg T h⟩

/-- The homogeneous matrix product acts as "first `S`, then `T`". -/
theorem affine_product_is_composition (S T : Aff) (p : Pt) :
    xform (comp S T) p = xform T (xform S p) :=
  xform_comp S T p

/-- `__neg__` fails (numpy: singular matrix) exactly for determinant zero. -/
theorem affine_neg_defined_iff (T : Aff) : (neg? T).isSome = true ↔ det T ≠ 0 := by
  unfold neg?; split <;> simp_all

/-- The edge transform between two frames moves frame-`s` coordinates of any world point to its
frame-`t` coordinates. -/
theorem affine_between_frames (Fs Ft : Aff) (h : det Fs ≠ 0) (w : Pt) :
    xform (between Fs Ft) (xform Fs w) = xform Ft w := by
  rw [between, xform_comp, xform_neg_xform Fs h]

/-- Non-vacuity: a shear + axis swap + scaling with a translation (det = -2). -/
def exT : Aff := ⟨0, 2, 0, 1, 1, 0, 0, 0, 1, 3, -1, 1 / 2⟩
example : det exT ≠ 0 := by decide +kernel
example : xform (neg exT) (xform exT (1, 2, 3)) = (1, 2, 3) := by decide +kernel
example : xform exT (1, 2, 3) = (7, 2, 7 / 2) := by decide +kernel

/-! ## `TransformSequence` -/

/-- A sequence of row-wise members equals, row by row, the composition of the members applied in
order (a NaN produced on the way stops that row). -/
theorem seq_is_composition {π} (fs : List (π → Option π)) (rows : List (Option π)) :
    seqXform (fs.map liftRow) rows = rows.map fun r => fs.foldl (fun q f => q.bind f) r := by
  induction fs generalizing rows with
  | nil => exact (List.map_id' rows).symm
  | cons f fs ih =>
    have : seqXform ((f :: fs).map liftRow) rows = seqXform (fs.map liftRow) (seqStep rows (liftRow f)) := rfl
    rw [this, ih, seqStep_liftRow, List.map_map]
    rfl

/-- The output has the shape of the input. -/
theorem seq_keeps_shape {π} (fs : List (π → Option π)) (rows : List (Option π)) :
    (seqXform (fs.map liftRow) rows).length = rows.length := by
  rw [seq_is_composition, List.length_map]

/-- Rows containing NaN are left alone. -/
theorem nan_rows_untouched {π} (fs : List (π → Option π)) (rows : List (Option π)) (i : Nat)
    (h : rows[i]? = some none) : (seqXform (fs.map liftRow) rows)[i]? = some none := by
  rw [seq_is_composition, List.getElem?_map, h]
  exact congrArg some (rowSeq_none fs)

/-- A row of the result depends on that row of the input only: NaN (or anything else) in other
rows does not contaminate it. -/
theorem rows_independent {π} (fs : List (π → Option π)) (rows rows' : List (Option π)) (i : Nat)
    (h : rows[i]? = rows'[i]?) :
    (seqXform (fs.map liftRow) rows)[i]? = (seqXform (fs.map liftRow) rows')[i]? := by
  rw [seq_is_composition, seq_is_composition, List.getElem?_map, List.getElem?_map, h]

/-- For affine members the sequence is the matrix product on every non-NaN row. -/
theorem seq_affine_is_product (ts : List InvAff) (rows : List (Option Pt)) :
    seqXform (ts.map fun T => liftRow fun q => some (xform T.1 q)) rows
      = rows.map (Option.map (xform (prod affGroup ts).1)) := by
  induction ts generalizing rows with
  | nil =>
    refine (List.map_id' rows).symm.trans (List.map_congr_left fun r _ => ?_)
    cases r with
    | none => rfl
    | some p => exact congrArg some (xform_one p).symm
  | cons t ts ih =>
    show seqXform (ts.map _) (seqStep rows (liftRow fun q => some (xform t.1 q))) = _
    rw [ih, seqStep_liftRow, List.map_map]
    refine List.map_congr_left fun r _ => ?_
    cases r with
    | none => rfl
    | some p => exact congrArg some (by rw [prod_cons]; exact (xform_comp t.1 _ p).symm)

/-- `TransformSequence.__neg__` (members negated, order REVERSED) composes to the inverse, in any
group of transforms. -/
theorem seq_neg_is_inverse {τ} (g : TGroup τ) (ts : List τ) :
    g.mul (prod g ts) (prod g (negSeq g.inv ts)) = g.one ∧
    g.mul (prod g (negSeq g.inv ts)) (prod g ts) = g.one := by
  rw [prod_negSeq]; exact ⟨g.mul_inv _, g.inv_mul _⟩

/-- … hence `-seq` applied after `seq` restores every row (affine members). -/
theorem seq_neg_roundtrip (ts : List InvAff) (rows : List (Option Pt)) :
    seqXform ((negSeq affGroup.inv ts).map fun T => liftRow fun q => some (xform T.1 q))
      (seqXform (ts.map fun T => liftRow fun q => some (xform T.1 q)) rows) = rows := by
  rw [seq_affine_is_product, seq_affine_is_product, List.map_map, prod_negSeq, Option.map_comp_map]
  have : xform (affGroup.inv (prod affGroup ts)).1 ∘ xform (prod affGroup ts).1 = id :=
    funext (xform_neg_xform _ (prod affGroup ts).2)
  rw [this, Option.map_id, List.map_id]

/-- Non-vacuity / the order matters: negating the members WITHOUT reversing is not the inverse. -/
def exS : InvAff := ⟨⟨1, 0, 0, 0, 1, 0, 0, 0, 1, 1, 0, 0⟩, by decide +kernel⟩
def exR : InvAff := ⟨⟨2, 0, 0, 0, 1, 0, 0, 0, 1, 0, 0, 0⟩, by decide +kernel⟩
example : (prod affGroup ([exS, exR].map affGroup.inv)).1 ≠ (affGroup.inv (prod affGroup [exS, exR])).1 := by
  decide +kernel
example : seqXform ([exS, exR].map fun T => liftRow fun q => some (xform T.1 q))
    [some (1, 1, 1), none, some (0, 0, 0)] = [some (4, 1, 1), none, some (2, 0, 0)] := by
  decide +kernel

/-! ## The bridging graph and the telescoping theorem -/

/-- The edges of `bridging_graph(reciprocal)` are exactly: one forward edge per bridging
registration, and — only if `reciprocal` is on and the registration is invertible — one reverse
edge carrying the NEGATED transform with weight `weight * reciprocal`. -/
theorem graph_edges_exactly {τ} (neg : τ → τ) (regs : List (Reg τ)) (recip : Option Rat) (e : GEdge τ) :
    e ∈ bridgingGraph neg regs recip ↔
      ∃ r, regs[e.ridx]? = some r ∧ r.kind = Kind.bridging ∧
        ((e = ⟨r.src, r.tgt, r.xf, r.weight, e.ridx, false⟩) ∨
         (r.invertible = true ∧ ∃ k, recip = some k ∧ k ≠ 0 ∧
            e = ⟨r.tgt, r.src, neg r.xf, r.weight * k, e.ridx, true⟩)) :=
  mem_bridgingGraph_iff

/-- **Telescoping.** If every bridging registration is consistent with a (hidden) assignment of
frames, then EVERY chain of edges of the bridging graph from `s` to `t` — forward or inverted
edges, any of several parallel edges, any route, with or without cycles — composes to
`frame t ∘ (frame s)⁻¹`.  Holds in every group of transforms. -/
theorem path_maps_as_frames {τ} (g : TGroup τ) (frame : Nat → τ) (regs : List (Reg τ))
    (recip : Option Rat) (hc : Consistent g frame regs) {s t : Nat} {es : List (GEdge τ)}
    (h : EChain (bridgingGraph g.inv regs recip) s t es) :
    prod g (es.map (·.xf)) = g.mul (g.inv (frame s)) (frame t) :=
  telescope g frame _ (fun _ he => edge_consistent g hc he) h

/-- In particular for the transforms `find_bridging_path` collects along whatever node path it
settles on (shortest, first simple path, honouring `via` or not), with its choice among parallel
edges as written. -/
theorem found_path_maps_as_frames {τ} (g : TGroup τ) (frame : Nat → τ) (regs : List (Reg τ))
    (recip : Option Rat) (hc : Consistent g frame regs) {s t : Nat} {p : List Nat}
    {es : List (GEdge τ)} (hp : pathEdges (bridgingGraph g.inv regs recip) p = some es)
    (hs : p.head? = some s) (ht : p.getLast? = some t) :
    prod g (es.map (·.xf)) = g.mul (g.inv (frame s)) (frame t) :=
  path_maps_as_frames g frame regs recip hc (pathEdges_chain hp hs ht)

/-- Every node path of the graph does have transforms. -/
theorem path_transforms_exist {τ} (G : List (GEdge τ)) (p : List Nat) (h : isChain G p = true) :
    ∃ es, pathEdges G p = some es := by
  induction p with
  | nil => exact ⟨[], rfl⟩
  | cons a rest ih =>
    cases rest with
    | nil => exact ⟨[], rfl⟩
    | cons b rest =>
      simp only [isChain, Bool.and_eq_true] at h
      obtain ⟨e, he⟩ := pick_isSome_of_hasEdge h.1
      obtain ⟨es, hes⟩ := ih h.2
      exact ⟨e :: es, by simp only [pathEdges, he, hes]⟩

/-- The edge chosen between two nodes is one of their parallel edges, of maximal weight (as written:
`sorted(...)[-1]`). -/
theorem picked_edge_is_parallel_max {τ} (G : List (GEdge τ)) (a b : Nat) (e : GEdge τ)
    (h : pick G a b = some e) :
    e ∈ G ∧ e.u = a ∧ e.v = b ∧ ∀ e' ∈ G, e'.u = a → e'.v = b → e'.weight ≤ e.weight := by
  obtain ⟨h1, h2, h3⟩ := pick_mem h
  refine ⟨h1, h2, h3, fun e' he' hu hv => ?_⟩
  unfold pick at h
  have hs := List.pairwise_mergeSort (le := fun x y : GEdge τ => decide (x.weight ≤ y.weight))
    (fun a b c hab hbc => by
      simp only [decide_eq_true_eq] at *
      exact Rat.le_trans hab hbc)
    (fun a b => by
      simp only [Bool.or_eq_true, decide_eq_true_eq]
      exact Rat.le_total)
    (parallel G a b)
  obtain ⟨ys, hys⟩ := List.getLast?_eq_some_iff.mp h
  rw [hys, List.pairwise_append] at hs
  rcases List.mem_append.mp (hys ▸ List.mem_mergeSort.mpr (mem_parallel.mpr ⟨he', hu, hv⟩)) with hm | hm
  · exact of_decide_eq_true (hs.2.2 e' hm e (List.mem_singleton_self e))
  · rw [List.mem_singleton.mp hm]

/-- **`xform_brain` on points (affine instance).** With invertible affine frames and consistent
registrations, applying the `TransformSequence` of the found path to an array maps every non-NaN
row exactly as the direct change of frame `frame t ∘ (frame s)⁻¹` and leaves NaN rows alone. -/
theorem affine_path_maps_points (frame : Nat → InvAff) (regs : List (Reg InvAff)) (recip : Option Rat)
    (hc : Consistent affGroup frame regs) {s t : Nat} {p : List Nat} {es : List (GEdge InvAff)}
    (hp : pathEdges (bridgingGraph affGroup.inv regs recip) p = some es)
    (hs : p.head? = some s) (ht : p.getLast? = some t) (rows : List (Option Pt)) :
    seqXform (es.map fun e => liftRow fun q => some (xform e.xf.1 q)) rows
      = rows.map (Option.map fun q => xform (frame t).1 (xform (neg (frame s).1) q)) := by
  have h := found_path_maps_as_frames affGroup frame regs recip hc hp hs ht
  have e1 : (es.map fun e => liftRow fun q => some (xform e.xf.1 q))
      = (es.map (·.xf)).map fun (T : InvAff) => liftRow fun q => some (xform T.1 q) := by
    rw [List.map_map]; rfl
  rw [e1, seq_affine_is_product, h]
  exact congrArg (fun f => rows.map (Option.map f)) (funext (xform_comp _ _))

/-- Non-vacuity: three templates with different frames, a forward-only and an invertible
registration, path `2 → 1 → 0` uses the inverted edge and the forward edge. -/
def exFrame : Nat → InvAff
  | 0 => exS
  | 1 => exR
  | _ => ⟨exT, by decide +kernel⟩
def exRegs : List (Reg InvAff) :=
  [⟨1, 0, affGroup.mul (affGroup.inv (exFrame 1)) (exFrame 0), Kind.bridging, false, 1⟩,
   ⟨1, 2, affGroup.mul (affGroup.inv (exFrame 1)) (exFrame 2), Kind.bridging, true, 2⟩]
example : Consistent affGroup exFrame exRegs := by
  intro r hr _
  simp only [exRegs, List.mem_cons, List.mem_nil_iff, or_false] at hr
  rcases hr with rfl | rfl <;> rfl
example : ((pathEdges (bridgingGraph affGroup.inv exRegs (some 1)) [2, 1, 0]).map
    fun es => es.map fun e => (e.ridx, e.inverted)) = some [(1, true), (0, false)] := by
  decide +kernel

/-! ## `via` / `avoid` -/

/-- The property checker the driver evaluates on the path navis returns is exact. -/
theorem check_sound {τ} (G : List (GEdge τ)) (s t : Nat) (via avoid p : List Nat) :
    checkPath G s t via avoid p = true ↔
      SimplePath G s t p ∧ (∀ v ∈ via, v ∈ p) ∧ (∀ v ∈ avoid, v ∉ p) := by
  simp only [checkPath, Bool.and_eq_true, beq_iff_eq, nodupB_iff, acceptRepaired_iff, SimplePath, and_assoc]

/-- The model's enumerator yields exactly the simple paths (sound and complete), so `admissible`
is exactly the set of answers the property allows. -/
theorem enumerator_exact {τ} (G : List (GEdge τ)) (s t : Nat) (via avoid p : List Nat) :
    p ∈ admissible G s t via avoid ↔ checkPath G s t via avoid p = true := by
  rw [admissible, List.mem_filter, mem_simplePaths_iff, check_sound, acceptRepaired_iff]

/-- **Repaired logic honours `via` and `avoid`**: whatever sound enumeration of simple paths the
search runs over, an answer is a simple path from `s` to `t` with all `via` and no `avoid`. -/
theorem path_honours_via_avoid {τ} (G : List (GEdge τ)) (s t : Nat) (via avoid : List Nat)
    (sh : Option (List Nat)) (enum : List (List Nat)) (p : List Nat)
    (hsh : ∀ q, sh = some q → SimplePath G s t q) (henum : ∀ q ∈ enum, SimplePath G s t q)
    (h : findPath acceptRepaired G s t via avoid sh enum = .ok p) :
    checkPath G s t via avoid p = true := by
  rw [check_sound]
  rcases findPath_cases h with ⟨e, he, -⟩ | ⟨hv, ha, hr⟩ | ⟨-, hr⟩
  · cases he
  · subst hv ha
    cases sh with
    | none => cases hr
    | some q => cases hr; exact ⟨hsh _ rfl, by simp, by simp⟩
  · obtain ⟨hm, ha⟩ := searchLoop_ok hr.symm
    exact ⟨henum p hm, (acceptRepaired_iff via avoid p).mp ha⟩

/-- A registry with the routes `0→3→2`, `0→1→2` and the edge `2→4`. -/
def exG : List (GEdge Unit) :=
  [⟨0, 3, (), 1, 0, false⟩, ⟨3, 2, (), 1, 1, false⟩, ⟨0, 1, (), 1, 2, false⟩, ⟨1, 2, (), 1, 3, false⟩,
   ⟨2, 4, (), 1, 4, false⟩]

/-- HISTORICAL — **the logic as written before the repair `0eaf94d` does not**: on `exG` the query
`0 → 2 via 1 avoid 4` returns the path `0,3,2` that lacks `via`, although the admissible path `0,1,2` exists
(DESIGN §6 #9; reproduced on the real code by the harness). -/
theorem asWritten_violates_via :
    ∃ (G : List (GEdge Unit)) (s t : Nat) (via avoid p : List Nat),
      findPath acceptAsWritten G s t via avoid none (simplePaths G s t) = .ok p ∧
      checkPath G s t via avoid p = false ∧ admissible G s t via avoid ≠ [] :=
  ⟨exG, 0, 2, [1], [4], [0, 3, 2], by decide +kernel⟩

/-- HISTORICAL: with only `via` or only `avoid` the code as written before the repair agrees with the
property; with both it ignores `via` altogether. -/
theorem asWritten_single_ok (l p : List Nat) (h : l ≠ []) :
    acceptAsWritten l [] p = acceptRepaired l [] p ∧ acceptAsWritten [] l p = acceptRepaired [] l p := by
  unfold acceptAsWritten acceptRepaired
  cases l with
  | nil => exact absurd rfl h
  | cons a l =>
    generalize ((a :: l).all fun x => p.contains x) = b1
    generalize ((a :: l).any fun x => p.contains x) = b2
    cases b1 <;> cases b2 <;> exact ⟨rfl, rfl⟩

theorem asWritten_both_ignores_via (via avoid p : List Nat) (hv : via ≠ []) (ha : avoid ≠ []) :
    acceptAsWritten via avoid p = acceptRepaired [] avoid p := by
  unfold acceptAsWritten acceptRepaired
  cases via with
  | nil => exact absurd rfl hv
  | cons a l =>
    cases avoid with
    | nil => exact absurd rfl ha
    | cons c m =>
      generalize ((a :: l).all fun x => p.contains x) = b1
      generalize ((c :: m).any fun x => p.contains x) = b2
      cases b1 <;> cases b2 <;> rfl

/-- **`no_path_error` soundness** (both for the code as written and repaired): if the search over
the simple paths ends in `NetworkXNoPath`, then no admissible path exists at all.  (`hsh`: the
assumption on `nx.shortest_path` that it only raises when there is no path.) -/
theorem no_path_error_sound {τ} (accept : List Nat → List Nat → List Nat → Bool)
    (hacc : ∀ via avoid p, (via ≠ [] ∨ avoid ≠ []) → acceptRepaired via avoid p = true →
      accept via avoid p = true)
    (G : List (GEdge τ)) (s t : Nat) (via avoid : List Nat) (sh : Option (List Nat)) (e : FindErr)
    (hsh : sh = none → simplePaths G s t = [])
    (he : e = .noPath ∨ e = .noGood)
    (h : findPath accept G s t via avoid sh (simplePaths G s t) = .error e) :
    ∀ p, checkPath G s t via avoid p = false := by
  intro p
  cases hcp : checkPath G s t via avoid p with
  | false => rfl
  | true =>
    exfalso
    obtain ⟨hmem, hrep⟩ := List.mem_filter.mp ((enumerator_exact G s t via avoid p).mpr hcp)
    rcases findPath_cases h with ⟨e', he', hn1, hn2, -⟩ | ⟨-, -, hr⟩ | ⟨hne, hr⟩
    · cases he'
      exact he.elim hn1 hn2
    · cases sh with
      | some q => cases hr
      | none => rw [hsh rfl] at hmem; cases hmem
    · have := searchLoop_error hr.symm p hmem
      rw [hacc via avoid p hne hrep] at this
      cases this

/-- Both loop bodies qualify for `no_path_error_sound`. -/
theorem no_path_error_sound_applies :
    (∀ via avoid p, (via ≠ [] ∨ avoid ≠ []) → acceptRepaired via avoid p = true →
      acceptRepaired via avoid p = true) ∧
    (∀ via avoid p, (via ≠ [] ∨ avoid ≠ []) → acceptRepaired via avoid p = true →
      acceptAsWritten via avoid p = true) :=
  ⟨fun _ _ _ _ h => h, fun via avoid p hne h => by
    simp only [acceptRepaired, Bool.and_eq_true, Bool.not_eq_true'] at h
    obtain ⟨hv, ha⟩ := h
    unfold acceptAsWritten
    rw [hv, ha]
    cases via <;> cases avoid <;> first | rfl | (rcases hne with h | h <;> exact absurd rfl h)⟩

/-- Conversely the repaired search raises whenever no admissible path exists. -/
theorem error_when_inadmissible {τ} (G : List (GEdge τ)) (s t : Nat) (via avoid : List Nat)
    (sh : Option (List Nat)) (hsh : ∀ q, sh = some q → SimplePath G s t q)
    (hno : ∀ p, checkPath G s t via avoid p = false) :
    ∃ e, findPath acceptRepaired G s t via avoid sh (simplePaths G s t) = .error e := by
  cases h : findPath acceptRepaired G s t via avoid sh (simplePaths G s t) with
  | error e => exact ⟨e, rfl⟩
  | ok p =>
    have := path_honours_via_avoid G s t via avoid sh _ p hsh
      (fun q hq => mem_simplePaths_iff.mp hq) h
    rw [hno p] at this; cases this

example : findPath acceptRepaired exG 0 2 [1] [4] none (simplePaths exG 0 2) = .ok [0, 1, 2] := by
  decide +kernel
example : findPath acceptRepaired exG 0 2 [1] [1] none (simplePaths exG 0 2) = .error .noGood := by
  decide +kernel
example : findPath acceptRepaired exG 4 0 [] [3] none (simplePaths exG 4 0) = .error .noPath := by
  decide +kernel

/-! ## The CURRENT source (facts re-extracted by `translator/gen_bridge.py` on every run) -/

/-- **The loop body of `find_bridging_path` in the current source is the repaired logic.**
`Gen.Bridge.acceptTree` is the Boolean function read off the `if`/`elif` tree of the loop; whenever
the loop runs (`via` or `avoid` given) it accepts exactly the paths holding all `via` and no
`avoid`.  Any logically equivalent rewrite of the source keeps this theorem; the historical
`elif avoid and …` does not. -/
theorem source_decision_is_repaired (via avoid p : List Nat) (hne : via ≠ [] ∨ avoid ≠ []) :
    acceptOf Gen.Bridge.acceptTree via avoid p = acceptRepaired via avoid p :=
  acceptOf_eq_repaired _ (by decide +kernel) via avoid p hne

/-- The guard of the `nx.shortest_path` short cut is "neither `via` nor `avoid`", every accepted path
ends the loop, both arguments are normalised with `make_iterable` (a single name is one name),
`xform_brain` forwards `via` and `avoid`, and an error is raised when no path was accepted. -/
theorem source_find_facts :
    (∀ v a, Gen.Bridge.shortcutTree v a = (!v && !a)) ∧ Gen.Bridge.acceptBreaks = true
    ∧ Gen.Bridge.viaNormalised = true ∧ Gen.Bridge.avoidNormalised = true
    ∧ Gen.Bridge.raisesWhenNotGood = true
    ∧ Gen.Bridge.brainArgs = ["source", "target", "avoid=avoid", "via=via"]
    ∧ Gen.Bridge.enumArgs = ["source", "target"] ∧ "source" ∈ Gen.Bridge.shortestArgs ∧ "target" ∈ Gen.Bridge.shortestArgs :=
  have ⟨a, b⟩ : _ ∧ _ := by decide +kernel
  ⟨a, rfl, rfl, rfl, rfl, rfl, rfl, b⟩

/-- `find_bridging_path` of the current source (short-cut guard and loop body as extracted) is the
repaired model, for every graph, query, `shortest_path` answer and enumeration. -/
theorem source_find_is_repaired {τ} (G : List (GEdge τ)) (s t : Nat) (via avoid : List Nat)
    (sh : Option (List Nat)) (enum : List (List Nat)) :
    findPathG Gen.Bridge.shortcutTree (acceptOf Gen.Bridge.acceptTree) G s t via avoid sh enum
      = findPath acceptRepaired G s t via avoid sh enum :=
  findPathG_eq _ _ _ source_find_facts.1 source_decision_is_repaired G s t via avoid sh enum

/-- … hence whatever it returns is a simple path from `s` to `t` through all `via` and clear of all
`avoid`. -/
theorem source_path_honours_via_avoid {τ} (G : List (GEdge τ)) (s t : Nat) (via avoid : List Nat)
    (sh : Option (List Nat)) (enum : List (List Nat)) (p : List Nat)
    (hsh : ∀ q, sh = some q → SimplePath G s t q) (henum : ∀ q ∈ enum, SimplePath G s t q)
    (h : findPathG Gen.Bridge.shortcutTree (acceptOf Gen.Bridge.acceptTree) G s t via avoid sh enum = .ok p) :
    checkPath G s t via avoid p = true := by
  rw [source_find_is_repaired] at h
  exact path_honours_via_avoid G s t via avoid sh enum p hsh henum h

/-- **An error is raised exactly when no admissible path exists.**  For known templates (`G` has
edges, `s`, `t` and every `via` are nodes; otherwise a `ValueError` names the unknown template), with
`nx.shortest_path` assumed to return a simple path when one exists and to raise only when none does,
and the search running over all simple paths: `find_bridging_path` fails iff no simple path from `s`
to `t` holds all `via` and no `avoid`; the failure then is `NetworkXNoPath`. -/
theorem no_path_error_iff {τ} (G : List (GEdge τ)) (s t : Nat) (via avoid : List Nat)
    (sh : Option (List Nat)) (hG : G ≠ []) (hs : s ∈ nodes G) (ht : t ∈ nodes G)
    (hv : ∀ v ∈ via, v ∈ nodes G)
    (hsh1 : ∀ q, sh = some q → SimplePath G s t q) (hsh2 : sh = none → simplePaths G s t = []) :
    ((∃ e, findPath acceptRepaired G s t via avoid sh (simplePaths G s t) = .error e) ↔
      ∀ p, checkPath G s t via avoid p = false) ∧
    (∀ e, findPath acceptRepaired G s t via avoid sh (simplePaths G s t) = .error e →
      e = .noPath ∨ e = .noGood) := by
  have hkind : ∀ e, findPath acceptRepaired G s t via avoid sh (simplePaths G s t) = .error e →
      e = .noPath ∨ e = .noGood := by
    intro e he
    rcases findPath_cases he with ⟨-, -, -, -, hk⟩ | ⟨-, -, hr⟩ | ⟨-, hr⟩
    · exact absurd ⟨hG, hs, ht, hv⟩ hk
    · cases sh with
      | some q => cases hr
      | none => cases hr; exact Or.inl rfl
    · exact searchLoop_error_kind hr.symm
  refine ⟨⟨?_, ?_⟩, hkind⟩
  · rintro ⟨e, he⟩
    exact no_path_error_sound acceptRepaired (fun _ _ _ _ h => h) G s t via avoid sh e hsh2 (hkind e he) he
  · intro hno
    exact error_when_inadmissible G s t via avoid sh hsh1 hno

/-- The same for the current source. -/
theorem source_no_path_error_iff {τ} (G : List (GEdge τ)) (s t : Nat) (via avoid : List Nat)
    (sh : Option (List Nat)) (hG : G ≠ []) (hs : s ∈ nodes G) (ht : t ∈ nodes G)
    (hv : ∀ v ∈ via, v ∈ nodes G)
    (hsh1 : ∀ q, sh = some q → SimplePath G s t q) (hsh2 : sh = none → simplePaths G s t = []) :
    (∃ e, findPathG Gen.Bridge.shortcutTree (acceptOf Gen.Bridge.acceptTree) G s t via avoid sh
        (simplePaths G s t) = .error e) ↔ ∀ p, checkPath G s t via avoid p = false := by
  rw [source_find_is_repaired]
  exact (no_path_error_iff G s t via avoid sh hG hs ht hv hsh1 hsh2).1

/-- Non-vacuity: `exG` has edges, `0`, `2`, `1` are nodes; with `avoid = [1]` and `via = [1]` nothing
is admissible and the source raises, with `avoid = [4]` it finds `0,1,2`. -/
example : ∃ e, findPathG Gen.Bridge.shortcutTree (acceptOf Gen.Bridge.acceptTree) exG 0 2 [1] [1] none
    (simplePaths exG 0 2) = .error e := ⟨.noGood, by decide +kernel⟩
example : findPathG Gen.Bridge.shortcutTree (acceptOf Gen.Bridge.acceptTree) exG 0 2 [1] [4] none
    (simplePaths exG 0 2) = .ok [0, 1, 2] := by decide +kernel

/-- HISTORICAL: the loop body before the repair is the tree `asWrittenTree`, and that tree is NOT the
one the current source has (so the witness `asWritten_violates_via` is about old code). -/
theorem asWritten_is_historical :
    (∀ via avoid p, acceptAsWritten via avoid p = acceptOf asWrittenTree via avoid p) ∧
    asWrittenTree true false true false ≠ Gen.Bridge.acceptTree true false true false :=
  ⟨fun _ _ _ => rfl, by decide +kernel⟩

/-- **`bridging_graph` of the current source is the model graph**: the forward weight is the
registration's weight, the reverse weight is `weight * reciprocal` (numbers; `True` is a number). -/
theorem source_graph_is_model {τ} (neg : τ → τ) (regs : List (Reg τ)) (recip : Option Rat) :
    bridgingGraphOf Gen.Bridge.fwdWeight Gen.Bridge.revNumberWeight neg regs recip = bridgingGraph neg regs recip :=
  bridgingGraphOf_eq _ _ (fun _ => rfl) (fun _ _ => rfl) neg regs recip

/-- Forward edges run over the `type == 'bridging'` records from source to target with the transform itself,
reverse edges over the INVERTIBLE bridging records from target to source with the NEGATED transform, only under
`if reciprocal:`; for a truthy `reciprocal` that is not a number the reverse weight is `weight`. -/
theorem source_graph_facts :
    Gen.Bridge.fwdOver = ["self.transforms", "t.type == 'bridging'"]
    ∧ Gen.Bridge.fwdEnds = ["t.source", "t.target"] ∧ Gen.Bridge.fwdTransform = "t.transform"
    ∧ Gen.Bridge.revGuard = "reciprocal"
    ∧ Gen.Bridge.revNumberOver = ["self.transforms", "t.invertible", "t.type == 'bridging'"]
    ∧ Gen.Bridge.revNumberEnds = ["t.target", "t.source"] ∧ Gen.Bridge.revNumberTransform = "-t.transform"
    ∧ Gen.Bridge.revOtherOver = ["self.transforms", "t.invertible", "t.type == 'bridging'"]
    ∧ Gen.Bridge.revOtherEnds = ["t.target", "t.source"] ∧ Gen.Bridge.revOtherTransform = "-t.transform"
    ∧ (∀ w k, Gen.Bridge.revOtherWeight w k = w) :=
  ⟨rfl, rfl, rfl, rfl, rfl, rfl, rfl, rfl, rfl, rfl, fun _ _ => rfl⟩

/-- **`register_transform` of the current source is the model's `register`**: the record is appended
unless `skip_existing` and an equal record exists, and the caches are cleared unconditionally. -/
theorem source_register_is_model {τ} [DecidableEq τ] (st : RegState τ) (r : Reg τ) (sk : Bool) :
    registerOf Gen.Bridge.appendCond Gen.Bridge.registerClears st r sk = register st r sk :=
  registerOf_eq _ (by decide +kernel) st r sk

/-- Every memoised method of the registry is among those `clear_caches` clears. -/
theorem source_caches_cleared :
    (∀ c ∈ Gen.Bridge.cached, c ∈ Gen.Bridge.cleared) ∧ Gen.Bridge.registerClears = true
    ∧ (Gen.Bridge.graphCached = true → "bridging_graph" ∈ Gen.Bridge.cleared) :=
  have ⟨a, b⟩ : _ ∧ _ := by decide +kernel
  ⟨a, rfl, b⟩

/-- Which registrations get reverse edges.  The `invertible` flag `register_transform` computes in the
current source is: for a plain transform "its class defines `__neg__`", for a `TransformSequence`
"EVERY member's class defines `__neg__`" (not: the sequence class has `__neg__`, which is always
true).  The classes that define `__neg__` are exactly these (`FunctionTransform` and
`ElastixTransform` do not). -/
theorem source_invertible_classes :
    (∀ selfNeg allNeg, Gen.Bridge.invertibleOf false selfNeg allNeg = selfNeg)
    ∧ (∀ selfNeg allNeg, Gen.Bridge.invertibleOf true selfNeg allNeg = allNeg)
    ∧ (Gen.Bridge.negClasses.filter (·.2)).map (·.1)
        = ["AffineTransform", "AliasTransform", "CMTKtransform", "H5JavaTransform", "H5transform",
           "MovingLeastSquaresTransform", "TPStransform", "TransformSequence"]
    ∧ (Gen.Bridge.negClasses.filter (!·.2)).map (·.1) = ["ElastixTransform", "FunctionTransform"] :=
  by decide +kernel

/-- **A registered sequence is marked invertible exactly when `-sequence` is defined**, i.e. when
every member can be negated; a plain transform exactly when its class defines `__neg__`.  Together
with `graph_edges_exactly` (reverse edge ⇔ `invertible`): a sequence record has a reverse edge iff
all its members are invertible, `bridging_graph` never evaluates an undefined `-transform`, and a
non-invertible member removes that record's reverse edge only. -/
theorem seq_record_invertible_iff_neg_defined {τ : Type} (neg? : τ → Option τ) (ts : List τ) (seqNeg : Bool) :
    recordInvertible Gen.Bridge.invertibleOf seqNeg (.seq (ts.map fun t => (neg? t).isSome)) = true
      ↔ (negSeq? neg? ts).isSome = true := by
  rw [negSeq?_isSome_iff]
  show (List.all (ts.map fun t => (neg? t).isSome) id) = true ↔ _
  simp [List.all_eq_true]

theorem plain_record_invertible (h seqNeg : Bool) :
    recordInvertible Gen.Bridge.invertibleOf seqNeg (.plain h) = h := rfl

/-- `-seq`, when defined, is the reversed list of negated members (the model's `negSeq`), hence the
inverse (`seq_neg_is_inverse`). -/
theorem seq_neg_defined_is_negSeq {τ : Type} (neg : τ → τ) (ts : List τ) :
    negSeq? (fun t => some (neg t)) ts = some (negSeq neg ts) :=
  optAll_map_some neg ts.reverse

/-- Non-vacuity: members `[invertible, not invertible]` → no reverse edge; all invertible → one. -/
example : recordInvertible Gen.Bridge.invertibleOf true (.seq [true, false]) = false := by decide +kernel
example : recordInvertible Gen.Bridge.invertibleOf true (.seq [true, true]) = true := by decide +kernel
example : recordInvertible Gen.Bridge.invertibleOf true (.seq []) = true := by decide +kernel

/-- **`TransformSequence.__neg__` of the current source** negates the members in REVERSED order (the model's
`negSeq`). -/
theorem source_seq_neg_is_model {τ : Type} (neg : τ → τ) (ts : List τ) :
    negSeqOf Gen.Bridge.seqNegReverses Gen.Bridge.seqNegNegates neg ts = negSeq neg ts := rfl

/-- `TransformSequence.copy()` exists and rebuilds the sequence from copies of its members (so a
sequence can be a member of / be registered and used through another sequence), `__init__` copies by
default; `append` unpacks a sequence argument into its members, type-checks and tests every MEMBER
(not the container) for `xform`, and tries to merge each member into the last one. -/
theorem source_seq_nesting_facts :
    Gen.Bridge.seqHasCopy = true ∧ Gen.Bridge.seqCopyCopiesMembers = true ∧ Gen.Bridge.seqInitCopyDefault = true
    ∧ Gen.Bridge.appendUnpacksSeq = true ∧ Gen.Bridge.appendTestsMember = true
    ∧ Gen.Bridge.appendIsinstanceOnMember = true ∧ Gen.Bridge.appendMergesIntoLast = true :=
  ⟨rfl, rfl, rfl, rfl, rfl, rfl, rfl⟩

/-- **`TransformSequence.xform` of the current source** works on a fresh float64 copy of its input, masks rows
with `any(isnan, axis=1)` recomputed before every member, hands exactly the unmasked rows to each member of
`self.transforms` in order, writes the result back into exactly those rows, and skips a member when every row is
masked. -/
theorem source_seq_xform_facts :
    Gen.Bridge.xfFresh = true ∧ Gen.Bridge.xfDtype = "float64" ∧ Gen.Bridge.xfLoopOver = "self.transforms"
    ∧ Gen.Bridge.nanMask = "np.any(np.isnan(XF), axis=1)" ∧ Gen.Bridge.maskPerMember = true
    ∧ Gen.Bridge.writeTargets = ["XF[~MASK]"] ∧ Gen.Bridge.writeArgs = ["XF[~MASK]"]
    ∧ Gen.Bridge.allNanSkip = ["all(MASK)"] :=
  ⟨rfl, rfl, rfl, rfl, rfl, rfl, rfl, rfl⟩

/-! ## Merging of appendable members -/

/-- **`TransformSequence(*members)` equals the composition of the members in order**, however many
members were merged into their predecessor by `append` (any group of transforms, any merge function
whose success means "is now the composition"). -/
theorem seq_build_is_composition {τ} (g : TGroup τ) (merge : τ → τ → Option τ)
    (hm : MergeSound g merge) (ts : List τ) :
    prod g (seqBuild merge ts) = prod g ts := by
  unfold seqBuild
  rw [prod_foldl_seqAppend g merge hm, prod_nil, g.one_mul]

/-- **Sequences of sequences flatten**: `TransformSequence(*items)` with transforms, sequences and
lists mixed composes to the flattened list of members in order (merging still applies). -/
theorem seq_nested_is_flat_composition {τ} (g : TGroup τ) (merge : τ → τ → Option τ)
    (hm : MergeSound g merge) (items : List (Item τ)) :
    prod g (seqBuildItems merge items) = prod g (items.flatMap Item.members) := by
  unfold seqBuildItems
  rw [prod_seqBuildItems_aux g merge hm, prod_nil, g.one_mul]

/-- `seq.copy()` (= `TransformSequence(*seq.transforms)`) composes to the same transform as `seq`. -/
theorem seq_copy_same_composition {τ} (g : TGroup τ) (merge : τ → τ → Option τ)
    (hm : MergeSound g merge) (ts : List τ) :
    prod g (seqBuild merge (seqBuild merge ts)) = prod g (seqBuild merge ts) :=
  seq_build_is_composition g merge hm _

/-- … row by row for affine members. -/
theorem seq_build_affine_rows (merge : InvAff → InvAff → Option InvAff) (hm : MergeSound affGroup merge)
    (ts : List InvAff) (rows : List (Option Pt)) :
    seqXform ((seqBuild merge ts).map fun T => liftRow fun q => some (xform T.1 q)) rows
      = seqXform (ts.map fun T => liftRow fun q => some (xform T.1 q)) rows := by
  rw [seq_affine_is_product, seq_affine_is_product, seq_build_is_composition affGroup merge hm]

/-- Non-vacuity: merging everything (`merge a b = some (a·b)`) gives one member, merging nothing keeps
the list; both are sound. -/
example : MergeSound affGroup (fun a b => some (affGroup.mul a b)) := fun _ _ _ h => by cases h; rfl
example : MergeSound affGroup (fun _ _ => none) := fun _ _ _ h => by cases h
example : (seqBuild (fun a b => some (affGroup.mul a b)) [exS, exR, exS]).length = 1 := by decide +kernel
example : (seqBuild (fun (_ _ : InvAff) => none) [exS, exR, exS]).length = 3 := by decide +kernel

/-! ## Thin plate splines -/
section TPS
open Navis.Tps

/-- **Coefficients that solve the TPS system make the spline interpolate.**  For EVERY kernel: if
`(W, A)` satisfy the top block `K·W + P·A = Y` of the system `morphops.tps_coefs` solves, with `K` the
kernel matrix of the source landmarks, then `TPStransform.xform` (as written: `P@A + U@W`, `U` the
kernel between the points and the SOURCE landmarks) sends the `i`-th source landmark exactly to the
`i`-th target landmark. -/
theorem tps_interpolates (kern : Tps.Pt → Tps.Pt → Rat) (src tgt W : List Tps.Pt) (A : AffCoef)
    (h : Solves (kernelMatrix kern src) src tgt W A) :
    src.map (eval kern src W A) = tgt := by
  rw [← systemTop_kernelMatrix]; exact h.1

theorem tps_landmark_to_landmark (kern : Tps.Pt → Tps.Pt → Rat) (src tgt W : List Tps.Pt) (A : AffCoef)
    (h : Solves (kernelMatrix kern src) src tgt W A) (i : Nat) (s : Tps.Pt) (hs : src[i]? = some s) :
    tgt[i]? = some (eval kern src W A s) := by
  rw [← tps_interpolates kern src tgt W A h, List.getElem?_map, hs]; rfl

/-- **Checker soundness (what the driver evaluates on navis' own coefficients).**  If the residual
of the system is at most `ε` per coordinate then every source landmark is mapped to within `ε` of its
target, and there are as many targets as sources. -/
theorem tps_check_sound (eps : Rat) (kern : Tps.Pt → Tps.Pt → Rat) (src tgt W : List Tps.Pt) (A : AffCoef)
    (h : solvesB eps (kernelMatrix kern src) src tgt W A = true) :
    src.length = tgt.length ∧
    ∀ (i : Nat) s y, src[i]? = some s → tgt[i]? = some y → close eps (eval kern src W A s) y = true := by
  simp only [solvesB, Bool.and_eq_true] at h
  obtain ⟨hl, hc⟩ := closeAll_getElem? h.1
  rw [systemTop_kernelMatrix] at hl hc
  refine ⟨by simpa using hl, ?_⟩
  intro i s y hs hy
  exact hc i _ y (by rw [List.getElem?_map, hs]; rfl) hy

/-- The exact system passes the checker for every tolerance `ε ≥ 0` (the checker is not vacuous). -/
theorem tps_check_complete (eps : Rat) (he : 0 ≤ eps) (K : List (List Rat)) (src tgt W : List Tps.Pt) (A : AffCoef)
    (h : Solves K src tgt W A) : solvesB eps K src tgt W A = true := by
  have refl : ∀ l : List Tps.Pt, closeAll eps l l = true := by
    intro l
    induction l with
    | nil => rfl
    | cons p l ih => simp only [closeAll, Bool.and_eq_true]; exact ⟨close_refl he p, ih⟩
  simp only [solvesB, Bool.and_eq_true]
  exact ⟨by rw [h.1]; exact refl _, by rw [h.2]; exact refl _⟩

/-- **Negation maps back**: `-T` is the spline of the swapped landmark sets, so coefficients solving
THAT system send every target landmark to its source landmark (`tps_interpolates` with the roles
swapped; stated for the model's `neg` with the flags of the current source). -/
theorem tps_neg_interpolates {γ} (kern : Tps.Pt → Tps.Pt → Rat) (lm : Nat → List Tps.Pt) (o : Obj γ)
    (W : List Tps.Pt) (A : AffCoef)
    (h : Solves (kernelMatrix kern (lm o.tgt)) (lm o.tgt) (lm o.src) W A) :
    let n := Tps.neg Gen.Bridge.tpsNegSwaps Gen.Bridge.tpsNegFresh o
    (lm n.src).map (eval kern (lm n.src) W A) = lm n.tgt ∧ n.cache = none :=
  ⟨tps_interpolates kern (lm o.tgt) (lm o.src) W A h, rfl⟩

/-- **The coefficient cache never serves coefficients of other landmarks.**  For every history of
constructions, uses (`xform`, `.W`, `.A`), `copy()` and `__neg__` over a pool of transforms — with
`__neg__`, `copy` as the CURRENT source has them — every use observes the coefficients of the used
object's own (source, target) pair, `-o` being the pair swapped. -/
theorem tps_cache_serves_own_landmarks {γ} (coefs : Nat → Nat → γ) (ops : List Tps.Op) :
    (Tps.run Gen.Bridge.tpsNegSwaps Gen.Bridge.tpsNegFresh Gen.Bridge.tpsCopyCarries coefs [] ops).1
      = Tps.runRef coefs [] ops :=
  run_eq_runRef coefs Gen.Bridge.tpsCopyCarries [] (fun _ h => by cases h) ops

/-- … and a `__neg__` that keeps the cache (for instance one built from `copy()`) does not:
use, negate, use observes the coefficients of the UN-swapped pair. -/
theorem tps_neg_keeping_cache_is_wrong :
    (Tps.run (γ := Nat × Nat) true false true (fun s t => (s, t)) [] [.mk 0 1, .use 0, .neg 0, .use 1]).1
      ≠ Tps.runRef (fun s t => (s, t)) [] [.mk 0 1, .use 0, .neg 0, .use 1] := by decide +kernel

/-- Source facts of `TPStransform` / `MovingLeastSquaresTransform` the model hard-wires: the
constructor starts without coefficients, they are computed from `(source, target)` in this order,
the kernel is taken between the points and the SOURCE landmarks, the result is `P@A + U@W`; the MLS
negation flips `reverse` and `xform` passes it on. -/
theorem source_tps_facts :
    Gen.Bridge.tpsNegSwaps = true ∧ Gen.Bridge.tpsNegFresh = true ∧ Gen.Bridge.tpsInitEmpty = true
    ∧ Gen.Bridge.tpsCoefArgs = ["self.source", "self.target"]
    ∧ Gen.Bridge.tpsKernelArgs = ["points", "self.source"]
    ∧ Gen.Bridge.tpsEvalTerms = ["P @ self.A", "U @ self.W"]
    ∧ Gen.Bridge.mlsNegFlips = true ∧ Gen.Bridge.mlsPassesReverse = true :=
  ⟨rfl, rfl, rfl, rfl, rfl, rfl, rfl, rfl⟩

/-- Non-vacuity: four landmark pairs (the origin and the three unit points, each shifted by `(1,0,0)`), kernel `|x − x'|`-like table: the affine spline
`p ↦ p + (1,0,0)` solves the system with `W = 0` and interpolates. -/
def exSrc : List Tps.Pt := [(0, 0, 0), (1, 0, 0), (0, 1, 0), (0, 0, 1)]
def exTgt : List Tps.Pt := [(1, 0, 0), (2, 0, 0), (1, 1, 0), (1, 0, 1)]
def exKern (p q : Tps.Pt) : Rat := absR (p.1 - q.1) + absR (p.2.1 - q.2.1) + absR (p.2.2 - q.2.2)
def exA : AffCoef := ⟨(1, 0, 0), (1, 0, 0), (0, 1, 0), (0, 0, 1)⟩
example : Solves (kernelMatrix exKern exSrc) exSrc exTgt [Tps.zero, Tps.zero, Tps.zero, Tps.zero] exA :=
  ⟨by decide +kernel, by decide +kernel⟩
example : solvesB (1 / 1000) (kernelMatrix exKern exSrc) exSrc exTgt [Tps.zero, Tps.zero, Tps.zero, Tps.zero] exA = true := by
  decide +kernel

end TPS

/-! ## Registration and the memoised graph -/

/-- For EVERY history of registrations and graph queries starting from an empty registry, every
query returns the graph of the transforms registered at that moment (the memo table never serves a
stale graph). -/
theorem query_sees_current_registrations {τ} [DecidableEq τ] (neg : τ → τ) (ops : List (Op τ)) :
    (runOps neg RegState.empty ops).1 = runRef neg [] ops :=
  runOps_eq_runRef neg _ (coherent_empty neg) ops

/-- A query right after a registration sees the new bridging edge, whatever was memoised before
(`st` arbitrary, even incoherent) and whether or not `skip_existing` found an equal record. -/
theorem query_after_register_sees_edge {τ} [DecidableEq τ] (neg : τ → τ) (st : RegState τ)
    (r : Reg τ) (sk : Bool) (hk : r.kind = Kind.bridging) (k : Option Rat) :
    ∃ i, (⟨r.src, r.tgt, r.xf, r.weight, i, false⟩ : GEdge τ) ∈ (graphCached neg (register st r sk) k).1 := by
  obtain ⟨h1, _, _⟩ := graphCached_spec neg (register st r sk) (coherent_register neg st r sk) k
  rw [h1]
  have hmem : r ∈ (register st r sk).regs := by
    simp only [register]
    split
    · simp
    · rename_i h
      simp only [Bool.or_eq_true, Bool.not_eq_true', not_or, Bool.not_eq_false] at h
      simpa using h.2
  obtain ⟨i, hi⟩ := List.mem_iff_getElem?.mp hmem
  exact ⟨i, mem_bridgingGraph_iff.mpr ⟨r, hi, hk, Or.inl rfl⟩⟩

/-- Non-vacuity: query, register, query — the second answer has the edge, the first has not. -/
example : (runOps (τ := Nat) id RegState.empty
    [.query (some 1), .reg ⟨0, 1, 7, Kind.bridging, false, 1⟩ true, .query (some 1)]).1
    = [[], [⟨0, 1, 7, 1, 0, false⟩]] := by
  decide +kernel

end Navis.Props.C08

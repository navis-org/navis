import NavisModel.Proofs.NblastLemmas
import NavisModel.Proofs.NblastScoreLemmas
import NavisModel.Proofs.DpCacheLemmas
import NavisModel.Gen.Smat
import NavisModel.Gen.DpTree
/-!
# C06 — NBLAST scores equal the published definition

Helper lemmas live in `Proofs/NblastLemmas.lean` (binning), `Proofs/NblastScoreLemmas.lean` (scores) and
`Proofs/DpCacheLemmas.lean` (cached kd-tree); of the predicates the statements use, `Digitizer.WF` is defined in
`Proofs/NblastLemmas.lean`, `ConsistentDup` and `cellD` in `Proofs/NblastScoreLemmas.lean`.  The model
(`Model/Nblast.lean`) follows `navis.nbl.smat` / `nblast_funcs` / `Dotprops.dist_dots` line by line;
`Gen/Smat.lean` is regenerated from the navis source on every run (both score-matrix CSVs, the
`side=` expression and the `- 1` of `Digitizer.__call__`, the default `clip`, `ALLOWED_SCORES`).

Numbers are exact rationals; the two square roots of the algorithm (distance, `sqrt(alpha)` scaling) are
only ever compared with table boundaries and are represented by their radicand (`Val.sqrt`).
"Exactly 1" etc. therefore hold exactly here and up to IEEE rounding on the real code.
-/
namespace Navis.Props.C06
open Navis.Nblast

/-! ## 1. What the translator extracted from the source, and what the model does with it -/

/-- The `side=` expression found in `Digitizer.__call__` is the one the model uses
(`"left" if self.right else "right"`): swapping the sides in the source breaks this theorem. -/
theorem source_side_matches_model : Gen.Smat.sideOfRight = sideOfRight := by
  funext r; cases r <;> rfl

/-- The source subtracts exactly 1 from the `searchsorted` result. -/
theorem source_offset_matches_model : Gen.Smat.offset = 1 := rfl

/-- `from_strings` constructs the digitizer with the default `clip = (True, True)`. -/
theorem source_clip_matches_model : Gen.Smat.defaultClip = (true, true) := rfl

/-- `ALLOWED_SCORES` are exactly the modes of the model. -/
theorem source_modes_match_model : Gen.Smat.allowedScores = Mode.all.map Mode.name := by decide +kernel

/-- Hence `Digitizer.__call__` *as written in the source* is the model's `digitize`. -/
theorem digitize_source_eq_model : digitizeWith Gen.Smat.sideOfRight Gen.Smat.offset = digitize := by
  rw [source_side_matches_model, source_offset_matches_model]; rfl

/-- `NBlaster.single_query_target` as written: the self-self short-cut compares the two POSITIONS in the
blaster (never ids — what `scores_independent_of_ids` relies on), the score is normalised by the QUERY's
self hit, the reverse score is the same function with the indices swapped in forward mode, and with alpha
the dot products are multiplied by `sqrt(alpha product)`.  The theorem pins the four extracted flags; that
`forward` / `singleQueryTarget` / `matchArgs` have this shape is seen by reading them, no model term occurs here. -/
theorem source_single_query_target_matches_model :
    Gen.Smat.shortcutOnPositions = true ∧ Gen.Smat.normalisesByQuery = true ∧
    Gen.Smat.reverseSwapsIndices = true ∧ Gen.Smat.dotsScaledBySqrtAlpha = true := ⟨rfl, rfl, rfl, rfl⟩

/-- `Dotprops.dist_dots` as written: a query point without a neighbour inside `distance_upper_bound` gets
distance = bound and dot product 0 on EVERY path that returns the dot products (the `alpha=False` path
NBLAST takes without alpha included), and alpha product 0.  Again flags only: the model's side is
`matchPoint_no_hit` below. -/
theorem source_dist_dots_no_hit_matches_model :
    Gen.Smat.nohitDistIsBound = true ∧ Gen.Smat.nohitDotZeroOnAllPaths = true ∧ Gen.Smat.nohitAlphaZero = true :=
  ⟨rfl, rfl, rfl⟩

/-- … which is what the model does: no neighbour inside the bound ⇒ `(bound², 0, 0, no hit)`. -/
theorem matchPoint_no_hit (t : Cloud) (b : Rat) (hb : b ≠ 0) (qp : Pt) (j : Nat) (d : Rat)
    (hn : nearest t qp.p = some (j, d)) (hfar : ¬ d < b * b) :
    matchPoint t (some b) qp = some ⟨b * b, 0, 0, false, t.length⟩ := by
  unfold matchPoint
  rw [hn]
  simp [effBound, hb, hfar]

/-- **Every `NBlaster(...)` construction site forwards the same scoring keywords**: the self-hit blaster
and every per-job blaster of `nblast`, `nblast_allbyall` and `nblast_smart` receive `smat`, `smat_kwargs`,
`use_alpha`, `normalized`, `limit_dist`, `approx_nn` and `dtype=precision` from the front end's arguments of
the same name (a dropped `smat_kwargs=smat_kwargs` — all-by-all scoring with the default sigma while the
self hits use the requested one — breaks this). -/
theorem source_blaster_sites_forward_scoring :
    ∀ s ∈ Gen.Smat.blasterSites, s.2.2.filter (fun kv => kv.1 != "progress") = scoringForward := by decide +kernel

/-- … hence all sites agree with each other … -/
theorem source_blaster_sites_agree :
    ∀ s ∈ Gen.Smat.blasterSites, ∀ s' ∈ Gen.Smat.blasterSites,
      s.2.2.filter (fun kv => kv.1 != "progress") = s'.2.2.filter (fun kv => kv.1 != "progress") := by
  intro s hs s' hs'
  rw [source_blaster_sites_forward_scoring s hs, source_blaster_sites_forward_scoring s' hs']

/-- … the forwarded keywords are exactly the constructor's parameters (bar `progress`), so nothing that
decides a score is left to a default; all three front ends were found, each with its self-hit blaster and
its job blaster(s). -/
theorem source_blaster_params_all_forwarded :
    (∀ p ∈ Gen.Smat.blasterParams, p = "progress" ∨ p ∈ scoringForward.map (·.1)) ∧
    (∀ kv ∈ scoringForward, kv.1 ∈ Gen.Smat.blasterParams) ∧
    (∀ f ∈ ["nblast", "nblast_allbyall", "nblast_smart"],
      2 ≤ (Gen.Smat.blasterSites.filter (fun s => s.1 == f)).length) := by decide +kernel

/-- **Consequence in the model**: whatever the arguments of the front end and the defaults of the
constructor, every blaster built at any site is configured, for every scoring parameter, with the
front end's argument — the self hits and the pairwise scores of one call use one score function. -/
theorem blaster_sites_use_requested_config {V : Type} (args dflt : String → V) :
    ∀ s ∈ Gen.Smat.blasterSites, ∀ kv ∈ scoringForward, siteConfig s.2.2 args dflt kv.1 = args kv.2 := by
  intro s hs kv hkv
  -- `progress` is not a scoring keyword, so the site answers like its filtered keyword list `scoringForward`
  have hne : (kv.1 != "progress") = true := by revert kv; decide +kernel
  have hfind : scoringForward.find? (fun x => x.1 == kv.1) = some kv := by revert kv; decide +kernel
  rw [← siteConfig_filter (fun x => x.1 != "progress") s.2.2 args dflt kv.1 (fun x hx => beq_iff_eq.mp hx ▸ hne),
    source_blaster_sites_forward_scoring s hs, siteConfig, hfind]

/-- `smat_kwargs` carries exactly one key the constructor reads, `sigma_scoring` (default 10): the sigma of
the analytic `smat='v1'` score `sqrt(|dot| · exp(-d² / 2σ²))`. -/
theorem source_smat_kwargs_keys :
    Gen.Smat.smatKwargsKeys = ["sigma_scoring"] ∧ Gen.Smat.sigmaScoringDefault = some 10 := ⟨rfl, rfl⟩

/-- **Every job's blaster receives each neuron together with that neuron's own self hit**: all
`this.append(neurons[i], self_hits[j])` sites index both lists with the same variable and pair the matching
lists (`target_self_hits[i]` — the position inside the job's column block — instead of `[ix]` breaks this:
reverse scores of later column blocks would be normalised by another neuron's self hit). -/
theorem source_append_sites_aligned :
    Gen.Smat.appendSites.all appendAligned = true ∧ 7 ≤ Gen.Smat.appendSites.length := by decide +kernel

/-- **The built-in table is handed out as a deep copy of the cached one** (`smat_fcwb` returns
`deepcopy(_smat_fcwb(alpha))`, `_smat_fcwb` is `lru_cache`d): replacing the deep copy by `copy.copy` (new
outer object, shared `.cells` / `.boundaries`) or by the cached object breaks this. -/
theorem source_fcwb_copy_is_deep : Gen.Smat.fcwbCopy = .deep ∨ Gen.Smat.fcwbCached = false := Or.inl rfl

/-- **A caller's in-place edit of the returned table cannot reach the cached table iff the copy is deep**:
for every memory, cache address, fresh address and edit, the cached array is unchanged after
"fetch, then edit what was returned" exactly when the hand-out is a deep copy. -/
theorem cache_isolated_iff_deep (k : CopyKind) :
    (∀ (m : Mem) (c fresh : Nat) (v : List Rat), fresh ≠ c → fetchEdit k c m (fresh, v) c = m c) ↔ k = .deep := by
  constructor
  · intro h
    cases k with
    | deep => rfl
    | _ =>
      -- the caller gets the cached array itself: its edit `[1]` shows up in the cache
      have := h (fun _ => []) 0 1 [1] (by decide)
      simp [fetchEdit, handOut, editAt] at this
  · rintro rfl m c fresh v hne
    have hc : c ≠ fresh := fun e => hne e.symm
    simp [fetchEdit, handOut, editAt, hc]

/-- … and along every history of fetch-and-edit rounds (fresh addresses never being the cache's): with a
deep copy the cached table — what the next default-table NBLAST reads — is the published one throughout. -/
theorem cache_unchanged_along_history (c : Nat) (m : Mem) (rounds : List (Nat × List Rat))
    (hf : ∀ r ∈ rounds, r.1 ≠ c) : (rounds.foldl (fetchEdit .deep c) m) c = m c := by
  induction rounds generalizing m with
  | nil => rfl
  | cons r rs ih =>
    simp only [List.foldl_cons]
    rw [ih (fetchEdit .deep c m r) (fun x hx => hf x (List.mem_cons_of_mem _ hx))]
    exact (cache_isolated_iff_deep .deep).mpr rfl m c r.1 r.2 (hf r (List.mem_cons_self ..))

/-- with a shallow copy one round is enough to change what the cache holds -/
example : fetchEdit .shallow 0 (fun _ => [1, 2]) (1, [4, 8]) 0 = [4, 8] := by decide

/-- Both shipped score matrices parse (labels abut, one closedness per axis, strictly increasing
boundaries, cell matrix of the right shape). -/
theorem default_tables_parse : Gen.Smat.fcwb.isSome = true ∧ Gen.Smat.fcwbAlpha.isSome = true := by
  rw [fcwb_eq, fcwbAlpha_eq]; exact ⟨rfl, rfl⟩

/-! ## 2. Binning: `digitize` returns the one declared half-open interval, the outer ones open-ended -/

/-- Every digitizer `Digitizer.from_strings` accepts is well formed: strictly increasing boundaries
running from `-inf` to `+inf`, one bin per label, closedness of the first label. -/
theorem from_strings_wellformed (ivs : List Interval) (d : Digitizer) (h : Digitizer.fromIntervals ivs = some d) :
    d.WF ∧ d.nbins = ivs.length ∧ d.right = (ivs.head?.map (·.right)).getD false :=
  ⟨fromIntervals_wf _ d h, fromIntervals_nbins _ d h, congrArg Digitizer.right (fromIntervals_eq ivs d h)⟩

/-- **digitize_spec.** For a well-formed digitizer and a finite value (plain or a square root) the
returned index is a bin `0 ≤ i < nbins` whose half-open interval contains the value: for `right = true`
`lower < v ≤ upper`, otherwise `lower ≤ v < upper` (`gtB b` is `b < v`, `geB b` is `b ≤ v`). -/
theorem digitize_spec (d : Digitizer) (hwf : d.WF) (v : Val) (hv : v.finite = true) :
    ∃ (k : Nat) (lo hi : X), digitize d v = (k : Int) ∧ k < d.nbins ∧
      d.boundaries[k]? = some lo ∧ d.boundaries[k + 1]? = some hi ∧
      (if d.right then v.gtB lo = true ∧ v.gtB hi = false else v.geB lo = true ∧ v.geB hi = false) := by
  obtain ⟨k, lo, hi, h1, h2, h3, h4, h56⟩ := digitize_exists_bin d hwf v hv
  exact ⟨k, lo, hi, h1, h2, h3, h4, (scanPred_pass_fail_iff d v lo hi).mp h56⟩

/-- The same for a plain number, in the usual notation. -/
theorem digitize_spec_plain (d : Digitizer) (hwf : d.WF) (v : X) (hv : v.isFin = true) :
    ∃ (k : Nat) (lo hi : X), digitize d (.x v) = (k : Int) ∧ k < d.nbins ∧
      d.boundaries[k]? = some lo ∧ d.boundaries[k + 1]? = some hi ∧
      (if d.right then X.lt lo v = true ∧ X.le v hi = true else X.le lo v = true ∧ X.lt v hi = true) := by
  obtain ⟨k, lo, hi, h1, h2, h3, h4, h5⟩ := digitize_spec d hwf (.x v) hv
  refine ⟨k, lo, hi, h1, h2, h3, h4, ?_⟩
  cases hr : d.right <;> simp only [hr, Val.gtB, Val.geB, X.le] at h5 ⊢ <;> simpa using h5

/-- **digitize_unique.** The bin is the only one with that property. -/
theorem digitize_unique (d : Digitizer) (hwf : d.WF) (v : Val) (j : Nat) (lo hi : X)
    (hlo : d.boundaries[j]? = some lo) (hhi : d.boundaries[j + 1]? = some hi)
    (h : if d.right then v.gtB lo = true ∧ v.gtB hi = false else v.geB lo = true ∧ v.geB hi = false) :
    digitize d v = (j : Int) :=
  (digitize_eq_iff d hwf.mono v j lo hi hlo hhi).mpr ((scanPred_pass_fail_iff d v lo hi).mpr h)

/-- **The table's declared half-open intervals, with clipping.**  For a table built from interval
labels, bin `i` is returned for the finite value `v` exactly when the checker `binOK` accepts it:
`0 ≤ i < n`, `v` is above the declared lower bound of label `i` (strictly iff the labels are
right-closed) unless `i` is the first bin, and below its declared upper bound unless `i` is the last
bin — values beyond the table fall into the outer bins.  (`binOK` is what the driver evaluates on the
bins navis returns.) -/
theorem digitize_iff_declared_interval (ivs : List Interval) (d : Digitizer)
    (h : Digitizer.fromIntervals ivs = some d) (v : X) (hv : v.isFin = true) (i : Int) :
    binOK ivs i v = true ↔ digitize d (.x v) = i := by
  have hwf := fromIntervals_wf ivs d h
  have hn := fromIntervals_nbins ivs d h
  obtain ⟨i0, rest, rfl, _, hright, _, _⟩ := fromIntervals_some ivs d h
  by_cases hi : 0 ≤ i ∧ i < ((i0 :: rest).length : Nat)
  · obtain ⟨k, rfl⟩ := Int.eq_ofNat_of_zero_le hi.1
    have hk : k < (i0 :: rest).length := Int.ofNat_lt.mp hi.2
    have hget : (i0 :: rest)[k]? = some (i0 :: rest)[k] := List.getElem?_eq_getElem hk
    rw [binOK_nat i0 rest k _ v hget, Bool.and_eq_true, ← hright, binOK_lower d v _ hv, binOK_upper d v _ hv,
      Bool.not_eq_eq_eq_not, Bool.not_true]
    obtain ⟨hlo, hhi⟩ := fromIntervals_bin _ d h k _ hget
    exact (digitize_eq_iff d hwf.mono (.x v) k _ _ hlo hhi).symm
  · constructor
    · intro hb
      simp only [binOK, Bool.and_eq_true, decide_eq_true_eq] at hb
      exact absurd hb.1 hi
    · intro hd
      obtain ⟨k, _, _, hk, hkn, _⟩ := digitize_exists_bin d hwf (.x v) hv
      rw [← hd, hk] at hi
      exact absurd ⟨Int.natCast_nonneg k, Int.ofNat_lt.mpr (hn ▸ hkn)⟩ hi

/-- Clipping, spelled out: anything up to the first label's upper bound goes to bin 0 … -/
theorem digitize_clips_low (ivs : List Interval) (d : Digitizer) (h : Digitizer.fromIntervals ivs = some d)
    (i0 : Interval) (h0 : ivs.head? = some i0) (v : X) (hv : v.isFin = true)
    (hle : (if i0.right then X.le v i0.hi else X.lt v i0.hi) = true) : digitize d (.x v) = 0 := by
  rw [← digitize_iff_declared_interval ivs d h v hv 0]
  cases ivs with
  | nil => cases h0
  | cons j0 rest =>
    cases h0
    rw [show (0 : Int) = ((0 : Nat) : Int) from rfl, binOK_nat i0 rest 0 i0 v rfl, hle]
    simp

/-- … and anything above the last label's lower bound goes to the last bin. -/
theorem digitize_clips_high (ivs : List Interval) (d : Digitizer) (h : Digitizer.fromIntervals ivs = some d)
    (i0 l : Interval) (h0 : ivs.head? = some i0) (hl : ivs.getLast? = some l) (v : X) (hv : v.isFin = true)
    (hge : (if i0.right then X.lt l.lo v else X.le l.lo v) = true) :
    digitize d (.x v) = (ivs.length : Int) - 1 := by
  rw [← digitize_iff_declared_interval ivs d h v hv]
  cases ivs with
  | nil => cases h0
  | cons j0 rest =>
    cases h0
    rw [List.getLast?_eq_getElem?] at hl
    have e : (((i0 :: rest).length : Nat) : Int) - 1 = (rest.length : Nat) := by rw [List.length_cons]; omega
    rw [e, binOK_nat i0 rest rest.length l v hl, hge]
    simp

/-- A square root is binned like the number it denotes: `sqrt (r²)` goes where `r` goes (`r ≥ 0`). -/
theorem digitize_sqrt_agrees (d : Digitizer) (r : Rat) (hr : 0 ≤ r) :
    digitize d (.sqrt (r * r)) = digitize d (.x (.fin r)) := by
  have : scanPred d (.sqrt (r * r)) = scanPred d (.x (.fin r)) := by
    unfold scanPred
    cases d.right
    · exact funext (Val.geB_sqrt_eq r hr)
    · exact funext (Val.gtB_sqrt_eq r hr)
  rw [digitize_eq, digitize_eq, this]

/-- Binning is monotone: a larger radicand never lands in a lower bin. -/
theorem digitize_mono_sqrt (d : Digitizer) (s s' : Rat) (h : s ≤ s') :
    digitize d (.sqrt s) ≤ digitize d (.sqrt s') :=
  digitize_mono d _ _ (Val.gtB_sqrt_mono h) (Val.geB_sqrt_mono h)

/-! ## 3. Scores: the matrix navis assembles is the index-free definition; modes; a cloud against itself -/

/-- **NBLAST as implemented is the definition.**  Whenever the self hits can be computed, the matrix
`navis.nblast(query, target, scores)` assembles through `NBlaster.append`, `single_query_target`
(index bookkeeping, self-hit lookup, reverse query) and `multi_query_target` is entry for entry the
index-free definition `defNblast`: entry `(i, j)` is `defScore` of query `i` against target `j`. -/
theorem nblast_is_definition (fn : ScoreFn) (cfg : Cfg) (q t : List Dotprops) (mode : Mode) (qs ts : List Rat)
    (hq : allSome (q.map fun n => selfHit fn cfg.useAlpha n.pts) = some qs)
    (ht : allSome (t.map fun n => selfHit fn cfg.useAlpha n.pts) = some ts) :
    nblast fn cfg q t mode = defNblast fn cfg q t mode := by
  rw [nblast_eq, hq, ht]; rfl

/-- **labels_follow_input.** Columns carry the target ids in input order; rows carry the query ids in
input order (twice, tagged `forward` / `reverse`, for `scores='both'`). -/
theorem labels_follow_input (fn : ScoreFn) (cfg : Cfg) (q t : List Dotprops) (mode : Mode) (qs ts : List Rat)
    (hq : allSome (q.map fun n => selfHit fn cfg.useAlpha n.pts) = some qs)
    (ht : allSome (t.map fun n => selfHit fn cfg.useAlpha n.pts) = some ts)
    (f : Frame) (h : nblast fn cfg q t mode = some f) :
    f.cols = t.map (·.id) ∧
    f.rows = (if mode = .both then (q.map fun n => [(n.id, "forward"), (n.id, "reverse")]).flatten
              else q.map fun n => (n.id, "")) := by
  rw [nblast_is_definition fn cfg q t mode qs ts hq ht] at h
  obtain ⟨res, _, rfl⟩ := Option.map_eq_some_iff.mp h
  unfold mkFrame
  split <;> simp [List.map_map, Function.comp_def]

/-- **Ids only label the matrix.**  Re-labelling the neurons — in particular giving a target the id of a
query, ids being unique only within each list — does not change a single score: the self-self
short-cut is keyed on the position in the blaster, never on the id. -/
theorem scores_independent_of_ids (fn : ScoreFn) (cfg : Cfg) (q q' t t' : List Dotprops) (mode : Mode)
    (hq : q.map (·.pts) = q'.map (·.pts)) (ht : t.map (·.pts) = t'.map (·.pts)) :
    (nblast fn cfg q t mode).map (·.vals) = (nblast fn cfg q' t' mode).map (·.vals) := by
  -- the self hits look at the clouds only
  rw [nblast_eq, nblast_eq, ← congrArg allSome (map_pts_congr (selfHit fn cfg.useAlpha) hq),
    ← congrArg allSome (map_pts_congr (selfHit fn cfg.useAlpha) ht)]
  cases allSome (q.map fun n => selfHit fn cfg.useAlpha n.pts) with
  | none => rfl
  | some qs =>
    cases allSome (t.map fun n => selfHit fn cfg.useAlpha n.pts) with
    | none => rfl
    | some ts => exact defNblast_vals_congr fn cfg q q' t t' mode hq ht

/-- Mode identities: `forward` is the forward score … -/
theorem mode_forward (fn : ScoreFn) (cfg : Cfg) (q t : Cloud) (f : Rat) (hf : defForward fn cfg q t = some f) :
    defScore fn cfg q t .forward = some (.one f) := by
  unfold defScore; rw [hf]

/-- … `mean` is `(forward + reverse) / 2` … -/
theorem mode_mean (fn : ScoreFn) (cfg : Cfg) (q t : Cloud) (f r : Rat) (hf : defForward fn cfg q t = some f)
    (hr : defForward fn cfg t q = some r) : defScore fn cfg q t .mean = some (.one ((f + r) / 2)) := by
  unfold defScore; rw [hf, hr]

/-- … `min` the smaller … -/
theorem mode_min (fn : ScoreFn) (cfg : Cfg) (q t : Cloud) (f r : Rat) (hf : defForward fn cfg q t = some f)
    (hr : defForward fn cfg t q = some r) :
    defScore fn cfg q t .min = some (.one (if r < f then r else f)) := by
  unfold defScore; rw [hf, hr]; rfl

/-- … `max` the larger … -/
theorem mode_max (fn : ScoreFn) (cfg : Cfg) (q t : Cloud) (f r : Rat) (hf : defForward fn cfg q t = some f)
    (hr : defForward fn cfg t q = some r) :
    defScore fn cfg q t .max = some (.one (if f < r then r else f)) := by
  unfold defScore; rw [hf, hr]; rfl

/-- … and `both` the pair, where the reverse score is the forward score of the target against the
query (normalised by the *target's* self hit). -/
theorem mode_both (fn : ScoreFn) (cfg : Cfg) (q t : Cloud) (f r : Rat) (hf : defForward fn cfg q t = some f)
    (hr : defForward fn cfg t q = some r) : defScore fn cfg q t .both = some (.two f r) := by
  unfold defScore; rw [hf, hr]

section Dup
open Navis.DpCache

/-- **self_score_one_dup.** A cloud scored against itself through the full computation (nearest-neighbour
search, table lookups, sum, division by the self hit — the path `nblast(q, q)` takes) gets exactly 1, for every
score function, with and without alpha, with and without a distance limit, provided points sharing a position
carry the same tangent up to sign and the same alpha: then whichever of them the nearest-neighbour search
returns, the matched pair scores like the point with itself.  (Taken at `a = b` the hypothesis also says that
every tangent is a unit vector.)  Guard: the self hit is defined and non-zero. -/
theorem self_score_one_dup (fn : ScoreFn) (cfg : Cfg) (c : Cloud) (hn : cfg.normalized = true)
    (hc : ConsistentDup c) (sh : Rat) (hsh : selfHit fn cfg.useAlpha c = some sh) (hne : sh ≠ 0) :
    defForward fn cfg c c = some 1 := by
  rw [defForward_self fn cfg c hc sh hsh, if_pos hn, normalise_self sh hne]

/-- … and raw: the self hit. -/
theorem self_score_raw_dup (fn : ScoreFn) (cfg : Cfg) (c : Cloud) (hn : cfg.normalized = false)
    (hc : ConsistentDup c) (sh : Rat) (hsh : selfHit fn cfg.useAlpha c = some sh) :
    defForward fn cfg c c = some sh := by
  rw [defForward_self fn cfg c hc sh hsh, hn]; rfl

/-- The guard is needed: two coincident points with orthogonal tangents, scored against itself through the
nearest-neighbour search, do NOT reach the self hit (the first point is matched to itself, the second one
to the first) — the score depends on which of the coincident points the kd-tree returns, so only the
`q_idx == t_idx` short-cut gives exactly 1 there. -/
example : (Gen.Smat.fcwb.bind fun tb => defForward tb.call ⟨false, true, none⟩
      [⟨⟨0, 0, 0⟩, ⟨1, 0, 0⟩, 1⟩, ⟨⟨0, 0, 0⟩, ⟨0, 1, 0⟩, 1⟩]
      [⟨⟨0, 0, 0⟩, ⟨1, 0, 0⟩, 1⟩, ⟨⟨0, 0, 0⟩, ⟨0, 1, 0⟩, 1⟩]).map (decide <| · < 1) = some true := by
  rw [fcwb_eq]; decide +kernel

/-- non-vacuity of `ConsistentDup` with a genuine duplicate (antiparallel tangents) -/
example : ConsistentDup [⟨⟨0, 0, 0⟩, ⟨1, 0, 0⟩, 1/2⟩, ⟨⟨0, 0, 0⟩, ⟨-1, 0, 0⟩, 1/2⟩, ⟨⟨1, 0, 0⟩, ⟨0, 1, 0⟩, 1⟩] := by
  unfold ConsistentDup; decide +kernel

end Dup

/-- **self_score_one.** The case of pairwise distinct positions and unit tangents. -/
theorem self_score_one (fn : ScoreFn) (cfg : Cfg) (c : Cloud) (hn : cfg.normalized = true)
    (hnd : (c.map (·.p)).Nodup) (hunit : ∀ p ∈ c, p.v.dot p.v = 1) (sh : Rat)
    (hsh : selfHit fn cfg.useAlpha c = some sh) (hne : sh ≠ 0) : defForward fn cfg c c = some 1 :=
  self_score_one_dup fn cfg c hn (DpCache.consistentDup_of_nodup c hnd hunit) sh hsh hne

/-- Unnormalised, the self score is the self hit `calc_self_hit` computes. -/
theorem self_score_raw (fn : ScoreFn) (cfg : Cfg) (c : Cloud) (hn : cfg.normalized = false)
    (hnd : (c.map (·.p)).Nodup) (hunit : ∀ p ∈ c, p.v.dot p.v = 1) (sh : Rat)
    (hsh : selfHit fn cfg.useAlpha c = some sh) : defForward fn cfg c c = some sh :=
  self_score_raw_dup fn cfg c hn (DpCache.consistentDup_of_nodup c hnd hunit) sh hsh

/-- The short-cut `q_idx == t_idx` of `single_query_target` returns the literal 1 (normalised) in every mode. -/
theorem self_score_shortcut (fn : ScoreFn) (cfg : Cfg) (nb : Blaster) (i : Nat) (mode : Mode)
    (hn : cfg.normalized = true) : singleQueryTarget fn cfg nb i i mode = some (.one 1) := by
  rw [sqt_diag]; simp [hn]

/-- **allbyall_eq_query_self.** `nblast_allbyall(x)` (every neuron appended once, diagonal by the
short-cut) is the same labelled matrix as `nblast(x, x)` (every neuron appended twice, diagonal
computed), for clouds with distinct positions and unit tangents and non-zero self hits. -/
theorem allbyall_eq_query_self (fn : ScoreFn) (cfg : Cfg) (x : List Dotprops) (hs : List Rat)
    (hh : allSome (x.map fun n => selfHit fn cfg.useAlpha n.pts) = some hs)
    (hnd : ∀ n ∈ x, (n.pts.map (·.p)).Nodup) (hunit : ∀ n ∈ x, ∀ p ∈ n.pts, p.v.dot p.v = 1)
    (hne : cfg.normalized = true → ∀ sh ∈ hs, sh ≠ 0) :
    nblastAllByAll fn cfg x = nblast fn cfg x x .forward :=
  (allbyall_eq_def fn cfg x hs hh (fun n hn => DpCache.consistentDup_of_nodup n.pts (hnd n hn) (hunit n hn)) hne).trans
    (nblast_is_definition fn cfg x x .forward hs hs hh hh).symm

/-! ## 4. `normalised ≤ 1` for the shipped tables (facts decided over the *generated* tables) -/

/-- The self-match cell of `smat_fcwb.csv`: row of distance 0, column of dot product 1. -/
def fcwbSelfCell : Rat := cellD Gen.Smat.fcwbCells 0 9

/-- **fcwb_max_cell.** No cell of `smat_fcwb.csv` exceeds the self-match cell, and it is positive. -/
theorem fcwb_max_cell : (∀ row ∈ Gen.Smat.fcwbCells, ∀ c ∈ row, c ≤ fcwbSelfCell) ∧ 0 < fcwbSelfCell := by
  decide +kernel

/-- `table(0, 1.0)` of the default table is that cell. -/
theorem fcwb_self_lookup :
    Gen.Smat.fcwb.bind (fun tb => tb.call (.sqrt 0) (.x (.fin 1))) = some fcwbSelfCell := by
  rw [fcwb_eq]; decide +kernel

/-- **normalised_le_one.** With the default table and without alpha, the normalised forward score of
*any* query cloud against *any* target cloud, with or without a distance limit, is at most 1. -/
theorem normalised_le_one (tb : Lookup2d) (htb : Gen.Smat.fcwb = some tb) (cfg : Cfg)
    (hua : cfg.useAlpha = false) (hn : cfg.normalized = true) (q t : Cloud) (s : Rat)
    (h : defForward tb.call cfg q t = some s) : s ≤ 1 := by
  have hc := (fromDataframe_some _ _ _ tb htb).1
  have hself := fcwb_self_lookup
  rw [htb] at hself
  exact defForward_le_one_of_max tb fcwbSelfCell (by rw [hc]; exact fcwb_max_cell.1) hself fcwb_max_cell.2
    cfg hua hn q t s h

/-- … in every score mode (`mean`, `min`, `max`, both components of `both`) … -/
theorem normalised_le_one_modes (tb : Lookup2d) (htb : Gen.Smat.fcwb = some tb) (cfg : Cfg)
    (hua : cfg.useAlpha = false) (hn : cfg.normalized = true) (q t : Cloud) (mode : Mode) (sc : Score)
    (h : defScore tb.call cfg q t mode = some sc) : sc.fwd ≤ 1 ∧ sc.rev ≤ 1 :=
  defScore_le tb.call cfg q t 1 (normalised_le_one tb htb cfg hua hn q t) (normalised_le_one tb htb cfg hua hn t q) mode sc h

/-- … hence every entry of the matrix `navis.nblast` returns. -/
theorem normalised_le_one_matrix (tb : Lookup2d) (htb : Gen.Smat.fcwb = some tb) (cfg : Cfg)
    (hua : cfg.useAlpha = false) (hn : cfg.normalized = true) (q t : List Dotprops) (mode : Mode) (f : Frame)
    (h : nblast tb.call cfg q t mode = some f) : ∀ row ∈ f.vals, ∀ v ∈ row, v ≤ 1 := by
  intro row hrow v hv
  obtain ⟨qn, _, tn, _, sc, hsc, hv'⟩ :=
    defNblast_entries tb.call cfg q t mode f (defNblast_of_nblast _ cfg q t mode f h) row hrow v hv
  have := normalised_le_one_modes tb htb cfg hua hn qn.pts tn.pts mode sc hsc
  rcases hv' with rfl | rfl
  · exact this.1
  · exact this.2

/-! ### With alpha the bound is false (DESIGN §6 #17) — proved part and counter-examples

Full statement (NOT a theorem, refuted below):
`theorem normalised_le_one_alpha (tb) (htb : Gen.Smat.fcwbAlpha = some tb) (cfg) (hua : cfg.useAlpha = true)
   (hn : cfg.normalized = true) (q t : Cloud) (s) (h : defForward tb.call cfg q t = some s) : s ≤ 1`
What is missing: the self hit of a query point looks the alpha table up at dot = `α_q`, and (a) a matched
target point with a larger alpha puts `dot·sqrt(α_q α_t)` into a higher, better scoring dot bin,
(b) even for lower-or-equal bins the self cell (row 0) is only maximal when its column is ≥ 7 (`α_q > 0.7`):
e.g. row `(2.5,4]`, col 0 = 3.62 > row `(0,2.5]`, col 0 = 3.39.  The proved part needs exactly these two
hypotheses; both counter-examples are reproduced on navis by the harness (`known_findings/C06.json`). -/

/-- Table fact for `smat_alpha_fcwb.csv`: a self cell in column `j' ≥ 7` (row 0) dominates every cell of
every row in columns `j ≤ j'`, and is positive. -/
theorem fcwb_alpha_prefix_max :
    (∀ i < 16, ∀ j < 10, ∀ j' < 10, j ≤ j' → 7 ≤ j' →
      cellD Gen.Smat.fcwbAlphaCells i j ≤ cellD Gen.Smat.fcwbAlphaCells 0 j') ∧
    (∀ j' < 10, 7 ≤ j' → 0 < cellD Gen.Smat.fcwbAlphaCells 0 j') := by
  -- evaluated column by column, so that only the three columns `j' ≥ 7` are looked at
  have key : ∀ j' < 10, 7 ≤ j' → (∀ i < 16, ∀ j < 10, j ≤ j' →
      cellD Gen.Smat.fcwbAlphaCells i j ≤ cellD Gen.Smat.fcwbAlphaCells 0 j') ∧
      0 < cellD Gen.Smat.fcwbAlphaCells 0 j' := by decide +kernel
  exact ⟨fun i hi j hj j' hj' hjj h7 => (key j' hj' h7).1 i hi j hj hjj, fun j' hj' h7 => (key j' hj' h7).2⟩

/-- The global maximum of the alpha table is again the cell (row 0, last column). -/
theorem fcwb_alpha_max_cell :
    ∀ row ∈ Gen.Smat.fcwbAlphaCells, ∀ c ∈ row, c ≤ cellD Gen.Smat.fcwbAlphaCells 0 9 := by
  decide +kernel

theorem fcwb_alpha_shape : Gen.Smat.fcwbAlphaRows.length = 16 ∧ Gen.Smat.fcwbAlphaCols.length = 10 ∧
    Gen.Smat.fcwbAlpha.map (fun tb => digitize tb.ax0 (.sqrt 0)) = some 0 := by
  rw [fcwbAlpha_eq]; decide +kernel

/-- **normalised_le_one_alpha_partial.** With the default alpha table the normalised forward score is at
most 1 *provided* every query point's self bin is ≥ 7 (`α_q > 0.7`) and its matched value
`dot·sqrt(α_q α_t)` does not fall into a higher dot bin than its self value `α_q`. -/
theorem normalised_le_one_alpha_partial (tb : Lookup2d) (htb : Gen.Smat.fcwbAlpha = some tb) (cfg : Cfg)
    (hua : cfg.useAlpha = true) (hn : cfg.normalized = true) (q t : Cloud)
    (hyp : ∀ p ∈ q, ∀ m, matchPoint t cfg.bound p = some m →
      digitize tb.ax1 (matchArgs true m).2 ≤ digitize tb.ax1 (.sqrt (p.a * p.a)) ∧
      (7 : Int) ≤ digitize tb.ax1 (.sqrt (p.a * p.a)))
    (s : Rat) (h : defForward tb.call cfg q t = some s) : s ≤ 1 := by
  obtain ⟨hc, h0, h1, hshape⟩ := fromDataframe_some _ _ _ tb htb
  have hn0 : tb.ax0.nbins = 16 := (fromIntervals_nbins _ _ h0).trans fcwb_alpha_shape.1
  have hn1 : tb.ax1.nbins = 10 := (fromIntervals_nbins _ _ h1).trans fcwb_alpha_shape.2.1
  have hz : digitize tb.ax0 (.sqrt 0) = 0 := by
    have := fcwb_alpha_shape.2.2; rw [htb] at this; exact Option.some.inj this
  refine defForward_le_one_alpha tb 7 ⟨fromIntervals_wf _ _ h0, fromIntervals_wf _ _ h1, hshape, hz, ?_, ?_⟩
    cfg hua hn q t hyp s h
  · rw [hn0, hn1, hc]; exact fcwb_alpha_prefix_max.1
  · rw [hn1, hc]; exact fcwb_alpha_prefix_max.2

/-- The hypothesis on bins in terms of the numbers: it holds for a matched pair whenever
`0 ≤ dot ≤ 1` and the alpha product does not exceed `α_q²` (e.g. `0 ≤ α_t ≤ α_q`). -/
theorem alpha_bins_of_values (d : Digitizer) (m : Match) (a : Rat) (h0 : 0 ≤ m.dot) (h1 : m.dot ≤ 1)
    (ha : m.alpha ≤ a * a) :
    digitize d (matchArgs true m).2 ≤ digitize d (.sqrt (a * a)) := by
  refine digitize_mono_sqrt d _ _ ?_
  -- `dot² · alpha ≤ dot² · a² ≤ 1 · a²`
  have hdot : m.dot * m.dot ≤ 1 := mul_le_one₀ h1 h0 h1
  calc m.dot * m.dot * m.alpha ≤ m.dot * m.dot * (a * a) := mul_le_mul_of_nonneg_left ha (mul_self_nonneg _)
    _ ≤ 1 * (a * a) := mul_le_mul_of_nonneg_right hdot (mul_self_nonneg a)
    _ = a * a := one_mul _

def witnessLine (y a : Rat) : Cloud :=
  [⟨⟨0, y, 0⟩, ⟨1, 0, 0⟩, a⟩, ⟨⟨1, y, 0⟩, ⟨1, 0, 0⟩, a⟩, ⟨⟨2, y, 0⟩, ⟨1, 0, 0⟩, a⟩, ⟨⟨3, y, 0⟩, ⟨1, 0, 0⟩, a⟩]

def allAboveOne (r : Option Frame) : Bool :=
  match r with
  | some f => f.vals.all (fun row => row.all (fun v => decide (1 < v))) && !f.vals.isEmpty
  | none => false

/-- **Counter-example (a), DESIGN §6 #17.** Four collinear points, unit tangents, query alpha 3/8, target
the same points 1/8 away with alpha 1: the normalised score with the default alpha table exceeds 1. -/
theorem normalised_gt_one_alpha_witness :
    allAboveOne (Gen.Smat.fcwbAlpha.bind fun tb =>
      nblast tb.call ⟨true, true, none⟩ [⟨5, witnessLine 0 (3/8)⟩] [⟨9, witnessLine (1/8) 1⟩] .forward) = true := by
  rw [fcwbAlpha_eq]; decide +kernel

/-- **Counter-example (b).** Equal alphas 1/16 on both sides, target 3 away: still above 1, because the
`(2.5,4]` row beats the self-match row in the lowest dot column. -/
theorem normalised_gt_one_alpha_witness_equal_alpha :
    allAboveOne (Gen.Smat.fcwbAlpha.bind fun tb =>
      nblast tb.call ⟨true, true, none⟩ [⟨5, witnessLine 0 (1/16)⟩] [⟨9, witnessLine 3 (1/16)⟩] .forward) = true := by
  rw [fcwbAlpha_eq]; decide +kernel

/-! ## 5. Non-vacuity: concrete inputs satisfying the hypotheses -/

def exIvs : List Interval := [⟨.fin 0, .fin (3/4), true⟩, ⟨.fin (3/4), .fin (3/2), true⟩, ⟨.fin (3/2), .fin 2, true⟩]

/-- `from_strings` accepts abutting right-closed labels; a value *on* a boundary goes to the lower bin,
a value beyond the table to the last bin, `sqrt(9/4)` where `3/2` goes. -/
example : (Digitizer.fromIntervals exIvs).map (fun d =>
      (digitize d (.x (.fin (3/4))), digitize d (.x (.fin 5)), digitize d (.sqrt (9/4)), digitize d (.x (.fin (3/2)))))
    = some (0, 2, 1, 1) ∧ binOK exIvs 0 (.fin (3/4)) = true ∧ binOK exIvs 1 (.fin (3/4)) = false := by
  decide +kernel

/-- left-closed labels: the boundary value goes to the upper bin -/
example : (Digitizer.fromIntervals [⟨.fin 0, .fin 1, false⟩, ⟨.fin 1, .fin 2, false⟩]).map
    (fun d => digitize d (.x (.fin 1))) = some 1 := by decide +kernel

/-- the hypotheses of `self_score_one` / `allbyall_eq_query_self` are satisfiable with the default table -/
example : ((witnessLine 0 1).map (·.p)).Nodup ∧ (∀ p ∈ witnessLine 0 1, p.v.dot p.v = 1) ∧
    (Gen.Smat.fcwb.bind fun tb => selfHit tb.call false (witnessLine 0 1)) = some (4 * fcwbSelfCell) ∧
    (4 * fcwbSelfCell ≠ 0) := by
  rw [fcwb_eq]; decide +kernel

/-- … and the conclusion is what the model computes on that input (self score 1, off-diagonal < 1). -/
example : (Gen.Smat.fcwb.bind fun tb => nblast tb.call ⟨false, true, none⟩
      [⟨5, witnessLine 0 1⟩, ⟨9, witnessLine 3 1⟩] [⟨5, witnessLine 0 1⟩] .forward).map (·.vals.map (·.map (decide <| · = 1)))
    = some [[true], [false]] := by
  rw [fcwb_eq]; decide +kernel

/-- a target carrying the query's id but a different geometry is *not* scored as a self match -/
example : (Gen.Smat.fcwb.bind fun tb => nblast tb.call ⟨false, true, none⟩
      [⟨5, witnessLine 0 1⟩] [⟨5, witnessLine 3 1⟩] .forward).map (·.vals.map (·.map (decide <| · < 1)))
    = some [[true]] := by
  rw [fcwb_eq]; decide +kernel

/-- the hypothesis of `normalised_le_one_alpha_partial` is satisfiable: alpha 1 on both sides -/
example : (Gen.Smat.fcwbAlpha.bind fun tb => some ((witnessLine 0 1).all fun p =>
      match matchPoint (witnessLine (1/8) 1) none p with
      | some m => decide (digitize tb.ax1 (matchArgs true m).2 ≤ digitize tb.ax1 (.sqrt (p.a * p.a))) &&
                  decide ((7 : Int) ≤ digitize tb.ax1 (.sqrt (p.a * p.a)))
      | none => false)) = some true := by
  rw [fcwbAlpha_eq]; decide +kernel

/-! ## 6. The cached kd-tree of a target always describes its current coordinates

`Dotprops.dist_dots(other)` asks `other.kdtree`; the property caches the index in `_tree`.  The model
(`Model/DpCache.lean`) tags the cached tree with the geometry it was built from; which code paths drop the
tree is re-extracted from the source (`Gen/DpTree.lean`): all of them do.  "Every query point is matched to its
nearest target point" therefore holds along every history of operations on the same objects, not only for freshly
built dotprops. -/
section KdTree
open Navis.DpCache

/-- The `kdtree` property builds the index from `self.points` when `_tree` is missing / `None`, stores it
in `_tree` and returns the stored object; `dist_dots` queries the target through that property. -/
theorem source_kdtree_property :
    Gen.DpTree.kdtreeBuildsFromPoints = true ∧ Gen.DpTree.kdtreeStores = true ∧
    Gen.DpTree.kdtreeRebuildsWhenMissing = true ∧ Gen.DpTree.kdtreeReturnsCache = true ∧
    Gen.DpTree.distDotsQueriesOtherKdtree = true := ⟨rfl, rfl, rfl, rfl, rfl⟩

/-- `copy()` does not carry `_tree` over, `__getstate__` drops a pykdtree index: copies and unpickled
objects start without a tree (the model's `copy` / `pickle false` events). -/
theorem source_copy_pickle_drop_tree :
    Gen.DpTree.copyDropsTree = true ∧ Gen.DpTree.getstateDropsPykdtree = true := ⟨rfl, rfl⟩

/-- **In-place arithmetic and the `points` setter drop the cached tree** in the extracted source:
`__add__ / __sub__ / __mul__ / __truediv__` (what `+=`, `-=`, `*=`, `/=` and `convert_units` run with
`copy=False`) and `points.setter`.  Replacing the `delattr(n, '_tree')` by something that does not remove
`_tree` (e.g. `_clear_temp_attr()` while `_tree` is not in `TEMP_ATTR`) breaks this theorem. -/
theorem source_arithmetic_invalidates :
    ∀ m ∈ [Method.add, .sub, .mul, .truediv, .setPoints], Gen.DpTree.invalOpt m = some true := by decide

/-- **Every function that writes Dotprops coordinates invalidates the cached tree** (through `delattr`,
`_tree = None`, the `points` setter, a registered temporary attribute, or because it writes into a copy it
has just made) — without exception (`_downsample_dotprops` and `_subset_dotprops`, which used to mask
`_points` directly, go through the `points` setter since a981784 / 757ee4b).  A new writer that forgets
the invalidation, or an existing one that loses it, makes this fail. -/
theorem source_writers_invalidate :
    ∀ w ∈ Gen.DpTree.writers, w.2.2.2.1 = true := by decide

/-- **Every modelled coordinate-changing code path drops the cached tree**: arithmetic, the setter,
`downsample` and `subset_neuron`. -/
theorem source_all_methods_invalidate :
    ∀ m ∈ Method.all, Gen.DpTree.invalOpt m = some true := by decide

/-- The extraction did see the writers the model's events stand for. -/
theorem source_writers_found :
    ∀ n ∈ ["Dotprops.__add__", "Dotprops.__sub__", "Dotprops.__mul__", "Dotprops.__truediv__",
           "Dotprops.points.setter", "sampling.downsampling._downsample_dotprops",
           "morpho.subset._subset_dotprops"], n ∈ Gen.DpTree.writers.map (·.1) := by decide +kernel

/-- **history_tree_fresh.** Along every history of kd-tree reads, tangent reads, in-place coordinate
changes, copies and pickle round trips on any number of objects in which every in-place change goes through
an invalidating code path, the invariant "no tree, or a tree built from the current coordinates" holds for
every object at the end, and every single kd-tree query was answered by a tree of the then-current
geometry. -/
theorem history_tree_fresh {G : Type} (inv : Method → Bool) (evs : List (Ev G)) (s : List (Obj G))
    (hs : ∀ o ∈ s, o.Fresh) (hsafe : safe inv evs = true) :
    (∀ o ∈ (run inv s evs).1, o.Fresh) ∧ ∀ p ∈ (run inv s evs).2, p.1 = p.2 := by
  induction evs generalizing s with
  | nil => exact ⟨hs, fun p hp => by cases hp⟩
  | cons e es ih =>
    obtain ⟨he, hes⟩ := safe_cons inv e es hsafe
    obtain ⟨h1, h2⟩ := step_fresh inv s e hs he
    obtain ⟨h3, h4⟩ := ih (step inv s e).1 h1 hes
    exact ⟨h3, List.forall_mem_append.mpr ⟨h2, h4⟩⟩

/-- Histories whose in-place changes are arithmetic (`+= -= *= /=`, unit conversion) or `points = …`. -/
def arithOnly {G : Type} (evs : List (Ev G)) : Bool :=
  evs.all fun e => match e with
    | .mutate m _ _ => decide (m ∈ [Method.add, .sub, .mul, .truediv, .setPoints])
    | _ => true

theorem safe_of_arithOnly {G : Type} (evs : List (Ev G)) (h : arithOnly evs = true) :
    safe Gen.DpTree.inval evs = true := by
  refine safe_of_forall _ evs fun m i g he => ?_
  have hm : m ∈ [Method.add, .sub, .mul, .truediv, .setPoints] :=
    of_decide_eq_true (List.all_eq_true.mp h _ he)
  rw [Gen.DpTree.inval, source_arithmetic_invalidates m hm]; rfl

/-- **The same with the flags extracted from the source**: whatever mixture of NBLAST calls (tree reads),
lazy tangent computations, in-place arithmetic, `points` assignments, copies (= out-of-place arithmetic,
`downsample(inplace=False)` on eager dotprops, …) and pickle round trips — the tree a query uses is always
one of the current coordinates.  It rests on the five flags of `source_arithmetic_invalidates` only, so unlike
`history_tree_always_fresh` it still holds of a source in which `downsample` / `subset_neuron` keep the tree. -/
theorem history_tree_fresh_source {G : Type} (evs : List (Ev G)) (s : List (Obj G))
    (hs : ∀ o ∈ s, o.Fresh) (h : arithOnly evs = true) :
    (∀ o ∈ (run Gen.DpTree.inval s evs).1, o.Fresh) ∧ ∀ p ∈ (run Gen.DpTree.inval s evs).2, p.1 = p.2 :=
  history_tree_fresh _ evs s hs (safe_of_arithOnly evs h)

/-- With the extracted flags EVERY history is safe … -/
theorem every_history_safe {G : Type} (evs : List (Ev G)) : safe Gen.DpTree.inval evs = true := by
  refine safe_of_forall _ evs fun m _ _ _ => ?_
  rw [Gen.DpTree.inval, source_all_methods_invalidate m m.mem_all]; rfl

/-- **… so, unconditionally: along every history** of NBLAST calls (tree reads), lazy tangent
computations, in-place and out-of-place arithmetic, `points` assignments, `downsample`, `subset_neuron`
(in place or on a copy, eager or lazy tangents), copies and pickle round trips, on any number of objects
that start without a stale tree, **every kd-tree query is answered by a tree built from the coordinates the
object has at that moment**, and no object is left with a stale tree. -/
theorem history_tree_always_fresh {G : Type} (evs : List (Ev G)) (s : List (Obj G))
    (hs : ∀ o ∈ s, o.Fresh) :
    (∀ o ∈ (run Gen.DpTree.inval s evs).1, o.Fresh) ∧ ∀ p ∈ (run Gen.DpTree.inval s evs).2, p.1 = p.2 :=
  history_tree_fresh _ evs s hs (every_history_safe evs)

/-- A freshly constructed object (no tree) satisfies the invariant. -/
theorem new_object_fresh {G : Type} (g : G) (l : Bool) : (⟨g, none, l⟩ : Obj G).Fresh := Or.inl rfl

/-- **dist_dots through a fresh tree is the definition's match**: index / distance from the tree, tangent
and alpha from the current arrays — when the tree was built from the current positions this is
`matchPoint`, for every query point, bound and cloud. -/
theorem dist_dots_via_fresh_tree (cur : Cloud) (bound : Option Rat) (qp : Pt) :
    matchPointVia (cur.map (·.p)) cur bound qp = matchPoint cur bound qp := by
  unfold matchPointVia matchPoint
  -- the tree answers like the cloud's own search; the index it returns is in range, so the reads `cur[j]?` / `cur[0]?`
  -- of the one definition and `cur.getD j` of the other find the same point
  rw [nearestP_fresh]
  cases hn : nearest cur qp.p with
  | none => rfl
  | some jd =>
    obtain ⟨j, d⟩ := jd
    obtain ⟨hj, _, _⟩ := nearest_spec cur qp.p j d hn
    have hget : cur[j]? = some cur[j] := List.getElem?_eq_getElem hj
    have hgd : cur.getD j default = cur[j] := (List.getElem_eq_getD default).symm
    have hc0 : cur[0]? = some (cur[0]'(Nat.zero_lt_of_lt hj)) := List.getElem?_eq_getElem _
    simp only [hgd]
    cases hb : effBound bound with
    | none => simp only [hget, if_true]
    | some b =>
      simp only
      by_cases hd : d < b * b
      · simp only [hd, decide_true, if_true, hget]
      · simp only [hd, decide_false, Bool.false_eq_true, if_false, hc0, List.length_map]

/-- **Scores along a history equal the definition on the current state.**  For every tree query logged by a
safe history (geometry = list of positions), scoring any query cloud against the target's *current* cloud
through the tree that answered is the definition's forward raw score on the current cloud. -/
theorem history_target_score_is_definition (inv : Method → Bool) (evs : List (Ev (List V3)))
    (s : List (Obj (List V3))) (hs : ∀ o ∈ s, o.Fresh) (hsafe : safe inv evs = true)
    (p : List V3 × List V3) (hp : p ∈ (run inv s evs).2)
    (fn : ScoreFn) (cfg : Cfg) (q cur : Cloud) (hcur : cur.map (·.p) = p.2) :
    pairRawVia fn cfg q p.1 cur = pairRaw fn cfg q cur := by
  have := (history_tree_fresh inv evs s hs hsafe).2 p hp
  rw [this, ← hcur]
  unfold pairRawVia pairRaw distDots
  rw [List.map_congr_left fun qp _ => dist_dots_via_fresh_tree cur cfg.bound qp]
  rfl

/-- **Historical — what navis did before a981784 / 757ee4b** (a statement about the model under a
hypothetical flag `inv .downsample = false`; the flag extracted from the current source is `true`, see
`source_all_methods_invalidate`, so this no longer describes the code): an object that has been a target,
then `downsample(inplace=True)` through a writer that keeps `_tree`, then a target again, is queried through
the tree of its OLD coordinates … -/
theorem stale_tree_after_downsample (inv : Method → Bool) (h : inv .downsample = false) :
    (run inv [(⟨0, none, false⟩ : Obj Nat)] [.use 0, .mutate .downsample 0 1, .use 0]).2 = [(0, 0), (0, 1)] := by
  -- the run consults `inv` only at `.downsample`; with `h` the rest is computation
  simp only [run, step, upd, Obj.mutate, h]
  rfl

/-- … and (historical as well) with lazy tangents a single such `downsample` was enough, because
`_downsample_dotprops` computes the tangents — and with them the tree — right before it masks the points
(it still does; the setter now drops that tree again). -/
theorem stale_tree_after_lazy_downsample (inv : Method → Bool) (h : inv .downsample = false) :
    (run inv [(⟨0, none, true⟩ : Obj Nat)] [.mutate .downsample 0 1, .use 0]).2 = [(0, 0), (0, 1)] := by
  simp only [run, step, upd, Obj.mutate, h]
  rfl

/-- Why the invariant matters (what a stale tree would do to `dist_dots`, concrete): a tree of three old
positions with one current point —
the query next to old point 2 gets index 2, `other.vect[2]` does not exist (IndexError); the query next to
old point 0 silently gets a wrong distance. -/
example :
    matchPointVia [⟨0, 0, 0⟩, ⟨5, 0, 0⟩, ⟨9, 0, 0⟩] [⟨⟨9, 0, 0⟩, ⟨1, 0, 0⟩, 1⟩] none ⟨⟨8, 0, 0⟩, ⟨1, 0, 0⟩, 1⟩ = none ∧
    (matchPointVia [⟨0, 0, 0⟩, ⟨5, 0, 0⟩, ⟨9, 0, 0⟩] [⟨⟨9, 0, 0⟩, ⟨1, 0, 0⟩, 1⟩] none ⟨⟨1, 0, 0⟩, ⟨1, 0, 0⟩, 1⟩).map (·.d2) = some 1 ∧
    (matchPoint [⟨⟨9, 0, 0⟩, ⟨1, 0, 0⟩, 1⟩] none ⟨⟨1, 0, 0⟩, ⟨1, 0, 0⟩, 1⟩).map (·.d2) = some 64 := by
  decide +kernel

/-- non-vacuity: an arithmetic-only history with reads in between is `arithOnly`, and its log is fresh -/
example : arithOnly ([.use 0, .mutate .add 0 1, .use 0, .copy 0, .mutate .mul 1 2, .use 1, .pickle false 0, .use 2] : List (Ev Nat)) = true ∧
    (run Gen.DpTree.inval [(⟨0, none, false⟩ : Obj Nat)]
      [.use 0, .mutate .add 0 1, .use 0, .copy 0, .mutate .mul 1 2, .use 1, .pickle false 0, .use 2]).2 =
      [(0, 0), (1, 1), (2, 2), (1, 1)] := by
  decide +kernel

/-- non-vacuity of `history_tree_always_fresh`: the histories of the defects repaired in a981784 / 757ee4b —
cached target then `downsample` in place; lazy tangents then `downsample` on the copy; `subset_neuron` — log
only fresh queries with the extracted flags -/
example :
    (run Gen.DpTree.inval [(⟨0, none, false⟩ : Obj Nat)] [.use 0, .mutate .downsample 0 1, .use 0]).2 = [(0, 0), (1, 1)] ∧
    (run Gen.DpTree.inval [(⟨0, none, true⟩ : Obj Nat)] [.copy 0, .mutate .downsample 1 1, .use 1]).2 = [(0, 0), (1, 1)] ∧
    (run Gen.DpTree.inval [(⟨0, none, false⟩ : Obj Nat)] [.use 0, .mutate .subset 0 1, .use 0]).2 = [(0, 0), (1, 1)] := by
  decide +kernel

end KdTree

/-! ## 7. `nblast_smart`: which definition each cell equals -/
section Smart
open Navis.DpCache

/-- The pre-NBLAST clouds: `downsample(10)` keeps the points `0, f, 2f, …` — `ceil(n / f)` of them —
with their tangents and alphas (clouds of at most `f` points are left alone). -/
theorem downsample_simple_spec (f : Nat) (c : Cloud) (hf : 0 < f) (h : f < c.length) :
    (downsampleSimple f c).length = (c.length + f - 1) / f ∧
    ∀ i < (c.length + f - 1) / f, (downsampleSimple f c)[i]? = c[i * f]? := by
  rw [downsampleSimple_eq_map f c hf h, List.length_map, List.length_range]
  refine ⟨rfl, fun i hi => ?_⟩
  rw [List.getElem?_map, List.getElem?_range hi, Option.map_some, List.getD_eq_getElem?_getD,
    List.getElem?_eq_getElem (mul_lt_of_lt_ceilDiv _ f i hf hi)]
  rfl

/-- A cell the mask selects is the score of the full NBLAST definition, in every mode (so `smartCell` is defined;
what navis computes there is compared by the driver) … -/
theorem smart_refined_cell (fn : ScoreFn) (cfg : Cfg) (mode : Mode) (q t : Cloud) :
    smartCell fn cfg mode true q t = defScore fn cfg q t mode := by
  simp [smartCell]

/-- … so a threshold every pair passes makes `nblast_smart` the plain NBLAST; and for clouds of at most 10
points the pre-NBLAST *is* the full NBLAST, whatever the mask. -/
theorem smart_small_clouds (fn : ScoreFn) (cfg : Cfg) (mode : Mode) (sel : Bool) (q t : Cloud)
    (hq : q.length ≤ 10) (ht : t.length ≤ 10) : smartCell fn cfg mode sel q t = defScore fn cfg q t mode := by
  unfold smartCell
  rw [downsampleSimple_small 10 q hq, downsampleSimple_small 10 t ht]
  cases sel <;> rfl

example : (downsampleSimple 10 ((List.range 25).map fun (i : Nat) => (⟨⟨(i : Rat), 0, 0⟩, ⟨1, 0, 0⟩, 1⟩ : Pt))).map (·.p.x) = [0, 10, 20] := by
  decide +kernel

end Smart

end Navis.Props.C06

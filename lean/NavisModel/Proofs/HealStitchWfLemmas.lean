import NavisModel.Proofs.HealStitchLemmas
import NavisModel.Proofs.HealRewireLemmas
/-!
The combined and the stitched table of `stitch_skeletons` are well-formed forests (C11): injective relabelling of
each input, disjoint union of the results, healing.
-/
namespace Navis.Heal
open Navis.Forest

theorem WF_append {t1 t2 : Table} (h1 : WF t1) (h2 : WF t2) (hd : Disj (ids t1) (ids t2)) : WF (t1 ++ t2) := by
  obtain ⟨nd1, pos1, rk1, hr1⟩ := h1
  obtain ⟨nd2, pos2, rk2, hr2⟩ := h2
  have hids := ids_append t1 t2
  refine ⟨?_, ?_, fun i => if i ∈ ids t1 then rk1 i else rk2 i, ?_⟩
  · rw [hids]
    exact List.nodup_append.mpr ⟨nd1, nd2, fun a ha b hb hab => hd a ha (hab ▸ hb)⟩
  · intro n hn
    rcases List.mem_append.mp hn with h | h
    · exact pos1 n h
    · exact pos2 n h
  · intro n hn
    rw [hids]
    rcases List.mem_append.mp hn with h | h
    · rcases hr1 n h with hp | ⟨hp, hrk⟩
      · exact Or.inl hp
      · right
        refine ⟨List.mem_append_left _ hp, ?_⟩
        simp only [if_pos hp, if_pos (mem_ids_of_mem h)]
        exact hrk
    · rcases hr2 n h with hp | ⟨hp, hrk⟩
      · exact Or.inl hp
      · right
        refine ⟨List.mem_append_right _ hp, ?_⟩
        have n1 : n.id ∉ ids t1 := fun hx => hd _ hx (mem_ids_of_mem h)
        have n2 : n.parent ∉ ids t1 := fun hx => hd _ hx hp
        simp only [if_neg n1, if_neg n2]
        exact hrk

theorem WF_remapNodes {t : Table} (hw : WF t) {m : List (Int × Int)}
    (hinj : ∀ a ∈ ids t, ∀ b ∈ ids t, remapId m a = remapId m b → a = b)
    (hneg : ∀ a, a < 0 → remapId m a = a) (hnn : ∀ a, 0 ≤ a → 0 ≤ remapId m a) :
    WF (t.map (remapNode m)) := by
  obtain ⟨nd, pos, rk, hr⟩ := hw
  have hids := ids_remapNodes m t
  -- rank of a new id: the old rank of its preimage, through a left inverse `g` of the relabelling on the ids
  let g : Int → Int := fun j => match (ids t).find? (fun i => remapId m i == j) with
    | some i => i
    | none => 0
  have hg : ∀ i ∈ ids t, g (remapId m i) = i := by
    intro i hi
    show (match (ids t).find? (fun x => remapId m x == remapId m i) with | some x => x | none => 0) = i
    cases hf : (ids t).find? (fun x => remapId m x == remapId m i) with
    | none =>
      rw [List.find?_eq_none] at hf
      exact absurd (by simp) (hf i hi)
    | some i' =>
      have h1 := List.find?_some hf
      have h2 := List.mem_of_find?_eq_some hf
      exact hinj i' h2 i hi (by simpa using h1)
  refine ⟨by rw [hids]; exact nodup_map_of_inj nd hinj, ?_, fun j => rk (g j), ?_⟩
  · intro n' hn'
    obtain ⟨n, hn, rfl⟩ := List.mem_map.mp hn'
    exact hnn _ (pos n hn)
  · intro n' hn'
    obtain ⟨n, hn, rfl⟩ := List.mem_map.mp hn'
    show remapId m n.parent < 0 ∨ (remapId m n.parent ∈ ids (t.map (remapNode m)) ∧
      rk (g (remapId m n.parent)) < rk (g (remapId m n.id)))
    rcases hr n hn with hp | ⟨hp, hrk⟩
    · left; rw [hneg _ hp]; exact hp
    · right
      rw [hids, hg _ hp, hg _ (mem_ids_of_mem hn)]
      exact ⟨List.mem_map.mpr ⟨_, hp, rfl⟩, hrk⟩

theorem WF_flatMap_nodes {l : List Skel} (hw : ∀ x ∈ l, WF x.nodes)
    (hp : l.Pairwise (fun a b => Disj (ids a.nodes) (ids b.nodes))) : WF (l.flatMap (·.nodes)) := by
  induction l with
  | nil => exact WF_nil
  | cons x xs ih =>
    rw [List.pairwise_cons] at hp
    rw [List.flatMap_cons]
    exact WF_append (hw x List.mem_cons_self) (ih (fun y hy => hw y (List.mem_cons_of_mem _ hy)) hp.2)
      (disj_flatMap hp.1)

theorem SkelOK_of_WF {s : Skel} (hw : WF s.nodes) : SkelOK s :=
  ⟨hw.1, fun _ ha => ids_nonneg hw.2.1 ha⟩

theorem combine_WF (mIx : Nat) (l : List Skel) (hw : ∀ s ∈ l, WF s.nodes) : WF (combine mIx l).nodes := by
  have hok : ∀ s ∈ l, SkelOK s := fun s hs => SkelOK_of_WF (hw s hs)
  show WF ((stitchRemap mIx l).flatMap (·.nodes))
  apply WF_flatMap_nodes _ (stitchRemap_inv mIx l hok).1
  intro x hx
  obtain ⟨k, hxk⟩ := List.getElem?_of_mem hx
  have hk : k < l.length := stitchRemap_length mIx l ▸ (List.getElem?_eq_some_iff.mp hxk).1
  obtain ⟨out, m, h1, h2, _⟩ := stitchRemap_get mIx l hok (List.getElem?_eq_getElem hk)
  obtain rfl : out = x := Option.some.inj (h1.symm.trans hxk)
  rw [h2.eq]
  exact WF_remapNodes (hw _ (List.getElem_mem hk)) h2.inj h2.neg h2.nonneg

theorem stitch_nodes (mIx : Nat) (l : List Skel) (o : Opts) : (stitch mIx l o).nodes = heal (combine mIx l).nodes o := by
  rw [stitch]

theorem stitch_WF (mIx : Nat) (l : List Skel) (hw : ∀ s ∈ l, WF s.nodes) (o : Opts) : WF (stitch mIx l o).nodes := by
  rw [stitch_nodes]; exact WF_heal (combine_WF mIx l hw) o

end Navis.Heal

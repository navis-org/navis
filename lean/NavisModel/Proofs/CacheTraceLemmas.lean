import NavisModel.Proofs.CacheLemmas
/-!
Lemmas for C02, second part: the *observed* form of composite events (what a trace of the real object shows)
refines the primitive form the freshness theorems are stated over; the `type` column in lock-free histories;
objects shared between a neuron and its copy.  Core Lean only.
-/
namespace Navis.Cache

variable {sp : Spec} {s : St}

theorem classifyS_of_fresh (h : s.typeVer = s.tver) : classifyS s = s := by
  cases s
  cases h
  rfl

theorem lockEntry_noop (h : 0 < s.lock ∨ (s.stale = false ∧ s.md5 = s.ver)) :
    run sp s (lockEntryPrims sp s) = s := by
  rcases h with hl | ⟨hst, hm⟩
  · rw [lockEntryPrims_locked hl]; rfl
  · rcases lockEntryPrims_cases sp s with e | e <;> rw [e]
    · rfl
    · exact check_current hst hm

theorem emptyCall_eq {raises : Bool} (h : raises = false ∨ sp.lockFinally = true) :
    run sp s (lockedCall sp s [] raises) = run sp s (lockEntryPrims sp s) := by
  rw [run_lockedCall_released h]
  generalize run sp s (lockEntryPrims sp s) = s0
  cases s0
  rfl

/-- After a clear the entry check has nothing to do: the clear was swallowed by the lock, or it was effective. -/
theorem clearS_settled (hr : sp.clearRestamps = true) {excl : List String} :
    0 < (clearS sp excl s).lock ∨
      ((clearS sp excl s).stale = false ∧ (clearS sp excl s).md5 = (clearS sp excl s).ver) := by
  rcases Nat.eq_zero_or_pos s.lock with hl | hl
  · right; rw [clearS_unlocked hr hl]; exact ⟨rfl, rfl⟩
  · left; rw [clearS_lock]; exact hl

/-- **The observed form of a clear refines the primitive `clear`**: the nested `classify_nodes` call of the
`TreeNeuron` clear (entry check of `lock_neuron`, lock, unlock, classification) changes nothing in the state the
clear leaves behind. -/
theorem clearTrace_refines (hr : sp.clearRestamps = true) {excl : List String} :
    run sp s (clearTrace sp s excl) = step sp s (.clear excl) := by
  unfold clearTrace
  cases hx : excl.contains "classify_nodes"
  · unfold classifyCallTrace
    rw [if_neg Bool.false_ne_true, run_append, run_append]
    show classifyS (run sp (clearS sp excl s) (lockedCall sp (clearS sp excl s) [] false)) = clearS sp excl s
    rw [emptyCall_eq (.inl rfl), lockEntry_noop (clearS_settled hr)]
    exact classifyS_of_fresh (by unfold clearS; rw [hx]; rfl)
  · rfl

/-- … and so does every event list in which the clears are replaced by their observed form. -/
theorem expandClears_refines (hr : sp.clearRestamps = true) {es : List Ev} :
    run sp s (expandClears sp s es) = run sp s es := by
  induction es generalizing s with
  | nil => rfl
  | cons e es ih =>
    rw [run_cons, ← ih]
    cases e with
    | clear excl =>
      show run sp s (clearTrace sp s excl ++ _) = _
      rw [run_append, clearTrace_refines hr]
    | _ => rfl

/-! ### The `type` column in lock-free user histories (navis 5dfa2cc: the in-place operators validate the caches before
they run)

`τ` maps a content of the hashed columns to the content of `node_id,parent_id` inside it (the topology columns are
part of the hashed columns).  Invariant: the `type` column was computed from the topology of the *stamped*
content; so whenever the stamp is current the `type` column is current — also after edit / undo. -/

structure TInv (τ : Nat → Nat) (s : St) : Prop where
  unlocked : s.lock = 0
  topo : s.tver = τ s.ver
  typ : s.typeVer = τ s.md5

theorem TInv.current {τ : Nat → Nat} {s : St} (h : TInv τ s) (hm : s.md5 = s.ver) : s.typeVer = s.tver := by
  rw [h.typ, h.topo, hm]

variable {τ : Nat → Nat}

theorem TInv_check (hs : SoundFacts sp) (h : TInv τ s) :
    TInv τ (run sp s (checkPrims sp s)) ∧ (run sp s (checkPrims sp s)).md5 = (run sp s (checkPrims sp s)).ver ∧
    (run sp s (checkPrims sp s)).tver = s.tver := by
  rcases check_unlocked hs h.unlocked with e | ⟨hm, e⟩ <;> rw [e]
  · exact ⟨⟨h.unlocked, h.topo, h.topo⟩, rfl, rfl⟩
  · exact ⟨⟨h.unlocked, h.topo, h.typ⟩, hm, rfl⟩

theorem TInv_fill (h : TInv τ s) {v : View} :
    TInv τ (run sp s (fillPrims s v)) := by
  rw [fill_eq]
  exact ⟨h.unlocked, h.topo, h.typ⟩

/-- state-dependent admissibility of a user event for the `type` invariant: an edit to content `v` has the
topology `τ v`; in-place arithmetic that skips the re-classification leaves the topology columns alone -/
def UAdmT (sp : Spec) (τ : Nat → Nat) (s : St) : UEv → Prop
  | .edit v t => t = τ v
  | .setNodes v t => t = τ v
  | .arith v t excl => knownExcl sp excl = true ∧
      (if excl.contains "classify_nodes" then τ v = s.tver else t = τ v)
  | _ => True

def uadmT (sp : Spec) (τ : Nat → Nat) : St → List UEv → Prop
  | _, [] => True
  | s, u :: us => UAdmT sp τ s u ∧ uadmT sp τ (ustep sp s u) us

theorem TInv_ustep (hs : SoundFacts sp) (hf : sp.lockChecksStale = true) (hv : sp.iopValidates = true)
    (h : TInv τ s) (u : UEv) (hu : UAdmT sp τ s u) : TInv τ (ustep sp s u) := by
  cases u with
  | read v =>
    show TInv τ (readS sp s v)
    rw [readS_eq]
    cases hw : v.wrapped with
    | true =>
      rw [viewPrefix_wrapped hw, wrapperPrims_check hs.wrapper h.unlocked]
      exact TInv_fill (TInv_check hs h).1
    | false =>
      rw [viewPrefix_unwrapped hw]
      exact TInv_fill h
  | edit v t => exact ⟨h.unlocked, hu, h.typ⟩
  | setNodes v t =>
    -- the table is replaced, then `classify_nodes` validates (stamp := new content) and re-classifies
    have h1 : TInv τ (step sp s (.change v t)) := ⟨h.unlocked, hu, h.typ⟩
    rw [ustep_setNodes, run_lockedClassify, lockEntryPrims_check hf h1.unlocked]
    obtain ⟨k, km, _⟩ := TInv_check hs (sp := sp) h1
    exact ⟨k.unlocked, k.topo, k.topo.trans (congrArg τ km.symm)⟩
  | arith v t excl =>
    -- validation makes the stamp current, so the `type` column is that of the topology now; the change either
    -- leaves the topology alone and skips the re-classification, or is followed by one
    have hcase := hu.2
    rw [ustep_arith, validatePrims_check hv h.unlocked]
    obtain ⟨k, km, ktv⟩ := TInv_check hs (sp := sp) h
    generalize run sp s (checkPrims sp s) = s1 at k km ktv
    rw [clearS_unlocked hs.restamps (s := step sp s1 (.change v _)) k.unlocked]
    cases hx : excl.contains "classify_nodes" <;> rw [hx] at hcase
    · exact ⟨k.unlocked, hcase, hcase⟩
    · have hτ : s1.tver = τ v := ktv.trans hcase.symm
      exact ⟨k.unlocked, hτ, show s1.typeVer = τ v by rw [k.typ, km, ← k.topo, hτ]⟩
  | isStale | copyOut => show TInv τ (isStaleS sp s); rw [isStaleS_eq]; exact ⟨h.unlocked, h.topo, h.typ⟩
  | copy =>
    have hu' : TInv τ (unlocked sp s) := ⟨unlocked_lock h.unlocked, h.topo, h.typ⟩
    show TInv τ (copyS sp s)
    rcases copyS_cases sp s with e | e <;> rw [e]
    · exact hu'
    · rw [clearS_unlocked hs.restamps hu'.unlocked]
      exact ⟨hu'.unlocked, hu'.topo, hu'.topo⟩
  | pickle => exact ⟨h.unlocked, h.topo, h.typ⟩

theorem TInv_urun (hs : SoundFacts sp) (hf : sp.lockChecksStale = true) (hv : sp.iopValidates = true)
    {us : List UEv} (h : TInv τ s) (hu : uadmT sp τ s us) : TInv τ (urun sp s us) := by
  induction us generalizing s with
  | nil => exact h
  | cons u us ih => exact ih (TInv_ustep hs hf hv h u hu.1) hu.2

/-! ### Objects shared between a neuron and its copy -/

structure PairInv (shared : Bool) (p : Pair) : Prop where
  ok : PairOK p
  same_shared : p.same = true → shared = true

theorem pairInv_step {shared detaches : Bool} (h : shared = true → detaches = true) {p : Pair}
    (hp : PairInv shared p) (e : PEv) : PairInv shared (pstep shared detaches p e) := by
  obtain ⟨⟨hA, hB⟩, hs⟩ := hp
  cases e with
  | warm b =>
    cases b <;> simp only [pstep] <;> split
    · exact ⟨⟨hA, hB⟩, hs⟩
    · exact ⟨⟨Or.inr rfl, hB⟩, nofun⟩
    · exact ⟨⟨hA, hB⟩, hs⟩
    · exact ⟨⟨hA, Or.inr rfl⟩, nofun⟩
  | copy b =>
    cases b
    · exact ⟨⟨hA, hA⟩, fun hc => (Bool.and_eq_true_iff.mp hc).1⟩
    · exact ⟨⟨hB, hB⟩, fun hc => (Bool.and_eq_true_iff.mp hc).1⟩
  | edit b v =>
    -- an object is only shared if the spec shares it, and then the editor detaches: no write-through
    have hd : (detaches || !p.same) = true := by
      cases hsm : p.same
      · exact Bool.or_true _
      · rw [h (hs hsm)]; rfl
    cases b <;> simp only [pstep, hd, if_true] <;> split
    · rename_i hn
      exact ⟨⟨Or.inl (Option.isNone_iff_eq_none.mp hn), hB⟩, hs⟩
    · exact ⟨⟨Or.inr rfl, hB⟩, nofun⟩
    · rename_i hn
      exact ⟨⟨hA, Or.inl (Option.isNone_iff_eq_none.mp hn)⟩, hs⟩
    · exact ⟨⟨hA, Or.inr rfl⟩, nofun⟩
  | change b v =>
    cases b
    · exact ⟨⟨Or.inl rfl, hB⟩, nofun⟩
    · exact ⟨⟨hA, Or.inl rfl⟩, nofun⟩

theorem pairInv_run {shared detaches : Bool} (h : shared = true → detaches = true) {es : List PEv} {p : Pair}
    (hp : PairInv shared p) : PairInv shared (prun shared detaches p es) :=
  List.foldlRecOn (motive := PairInv shared) es (pstep shared detaches) hp fun _ hp e _ => pairInv_step h hp e

end Navis.Cache

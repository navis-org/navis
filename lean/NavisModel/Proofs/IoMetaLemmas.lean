import NavisModel.Model.Codec
import NavisModel.Model.IoMeta
import NavisModel.Model.IoBatch
import NavisModel.Proofs.DictLemmas
/-!
Helper lemmas for the metadata / batch-selection part of C14 (core Lean only), in the order of `Model/IoMeta.lean`:
the NRRD header dictionary, `info` ↔ codec bridge, attribute columns, JSON key filter, HDF5 attribute guards,
the grid cache of `VoxelNeuron`, the threshold mask.  The closing `Navis.IoBatch` block is about `Model/IoBatch.lean`: the archive scan in
closed form (`scanAW_none`, `scanAW_int`), hence the archive selection is the documented one on the entries that are valid and not
hidden (`selectZipAW_eq_spec`).
-/
namespace Navis.IoMeta

theorem get_eq : get = Conn.dget := by
  funext h k
  induction h with
  | nil => rfl
  | cons p r ih => rw [get, Conn.dget, ih]

theorem set_eq : set = Conn.dset := by
  funext h k v
  induction h with
  | nil => rfl
  | cons p r ih => rw [set, Conn.dset, ih]

theorem dget_eq {α} : @dget α = Conn.dget := by
  funext d k
  induction d with
  | nil => rfl
  | cons p r ih => rw [dget, Conn.dget, ih]

theorem get_set (h : Header) (k k' : String) (v : Val) :
    get (set h k v) k' = if k = k' then some v else get h k' := by
  rw [get_eq, set_eq]
  exact Conn.dget_dset h k k' v

theorem get_update_free (h a : Header) (k : String) (hf : get a k = none) :
    get (update h a) k = get h k := by
  induction a generalizing h with
  | nil => rfl
  | cons p r ih =>
    obtain ⟨k1, v1⟩ := p
    by_cases hk : k1 = k
    · simp [get, hk] at hf
    · simp only [get, hk, if_false] at hf
      rw [update, ih _ hf, get_set, if_neg hk]

/-- The attribute layout an independent decoder derives from the `info` file (`none` when a dtype is unknown). -/
def specsOfInfo (i : Info) : Option (List Codec.AttrSpec) :=
  (i.vertexAttrs.getD []).mapM fun a => (Codec.Layout.dtypeSize a.dtype).map fun s => ⟨a.id, s, a.comps⟩

theorem datatypeOf_writeInfo (isMesh : Bool) (nm : Option V3R) (a : Option (List VAttr)) :
    datatypeOf (writeInfo isMesh nm a) = some (if isMesh then "mesh" else "skeleton") := by
  cases isMesh <;> simp [writeInfo, datatypeOf]

theorem specsOfInfo_writeInfo (nm : Option V3R) (radius : Bool) :
    specsOfInfo (writeInfo false nm (addProps radius)) = some (Codec.specsFor radius) := by
  cases radius <;> rfl

/-- When both branches of `write_any` hand `add_props` on, the container kind does not matter. -/
theorem infoWritten_passes (passes : List (String × Bool)) (container : String) (isMesh : Bool) (nm : Option V3R)
    (radius : Bool) (hz : passes.find? (·.1 = "zip") = some ("zip", true))
    (hd : passes.find? (·.1 = "dir") = some ("dir", true)) :
    infoWritten passes container isMesh nm radius = writeInfo isMesh nm (addProps radius) := by
  by_cases hc : container = "zip"
  · simp only [infoWritten, if_pos hc, hz]
  · simp only [infoWritten, if_neg hc, hd]

theorem transformOf_eq (u : V3R) :
    transformOf u = [u.1, 0, 0, 0, 0, u.2.1, 0, 0, 0, 0, u.2.2, 0] := rfl

theorem scaleOf_writeInfo (nm : Option V3R) (a : Option (List VAttr)) :
    scaleOf (writeInfo false nm a) = some (nm.getD (1, 1, 1)) ∧ offDiagonalZero (writeInfo false nm a) = true :=
  ⟨rfl, by simp [writeInfo, offDiagonalZero, transformOf_eq]⟩

theorem column_length (comps i : Nat) (vals : List Nat) : (column comps i vals).length = vals.length / comps := by
  simp [column]

theorem column_getElem? (comps i r : Nat) (vals : List Nat) (hr : r < vals.length / comps) :
    (column comps i vals)[r]? = some (vals.getD (r * comps + i) 0) := by
  simp [column, hr]

/-- Which value `read_json` finds under key `k` of what `write_json` wrote, for arbitrary key lists. -/
theorem dget_jsonRead_jsonWrite {α} (tables skip keep : List String) (pfx idKey : String) (id : α)
    (d : List (String × α)) (k : String) :
    dget (jsonRead tables skip (jsonWrite keep pfx idKey id d)) k =
      if (tables.contains k || !skip.contains k) = true then
        if idKey = k then some id else if (!(startsWith k pfx) || keep.contains k) = true then dget d k else none
      else none := by
  unfold jsonRead jsonWrite
  rw [dget_eq, Conn.dget_filter_key (fun k => tables.contains k || !skip.contains k), Conn.dget,
    Conn.dget_filter_key (fun k => !(startsWith k pfx) || keep.contains k)]

theorem h5UnitsAttr_isNotNone (m : Option Mag) : h5UnitsAttr "units is not None" m = some m := by
  unfold h5UnitsAttr unitsGuard
  rw [if_pos rfl]
  cases m <;> rfl

theorem h5SomaAttr_isNotNone (soma : Option Int) : h5SomaAttr "soma is not None" soma = some soma := by
  unfold h5SomaAttr somaGuard
  rw [if_pos rfl]
  cases soma <;> rfl

theorem voxInv_validate (f : VoxFacts) (s : VoxSt) (hgt : f.gridIsTemp = true) (h : VoxInv f s) :
    VoxInv f (voxValidate f s) := by
  unfold voxValidate
  split
  · intro g hg
    simp at hg
  · exact h

theorem voxValidate_stamps (f : VoxFacts) (s : VoxSt) :
    (f.hashedD = true → (voxValidate f s).sd = (voxValidate f s).d) ∧
    (f.hashedV = true → (voxValidate f s).sv = (voxValidate f s).v) ∧
    (voxValidate f s).d = s.d ∧ (voxValidate f s).v = s.v := by
  unfold voxValidate
  split
  · simp
  · rename_i hns
    simp only [Bool.or_eq_true, Bool.and_eq_true, bne_iff_ne, ne_eq, not_or, not_and, Decidable.not_not] at hns
    exact ⟨hns.1, hns.2, rfl, rfl⟩

/-- With `_grid` among the cleared attributes, a grid that survives validation was built from the current fields:
a hashed field's stamp is current after validation, any other field is covered by the invariant directly. -/
theorem voxValidate_cache (f : VoxFacts) (s : VoxSt) (hgt : f.gridIsTemp = true) (h : VoxInv f s) {g : Nat × Nat}
    (hc : (voxValidate f s).cache = some g) : g = (s.d, s.v) := by
  obtain ⟨h1, h2⟩ := voxInv_validate f s hgt h g hc
  obtain ⟨sd, sv, hd, hv⟩ := voxValidate_stamps f s
  apply Prod.ext
  · cases hh : f.hashedD
    · simpa [hh, hd] using h1
    · simp only [hh, if_true] at h1; rw [← h1, sd hh, hd]
  · cases hh : f.hashedV
    · simpa [hh, hv] using h2
    · simp only [hh, if_true] at h2; rw [← h2, sv hh, hv]

theorem voxRead_fst (f : VoxFacts) (s : VoxSt) (hgt : f.gridIsTemp = true) (h : VoxInv f s) :
    (voxRead f s).1 = (s.d, s.v) := by
  simp only [voxRead]
  split
  · next g hc => exact voxValidate_cache f s hgt h hc
  · rw [(voxValidate_stamps f s).2.2.1, (voxValidate_stamps f s).2.2.2]

theorem voxInv_read (f : VoxFacts) (s : VoxSt) (hgt : f.gridIsTemp = true) (h : VoxInv f s) :
    VoxInv f (voxRead f s).2 := by
  simp only [voxRead]
  split
  · exact voxInv_validate f s hgt h
  · obtain ⟨sd, sv, _, _⟩ := voxValidate_stamps f s
    intro g hg
    obtain rfl := Option.some.inj hg
    constructor
    · split
      · next hh => exact sd hh
      · rfl
    · split
      · next hh => exact sv hh
      · rfl

theorem applyMask_zip {α β} (m : List Bool) (xs : List α) (ys : List β) :
    (applyMask m xs).zip (applyMask m ys) = applyMask m (xs.zip ys) := by
  induction m generalizing xs ys with
  | nil => rfl
  | cons b m ih =>
    match b, xs, ys with
    | true, [], _ | false, [], _ => rfl
    | true, x :: xs, [] | false, x :: xs, [] => exact List.zip_nil_right
    | true, x :: xs, y :: ys => exact congrArg ((x, y) :: ·) (ih xs ys)
    | false, x :: xs, y :: ys => exact ih xs ys

theorem applyMask_length_eq {α β} (m : List Bool) (xs : List α) (ys : List β) (hl : xs.length = ys.length) :
    (applyMask m xs).length = (applyMask m ys).length := by
  induction m generalizing xs ys with
  | nil => rfl
  | cons b m ih =>
    match b, xs, ys, hl with
    | true, [], [], _ | false, [], [], _ => rfl
    | true, x :: xs, y :: ys, hl => exact congrArg (· + 1) (ih xs ys (Nat.succ.inj hl))
    | false, x :: xs, y :: ys, hl => exact ih xs ys (Nat.succ.inj hl)

theorem applyMask_map_filter {α} (p : α → Bool) (xs : List α) : applyMask (xs.map p) xs = xs.filter p := by
  induction xs with
  | nil => rfl
  | cons x xs ih => cases h : p x <;> simp [applyMask, h, ih]

theorem applyMask_map_snd {α} (t : Nat) (vox : List α) (vals : List Nat) (hl : vox.length = vals.length) :
    applyMask (vals.map fun v => decide (t ≤ v)) (vox.zip vals) = (vox.zip vals).filter fun p => decide (t ≤ p.2) := by
  -- the mask is the predicate mapped over the pairs
  have h := applyMask_map_filter ((fun v => decide (t ≤ v)) ∘ Prod.snd) (vox.zip vals)
  rw [← List.map_map, List.map_snd_zip (Nat.le_of_eq hl.symm)] at h
  exact h

end Navis.IoMeta

namespace Navis.IoBatch

theorem scanAW_none (hidden valid : String → Bool) (c : Nat) (l : List String) :
    scanAW hidden valid none c l = l.filter fun f => !hidden f && valid f := by
  induction l generalizing c with
  | nil => rfl
  | cons f fs ih =>
    rw [scanAW, List.filter_cons, show full none c = false from rfl, if_neg Bool.false_ne_true]
    cases hidden f
    · cases valid f
      · exact ih c
      · exact congrArg (f :: ·) (ih (c + 1))
    · exact ih c

/-- The archive scan with an integer `limit = n`, exactly: the first `n - c` collectable entries (`c` already
collected) – entries that are hidden or not valid neither count nor stop the scan. -/
theorem scanAW_int (hidden valid : String → Bool) (n c : Nat) (l : List String) :
    scanAW hidden valid (some n) c l = (l.filter fun f => !hidden f && valid f).take (n - c) := by
  induction l generalizing c with
  | nil => rw [scanAW, List.filter_nil, List.take_nil]
  | cons f fs ih =>
    rw [scanAW, List.filter_cons]
    by_cases hge : n ≤ c
    · rw [show full (some n) c = true from decide_eq_true hge, if_pos rfl, Nat.sub_eq_zero_of_le hge, List.take_zero]
    · rw [show full (some n) c = false from decide_eq_false hge, if_neg Bool.false_ne_true]
      cases hidden f
      · cases valid f
        · exact ih c
        · -- a collected entry uses up one of the `n - c` places that are left
          show f :: _ = List.take (n - c) (f :: _)
          obtain ⟨k, hk⟩ := Nat.exists_eq_add_one_of_ne_zero (Nat.sub_ne_zero_of_lt (Nat.lt_of_not_le hge))
          rw [ih, Nat.sub_succ, hk, Nat.pred_succ, List.take_succ_cons]
      · exact ih c

theorem selectSpec_sublist (valid : String → Bool) (limit : Limit) (l : List String) :
    (selectSpec valid limit l).Sublist (l.filter valid) := by
  cases limit with
  | none => exact List.Sublist.refl _
  | int n => exact List.take_sublist _ _
  | slice a b => exact (List.drop_sublist _ _).trans (List.take_sublist _ _)
  | names ns => exact List.filter_sublist
  | substr s => exact List.filter_sublist

/-- An archive read selects what the specification selects among the entries that are valid and not hidden, for every
kind of `limit` (`read_tar` is the same code: `selectTarAW` is a definition of its own with the body of `selectZipAW`). -/
theorem selectZipAW_eq_spec (hidden valid : String → Bool) (limit : Limit) (l : List String) :
    selectZipAW hidden valid limit l = selectSpec (fun f => !hidden f && valid f) limit l := by
  cases limit <;> simp only [selectZipAW, selectSpec, intOf, scanAW_none, scanAW_int, Nat.sub_zero]

end Navis.IoBatch

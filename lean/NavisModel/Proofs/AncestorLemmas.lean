import NavisModel.Proofs.PathLemmas
/-!
The ancestor order of a well-formed forest.  `a ∈ rootPath t d` reads "`a` is an ancestor-or-self of
`d`": a partial order in which the ancestors of a node form a chain, a node is strictly above its children and their
subtrees are disjoint, below every node of a set there is a lowest one (and a leaf below every non-root), what precedes a
node on a root path is below it, and the first / last node with a property on a root path is the lowest / highest such
ancestor.  At the end, for single-rooted tables (`roots t = [ρ]`): the root is above every node and has nothing above it.
-/
namespace Navis.Forest

theorem anc_trans {t : Table} (hw : WF t) {a b c : Int} (h1 : a ∈ rootPath t b) (h2 : b ∈ rootPath t c) :
    a ∈ rootPath t c := (rootPath_suffix hw h2).subset h1

theorem anc_antisymm {t : Table} (hw : WF t) {a b : Int} (h1 : a ∈ rootPath t b) (h2 : b ∈ rootPath t a) : a = b := by
  have s1 := rootPath_suffix hw h1
  have s2 := rootPath_suffix hw h2
  have e := s1.eq_of_length_le s2.length_le
  obtain ⟨ra, ha⟩ := rootPath_cons (anc_ids h1).1
  obtain ⟨rb, hb⟩ := rootPath_cons (anc_ids h2).1
  rw [ha, hb] at e
  exact (List.cons.inj e).1

theorem anc_comparable {t : Table} (hw : WF t) {a b l : Int} (ha : a ∈ rootPath t l) (hb : b ∈ rootPath t l) :
    a ∈ rootPath t b ∨ b ∈ rootPath t a := by
  rcases List.suffix_or_suffix_of_suffix (rootPath_suffix hw ha) (rootPath_suffix hw hb) with h | h
  · exact Or.inl (h.subset (rootPath_head_mem (anc_ids ha).1))
  · exact Or.inr (h.subset (rootPath_head_mem (anc_ids hb).1))

theorem anc_parent {t : Table} (hw : WF t) {a x : Int} (h : a ∈ rootPath t x) (hne : x ≠ a) :
    ∃ n, find? t x = some n ∧ ¬ n.parent < 0 ∧ a ∈ rootPath t n.parent ∧ n.parent ∈ rootPath t x := by
  obtain ⟨n, hn, rfl⟩ := mem_ids.mp (anc_ids h).2
  have hf := find?_of_mem hw.1 hn
  by_cases hp : n.parent < 0
  · rw [rootPath_of_root hf hp] at h
    simp at h; exact absurd h.symm hne
  · exact ⟨n, hf, hp, (distal_iff_parent hw hn hp hne).mp h, List.mem_of_mem_tail (parent_mem_tail hw hn hp)⟩

theorem child_anc {t : Table} (hw : WF t) {b c : Int} (hb : b ∈ ids t) (hc : c ∈ children t b) :
    c ∈ ids t ∧ b ∈ rootPath t c ∧ c ∉ rootPath t b := by
  obtain ⟨n, hn, rfl, rfl⟩ := mem_children.mp hc
  have hp : ¬ n.parent < 0 := Int.not_lt.mpr (ids_nonneg hw.2.1 hb)
  exact ⟨mem_ids_of_mem hn, List.mem_of_mem_tail (parent_mem_tail hw hn hp), parent_not_distal hw hn hp⟩

/-- The subtrees of two children of a node are disjoint. -/
theorem child_anc_unique {t : Table} (hw : WF t) {b c1 c2 p : Int} (hb : b ∈ ids t)
    (h1 : c1 ∈ children t b) (h2 : c2 ∈ children t b) (a1 : c1 ∈ rootPath t p) (a2 : c2 ∈ rootPath t p) : c1 = c2 := by
  -- a child's root path is the child followed by `b`'s root path, on which no child of `b` lies
  have key : ∀ {x y : Int}, x ∈ children t b → y ∈ children t b → x ∈ rootPath t y → x = y := by
    intro x y hx hy hxy
    rw [(rootPath_of_mem_children hw hy).2] at hxy
    exact (List.mem_cons.mp hxy).resolve_right (child_anc hw hb hx).2.2
  rcases anc_comparable hw a1 a2 with h | h
  · exact key h1 h2 h
  · exact (key h2 h1 h).symm

/-- Walking down from a node of `S` as long as some child is in `S` ends at a node of `S` none of whose children is in
`S`; every node passed is in `S`. -/
theorem exists_lowest_below {t : Table} (hw : WF t) (S : Int → Prop) :
    ∀ s ∈ ids t, S s → ∃ l, S l ∧ (∀ c ∈ children t l, ¬ S c) ∧ s ∈ rootPath t l ∧
      ∀ x ∈ rootPath t l, s ∈ rootPath t x → S x := by
  refine children_induct hw _ fun s hs ih hS => ?_
  by_cases hex : ∃ c ∈ children t s, S c
  · obtain ⟨c, hc, hSc⟩ := hex
    obtain ⟨l, hl, hlow, hcl, hchain⟩ := ih c hc hSc
    refine ⟨l, hl, hlow, anc_trans hw (child_anc hw hs hc).2.1 hcl, fun x hx hsx => ?_⟩
    -- `x` lies above `c`, so it is `c` or, being between `s` and its child, `s`; or it lies below `c`
    rcases anc_comparable hw hx hcl with h | h
    · rw [(rootPath_of_mem_children hw hc).2] at h
      rcases List.mem_cons.mp h with h | h
      · exact h ▸ hSc
      · exact anc_antisymm hw h hsx ▸ hS
    · exact hchain x hx h
  · exact ⟨s, hS, fun c hc hSc => hex ⟨c, hc, hSc⟩, rootPath_head_mem hs,
      fun x hx hsx => anc_antisymm hw hx hsx ▸ hS⟩

theorem exists_leaf_below {t : Table} (hw : WF t) :
    ∀ x ∈ t, ¬ x.parent < 0 → ∃ l ∈ t, ¬ l.parent < 0 ∧ childCount t l.id = 0 ∧ x.id ∈ rootPath t l.id := by
  intro x hx hp
  obtain ⟨l, _, hlow, hxl, _⟩ := exists_lowest_below hw (fun _ => True) x.id (mem_ids_of_mem hx) trivial
  obtain ⟨n, hn, rfl⟩ := mem_ids.mp (anc_ids hxl).2
  refine ⟨n, hn, fun hr => ?_, ?_, hxl⟩
  · -- a root has only itself above it
    rw [rootPath_of_root (find?_of_mem hw.1 hn) hr] at hxl
    exact hp (node_eq_of_id hw.1 hx hn (List.mem_singleton.mp hxl) ▸ hr)
  · exact children_nil_iff.mp (List.eq_nil_iff_forall_not_mem.mpr fun c hc => hlow c hc trivial)

/-- What precedes a node on a root path lies strictly below it (what follows it is its own root path, `rootPath_split`). -/
theorem below_of_before {t : Table} (hw : WF t) {i a x : Int} {pre post : List Int}
    (h : rootPath t i = pre ++ a :: post) (hx : x ∈ pre) : a ∈ (rootPath t x).tail := by
  obtain ⟨A, B, rfl⟩ := List.append_of_mem hx
  rw [List.append_assoc, List.cons_append] at h
  rw [rootPath_split hw h, List.tail_cons]
  exact List.mem_append_right _ List.mem_cons_self

/-- The first node on a root path with a property is below every other node on it with the property. -/
theorem find?_rootPath {t : Table} (hw : WF t) (p : Int → Bool) {fc i : Int} (hfind : (rootPath t i).find? p = some fc) :
    fc ∈ rootPath t i ∧ p fc = true ∧ ∀ x ∈ rootPath t i, p x = true → x ∈ rootPath t fc := by
  -- nothing before `fc` has the property, and what comes from `fc` on is the root path of `fc`
  obtain ⟨hp, pre, post, hsplit, hpre⟩ := List.find?_eq_some_iff_append.mp hfind
  refine ⟨hsplit ▸ List.mem_append_right _ List.mem_cons_self, hp, fun x hx hpx => ?_⟩
  rw [rootPath_split hw hsplit]
  exact (List.mem_append.mp (hsplit ▸ hx)).resolve_left fun h => by simpa [hpx] using hpre x h

/-- The last node on a root path with a property is above every other node on it with the property. -/
theorem getLast?_filter_rootPath {t : Table} (hw : WF t) (p : Int → Bool) {a i : Int}
    (hlast : ((rootPath t i).filter p).getLast? = some a) :
    a ∈ rootPath t i ∧ p a = true ∧ ∀ x ∈ rootPath t i, p x = true → a ∈ rootPath t x := by
  -- read backwards, `a` is the first node with the property
  rw [List.getLast?_eq_head?_reverse, ← List.filter_reverse, List.head?_filter] at hlast
  obtain ⟨hp, post, pre, hsplit, hpost⟩ := List.find?_eq_some_iff_append.mp hlast
  have hsplit' : rootPath t i = pre.reverse ++ a :: post.reverse := by
    rw [← List.reverse_reverse (rootPath t i), hsplit, List.reverse_append, List.reverse_cons, List.append_assoc,
      List.singleton_append]
  refine ⟨hsplit' ▸ List.mem_append_right _ List.mem_cons_self, hp, fun x hx hpx => ?_⟩
  rcases List.mem_append.mp (hsplit' ▸ hx) with h | h
  · exact List.mem_of_mem_tail (below_of_before hw hsplit' h)
  · rcases List.mem_cons.mp h with rfl | h
    · exact rootPath_head_mem (anc_ids hx).1
    · exact absurd hpx (by simpa using hpost x (List.mem_reverse.mp h))

theorem root_anc {t : Table} (hw : WF t) {ρ : Int} (hroot : roots t = [ρ]) {i : Int} (hi : i ∈ ids t) :
    ρ ∈ rootPath t i := by
  obtain ⟨r, _, hr, hri⟩ := rootOf_spec hw hi
  rw [hroot, List.mem_singleton] at hr
  exact hr ▸ hri

theorem anc_root_eq {t : Table} (hw : WF t) {ρ : Int} (hroot : roots t = [ρ]) {a : Int} (h : a ∈ rootPath t ρ) :
    a = ρ := by
  have hρ : ρ ∈ roots t := by rw [hroot]; exact List.mem_singleton.mpr rfl
  obtain ⟨n, hn, hid, hp⟩ := mem_roots.mp hρ
  have hf := find?_of_mem hw.1 hn
  rw [hid] at hf
  rw [rootPath_of_root hf hp] at h
  exact List.mem_singleton.mp h

end Navis.Forest

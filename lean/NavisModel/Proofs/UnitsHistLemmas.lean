import NavisModel.Model.UnitsHist
import NavisModel.Proofs.UnitsLemmas
/-! C15, histories.  Every step keeps the topology, the physical edge vectors and the coherence of the cached views
(`StepInv`), so a whole history does (`runHist_inv`): a scaling divides the unit by what it multiplies the edge vectors
with and deletes every distance and coordinate view, a shift leaves the edge vectors alone and deletes the coordinate
views.  Which views an operator deletes is read from the extracted operator table: the step lemmas take it as the hypothesis
`GenFacts` (four evaluations of `clearsAllB`).  Then: observables that are linear in the edge weights, and the exact rational edge length `elen`. -/

namespace Navis.Units

theorem V3.zero_mul (F : V3) : (⟨0, 0, 0⟩ : V3).mul F = ⟨0, 0, 0⟩ :=
  V3.ext' (MulZeroClass.zero_mul _) (MulZeroClass.zero_mul _) (MulZeroClass.zero_mul _)

theorem V3.sub_mul (a b F : V3) : (a.sub b).mul F = (a.mul F).sub (b.mul F) :=
  V3.ext' (_root_.sub_mul _ _ _) (_root_.sub_mul _ _ _) (_root_.sub_mul _ _ _)

theorem V3.add_sub_add (a b o : V3) : (a.add o).sub (b.add o) = a.sub b :=
  V3.ext' (add_sub_add_right_eq_sub _ _ _) (add_sub_add_right_eq_sub _ _ _) (add_sub_add_right_eq_sub _ _ _)

theorem edgeVecs_map {g h : V3 → V3} (hz : h ⟨0, 0, 0⟩ = ⟨0, 0, 0⟩) (hs : ∀ a b, (g a).sub (g b) = h (a.sub b))
    (pts : List V3) (par : List Int) : edgeVecs (pts.map g) par = (edgeVecs pts par).map h := by
  unfold edgeVecs
  rw [List.zip_map_left, List.map_map, List.map_map]
  apply List.map_congr_left
  intro cp _
  simp only [Function.comp, Prod.map, id]
  by_cases h0 : 0 ≤ cp.2
  · simp only [h0, if_true, List.getElem?_map]
    cases pts[cp.2.toNat]? with
    | none => exact hz.symm
    | some q => exact hs _ _
  · simp only [h0, if_false]
    exact hz.symm

theorem edgeVecs_mul (pts : List V3) (par : List Int) (F : V3) :
    edgeVecs (pts.map fun c => c.mul F) par = (edgeVecs pts par).map fun d => d.mul F :=
  edgeVecs_map (V3.zero_mul F) (fun a b => (V3.sub_mul a b F).symm) pts par

theorem edgeVecs_add (pts : List V3) (par : List Int) (o : V3) :
    edgeVecs (pts.map fun c => c.add o) par = edgeVecs pts par :=
  (edgeVecs_map (h := id) rfl (fun a b => V3.add_sub_add a b o) pts par).trans (List.map_id _)

theorem edgeVecs_length (pts : List V3) (par : List Int) : (edgeVecs pts par).length = min pts.length par.length := by
  unfold edgeVecs
  rw [List.length_map, List.length_zip]

/-- `physEdges` of a `Skel`, as a function of what `mul` changes: `mul` acts on a `Neuron` and knows no parent column -/
def physEdgesOf (pts : List V3) (par : List Int) (u : Units) : List V3 := (edgeVecs pts par).map (fun d => d.mul u.phys)

theorem physEdges_eq (s : Skel) : physEdges s = physEdgesOf s.nrn.pts s.par s.nrn.units := rfl

theorem mul_physEdges {n m : Neuron} {f : Factor} {p : Int} (hk : n.kind ≠ .voxel) (h : mul n f p = some m)
    (par : List Int) : physEdgesOf m.pts par m.units = physEdgesOf n.pts par n.units := by
  have hnz := (mul_accepted h).2
  obtain rfl := mul_nonvoxel hk h
  simp only [physEdgesOf]
  rw [edgeVecs_mul]
  exact map_mul_phys_div n.units f.xyz p (xyz_nz hnz) _

theorem addUnitsPhys_mul {n m : Neuron} {k : Rat} {p : Int} (hk : n.kind ≠ .voxel) (h : mul n (.s k) p = some m)
    (d : Nat) (raw : Rat) : addUnitsPhys d m.units (raw * k ^ d) = addUnitsPhys d n.units raw := by
  have hk0 : k ≠ 0 := bne_iff_ne.mp (mul_accepted h).2
  have e : ∀ P : Rat, raw * k ^ d * (P / k) ^ d = raw * P ^ d := fun P => by
    rw [mul_assoc, ← mul_pow, mul_div_cancel₀ P hk0]
  unfold addUnitsPhys
  rw [mul_units_phys hk h]
  exact V3.ext' (e _) (e _) (e _)

/-- Bool form of: the operator's final clear is applied to the returned object and deletes every attribute in
`views` (each is in `TEMP_ATTR` and not in the literal `exclude`) -/
def clearsAllB (op : String) (views : List String) : Bool :=
  match treeExclude op with
  | some ex => views.all fun a => Gen.Units.treeTempAttr.contains a && !ex.contains a
  | none => false

section
variable {c : List (String × List V3)} {e : String × List V3} {op : String}

theorem mem_clearCache {temp ex : List String} (h : e ∈ clearCache temp ex c) : e ∈ c ∧ (e.1 ∉ temp ∨ e.1 ∈ ex) := by
  simp only [clearCache, List.mem_filter, Bool.or_eq_true, Bool.not_eq_true', List.contains_eq_mem,
    decide_eq_false_iff_not, decide_eq_true_eq] at h
  exact h

theorem afterOp_subset (h : e ∈ afterOp op c) : e ∈ c := by
  unfold afterOp at h
  split at h
  · exact (mem_clearCache h).1
  · exact h

theorem afterOp_clears {views : List String} (hv : clearsAllB op views = true) (h : e ∈ afterOp op c) :
    e.1 ∉ views := by
  unfold clearsAllB at hv
  unfold afterOp at h
  cases hx : treeExclude op with
  | none => simp [hx] at hv
  | some ex =>
    simp only [hx, List.all_eq_true, Bool.and_eq_true, Bool.not_eq_true', List.contains_eq_mem,
      decide_eq_true_eq, decide_eq_false_iff_not] at hv h
    intro hmem
    obtain ⟨h1, h2⟩ := hv _ hmem
    rcases (mem_clearCache h).2 with h3 | h3
    · exact h3 h1
    · exact h2 h3

theorem afterConvert_sub (h : e ∈ afterConvert c) : e ∈ afterOp "mul" c := by
  unfold afterConvert at h
  simp only at h
  split at h
  · exact (mem_clearCache h).1
  · exact h

end

/-- the facts about the *generated* operator table that the invariant needs -/
structure GenFacts : Prop where
  mulClears : clearsAllB "mul" (weightViews ++ coordViews) = true
  divClears : clearsAllB "div" (weightViews ++ coordViews) = true
  addClears : clearsAllB "add" coordViews = true
  subClears : clearsAllB "sub" coordViews = true

/-- what every step of a history keeps -/
structure StepInv (s s' : Skel) : Prop where
  par : s'.par = s.par
  kind : s'.nrn.kind = s.nrn.kind
  name : s'.nrn.name = s.nrn.name
  id : s'.nrn.id = s.nrn.id
  phys : physEdges s' = physEdges s
  coherent : Coherent s → Coherent s'

theorem StepInv.refl (s : Skel) : StepInv s s := ⟨rfl, rfl, rfl, rfl, rfl, fun hc => hc⟩

theorem StepInv.trans {a b c : Skel} (h1 : StepInv a b) (h2 : StepInv b c) : StepInv a c :=
  ⟨h2.par.trans h1.par, h2.kind.trans h1.kind, h2.name.trans h1.name, h2.id.trans h1.id, h2.phys.trans h1.phys,
    fun hc => h2.coherent (h1.coherent hc)⟩

theorem warmOne_inv (s : Skel) (a : String) : StepInv s (warmOne s a) := by
  unfold warmOne
  split
  · exact StepInv.refl s
  · refine ⟨rfl, rfl, rfl, rfl, rfl, fun hc e he => ?_⟩
    rcases List.mem_cons.mp he with rfl | he
    · exact ⟨fun _ => rfl, fun _ => rfl⟩
    · exact hc e he

theorem warm_fold (s : Skel) (attrs : List String) : StepInv s (attrs.foldl warmOne s) := by
  induction attrs generalizing s with
  | nil => exact StepInv.refl s
  | cons a as ih => exact (warmOne_inv s a).trans (ih (warmOne s a))

theorem coherent_of_cleared {s' : Skel} (h : ∀ e ∈ s'.cache, e.1 ∉ weightViews ++ coordViews) : Coherent s' :=
  fun e he => ⟨fun hw => absurd (List.mem_append_left _ hw) (h e he),
    fun hw => absurd (List.mem_append_right _ hw) (h e he)⟩

theorem scale_step {s : Skel} {m : Neuron} {f : Factor} {p : Int} (hk : s.nrn.kind ≠ .voxel)
    (hm : mul s.nrn f p = some m) {c : List (String × List V3)} (hc : ∀ e ∈ c, e.1 ∉ weightViews ++ coordViews) :
    StepInv s { s with nrn := m, cache := c } :=
  have ⟨k1, k2, k3⟩ := mul_meta hm
  ⟨rfl, k1, k2, k3, (physEdges_eq _).trans ((mul_physEdges hk hm s.par).trans (physEdges_eq s).symm),
    fun _ => coherent_of_cleared hc⟩

theorem shift_step {s : Skel} {m : Neuron} {o : Factor} (hk : s.nrn.kind ≠ .voxel) (hm : add s.nrn o = some m)
    {c : List (String × List V3)} (hc : ∀ e ∈ c, e ∈ s.cache ∧ e.1 ∉ coordViews) :
    StepInv s { s with nrn := m, cache := c } := by
  obtain ⟨_, rfl⟩ := add_eq_some.mp hm
  rw [if_neg hk]
  have he := edgeVecs_add s.nrn.pts s.par o.xyz
  refine ⟨rfl, rfl, rfl, rfl, congrArg (List.map _) he, fun hcoh e hmem => ?_⟩
  obtain ⟨hin, hno⟩ := hc e hmem
  exact ⟨fun hw => ((hcoh e hin).1 hw).trans he.symm, fun hw => absurd hw hno⟩

theorem step_inv {s s' : Skel} {st : Step} (gf : GenFacts) (hk : s.nrn.kind ≠ .voxel) (h : step s st = some s') :
    StepInv s s' := by
  cases st with
  | warm attrs =>
    cases h
    exact warm_fold s attrs
  | scale isDiv f p =>
    cases isDiv with
    | false =>
      obtain ⟨m, hm, rfl⟩ := Option.map_eq_some_iff.mp h
      exact scale_step hk hm fun e he => afterOp_clears gf.mulClears he
    | true =>
      obtain ⟨m, hm, rfl⟩ := Option.map_eq_some_iff.mp h
      exact scale_step hk (div_eq_mul _ f p ▸ hm) fun e he => afterOp_clears gf.divClears he
  | shift isSub o =>
    cases isSub with
    | false =>
      obtain ⟨m, hm, rfl⟩ := Option.map_eq_some_iff.mp h
      exact shift_step hk hm fun e he => ⟨afterOp_subset he, afterOp_clears gf.addClears he⟩
    | true =>
      obtain ⟨m, hm, rfl⟩ := Option.map_eq_some_iff.mp h
      exact shift_step hk (sub_eq_add _ o ▸ hm) fun e he => ⟨afterOp_subset he, afterOp_clears gf.subClears he⟩
  | convert tgt p =>
    obtain ⟨m, hm, rfl⟩ := Option.map_eq_some_iff.mp h
    obtain ⟨_, _, _, _, hmul⟩ := convert_eq_mul hm
    exact scale_step hk hmul fun e he => afterOp_clears gf.mulClears (afterConvert_sub he)

theorem runHist_inv {s s' : Skel} {l : List Step} (gf : GenFacts) (hk : s.nrn.kind ≠ .voxel)
    (h : runHist s l = some s') : StepInv s s' := by
  induction l generalizing s with
  | nil =>
    cases h
    exact StepInv.refl _
  | cons st rest ih =>
    unfold runHist at h
    cases hs : step s st with
    | none => rw [hs] at h; cases h
    | some s1 =>
      rw [hs] at h
      have i1 := step_inv gf hk hs
      exact i1.trans (ih (ne_of_eq_of_ne i1.kind hk) h)

theorem view_pts_of_coherent {s : Skel} (hc : Coherent s) {a : String} (ha : a ∈ coordViews) :
    viewPts s a = s.nrn.pts := by
  unfold viewPts
  cases hl : s.cache.lookup a with
  | none => rfl
  | some snap => exact (hc _ (mem_of_lookup_eq_some hl)).2 ha

theorem viewW_of_coherent {α : Type} (len : V3 → α) {s : Skel} (hc : Coherent s) {a : String} (ha : a ∈ weightViews) :
    viewW len s a = weights len s := by
  unfold viewW weights viewPts
  cases hl : s.cache.lookup a with
  | none => rfl
  | some snap => rw [(hc _ (mem_of_lookup_eq_some hl)).1 ha]

theorem weights_phys {α : Type} [Mul α] (cast : Rat → α) (len : V3 → α) (s : Skel)
    (hlen : ∀ d ∈ edgeVecs s.nrn.pts s.par, len (d.mul (V3.rep s.nrn.units.phys.x)) = cast s.nrn.units.phys.x * len d)
    (hiso : s.nrn.units.iso = true) :
    (physEdges s).map len = (weights len s).map (fun w => cast s.nrn.units.phys.x * w) := by
  unfold physEdges weights
  rw [List.map_map, List.map_map, phys_iso hiso]
  exact List.map_congr_left hlen

section Lin
variable {α : Type} [Semiring α]

/-- `g` commutes with rescaling all weights -/
def LinearObs (g : List α → α) : Prop := ∀ (c : α) (w : List α), g (w.map (fun x => c * x)) = c * g w

theorem getD_map_mul (c : α) (w : List α) (i : Nat) : (w.map (fun x => c * x)).getD i 0 = c * w.getD i 0 := by
  simp only [List.getD_eq_getElem?_getD, List.getElem?_map]
  cases w[i]? <;> simp

theorem LinearObs.add {g h : List α → α} (hg : LinearObs g) (hh : LinearObs h) : LinearObs (fun w => g w + h w) := by
  intro c w; simp only [hg c w, hh c w, mul_add]

end Lin

theorem LinearObs.sub {α : Type} [Ring α] {g h : List α → α} (hg : LinearObs g) (hh : LinearObs h) :
    LinearObs (fun w => g w - h w) := by
  intro c w; simp only [hg c w, hh c w, mul_sub]

theorem relClose_zero (a b : Rat) : relClose 0 a b = true ↔ a = b := by
  unfold relClose
  rw [decide_eq_true_eq]
  exact rabs_sub_le_zero_mul a b _

theorem allClose_zero (a b : List Rat) : allClose 0 a b = true ↔ a = b := by
  induction a generalizing b with
  | nil => cases b <;> simp [allClose]
  | cons x xs ih => cases b <;> simp [allClose, relClose_zero, ih]

theorem sqrtQ_mul_self {r : Rat} (hr : 0 ≤ r) : sqrtQ (r * r) = r := by
  obtain ⟨n, hn⟩ := Int.eq_ofNat_of_zero_le (Rat.num_nonneg.mpr hr)
  unfold sqrtQ
  -- numerator × denominator of `r * r` is the square of `n * r.den`
  rw [Rat.mul_self_num, Rat.mul_self_den, hn, ← Int.natCast_mul, Int.toNat_natCast, Nat.mul_mul_mul_comm, Nat.sqrt_eq]
  push_cast
  rw [mul_div_mul_right _ _ (Nat.cast_ne_zero.mpr r.den_nz), ← Int.cast_natCast, ← hn]
  exact Rat.num_div_den r

theorem normSq_mul_rep (v : V3) (k : Rat) : normSq (v.mul (V3.rep k)) = k * k * normSq v := by
  simp only [normSq, V3.mul, V3.rep]; ring

theorem elen_homog {v : V3} {r k : Rat} (hr : 0 ≤ r) (hv : normSq v = r * r) (hk : 0 < k) :
    elen (v.mul (V3.rep k)) = k * elen v := by
  unfold elen
  rw [normSq_mul_rep, hv, sqrtQ_mul_self hr, mul_mul_mul_comm, sqrtQ_mul_self (mul_nonneg hk.le hr)]

theorem isSquareQ_spec {q : Rat} (h : isSquareQ q = true) : ∃ r, 0 ≤ r ∧ q = r * r := by
  unfold isSquareQ at h
  simp only [Bool.and_eq_true, decide_eq_true_eq, beq_iff_eq] at h
  refine ⟨sqrtQ q, ?_, h.2.symm⟩
  unfold sqrtQ
  exact div_nonneg (Nat.cast_nonneg _) (Nat.cast_nonneg _)

theorem elen_homog_on_exact {s : Skel} (hx : exactEdges s = true) {k : Rat} (hk : 0 < k) :
    ∀ d ∈ edgeVecs s.nrn.pts s.par, elen (d.mul (V3.rep k)) = k * elen d := by
  intro d hd
  unfold exactEdges at hx
  rw [List.all_eq_true] at hx
  obtain ⟨r, hr, hq⟩ := isSquareQ_spec (hx d hd)
  exact elen_homog hr hq hk

end Navis.Units

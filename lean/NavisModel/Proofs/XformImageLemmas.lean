import NavisModel.Model.XformImage
import NavisModel.Proofs.XformLemmas
import NavisModel.Proofs.AffineLemmas
import Mathlib.Tactic.Ring
import Mathlib.Tactic.Linarith
/-! Helper lemmas for the image path of C16 (`Model/XformImage.lean`): resampling pulls every target voxel back through
`negSeq ts`, so everything rests on `negSeq ts` being a two-sided inverse of the sequence (`negSeq_left`, `negSeq_right`,
from the affine inverse laws of `Proofs/AffineLemmas.lean`).  Then: index ↔ world position conversions cancel
(`worldOf_cdiv`, `cdiv_worldOf`); for an axis-aligned map with positive factors the transformed box and voxel size are the
images of the old ones (`bboxXf_diag`, `outPitch_diag`); points between points already present change no coordinate-wise
minimum or maximum (`minOf_append`, `maxOf_append`, for the edge mid-points navis adds). -/
namespace Navis.XformImage
open Navis.Xform

/-! `Xform.Aff` / `V3` and `Affine.Aff` / `Affine.Pt` model the same `AffineTransform` (C16 and C08); `apply`, `inv` and `det`
commute with the identification by unfolding, so the inverse laws are those of `Proofs/AffineLemmas.lean`. -/

def toAffine (T : Aff) : Affine.Aff :=
  ⟨T.a11, T.a12, T.a13, T.a21, T.a22, T.a23, T.a31, T.a32, T.a33, T.t1, T.t2, T.t3⟩

def toPt (p : V3) : Affine.Pt := (p.x, p.y, p.z)

theorem toPt_injective {p q : V3} (h : toPt p = toPt q) : p = q := by
  cases p; cases q; simp only [toPt, Prod.mk.injEq] at h; simp only [V3.mk.injEq]; exact h

theorem toPt_apply (T : Aff) (p : V3) : toPt (T.apply p) = Affine.xform (toAffine T) (toPt p) := rfl

theorem toAffine_inv (T : Aff) : toAffine (inv T) = Affine.neg (toAffine T) := rfl

theorem det_toAffine (T : Aff) : Affine.det (toAffine T) = T.det := rfl

theorem inv_apply_apply (T : Aff) (h : T.det ≠ 0) (p : V3) : (inv T).apply (T.apply p) = p :=
  toPt_injective (by rw [toPt_apply, toPt_apply, toAffine_inv, Affine.xform_neg_xform _ (det_toAffine T ▸ h)])

theorem apply_inv_apply (T : Aff) (h : T.det ≠ 0) (p : V3) : T.apply ((inv T).apply p) = p :=
  toPt_injective (by rw [toPt_apply, toPt_apply, toAffine_inv, Affine.xform_xform_neg _ (det_toAffine T ▸ h)])

theorem negSeq_cons (T : Aff) (ts : List Aff) : negSeq (T :: ts) = negSeq ts ++ [inv T] := by
  simp [negSeq, negSeqWith]

theorem invertible_cons (T : Aff) (ts : List Aff) :
    invertible (T :: ts) = true ↔ T.det ≠ 0 ∧ invertible ts = true := by
  rw [invertible, List.all_cons, Bool.and_eq_true, decide_eq_true_iff]; rfl

theorem invertible_iff (ts : List Aff) : invertible ts = true ↔ ∀ T ∈ ts, T.det ≠ 0 := by
  simp only [invertible, List.all_eq_true, decide_eq_true_iff]

theorem negSeq_left (ts : List Aff) (h : invertible ts = true) (p : V3) :
    seqApply (negSeq ts) (seqApply ts p) = p := by
  induction ts generalizing p with
  | nil => rfl
  | cons T ts ih =>
    obtain ⟨hT, hts⟩ := (invertible_cons T ts).mp h
    rw [negSeq_cons, seqApply_append, seqApply_single, seqApply_cons, ih hts, inv_apply_apply T hT]

theorem negSeq_right (ts : List Aff) (h : invertible ts = true) (p : V3) :
    seqApply ts (seqApply (negSeq ts) p) = p := by
  induction ts generalizing p with
  | nil => rfl
  | cons T ts ih =>
    obtain ⟨hT, hts⟩ := (invertible_cons T ts).mp h
    rw [negSeq_cons, seqApply_append, seqApply_single, seqApply_cons, apply_inv_apply T hT, ih hts]

/-- a left inverse of a sequence is THE inverse: two sequences with the same forward map have the same pull-back -/
theorem negSeq_unique (ts us : List Aff) (hts : invertible ts = true) (hus : invertible us = true)
    (heq : ∀ p, seqApply ts p = seqApply us p) (w : V3) : seqApply (negSeq ts) w = seqApply (negSeq us) w := by
  have h := negSeq_left us hus (seqApply (negSeq ts) w)
  rw [← heq, negSeq_right ts hts] at h
  exact h.symm

theorem worldOf_cdiv (off pitch q : V3) (hx : pitch.x ≠ 0) (hy : pitch.y ≠ 0) (hz : pitch.z ≠ 0) :
    worldOf off pitch (cdiv (V3.sub q off) pitch) = q := by
  apply V3.ext' <;> simp only [worldOf, cdiv, cmul, V3.add, V3.sub]
  · rw [div_mul_cancel₀ _ hx, sub_add_cancel]
  · rw [div_mul_cancel₀ _ hy, sub_add_cancel]
  · rw [div_mul_cancel₀ _ hz, sub_add_cancel]

theorem cdiv_worldOf (off pitch u : V3) (hx : pitch.x ≠ 0) (hy : pitch.y ≠ 0) (hz : pitch.z ≠ 0) :
    cdiv (V3.sub (worldOf off pitch u) off) pitch = u := by
  apply V3.ext' <;> simp only [worldOf, cdiv, cmul, V3.add, V3.sub]
  · rw [add_sub_cancel_right, mul_div_cancel_right₀ _ hx]
  · rw [add_sub_cancel_right, mul_div_cancel_right₀ _ hy]
  · rw [add_sub_cancel_right, mul_div_cancel_right₀ _ hz]

theorem world_srcIndex (bwd : RowFn) (g : Img) (lo' tp idx : V3)
    (hx : g.pitch.x ≠ 0) (hy : g.pitch.y ≠ 0) (hz : g.pitch.z ≠ 0) :
    worldOf g.off g.pitch (srcIndex bwd g lo' tp idx) = bwd (worldOf lo' tp idx) :=
  worldOf_cdiv g.off g.pitch _ hx hy hz

theorem srcIndex_of_world (bwd : RowFn) (g : Img) (lo' tp idx u : V3)
    (hx : g.pitch.x ≠ 0) (hy : g.pitch.y ≠ 0) (hz : g.pitch.z ≠ 0)
    (h : bwd (worldOf lo' tp idx) = worldOf g.off g.pitch u) : srcIndex bwd g lo' tp idx = u := by
  rw [srcIndex, h]
  exact cdiv_worldOf g.off g.pitch u hx hy hz

theorem tri_zero (val : Int → Int → Int → Rat) (i j k : Int) : tri val i j k 0 0 0 = val i j k := by
  simp only [tri, sub_zero, one_mul, zero_mul, mul_zero, add_zero]

theorem inRange_int (n : Nat) (i : Int) (h0 : 0 ≤ i) (h1 : i < n) : inRange n (i : Rat) = true := by
  have a : (0 : Rat) ≤ (i : Rat) := Int.cast_nonneg h0
  have b : ((i + 1 : Int) : Rat) ≤ ((n : Int) : Rat) := Int.cast_le.mpr (Int.add_one_le_of_lt h1)
  rw [Int.cast_add, Int.cast_one, Int.cast_natCast] at b
  rw [inRange, decide_eq_true a, decide_eq_true (le_sub_iff_add_le.mpr b)]; rfl

/-- `rmin` / `rmax` are the order's `min` / `max`; their facts are the library's. -/
theorem rmin_eq_min : rmin = min := funext fun a => funext fun b => (min_def a b).symm

theorem rmax_eq_max : rmax = max := funext fun a => funext fun b => (max_def a b).symm

/-- one coordinate of an axis-aligned map `p ↦ (dx·x + tx, dy·y + ty, dz·z + tz)`, at the low and the high end of a box of `n` voxels of size `p` -/
theorem diag_lo_le_hi {d t o p n : Rat} (hd : 0 < d) (hp : 0 < p) (hn : 0 ≤ n) :
    d * o + t ≤ d * (n * p + o) + t :=
  (add_le_add_iff_right t).mpr (mul_le_mul_of_nonneg_left (le_add_of_nonneg_left (mul_nonneg hn hp.le)) hd.le)

/-- … and their distance divided by the number of voxels -/
theorem diag_pitch {d t o p n : Rat} (hn : n ≠ 0) : (d * (n * p + o) + t - (d * o + t)) / n = d * p := by
  rw [show d * (n * p + o) + t - (d * o + t) = d * p * n by ring, mul_div_cancel_right₀ _ hn]

section Diag
variable {F : RowFn} {d t : V3} (hF : ∀ p : V3, F p = ⟨d.x * p.x + t.x, d.y * p.y + t.y, d.z * p.z + t.z⟩) (g : Img)
  (hd : 0 < d.x ∧ 0 < d.y ∧ 0 < d.z) (hp : 0 < g.pitch.x ∧ 0 < g.pitch.y ∧ 0 < g.pitch.z)
include hF

theorem world_diag (off pitch idx : V3) : worldOf (F off) (cmul d pitch) idx = F (worldOf off pitch idx) := by
  rw [hF off, hF (worldOf off pitch idx)]
  apply V3.ext' <;> simp only [worldOf, cmul, V3.add] <;> ring

include hd hp

theorem bboxXf_diag : bboxXf F g = (F (bboxLo g), F (bboxHi g)) := by
  have hx : d.x * g.off.x + t.x ≤ d.x * ((g.nx : Rat) * g.pitch.x + g.off.x) + t.x :=
    diag_lo_le_hi hd.1 hp.1 (Nat.cast_nonneg _)
  have hy : d.y * g.off.y + t.y ≤ d.y * ((g.ny : Rat) * g.pitch.y + g.off.y) + t.y :=
    diag_lo_le_hi hd.2.1 hp.2.1 (Nat.cast_nonneg _)
  have hz : d.z * g.off.z + t.z ≤ d.z * ((g.nz : Rat) * g.pitch.z + g.off.z) + t.z :=
    diag_lo_le_hi hd.2.2 hp.2.2 (Nat.cast_nonneg _)
  simp only [bboxXf, bboxOfPts, corners, bboxLo, bboxHi, V3.add, cmul, Img.shapeV, List.map, hF _, minOf, maxOf,
    List.foldl, rmin_eq_min, rmax_eq_max, min_self, min_eq_left hx, min_eq_left hy, min_eq_left hz,
    max_self, max_eq_right hx, max_eq_right hy, max_eq_right hz, max_eq_left hx, max_eq_left hy]

theorem outPitch_diag (hn : 0 < g.nx ∧ 0 < g.ny ∧ 0 < g.nz) : outPitch F g = cmul d g.pitch := by
  simp only [outPitch, bboxXf_diag hF g hd hp, targetPitch, hF _, bboxLo, bboxHi, V3.add, cmul, Img.shapeV]
  rw [diag_pitch (Nat.cast_ne_zero.mpr hn.1.ne'), diag_pitch (Nat.cast_ne_zero.mpr hn.2.1.ne'),
    diag_pitch (Nat.cast_ne_zero.mpr hn.2.2.ne'), absRat_of_nonneg (mul_pos hd.1 hp.1).le,
    absRat_of_nonneg (mul_pos hd.2.1 hp.2.1).le, absRat_of_nonneg (mul_pos hd.2.2 hp.2.2).le]

end Diag

/-! `minOf` / `maxOf` are the library's `List.min?` / `List.max?` of the selected coordinate. -/

theorem minOf_eq (sel : V3 → Rat) (d : V3) (l : List V3) : ((d :: l).map sel).min? = some (minOf sel d l) := by
  rw [List.map_cons, List.min?_cons', List.foldl_map, minOf, rmin_eq_min]

theorem maxOf_eq (sel : V3 → Rat) (d : V3) (l : List V3) : ((d :: l).map sel).max? = some (maxOf sel d l) := by
  rw [List.map_cons, List.max?_cons', List.foldl_map, maxOf, rmax_eq_max]

theorem minOf_append (sel : V3 → Rat) (d : V3) (l e : List V3) (h : ∀ q ∈ e, ∃ p ∈ d :: l, sel p ≤ sel q) :
    minOf sel d (l ++ e) = minOf sel d l := by
  obtain ⟨hm, hle⟩ := List.min?_eq_some_iff.mp (minOf_eq sel d l)
  refine Option.some.inj ((minOf_eq sel d (l ++ e)).symm.trans (List.min?_eq_some_iff.mpr ⟨?_, ?_⟩))
  · rw [← List.cons_append, List.map_append]; exact List.mem_append_left _ hm
  · rw [← List.cons_append, List.map_append]
    intro b hb
    rcases List.mem_append.mp hb with hb | hb
    · exact hle b hb
    · obtain ⟨q, hq, rfl⟩ := List.mem_map.mp hb
      obtain ⟨p, hp, hpq⟩ := h q hq
      exact (hle _ (List.mem_map_of_mem hp)).trans hpq

theorem maxOf_append (sel : V3 → Rat) (d : V3) (l e : List V3) (h : ∀ q ∈ e, ∃ p ∈ d :: l, sel q ≤ sel p) :
    maxOf sel d (l ++ e) = maxOf sel d l := by
  obtain ⟨hm, hle⟩ := List.max?_eq_some_iff.mp (maxOf_eq sel d l)
  refine Option.some.inj ((maxOf_eq sel d (l ++ e)).symm.trans (List.max?_eq_some_iff.mpr ⟨?_, ?_⟩))
  · rw [← List.cons_append, List.map_append]; exact List.mem_append_left _ hm
  · rw [← List.cons_append, List.map_append]
    intro b hb
    rcases List.mem_append.mp hb with hb | hb
    · exact hle b hb
    · obtain ⟨q, hq, rfl⟩ := List.mem_map.mp hb
      obtain ⟨p, hp, hpq⟩ := h q hq
      exact hpq.trans (hle _ (List.mem_map_of_mem hp))

theorem apply_mid (T : Aff) (a b : V3) : T.apply (mid a b) = mid (T.apply a) (T.apply b) := by
  apply V3.ext' <;> simp only [Aff.apply, mid] <;> ring

theorem seqApply_mid (ts : List Aff) (a b : V3) : seqApply ts (mid a b) = mid (seqApply ts a) (seqApply ts b) := by
  induction ts generalizing a b with
  | nil => rfl
  | cons T ts ih => rw [seqApply_cons, seqApply_cons, seqApply_cons, apply_mid, ih]

theorem half_between {x y : Rat} (h : x ≤ y) : x ≤ (x + y) / 2 ∧ (x + y) / 2 ≤ y := by
  constructor <;> linarith

theorem mid_mem_between (sel : V3 → Rat) (hsel : ∀ a b, sel (mid a b) = (sel a + sel b) / 2) {L : List V3} {a b : V3}
    (ha : a ∈ L) (hb : b ∈ L) : (∃ r ∈ L, sel r ≤ sel (mid a b)) ∧ (∃ r ∈ L, sel (mid a b) ≤ sel r) := by
  rw [hsel]
  rcases le_total (sel a) (sel b) with h | h
  · exact ⟨⟨a, ha, (half_between h).1⟩, ⟨b, hb, (half_between h).2⟩⟩
  · rw [add_comm]
    exact ⟨⟨b, hb, (half_between h).1⟩, ⟨a, ha, (half_between h).2⟩⟩

theorem mem_allIdx (nx ny nz : Nat) (a b c : Nat) (ha : a < nx) (hb : b < ny) (hc : c < nz) :
    ((a : Int), (b : Int), (c : Int)) ∈ allIdx nx ny nz := by
  simp only [allIdx, List.mem_flatMap, List.mem_map, List.mem_range]
  exact ⟨a, ha, b, hb, c, hc, rfl⟩

theorem closeV3_zero {a b : V3} (h : closeV3 0 a b = true) : a = b := by
  simp only [closeV3, Bool.and_eq_true] at h
  exact V3.ext' (closeRat_zero h.1.1) (closeRat_zero h.1.2) (closeRat_zero h.2)

end Navis.XformImage

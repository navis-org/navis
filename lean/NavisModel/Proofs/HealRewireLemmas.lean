import NavisModel.Model.Heal
import NavisModel.Proofs.ForestConnLemmas
/-!
The traversal behind `rewire` (C11).

* whatever the edge list, the re-derived parent column is a well-formed forest (rank = visiting order);
* every link it creates is an edge of the list, and the two ends of every edge end up in one tree;
* for an ACYCLIC edge list the undirected edges of the result are exactly the list (`rewire_spec`).

Hence `heal` yields a forest whatever edges it adds (`WF_heal`, with the two defining equations of `heal`), correctly labelled
unless it returns its input (`labels_heal`; `healDrop_inv` for `drop_disc`): stated here so that its users need nothing of the
candidate-edge and Kruskal modules.
-/
namespace Navis.Heal
open Navis.Forest

def keys (vis : List (Int × Int)) : List Int := vis.map (·.1)

theorem hasKey_iff {vis : List (Int × Int)} {i : Int} : hasKey vis i = true ↔ i ∈ keys vis := by
  unfold hasKey keys
  simp only [List.any_eq_true, beq_iff_eq, List.mem_map]

theorem hasKey_false_iff {vis : List (Int × Int)} {i : Int} : hasKey vis i = false ↔ i ∉ keys vis := by
  rw [← hasKey_iff]; simp

@[simp] theorem keys_append (a b : List (Int × Int)) : keys (a ++ b) = keys a ++ keys b := by
  simp [keys]

/-- The visiting list is built by starting trees at table nodes and by following edges of `E`. -/
inductive VisOK (E : EL) (V : List Int) : List (Int × Int) → Prop
  | nil : VisOK E V []
  | root {vis : List (Int × Int)} {r : Int} : VisOK E V vis → r ∈ V → r ∉ keys vis → VisOK E V (vis ++ [(r, -1)])
  | link {vis : List (Int × Int)} {v p : Int} : VisOK E V vis → v ∈ V → v ∉ keys vis → p ∈ keys vis →
      Adj E p v → VisOK E V (vis ++ [(v, p)])

theorem mem_keys_snoc {vis : List (Int × Int)} {v p k : Int} : k ∈ keys (vis ++ [(v, p)]) ↔ k ∈ keys vis ∨ k = v := by
  simp [keys]

/-- Both constructors append one entry for a table node not visited yet; they differ only in what the entry
points to. -/
theorem VisOK.snoc_induction {E : EL} {V : List Int} {motive : List (Int × Int) → Prop} {vis : List (Int × Int)}
    (h : VisOK E V vis) (nil : motive [])
    (snoc : ∀ vis v p, VisOK E V vis → motive vis → v ∈ V → v ∉ keys vis →
      (p = -1 ∨ (p ∈ keys vis ∧ Adj E p v)) → motive (vis ++ [(v, p)])) : motive vis := by
  induction h with
  | nil => exact nil
  | root hok hr hnk ih => exact snoc _ _ _ hok ih hr hnk (Or.inl rfl)
  | link hok hv hnk hp hadj ih => exact snoc _ _ _ hok ih hv hnk (Or.inr ⟨hp, hadj⟩)

theorem VisOK.keys_nodup {E : EL} {V : List Int} {vis : List (Int × Int)} (h : VisOK E V vis) : (keys vis).Nodup := by
  refine h.snoc_induction (motive := fun vis => (keys vis).Nodup) List.nodup_nil fun vis v p _ ih _ hv _ => ?_
  rw [keys_append]
  exact nodup_concat ih hv

theorem VisOK.keys_sub {E : EL} {V : List Int} {vis : List (Int × Int)} (h : VisOK E V vis) :
    ∀ k ∈ keys vis, k ∈ V := by
  refine h.snoc_induction (motive := fun vis => ∀ k ∈ keys vis, k ∈ V) (fun k hk => nomatch hk)
    fun vis v p _ ih hv _ _ k hk => ?_
  rcases mem_keys_snoc.mp hk with hk | rfl
  · exact ih k hk
  · exact hv

theorem VisOK.entry {E : EL} {V : List Int} {vis : List (Int × Int)} (h : VisOK E V vis) :
    ∀ e ∈ vis, e.2 = -1 ∨ (e.2 ∈ keys vis ∧ (keys vis).idxOf e.2 < (keys vis).idxOf e.1 ∧ Adj E e.2 e.1) := by
  refine h.snoc_induction
    (motive := fun vis => ∀ e ∈ vis,
      e.2 = -1 ∨ (e.2 ∈ keys vis ∧ (keys vis).idxOf e.2 < (keys vis).idxOf e.1 ∧ Adj E e.2 e.1))
    (fun e he => nomatch he) fun vis v p _ ih _ hv hp e he => ?_
  rcases List.mem_append.mp he with he | he
  · refine (ih e he).imp id fun ⟨h1, h2, h3⟩ => ?_
    have he1 : e.1 ∈ keys vis := List.mem_map.mpr ⟨e, he, rfl⟩
    refine ⟨mem_keys_snoc.mpr (Or.inl h1), ?_, h3⟩
    rw [keys_append, List.idxOf_append, List.idxOf_append, if_pos h1, if_pos he1]; exact h2
  · rw [List.mem_singleton.mp he]
    refine hp.imp id fun ⟨hp, hadj⟩ => ⟨mem_keys_snoc.mpr (Or.inl hp), ?_, hadj⟩
    rw [keys_append, List.idxOf_append, List.idxOf_append, if_pos hp, if_neg hv]
    have := List.idxOf_lt_length_of_mem hp
    simp only
    omega

@[simp] theorem ids_reparent (t : Table) (vis : List (Int × Int)) : ids (reparent t vis) = ids t := by
  simp [reparent, ids, List.map_map, Function.comp_def]

theorem coords_reparent (t : Table) (vis : List (Int × Int)) :
    (reparent t vis).map (fun n => (n.id, n.x, n.y, n.z)) = t.map (fun n => (n.id, n.x, n.y, n.z)) := by
  simp [reparent, List.map_map, Function.comp_def]

theorem mem_reparent {t : Table} {vis : List (Int × Int)} {m : Node} (hm : m ∈ reparent t vis) :
    ∃ n ∈ t, m.id = n.id ∧ m.parent = lookupD vis n.id (-1) := by
  unfold reparent at hm
  obtain ⟨n, hn, rfl⟩ := List.mem_map.mp hm
  exact ⟨n, hn, rfl, rfl⟩

theorem reparent_parent {t : Table} {E : EL} {vis : List (Int × Int)} (hok : VisOK E (ids t) vis) {m : Node}
    (hm : m ∈ reparent t vis) :
    m.parent = -1 ∨
      (m.parent ∈ keys vis ∧ (keys vis).idxOf m.parent < (keys vis).idxOf m.id ∧ Adj E m.parent m.id) := by
  obtain ⟨n, _, h1, h2⟩ := mem_reparent hm
  rw [h1, h2]
  by_cases hk : n.id ∈ keys vis
  · obtain ⟨e, he, he1⟩ := List.mem_map.mp hk
    have hl := lookupD_of_mem hok.keys_nodup he (-1)
    rw [← he1, hl]
    exact hok.entry e he
  · exact Or.inl (lookupD_of_not_mem _ hk)

theorem WF_reparent {t : Table} (hw : WF t) {E : EL} {vis : List (Int × Int)} (hok : VisOK E (ids t) vis) :
    WF (reparent t vis) := by
  obtain ⟨hnd, hpos, _⟩ := hw
  refine ⟨by rw [ids_reparent]; exact hnd, ?_, fun i => (keys vis).idxOf i, ?_⟩
  · intro m hm
    obtain ⟨n, hn, h1, _⟩ := mem_reparent hm
    rw [h1]; exact hpos n hn
  · intro m hm
    rw [ids_reparent]
    rcases reparent_parent hok hm with h | ⟨h1, h2, _⟩
    · left; omega
    · exact Or.inr ⟨hok.keys_sub _ h1, h2⟩

/-- Links with a real parent, as an undirected edge list. -/
def Lk (vis : List (Int × Int)) : EL := vis.filter fun e => decide (0 ≤ e.2)

theorem Lk_append (a b : List (Int × Int)) : Lk (a ++ b) = Lk a ++ Lk b := by simp [Lk]

theorem Conn.lk_append {a : List (Int × Int)} (b : List (Int × Int)) {x y : Int} (h : Conn (Lk a) x y) :
    Conn (Lk (a ++ b)) x y :=
  h.of_subset fun e he => by rw [Lk_append]; exact List.mem_append_left _ he

theorem uedges_reparent_sub {t : Table} {E : EL} {vis : List (Int × Int)} (hok : VisOK E (ids t) vis)
    (hnorm : ∀ e ∈ E, uedge e.1 e.2 = e) {e : Int × Int} (he : e ∈ uedges (reparent t vis)) : e ∈ E := by
  obtain ⟨m, hm, hp, rfl⟩ := mem_uedges.mp he
  rcases reparent_parent hok hm with h | ⟨_, _, h | h⟩
  · exact absurd (by omega) hp
  · have := hnorm _ h
    rw [uedge_comm, this]; exact h
  · have := hnorm _ h
    rw [this]; exact h

theorem lk_adj_uedges {t : Table} {E : EL} {vis : List (Int × Int)} (hok : VisOK E (ids t) vis)
    {a b : Int} (h : Adj (Lk vis) a b) : Adj (uedges (reparent t vis)) a b := by
  have key : ∀ e ∈ Lk vis, Adj (uedges (reparent t vis)) e.1 e.2 := by
    intro e he
    obtain ⟨hev, hp⟩ := List.mem_filter.mp he
    have hp : 0 ≤ e.2 := by simpa using hp
    obtain ⟨n, hn, hne⟩ := mem_ids.mp (hok.keys_sub _ (List.mem_map.mpr ⟨e, hev, rfl⟩))
    have hl := lookupD_of_mem hok.keys_nodup hev (-1)
    refine adj_uedges.mpr ⟨{ n with parent := lookupD vis n.id (-1) }, List.mem_map.mpr ⟨n, hn, rfl⟩, ?_,
      Or.inl ⟨hne.symm, ?_⟩⟩
    · simp only; rw [hne, hl]; omega
    · simp only; rw [hne, hl]
  rcases h with h | h
  · exact key _ h
  · exact (key _ h).symm

theorem growStep_some {E : EL} {vis : List (Int × Int)} {q : Int × Int} (h : growStep E vis = some q) :
    q.2 ∈ keys vis ∧ q.1 ∉ keys vis ∧ Adj E q.2 q.1 := by
  unfold growStep at h
  obtain ⟨e, he, hf⟩ := List.exists_of_findSome?_eq_some h
  split at hf
  · rename_i hc
    simp only [Bool.and_eq_true, Bool.not_eq_true'] at hc
    have := Option.some.inj hf
    rw [← this]
    exact ⟨hasKey_iff.mp hc.1, hasKey_false_iff.mp hc.2, Or.inl he⟩
  · split at hf
    · rename_i hc
      simp only [Bool.and_eq_true, Bool.not_eq_true'] at hc
      have := Option.some.inj hf
      rw [← this]
      exact ⟨hasKey_iff.mp hc.1, hasKey_false_iff.mp hc.2, Or.inr he⟩
    · simp at hf

/-- No edge leaves the visited set. -/
def Closed (E : EL) (vis : List (Int × Int)) : Prop := ∀ e ∈ E, (e.1 ∈ keys vis ↔ e.2 ∈ keys vis)

theorem growStep_none {E : EL} {vis : List (Int × Int)} (h : growStep E vis = none) : Closed E vis := by
  unfold growStep at h
  rw [List.findSome?_eq_none_iff] at h
  intro e he
  have := h e he
  by_cases h1 : e.1 ∈ keys vis <;> by_cases h2 : e.2 ∈ keys vis
  · exact ⟨fun _ => h2, fun _ => h1⟩
  · have a1 := hasKey_iff.mpr h1
    have a2 := hasKey_false_iff.mpr h2
    simp [a1, a2] at this
  · have a1 := hasKey_false_iff.mpr h1
    have a2 := hasKey_iff.mpr h2
    simp [a1, a2] at this
  · exact ⟨fun h => absurd h h1, fun h => absurd h h2⟩

/-- The two ends of every edge inside the visited set are connected by links. -/
def Linked (E : EL) (vis : List (Int × Int)) : Prop :=
  ∀ e ∈ E, e.1 ∈ keys vis → e.2 ∈ keys vis → Conn (Lk vis) e.1 e.2

/-- Invariant while one tree (started at `r` after the closed prefix `done`) is grown. -/
structure GInv (E : EL) (V : List Int) (done : List (Int × Int)) (r : Int) (vis : List (Int × Int)) : Prop where
  ok : VisOK E V vis
  sub : ∀ k ∈ keys done, k ∈ keys vis
  conn : ∀ k ∈ keys vis, k ∈ keys done ∨ Conn (Lk vis) k r
  linked : Linked E vis

theorem GInv.start {E : EL} {V : List Int} {done : List (Int × Int)} {r : Int} (hok : VisOK E V done)
    (hcl : Closed E done) (hl : Linked E done) (hr : r ∈ V) (hnk : r ∉ keys done) :
    GInv E V done r (done ++ [(r, -1)]) := by
  refine ⟨.root hok hr hnk, fun k hk => mem_keys_snoc.mpr (Or.inl hk), ?_, ?_⟩
  · intro k hk
    rcases mem_keys_snoc.mp hk with hk | rfl
    · exact Or.inl hk
    · exact Or.inr (.refl _)
  · intro e he h1 h2
    rcases mem_keys_snoc.mp h1 with h1 | h1 <;> rcases mem_keys_snoc.mp h2 with h2 | h2
    · exact (hl e he h1 h2).lk_append _
    · exact absurd ((hcl e he).mp h1) (h2 ▸ hnk)
    · exact absurd ((hcl e he).mpr h2) (h1 ▸ hnk)
    · rw [h1, h2]; exact .refl _

theorem GInv.extend {E : EL} {V : List Int} {done : List (Int × Int)} {r : Int} {vis : List (Int × Int)}
    (hends : ∀ e ∈ E, e.1 ∈ V ∧ e.2 ∈ V) (hVpos : ∀ k ∈ V, 0 ≤ k) (hcl : Closed E done)
    (h : GInv E V done r vis) {q : Int × Int}
    (hq : growStep E vis = some q) : GInv E V done r (vis ++ [q]) := by
  obtain ⟨v, p⟩ := q
  obtain ⟨hp, hv, hadj⟩ := growStep_some hq
  simp only at hp hv hadj
  have hvV : v ∈ V := hadj.elim (fun h1 => (hends _ h1).2) (fun h1 => (hends _ h1).1)
  have hpz : 0 ≤ p := hVpos _ (h.ok.keys_sub _ hp)
  have hqL : (v, p) ∈ Lk (vis ++ [(v, p)]) := by
    rw [Lk_append]
    exact List.mem_append_right _ (List.mem_filter.mpr ⟨List.mem_singleton.mpr rfl, decide_eq_true hpz⟩)
  -- a visited node adjacent to the new node is not in the closed prefix, so it lies in the current tree
  have cur : ∀ c, c ∈ keys vis → Adj E v c → Conn (Lk (vis ++ [(v, p)])) c r := by
    intro c hc hadj'
    rcases h.conn c hc with hd | hcr
    · have : v ∈ keys done := hadj'.elim (fun h1 => (hcl _ h1).mpr hd) (fun h1 => (hcl _ h1).mp hd)
      exact absurd (h.sub _ this) hv
    · exact hcr.lk_append _
  have hqr : Conn (Lk (vis ++ [(v, p)])) v r :=
    (Conn.single (Or.inl hqL : Adj (Lk (vis ++ [(v, p)])) v p)).trans (cur p hp hadj.symm)
  refine ⟨.link h.ok hvV hv hp hadj, fun k hk => mem_keys_snoc.mpr (Or.inl (h.sub k hk)), ?_, ?_⟩
  · intro k hk
    rcases mem_keys_snoc.mp hk with hk | rfl
    · exact (h.conn k hk).imp id (fun c => c.lk_append _)
    · exact Or.inr hqr
  · intro e he h1 h2
    rcases mem_keys_snoc.mp h1 with h1 | h1 <;> rcases mem_keys_snoc.mp h2 with h2 | h2
    · exact (h.linked e he h1 h2).lk_append _
    · rw [h2]; exact (cur e.1 h1 (Or.inr (h2 ▸ he))).trans hqr.symm
    · rw [h1]; exact hqr.trans (cur e.2 h2 (Or.inl (h1 ▸ he))).symm
    · rw [h1, h2]; exact .refl _

/-- Growing until no edge leaves the visited set (the fuel `|V|` is never exhausted). -/
theorem grow_inv {E : EL} {V : List Int} {done : List (Int × Int)} {r : Int}
    (hends : ∀ e ∈ E, e.1 ∈ V ∧ e.2 ∈ V) (hVpos : ∀ k ∈ V, 0 ≤ k) (hcl : Closed E done) (f : Nat)
    (vis : List (Int × Int)) (h : GInv E V done r vis) (hlen : V.length < vis.length + f) :
    GInv E V done r (grow E f vis) ∧ Closed E (grow E f vis) := by
  fun_induction grow E f vis with
  | case1 vis =>
    exfalso
    have h1 := List.Nodup.length_le_of_subset h.ok.keys_nodup (fun a ha => h.ok.keys_sub a ha)
    simp [keys] at h1
    omega
  | case2 f vis hq => exact ⟨h, growStep_none hq⟩
  | case3 f vis q hq ih => exact ih (h.extend hends hVpos hcl hq) (by simp; omega)

theorem grow_keys_mono (E : EL) (f : Nat) (vis : List (Int × Int)) (k : Int) (hk : k ∈ keys vis) :
    k ∈ keys (grow E f vis) := by
  fun_induction grow E f vis with
  | case1 | case2 => exact hk
  | case3 f vis q hq ih => exact ih (by rw [keys_append]; exact List.mem_append_left _ hk)

/-- Invariant between trees. -/
structure TInv (E : EL) (V : List Int) (vis : List (Int × Int)) : Prop where
  ok : VisOK E V vis
  closed : Closed E vis
  linked : Linked E vis

/-- The fold body of `traverse` (a lambda there; `traverse E n order = order.foldl (travStep E n) []` by `rfl`). -/
def travStep (E : EL) (n : Nat) (vis : List (Int × Int)) (r : Int) : List (Int × Int) :=
  if hasKey vis r then vis else grow E n (vis ++ [(r, -1)])

theorem travStep_inv {E : EL} {V : List Int} (hends : ∀ e ∈ E, e.1 ∈ V ∧ e.2 ∈ V) (hVpos : ∀ k ∈ V, 0 ≤ k)
    {vis : List (Int × Int)} (h : TInv E V vis) {r : Int} (hr : r ∈ V) :
    TInv E V (travStep E V.length vis r) ∧ (∀ k ∈ keys vis, k ∈ keys (travStep E V.length vis r)) ∧
      r ∈ keys (travStep E V.length vis r) := by
  unfold travStep
  cases hk : hasKey vis r with
  | true => simp only [if_true]; exact ⟨h, fun _ hk' => hk', hasKey_iff.mp hk⟩
  | false =>
    simp only [Bool.false_eq_true, if_false]
    have hnk := hasKey_false_iff.mp hk
    have hs := GInv.start h.ok h.closed h.linked hr hnk
    obtain ⟨hg, hc⟩ := grow_inv hends hVpos h.closed V.length _ hs (by simp)
    refine ⟨⟨hg.ok, hc, hg.linked⟩, fun k hk' => hg.sub k hk', ?_⟩
    apply grow_keys_mono
    rw [keys_append]; exact List.mem_append_right _ (by simp [keys])

theorem foldl_travStep_inv {E : EL} {V : List Int} (hends : ∀ e ∈ E, e.1 ∈ V ∧ e.2 ∈ V) (hVpos : ∀ k ∈ V, 0 ≤ k)
    (order : List Int) (ho : ∀ r ∈ order, r ∈ V) :
    ∀ vis, TInv E V vis →
      TInv E V (order.foldl (travStep E V.length) vis) ∧
      (∀ k ∈ keys vis, k ∈ keys (order.foldl (travStep E V.length) vis)) ∧
      ∀ r ∈ order, r ∈ keys (order.foldl (travStep E V.length) vis) := by
  induction order with
  | nil => intro vis h; exact ⟨h, fun _ hk => hk, by simp⟩
  | cons r rest ih =>
    intro vis h
    obtain ⟨h1, h2, h3⟩ := travStep_inv hends hVpos h (ho r (List.mem_cons_self))
    obtain ⟨g1, g2, g3⟩ := ih (fun x hx => ho x (List.mem_cons_of_mem _ hx)) _ h1
    rw [List.foldl_cons]
    refine ⟨g1, fun k hk => g2 k (h2 k hk), ?_⟩
    intro x hx
    rcases List.mem_cons.mp hx with rfl | hx
    · exact g2 _ h3
    · exact g3 x hx

def inTable (t : Table) (E : EL) : EL := E.filter fun e => (ids t).contains e.1 && (ids t).contains e.2

theorem rewire_eq (t : Table) (E : EL) :
    rewire t E = classify (reparent t (traverse (inTable t E) t.length (roots t ++ ids t))) := rfl

theorem inTable_ends {t : Table} {E : EL} : ∀ e ∈ inTable t E, e.1 ∈ ids t ∧ e.2 ∈ ids t := by
  intro e he
  unfold inTable at he
  have := (List.mem_filter.mp he).2
  simpa using this

theorem inTable_eq_self {t : Table} {E : EL} (h : ∀ e ∈ E, e.1 ∈ ids t ∧ e.2 ∈ ids t) : inTable t E = E := by
  unfold inTable
  rw [List.filter_eq_self]
  intro e he
  simpa using h e he

theorem traverse_table {t : Table} (hpos : ∀ n ∈ t, 0 ≤ n.id) (E : EL) {order : List Int}
    (ho : ∀ r ∈ order, r ∈ ids t) :
    TInv (inTable t E) (ids t) (traverse (inTable t E) t.length order) ∧
      ∀ r ∈ order, r ∈ keys (traverse (inTable t E) t.length order) := by
  obtain ⟨h1, _, h3⟩ := foldl_travStep_inv (E := inTable t E) (V := ids t) inTable_ends
    (fun k hk => ids_nonneg hpos hk) order ho [] ⟨.nil, fun _ _ => ⟨fun h => (nomatch h), fun h => (nomatch h)⟩, fun _ _ h => (nomatch h)⟩
  rw [show (ids t).length = t.length from List.length_map _] at h1 h3
  exact ⟨h1, h3⟩

theorem traverse_rewire {t : Table} (hw : WF t) (E : EL) :
    TInv (inTable t E) (ids t) (traverse (inTable t E) t.length (roots t ++ ids t)) ∧
      ∀ r ∈ ids t, r ∈ keys (traverse (inTable t E) t.length (roots t ++ ids t)) := by
  obtain ⟨h1, h2⟩ := traverse_table hw.2.1 E (order := roots t ++ ids t)
    fun r hr => (List.mem_append.mp hr).elim roots_sub id
  exact ⟨h1, fun r hr => h2 r (List.mem_append_right _ hr)⟩

/-- `rewire` returns a well-formed forest for EVERY edge list (same rows: `coords_rewire`). -/
theorem WF_rewire {t : Table} (hw : WF t) (E : EL) : WF (rewire t E) := by
  rw [rewire_eq]
  exact WF_classify (WF_reparent hw (traverse_rewire hw E).1.ok)

theorem coords_classify (t : Table) :
    (classify t).map (fun n => (n.id, n.x, n.y, n.z)) = t.map (fun n => (n.id, n.x, n.y, n.z)) := by
  simp [classify, List.map_map, Function.comp_def]

theorem coords_rewire (t : Table) (E : EL) :
    (rewire t E).map (fun n => (n.id, n.x, n.y, n.z)) = t.map (fun n => (n.id, n.x, n.y, n.z)) := by
  rw [rewire_eq, coords_classify, coords_reparent]

/-- **rewire on an acyclic edge list**: the undirected edges of the result are exactly the list. -/
theorem rewire_spec {t : Table} (hw : WF t) {E : EL} (hends : ∀ e ∈ E, e.1 ∈ ids t ∧ e.2 ∈ ids t)
    (hnorm : ∀ e ∈ E, uedge e.1 e.2 = e) (hac : Acyc E) :
    (uedges (rewire t E)).Perm E := by
  have hwf := WF_rewire hw E
  obtain ⟨hT, hall⟩ := traverse_rewire hw E
  rw [inTable_eq_self hends] at hT hall
  have hu : uedges (rewire t E) = uedges (reparent t (traverse E t.length (roots t ++ ids t))) := by
    rw [rewire_eq, inTable_eq_self hends]; exact uedges_congr (links_classify _)
  have hsub : ∀ e ∈ uedges (rewire t E), e ∈ E := by
    intro e he
    rw [hu] at he
    exact uedges_reparent_sub hT.ok hnorm he
  refine (List.perm_ext_iff_of_nodup (Nodup_uedges hwf) hac.1).mpr fun e => ⟨hsub e, fun he => ?_⟩
  -- the ends of every edge of the list lie in one tree of the result; were the edge itself missing,
  -- the other edges of the list would join them
  have hconn : Conn (uedges (rewire t E)) e.1 e.2 := by
    rw [hu]
    exact (hT.linked e he (hall _ (hends e he).1) (hall _ (hends e he).2)).mono fun a b hab =>
      lk_adj_uedges hT.ok hab
  apply Classical.byContradiction
  intro hne
  refine hac.2 e he (hconn.of_subset fun x hx => ?_)
  rw [hac.1.mem_erase_iff]
  exact ⟨fun h => hne (h ▸ hx), hsub x hx⟩

theorem heal_of_single {t : Table} (h : (roots t).length ≤ 1) (o : Opts) : heal t o = t := if_pos h

theorem heal_of_many {t : Table} (h : ¬ (roots t).length ≤ 1) (o : Opts) :
    heal t o = rewire t (uedges t ++ addedU (healAdded t o)) := if_neg h

/-- Healing yields a forest whatever edges it adds. -/
theorem WF_heal {t : Table} (hw : WF t) (o : Opts) : WF (heal t o) := by
  by_cases h : (roots t).length ≤ 1
  · rw [heal_of_single h]; exact hw
  · rw [heal_of_many h]; exact WF_rewire hw _

theorem labelsOKB_rewire (t : Table) (E : EL) : labelsOKB (rewire t E) = true := by
  rw [rewire_eq]; exact labelsOKB_classify _

theorem labels_heal (t : Table) (o : Opts) : heal t o = t ∨ labelsOKB (heal t o) = true := by
  unfold heal
  split
  · exact Or.inl rfl
  · exact Or.inr (labelsOKB_rewire _ _)

/-- `drop_disc=True` returns the healed table or a `subset` of it. -/
theorem healDrop_inv {P : Table → Prop} {t : Table} {o : Opts} (hh : P (heal t o))
    (hsub : ∀ keep, P (subset (heal t o) keep)) : P (healDrop t o) := by
  simp only [healDrop]
  split
  · exact hh
  · split
    · exact hh
    · exact hsub _

end Navis.Heal

import NavisModel.Model.Dist
/-! The one insertion sort of the model, `Forest.sortBy` of `Model/Dist.lean`, by a Boolean "comes before" `lt`.  Its result is a
permutation of the input, is pairwise in any transitive relation that `lt` decides, and depends on `lt` only at the elements of the list.  The
keyed sorts of `Model/Swc.lean` and `Model/Dotprops.lean` are this sort at `fun y x => decide (key y < key x)`: `Swc.isortBy_eq` in
`SwcLemmas` and `Voxel.sortBy_eq` in `DotpropsLemmas` say so, and those modules get their sort facts from here (apart from `Swc.insertBy_map` / `isortBy_map`, by their own induction).  Core Lean only. -/
namespace Navis.Forest

theorem insertBy_perm {α} (lt : α → α → Bool) (x : α) (l : List α) : (insertBy lt x l).Perm (x :: l) := by
  induction l with
  | nil => simp [insertBy]
  | cons y ys ih =>
    unfold insertBy
    split
    · exact (List.Perm.cons y ih).trans (List.Perm.swap x y ys)
    · exact List.Perm.refl _

theorem sortBy_perm {α} (lt : α → α → Bool) (l : List α) : (sortBy lt l).Perm l := by
  induction l with
  | nil => simp [sortBy]
  | cons x xs ih =>
    show (insertBy lt x (sortBy lt xs)).Perm (x :: xs)
    exact (insertBy_perm lt x _).trans (List.Perm.cons x ih)

theorem mem_insertBy {α} (lt : α → α → Bool) (x : α) (l : List α) (z : α) : z ∈ insertBy lt x l ↔ z = x ∨ z ∈ l := by
  rw [(insertBy_perm lt x l).mem_iff, List.mem_cons]

theorem mem_sortBy {α} (lt : α → α → Bool) (l : List α) (z : α) : z ∈ sortBy lt l ↔ z ∈ l :=
  (sortBy_perm lt l).mem_iff

theorem insertBy_pairwise {α} {R : α → α → Prop} (lt : α → α → Bool) (htr : ∀ a b c, R a b → R b c → R a c)
    (h1 : ∀ y x, lt y x = true → R y x) (h2 : ∀ y x, lt y x = false → R x y) (x : α) (l : List α)
    (hl : l.Pairwise R) : (insertBy lt x l).Pairwise R := by
  induction l with
  | nil => simp [insertBy]
  | cons y ys ih =>
    rw [List.pairwise_cons] at hl
    unfold insertBy
    cases hlt : lt y x with
    | true =>
      simp only [if_true]
      rw [List.pairwise_cons]
      refine ⟨?_, ih hl.2⟩
      intro z hz
      rcases (mem_insertBy lt x ys z).mp hz with h | h
      · rw [h]; exact h1 y x hlt
      · exact hl.1 z h
    | false =>
      simp only [Bool.false_eq_true, if_false]
      rw [List.pairwise_cons, List.pairwise_cons]
      exact ⟨List.forall_mem_cons.mpr ⟨h2 y x hlt, fun z h => htr _ _ _ (h2 y x hlt) (hl.1 z h)⟩, hl⟩

theorem sortBy_pairwise {α} {R : α → α → Prop} (lt : α → α → Bool) (htr : ∀ a b c, R a b → R b c → R a c)
    (h1 : ∀ y x, lt y x = true → R y x) (h2 : ∀ y x, lt y x = false → R x y) (l : List α) :
    (sortBy lt l).Pairwise R := by
  induction l with
  | nil => simp [sortBy]
  | cons x xs ih => exact insertBy_pairwise lt htr h1 h2 x _ ih

theorem sortBy_desc_pairwise {α} (key : α → Nat) (l : List α) :
    (sortBy (fun y x => decide (key x ≤ key y)) l).Pairwise fun a b => key b ≤ key a :=
  sortBy_pairwise (R := fun a b => key b ≤ key a) _ (fun _ _ _ h1 h2 => Nat.le_trans h2 h1)
    (fun _ _ h => of_decide_eq_true h) (fun _ _ h => Nat.le_of_lt (Nat.not_le.mp (of_decide_eq_false h))) l

theorem insertBy_congr {α} {lt1 lt2 : α → α → Bool} (x : α) :
    ∀ (l : List α), (∀ y ∈ l, lt1 y x = lt2 y x) → insertBy lt1 x l = insertBy lt2 x l
  | [], _ => rfl
  | y :: ys, h => by
    have ih := insertBy_congr (lt1 := lt1) (lt2 := lt2) x ys (fun z hz => h z (List.mem_cons_of_mem _ hz))
    show (if lt1 y x then y :: insertBy lt1 x ys else x :: y :: ys) = (if lt2 y x then y :: insertBy lt2 x ys else x :: y :: ys)
    rw [h y List.mem_cons_self, ih]

theorem sortBy_congr {α} {lt1 lt2 : α → α → Bool} :
    ∀ (l : List α), (∀ y ∈ l, ∀ x ∈ l, lt1 y x = lt2 y x) → sortBy lt1 l = sortBy lt2 l
  | [], _ => rfl
  | x :: xs, h => by
    have ih := sortBy_congr (lt1 := lt1) (lt2 := lt2) xs
      (fun y hy z hz => h y (List.mem_cons_of_mem _ hy) z (List.mem_cons_of_mem _ hz))
    show insertBy lt1 x (sortBy lt1 xs) = insertBy lt2 x (sortBy lt2 xs)
    rw [ih]
    apply insertBy_congr
    intro y hy
    rw [mem_sortBy] at hy
    exact h y (List.mem_cons_of_mem _ hy) x List.mem_cons_self

end Navis.Forest

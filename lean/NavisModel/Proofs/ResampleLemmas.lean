import NavisModel.Proofs.ResampleSkipLemmas
/-! Helper lemmas for C13, structural part of `resample_skeleton` — core Lean only.

`resampleStruct` is the segment loop with the two outcomes linear interpolation has; it is the three-outcome loop of
`Model/ResampleSkip.lean` run without failures (`resampleSkip_actOfCnt`), so uniqueness of the ids and well-formedness
of the result are those of the general loop; rows, roots and the id list of the result are read off `resampleStruct_eq`
(the de-duplication drops nothing).  `planOf_ok`: the plan over the small segments of a well-formed forest meets the
invariant `PlanOK` (anchors in the table, ranks falling along every segment, disjoint id ranges above `maxId`). -/
namespace Navis.Resample
open Navis.Forest

structure PlanOK (t : Table) (rk : Int → Nat) (P : List SegOut) : Prop where
  first_mem : ∀ o ∈ P, ∃ n ∈ t, n.id = o.first ∧ ¬ n.parent < 0
  last_mem : ∀ o ∈ P, o.last ∈ ids t
  rank : ∀ o ∈ P, rk o.last < rk o.first
  firsts_nodup : (P.map (·.first)).Nodup
  last_anchor : ∀ o ∈ P, (∃ n ∈ t, n.id = o.last ∧ n.parent < 0) ∨ ∃ o' ∈ P, o'.first = o.last
  base_gt : ∀ o ∈ P, maxId t < o.base
  disjoint : P.Pairwise (fun o o' => o.base + (o.k : Int) ≤ o'.base)

theorem smallSegments_map_first (t : Table) :
    (smallSegments t).map segFirst = (t.filter fun n => !isRootNode n && childCount t n.id != 1).map (·.id) := by
  rw [smallSegments_eq, List.map_map]
  rfl

theorem planOf_ok {t : Table} (hw : WF t) {rk : Int → Nat}
    (hrk : ∀ n ∈ t, n.parent < 0 ∨ (n.parent ∈ ids t ∧ rk n.parent < rk n.id)) (cnt : List Int → Option Nat) :
    PlanOK t rk (planOf t cnt) := by
  have hok := segsOK_of_perm hw (List.Perm.refl (smallSegments t))
  have hseg : ∀ o ∈ planOf t cnt, ∃ s ∈ smallSegments t, o.first = segFirst s ∧ o.last = segLast s ∧
      maxId t + 1 ≤ o.base := by
    intro o ho
    obtain ⟨s, hs, h1, h2, _, hb⟩ := mem_plan ho
    exact ⟨s, hs, h1, h2, hb⟩
  refine ⟨?_, ?_, ?_, ?_, ?_, ?_, plan_pairwise _ _ _⟩
  · intro o ho
    obtain ⟨s, hs, h1, _, _⟩ := hseg o ho
    obtain ⟨n, hn, hnp, hf, _⟩ := hok.facts hs
    exact ⟨n, hn, by rw [h1, hf], hnp⟩
  · intro o ho
    obtain ⟨s, hs, _, h2, _⟩ := hseg o ho
    obtain ⟨_, _, _, _, hl, _⟩ := hok.facts hs
    exact h2 ▸ hl
  · intro o ho
    obtain ⟨s, hs, h1, h2, _⟩ := hseg o ho
    rw [h1, h2]
    exact hok.rank hrk hs
  · unfold planOf
    rw [plan_map_first, smallSegments_map_first]
    exact hw.1.sublist (List.filter_sublist.map _)
  · intro o ho
    obtain ⟨s, hs, _, h2, _⟩ := hseg o ho
    obtain ⟨_, _, _, _, hl, hst, _⟩ := hok.facts hs
    rw [h2]
    rcases hok.anchor hw hl hst with hroot | ⟨s', hs', hf'⟩
    · exact Or.inl hroot
    · obtain ⟨o', ho', h1', _⟩ := plan_of_mem (cnt := cnt) (base := maxId t + 1) hs'
      exact Or.inr ⟨o', ho', by rw [h1', hf']⟩
  · intro o ho
    obtain ⟨_, _, _, _, hb⟩ := hseg o ho
    omega

/-- Table before `classify`. -/
def planTable (t : Table) (P : List SegOut) : Table :=
  (P.flatMap segRows).map (mkNode t) ++ t.filter isRootNode

theorem ids_planTable (t : Table) (P : List SegOut) :
    ids (planTable t P) = planIds P ++ ids (t.filter isRootNode) := by
  unfold planTable
  rw [ids_append, ids_map_mkNode, map_fst_flatMap_segRows]

theorem planTable_planOf (t : Table) (cnt : List Int → Option Nat) :
    planTable t (planOf t cnt) = skipTable t (smallSegments t) (actOfCnt cnt) := by
  unfold planTable skipTable planOf
  rw [planX_actOfCnt]

theorem ids_planTable_nodup {t : Table} (hw : WF t) (cnt : List Int → Option Nat) :
    (ids (planTable t (planOf t cnt))).Nodup := by
  rw [planTable_planOf]
  exact ids_skipTable_nodup hw (segsOK_of_perm hw (List.Perm.refl _)) _

theorem planIds_nodup {t : Table} (hw : WF t) (cnt : List Int → Option Nat) : (planIds (planOf t cnt)).Nodup := by
  have := ids_planTable_nodup hw cnt
  rw [ids_planTable] at this
  exact (List.nodup_append.mp this).1

theorem WF_resampleStruct {t : Table} (hw : WF t) (cnt : List Int → Option Nat) : WF (resampleStruct t cnt) :=
  resampleSkip_actOfCnt t cnt ▸ WF_resampleSkip hw (actOfCnt cnt)

/-- The de-duplication drops nothing. -/
theorem resampleStruct_eq {t : Table} (hw : WF t) (cnt : List Int → Option Nat) :
    resampleStruct t cnt = classify (planTable t (planOf t cnt)) := by
  show classify (dedupById (planTable t (planOf t cnt))) = _
  rw [dedupById_of_nodup _ (ids_planTable_nodup hw cnt)]

/-- Every row `(c, p)` of a planned chain is a row of the result; an anchor `c` keeps its coordinates. -/
theorem row_mem_resampleStruct {t : Table} (hw : WF t) (cnt : List Int → Option Nat) {o : SegOut}
    (ho : o ∈ planOf t cnt) {e : Int × Int} (he : e ∈ segRows o) :
    ∃ m ∈ resampleStruct t cnt, m.id = e.1 ∧ m.parent = e.2 ∧
      ∀ n ∈ t, n.id = e.1 → m.x = n.x ∧ m.y = n.y ∧ m.z = n.z := by
  rw [resampleStruct_eq hw]
  have hmem : mkNode t e ∈ planTable t (planOf t cnt) := by
    unfold planTable
    exact List.mem_append_left _ (List.mem_map.mpr ⟨e, List.mem_flatMap.mpr ⟨o, ho, he⟩, rfl⟩)
  obtain ⟨m, hm, h1, h2, h3, h4, h5⟩ := mem_classify_of_mem hmem
  refine ⟨m, hm, by rw [h1, mkNode_id], by rw [h2, mkNode_parent], ?_⟩
  intro n hn hid
  have hf : find? t e.1 = some n := hid ▸ find?_of_mem hw.1 hn
  have : mkNode t e = { n with parent := e.2 } := by unfold mkNode; rw [hf]
  rw [h3, h4, h5, this]
  exact ⟨rfl, rfl, rfl⟩

theorem root_mem_resampleStruct {t : Table} (hw : WF t) (cnt : List Int → Option Nat) {n : Node}
    (hn : n ∈ t) (hp : n.parent < 0) :
    ∃ m ∈ resampleStruct t cnt, m.id = n.id ∧ m.parent = n.parent ∧ m.x = n.x ∧ m.y = n.y ∧ m.z = n.z := by
  rw [resampleStruct_eq hw]
  apply mem_classify_of_mem
  unfold planTable
  exact List.mem_append_right _ (List.mem_filter.mpr ⟨hn, by simpa [isRootNode] using hp⟩)

theorem ids_resampleStruct {t : Table} (hw : WF t) (cnt : List Int → Option Nat) :
    ids (resampleStruct t cnt) = planIds (planOf t cnt) ++ ids (t.filter isRootNode) := by
  rw [resampleStruct_eq hw, ids_classify, ids_planTable]

end Navis.Resample

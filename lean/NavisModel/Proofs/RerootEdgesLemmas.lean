import NavisModel.Proofs.RerootLemmas
import NavisModel.Proofs.EdgeLemmas
/-!
`reroot` at the level of edges.  It reverses the links along the root path of the new root (`RPath` collects what is
used of that path) and touches no other row, so the undirected edges are only permuted (`uedges_reroot_perm`, for C10).
The child count of a node is its degree in `uedges`, less one for a non-root; hence every node whose root status is
unchanged keeps its child count, and relabelling just the old and the new root agrees with a fresh classification
(`labelsOKB_reroot`, the one operation of C01's catalogue that does not end in `classify_nodes`).
-/
namespace Navis.Forest

theorem Linked_pred {t : Table} {path : List Int} (hl : Linked t path) {i a : Int} (h : predOnPath path i = some a) :
    ∃ q, find? t a = some q ∧ q.parent = i ∧ 0 ≤ i := by
  fun_induction predOnPath path i with
  | case1 => exact Option.some.inj h ▸ hl.1
  | case2 x y rest i hy ih => exact ih hl.2 h
  | case3 => cases h

theorem Linked_succ {t : Table} {path : List Int} (hl : Linked t path) (hnd : path.Nodup) {i : Int} (hi : i ∈ path) :
    path.getLast? = some i ∨ ∃ n, find? t i = some n ∧ 0 ≤ n.parent ∧ predOnPath path n.parent = some i := by
  induction path with
  | nil => simp at hi
  | cons x rest ih =>
    cases rest with
    | nil => simp at hi; left; simp [hi]
    | cons y rest' =>
      unfold Linked at hl
      obtain ⟨⟨n, hfn, hpn, hy0⟩, hl'⟩ := hl
      rw [List.nodup_cons] at hnd
      rcases List.mem_cons.mp hi with h | h
      · right
        subst h
        refine ⟨n, hfn, by omega, ?_⟩
        unfold predOnPath
        rw [if_pos hpn.symm]
      · rcases ih hl' hnd.2 h with h1 | ⟨n', hf', h0', hp'⟩
        · left; rw [List.getLast?_cons_cons]; exact h1
        · right
          refine ⟨n', hf', h0', ?_⟩
          unfold predOnPath
          have hy : y ≠ n'.parent := by
            intro he
            have := (predOnPath_some hp').2.1
            rw [← he] at this
            simp only [List.tail_cons] at this
            exact (List.nodup_cons.mp hnd.2).1 this
          rw [if_neg hy]; exact hp'

def incident (i : Int) (e : Int × Int) : Bool := e.1 == i || e.2 == i

theorem incident_uedge (i a b : Int) : incident i (uedge a b) = (a == i || b == i) := by
  rcases uedge_cases a b with h | h <;> rw [h]
  · rfl
  · exact Bool.or_comm _ _

/-- Degree = number of children, + 1 for a non-root (the second summand counts the non-root rows with id `i`: one row per
id in a well-formed table): the edges into `i` and the edges out of `i`, which without loops are different edges. -/
theorem degree_eq {t : Table} (hloop : ∀ n ∈ t, n.parent ≠ n.id) {i : Int} (hi : 0 ≤ i) :
    (uedges t).countP (incident i) =
      childCount t i + t.countP (fun n => n.id == i && !isRootNode n) := by
  rw [← countP_edges_snd t hi, ← countP_edges_fst, Nat.add_comm, ← countP_or, uedges, List.countP_map]
  · exact List.countP_congr fun e _ => by rw [Function.comp, incident_uedge]
  · intro e he h1 h2
    obtain ⟨n, hn, _, rfl⟩ := mem_edges.mp he
    exact hloop n hn ((beq_iff_eq.mp h2).trans (beq_iff_eq.mp h1).symm)

/-- The facts about `rootPath t r` that the reroot proofs use. -/
structure RPath (t : Table) (r : Int) (path : List Int) : Prop where
  nodup : path.Nodup
  sub : ∀ a ∈ path, a ∈ ids t
  head : path.head? = some r
  linked : Linked t path
  last : ∃ ro n, path.getLast? = some ro ∧ find? t ro = some n ∧ n.parent < 0

theorem rootPath_RPath {t : Table} (hw : WF t) {r : Int} (hr : r ∈ ids t) : RPath t r (rootPath t r) :=
  ⟨pathToRoot_nodup hw _ r, pathToRoot_subset t _ r, pathToRoot_head t t.length r hr,
   pathToRoot_linked t _ r, rootPath_ends hw r hr⟩

namespace RPath
variable {t : Table} {r : Int} {path : List Int}

theorem eq_cons (h : RPath t r path) : path = r :: path.tail := by
  have hh := h.head
  cases path with
  | nil => cases hh
  | cons a l => rw [Option.some.inj hh]; rfl

theorem head_mem (h : RPath t r path) : r ∈ path := by
  rw [h.eq_cons]; exact List.mem_cons_self

theorem r_not_tail (h : RPath t r path) : r ∉ path.tail := by
  have hn := h.nodup
  rw [h.eq_cons] at hn
  exact (List.nodup_cons.mp hn).1

theorem mem_iff (h : RPath t r path) {i : Int} : i ∈ path ↔ i = r ∨ i ∈ path.tail := by
  rw [← List.mem_cons, ← h.eq_cons]

theorem pred_parent (h : RPath t r path) (hw : WF t) {n : Node} (hn : n ∈ t) (hon : n.id ∈ path)
    (hp : ¬ n.parent < 0) : predOnPath path n.parent = some n.id := by
  have hf := find?_of_mem hw.1 hn
  rcases Linked_succ h.linked h.nodup hon with h1 | ⟨n', hf', _, hp'⟩
  · obtain ⟨ro, m, hl, hfm, hm⟩ := h.last
    rw [hl] at h1
    simp only [Option.some.injEq] at h1
    rw [h1, hf] at hfm
    simp only [Option.some.injEq] at hfm
    exact absurd (hfm ▸ hm) hp
  · rw [hf] at hf'
    simp only [Option.some.injEq] at hf'
    rw [← hf'] at hp'; exact hp'

theorem last_of_root (h : RPath t r path) (hw : WF t) {n : Node} (hn : n ∈ t) (hon : n.id ∈ path)
    (hp : n.parent < 0) : path.getLast? = some n.id := by
  have hf := find?_of_mem hw.1 hn
  rcases Linked_succ h.linked h.nodup hon with h1 | ⟨n', hf', h0, _⟩
  · exact h1
  · rw [hf] at hf'
    simp only [Option.some.injEq] at hf'
    rw [← hf'] at h0; omega

theorem rrow_cases (h : RPath t r path) (hw : WF t) (n : Node) :
    (n.id = r ∧ (rrow r path n).parent = -1) ∨
    (n.id ≠ r ∧ n.id ∈ path.tail ∧ ∃ q ∈ t, (rrow r path n).parent = q.id ∧ q.parent = n.id ∧ q.id ∈ path ∧ 0 ≤ q.id) ∨
    (n.id ∉ path ∧ rrow r path n = n) := by
  by_cases hr : n.id = r
  · exact Or.inl ⟨hr, rrow_parent_self hr⟩
  · right
    cases hp : predOnPath path n.id with
    | none =>
      right
      have hnot : n.id ∉ path := by
        rw [h.mem_iff]; rintro (h1 | h1)
        · exact hr h1
        · exact predOnPath_none hp h1
      exact ⟨hnot, rrow_off_path h.head_mem hnot⟩
    | some a =>
      left
      obtain ⟨q, hfq, hqp, _⟩ := Linked_pred h.linked hp
      have hq := find?_some hfq
      have ha := (predOnPath_some hp).1
      refine ⟨hr, (predOnPath_some hp).2.1, q, hq.1, ?_, hqp, hq.2 ▸ ha, hw.2.1 q hq.1⟩
      unfold rrow
      rw [if_neg hr, hp, hq.2]

theorem mem_uedges_rerootParents (h : RPath t r path) (hw : WF t)
    (e : Int × Int) : e ∈ uedges (rerootParents t r path) ↔ e ∈ uedges t := by
  rw [mem_uedges, mem_uedges, rerootParents_eq_map]
  constructor
  · rintro ⟨m, hm, hmp, rfl⟩
    obtain ⟨n, hn, rfl⟩ := List.mem_map.mp hm
    rcases h.rrow_cases hw n with ⟨_, h1⟩ | ⟨_, _, q, hq, h1, h2, _, h3⟩ | ⟨_, h1⟩
    · rw [h1] at hmp; exact absurd (by decide) hmp
    · refine ⟨q, hq, WF_nonroot_of_parent_eq hw hn h2, ?_⟩
      rw [h1, rrow_id, h2, uedge_comm]
    · rw [h1] at hmp ⊢; exact ⟨n, hn, hmp, rfl⟩
  · rintro ⟨n, hn, hnp, rfl⟩
    by_cases hon : n.id ∈ path
    · -- the edge n → parent(n) is reversed: it is now the edge parent(n) → n
      have hpred := h.pred_parent hw hn hon hnp
      have hpin : n.parent ∈ ids t := WF_parent_mem hw hn hnp
      obtain ⟨q, hq, hqid⟩ := mem_ids.mp hpin
      have hqr : q.id ≠ r := by
        intro he
        have := (predOnPath_some hpred).2.1
        rw [← hqid, he] at this
        exact h.r_not_tail this
      have hqpar : (rrow r path q).parent = n.id := by
        unfold rrow; rw [if_neg hqr, hqid, hpred]
      refine ⟨rrow r path q, List.mem_map.mpr ⟨q, hq, rfl⟩, ?_, ?_⟩
      · rw [hqpar]; have := hw.2.1 n hn; omega
      · rw [hqpar, rrow_id, hqid, uedge_comm]
    · exact ⟨rrow r path n, List.mem_map.mpr ⟨n, hn, rfl⟩, by rw [rrow_off_path h.head_mem hon]; exact hnp,
        by rw [rrow_off_path h.head_mem hon]⟩

theorem uedges_perm (h : RPath t r path) (hw : WF t) :
    (uedges (rerootParents t r path)).Perm (uedges t) :=
  (List.perm_ext_iff_of_nodup (Nodup_uedges (WF_rerootParents_gen hw r path h.nodup h.sub h.head)) (Nodup_uedges hw)).mpr
    (h.mem_uedges_rerootParents hw)

theorem rrow_root_iff (h : RPath t r path) (hw : WF t) {n : Node} (hn : n ∈ t) (hr : n.id ≠ r)
    (hlast : path.getLast? ≠ some n.id) : (rrow r path n).parent < 0 ↔ n.parent < 0 := by
  rcases h.rrow_cases hw n with ⟨h1, _⟩ | ⟨_, htail, q, _, h1, _, _, h2⟩ | ⟨_, h1⟩
  · exact absurd h1 hr
  · have hon : n.id ∈ path := List.mem_of_mem_tail htail
    constructor
    · intro hh; rw [h1] at hh; omega
    · intro hh; exact absurd (h.last_of_root hw hn hon hh) hlast
  · rw [h1]

theorem childCount_rerootParents (h : RPath t r path) (hw : WF t) {i : Int} (hi : i ∈ ids t) (hr : i ≠ r)
    (hlast : path.getLast? ≠ some i) : childCount (rerootParents t r path) i = childCount t i := by
  have hi0 : 0 ≤ i := ids_nonneg hw.2.1 hi
  have hc := (h.uedges_perm hw).countP_eq (incident i)
  rw [degree_eq (WF_no_loop (WF_rerootParents_gen hw r path h.nodup h.sub h.head)) hi0, degree_eq (WF_no_loop hw) hi0] at hc
  have hsame : (rerootParents t r path).countP (fun n => n.id == i && !isRootNode n) =
      t.countP (fun n => n.id == i && !isRootNode n) := by
    rw [rerootParents_eq_map, List.countP_map]
    apply List.countP_congr
    intro n hn
    simp only [Function.comp, rrow_id, isRootNode, Bool.and_eq_true, beq_iff_eq, Bool.not_eq_true', decide_eq_false_iff_not]
    exact and_congr_right fun h1 => not_congr (h.rrow_root_iff hw hn (h1 ▸ hr) (h1 ▸ hlast))
  omega

end RPath

/-- **Rerooting permutes the undirected edges** (so: same edge set, same number of edges). -/
theorem uedges_reroot_perm {t : Table} (hw : WF t) (r : Int) : (uedges (reroot t r)).Perm (uedges t) := by
  rcases reroot_cases t r with h | ⟨nr, h1, _, h3⟩
  · rw [h]
  · rw [uedges_congr (t := rerootParents t r (rootPath t r)) (by rw [h3, links_map_relabelRow])]
    exact (rootPath_RPath hw (mem_ids_of_find? h1)).uedges_perm hw

/-- **The incremental relabel of `reroot` agrees with a fresh classification**: correct labels stay
correct although only the old and the new root are relabelled. -/
theorem labelsOKB_reroot {t : Table} (hw : WF t) (hl : labelsOKB t = true) (r : Int) :
    labelsOKB (reroot t r) = true := by
  rcases reroot_cases t r with h | ⟨nr, h1, hnrp, h3⟩
  · rw [h]; exact hl
  · have hr : r ∈ ids t := mem_ids_of_find? h1
    have hP := rootPath_RPath hw hr
    obtain ⟨ro, nro, hlast, hfro, hrop⟩ := hP.last
    have hnro := find?_some hfro
    have hlinks : links (reroot t r) = links (rerootParents t r (rootPath t r)) := by
      rw [h3, links_map_relabelRow]
    have hror : ro ≠ r := by
      intro he
      rw [he, h1] at hfro
      simp only [Option.some.injEq] at hfro
      exact hnrp (hfro ▸ hrop)
    have hroon : ro ∈ rootPath t r := List.mem_of_getLast? hlast
    rw [labelsOKB_iff] at hl ⊢
    intro m hm
    rw [childCount_congr hlinks]
    rw [h3, hlast] at hm
    simp only [Option.getD_some] at hm
    obtain ⟨m1, hm1, rfl⟩ := List.mem_map.mp hm
    rw [rerootParents_eq_map] at hm1
    obtain ⟨n, hn, rfl⟩ := List.mem_map.mp hm1
    rw [relabelRow_id, relabelRow_parent, rrow_id]
    by_cases hnr : n.id = r
    · -- the new root
      unfold relabelRow
      rw [if_pos (by rw [rrow_id]; exact hnr), rrow_parent_self hnr]
      rfl
    · by_cases hno : n.id = ro
      · -- the old root: relabelled from its new child count
        unfold relabelRow
        rw [if_neg (by rw [rrow_id]; exact hnr), if_pos (by rw [rrow_id]; exact hno), hno]
        rcases hP.rrow_cases hw n with ⟨h1, _⟩ | ⟨_, _, q, _, h1, _, _, h2⟩ | ⟨h1, _⟩
        · exact absurd h1 hnr
        · have : decide ((rrow r (rootPath t r) n).parent < 0) = false := by
            rw [h1]; simp; omega
          rw [this]
        · exact absurd (hno ▸ hroon) h1
      · -- everybody else keeps label, child count and root status
        have hlast' : (rootPath t r).getLast? ≠ some n.id := by
          rw [hlast]; intro he; simp only [Option.some.injEq] at he; exact hno he.symm
        unfold relabelRow
        rw [if_neg (by rw [rrow_id]; exact hnr), if_neg (by rw [rrow_id]; exact hno), rrow_label,
          hP.childCount_rerootParents hw (mem_ids_of_mem hn) hnr hlast', hl n hn]
        have := hP.rrow_root_iff hw hn hnr hlast'
        congr 1
        exact (decide_eq_decide.mpr this).symm

end Navis.Forest

import NavisModel.Proofs.NblastLemmas
import NavisModel.Proofs.ListLemmas
import NavisModel.Proofs.RatLemmas
import NavisModel.Gen.Smat
/-!
Score lemmas for property C06 (NBLAST scoring).  What the property theorems say about scores goes through three
general statements: on an aligned blaster the index bookkeeping of `multi_query_target` is the index-free definition
(`mqt_eq_def`, with `nblast_eq` and `allbyall_eq_def` as its instances); a cloud scored against itself reaches its
self hit under `ConsistentDup`, defined here (`defForward_self`); a normalised score is a ratio of two sums bounded
term by term (`defForward_le_one_of_pointwise`, the modes in `defScore_le`).  Around them: `allSome` / `sumOpt`, the
nearest-neighbour scan, what `from_dataframe` builds (with the two shipped tables of `Gen/Smat.lean` in closed form,
`fcwb_eq` / `fcwbAlpha_eq`), the congruences that make the scores independent of ids (`defNblast_vals_congr`), and
`siteConfig` under a filter.
-/
namespace Navis.Nblast

theorem allSome_map_some {α} (l : List α) : allSome (l.map some) = some l := by
  induction l with
  | nil => rfl
  | cons a l ih => simp [allSome, ih]

theorem allSome_eq_some {α} (l : List (Option α)) (r : List α) (h : allSome l = some r) : l = r.map some := by
  induction l generalizing r with
  | nil => cases h; rfl
  | cons a l ih =>
    cases a with
    | none => cases h
    | some a =>
      obtain ⟨r', hr', rfl⟩ := Option.map_eq_some_iff.mp h
      rw [ih r' hr']; rfl

theorem allSome_mem {α β} (l : List α) (g : α → Option β) (r : List β) (h : allSome (l.map g) = some r)
    (y : β) (hy : y ∈ r) : ∃ x ∈ l, g x = some y := by
  have : some y ∈ l.map g := allSome_eq_some _ _ h ▸ List.mem_map.mpr ⟨y, hy, rfl⟩
  exact List.mem_map.mp this

theorem allSome_congr {α β} (l : List α) (f g : α → Option β) (h : ∀ x ∈ l, f x = g x) :
    allSome (l.map f) = allSome (l.map g) := by
  rw [List.map_congr_left h]

theorem sumOpt_cons_some {a : Option Rat} {l : List (Option Rat)} {s : Rat} (h : sumOpt (a :: l) = some s) :
    ∃ c t, a = some c ∧ sumOpt l = some t ∧ s = c + t := by
  cases a with
  | none => cases h
  | some c =>
    obtain ⟨t, ht, rfl⟩ := Option.map_eq_some_iff.mp h
    exact ⟨c, t, rfl, ht, rfl⟩

theorem sumOpt_const {α} (l : List α) (c : Rat) : sumOpt (l.map fun _ => some c) = some ((l.length : Rat) * c) := by
  induction l with
  | nil => simp [sumOpt]
  | cons a l ih =>
    simp only [List.map_cons, sumOpt, ih, Option.map_some, List.length_cons]
    rw [Nat.cast_succ, add_mul, one_mul, add_comm]

/-- Two sums over the same list compare termwise; if the dominating terms are non-negative, so is their sum. -/
theorem sumOpt_le_sumOpt {α} (l : List α) (f g : α → Option Rat) (s s' : Rat)
    (hb : ∀ x ∈ l, ∀ a b, f x = some a → g x = some b → a ≤ b ∧ 0 ≤ b)
    (h : sumOpt (l.map f) = some s) (h' : sumOpt (l.map g) = some s') : s ≤ s' ∧ 0 ≤ s' := by
  induction l generalizing s s' with
  | nil => cases h; cases h'; exact ⟨le_refl _, le_refl _⟩
  | cons a l ih =>
    obtain ⟨c, t, hc, ht, rfl⟩ := sumOpt_cons_some h
    obtain ⟨c', t', hc', ht', rfl⟩ := sumOpt_cons_some h'
    obtain ⟨h1, h2⟩ := hb a (List.mem_cons_self ..) c c' hc hc'
    obtain ⟨h3, h4⟩ := ih t t' (fun x hx => hb x (List.mem_cons_of_mem _ hx)) ht ht'
    exact ⟨add_le_add h1 h3, add_nonneg h2 h4⟩

/-- Summing over the matches is summing over the query's points. -/
theorem allSome_bind_sumOpt {α β} (l : List α) (g : α → Option β) (h : β → Option Rat) :
    (allSome (l.map g)).bind (fun r => sumOpt (r.map h)) = sumOpt (l.map fun x => (g x).bind h) := by
  induction l with
  | nil => rfl
  | cons a l ih =>
    simp only [List.map_cons]
    cases hga : g a with
    | none => rfl
    | some y =>
      simp only [allSome, Option.bind_some]
      cases hy : h y with
      | none =>
        simp only [sumOpt]
        cases allSome (l.map g) <;> simp [sumOpt, hy]
      | some c =>
        simp only [sumOpt, ← ih]
        cases allSome (l.map g) <;> simp [sumOpt, hy]

theorem pairRaw_eq (fn : ScoreFn) (cfg : Cfg) (q t : Cloud) :
    pairRaw fn cfg q t = sumOpt (q.map fun p => (matchPoint t cfg.bound p).bind (pointScore fn cfg.useAlpha)) := by
  unfold pairRaw distDots rawScore
  rw [← allSome_bind_sumOpt]
  cases allSome (q.map (matchPoint t cfg.bound)) <;> rfl

theorem V3.d2_eq (a b : V3) :
    a.d2 b = (a.x - b.x) * (a.x - b.x) + (a.y - b.y) * (a.y - b.y) + (a.z - b.z) * (a.z - b.z) := rfl

theorem V3.d2_nonneg (a b : V3) : 0 ≤ a.d2 b := sq3_nonneg _ _ _

theorem V3.d2_self (a : V3) : a.d2 a = 0 := by
  simp only [V3.d2_eq, sub_self, mul_zero, add_zero]

theorem V3.eq_of_d2_zero (a b : V3) (h : a.d2 b = 0) : a = b := by
  obtain ⟨hx, hy, hz⟩ := sq3_eq_zero ((V3.d2_eq a b).symm.trans h)
  cases a; cases b
  exact congr (congr (congrArg V3.mk (sub_eq_zero.mp hx)) (sub_eq_zero.mp hy)) (sub_eq_zero.mp hz)

/-- The scan returns either the incoming best or a later element's index and squared distance; its
distance is minimal over the incoming best and the scanned elements. -/
theorem nearestAux_spec (p : V3) (l : List Pt) (i : Nat) (best : Nat × Rat) :
    ((nearestAux p l i best = best) ∨
      ∃ k, ∃ h : k < l.length, nearestAux p l i best = (i + k, p.d2 l[k].p)) ∧
    (nearestAux p l i best).2 ≤ best.2 ∧ ∀ x ∈ l, (nearestAux p l i best).2 ≤ p.d2 x.p := by
  induction l generalizing i best with
  | nil => exact ⟨Or.inl rfl, le_refl _, fun x hx => absurd hx List.not_mem_nil⟩
  | cons t r ih =>
    -- the candidate `b'` after looking at `t`: the old best or `t`, at most as far as either
    obtain ⟨b', hb', h1, h2, h3⟩ : ∃ b', nearestAux p (t :: r) i best = nearestAux p r (i + 1) b' ∧
        (b' = best ∨ b' = (i, p.d2 t.p)) ∧ b'.2 ≤ best.2 ∧ b'.2 ≤ p.d2 t.p := by
      refine ⟨_, rfl, ?_⟩
      split
      · rename_i hd; exact ⟨Or.inr rfl, le_of_lt hd, le_refl _⟩
      · rename_i hd; exact ⟨Or.inl rfl, le_refl _, not_lt.mp hd⟩
    obtain ⟨g1, g2, g3⟩ := ih (i + 1) b'
    rw [hb']
    refine ⟨?_, le_trans g2 h2, fun x hx => ?_⟩
    · rcases g1 with g1 | ⟨k, hk, g1⟩
      · rcases h1 with rfl | rfl
        · exact Or.inl g1
        · exact Or.inr ⟨0, Nat.succ_pos _, g1⟩
      · exact Or.inr ⟨k + 1, Nat.succ_lt_succ hk, by rw [g1, Nat.add_right_comm]; rfl⟩
    · rcases List.mem_cons.mp hx with rfl | hx
      · exact le_trans g2 h3
      · exact g3 x hx

theorem nearest_spec (t : Cloud) (p : V3) (j : Nat) (d : Rat) (h : nearest t p = some (j, d)) :
    ∃ hj : j < t.length, d = p.d2 t[j].p ∧ ∀ x ∈ t, d ≤ p.d2 x.p := by
  cases t with
  | nil => cases h
  | cons t0 r =>
    obtain ⟨h1, h2, h3⟩ := nearestAux_spec p r 1 (0, p.d2 t0.p)
    rw [Option.some.inj h] at h1 h2 h3
    have hmin : ∀ x ∈ t0 :: r, d ≤ p.d2 x.p := fun x hx => by
      rcases List.mem_cons.mp hx with rfl | hx
      · exact h2
      · exact h3 x hx
    rcases h1 with h1 | ⟨k, hk, h1⟩
    · cases h1; exact ⟨Nat.succ_pos _, rfl, hmin⟩
    · cases h1
      exact ⟨Nat.add_comm 1 k ▸ Nat.succ_lt_succ hk, by simp only [Nat.add_comm 1 k, List.getElem_cons_succ], hmin⟩

theorem nearest_isSome (t : Cloud) (p : V3) (h : t ≠ []) : ∃ j d, nearest t p = some (j, d) := by
  cases t with
  | nil => exact absurd rfl h
  | cons t0 r => exact ⟨_, _, rfl⟩


/-- `distance_upper_bound`, if any, is non-zero after `effBound`, so distance 0 is always a hit. -/
theorem effBound_sq_pos (bound : Option Rat) (b : Rat) (h : effBound bound = some b) : 0 < b * b := by
  unfold effBound at h
  cases bound with
  | none => cases h
  | some b' =>
    simp only at h
    split at h
    · cases h
    · rename_i hb; cases h; exact mul_self_pos.mpr hb

/-- Points that share a position carry the same tangent (up to sign) and the same alpha: the hypothesis
under which a cloud scored against itself reaches its self hit.  (Its full name is in `Navis.DpCache`, though it says
nothing of the kd-tree cache.) -/
def _root_.Navis.DpCache.ConsistentDup (c : Cloud) : Prop :=
  ∀ a ∈ c, ∀ b ∈ c, a.p = b.p → absR (a.v.dot b.v) = 1 ∧ b.a = a.a

open Navis.DpCache (ConsistentDup)

theorem absR_one : absR 1 = 1 := if_neg (not_lt.mpr zero_le_one)

theorem _root_.Navis.DpCache.consistentDup_of_nodup (c : Cloud) (hnd : (c.map (·.p)).Nodup)
    (hunit : ∀ p ∈ c, p.v.dot p.v = 1) : ConsistentDup c := by
  intro a ha b hb hab
  obtain rfl : a = b := inj_of_nodup_map hnd a ha b hb hab
  exact ⟨by rw [hunit a ha, absR_one], rfl⟩

/-- Matching a cloud against itself: a point whose co-located points carry its tangent (up to sign) and its
alpha finds, at distance 0, a neighbour that scores like the point itself — whichever of them the search returns. -/
theorem matchPoint_self (c : Cloud) (bound : Option Rat) (p : Pt) (hp : p ∈ c)
    (hdup : ∀ b ∈ c, p.p = b.p → absR (p.v.dot b.v) = 1 ∧ b.a = p.a) :
    ∃ j, matchPoint c bound p = some ⟨0, 1, p.a * p.a, true, j⟩ := by
  obtain ⟨j, d, hjd⟩ := nearest_isSome c p.p (List.ne_nil_of_mem hp)
  obtain ⟨hj, hd, hmin⟩ := nearest_spec c p.p j d hjd
  -- `p` itself is at distance 0, so the minimum is 0 and the neighbour found shares `p`'s position
  have hz : d = 0 := le_antisymm (V3.d2_self p.p ▸ hmin p hp) (hd ▸ V3.d2_nonneg _ _)
  obtain ⟨hdot, ha⟩ := hdup c[j] (List.getElem_mem hj) (V3.eq_of_d2_zero _ _ (hd ▸ hz))
  have hget : c.getD j default = c[j] := (List.getElem_eq_getD default).symm
  refine ⟨j, ?_⟩
  unfold matchPoint
  rw [hjd, hz]
  simp only [hget, hdot, ha]
  cases hb : effBound bound with
  | none => rfl
  | some b => exact if_pos (effBound_sq_pos bound b hb)

theorem pairRaw_self (fn : ScoreFn) (cfg : Cfg) (c : Cloud) (hdup : ConsistentDup c)
    (sh : Rat) (hsh : selfHit fn cfg.useAlpha c = some sh) : pairRaw fn cfg c c = some sh := by
  -- against its own cloud every point scores what `calc_self_hit` charges for it
  have hpt : ∀ p ∈ c, (matchPoint c cfg.bound p).bind (pointScore fn cfg.useAlpha) =
      fn (.sqrt 0) (if cfg.useAlpha then .sqrt (p.a * p.a) else .x (.fin 1)) := fun p hp => by
    obtain ⟨j, hj⟩ := matchPoint_self c cfg.bound p hp (hdup p hp)
    rw [hj]
    simp only [Option.bind_some, pointScore, matchArgs]
    cases cfg.useAlpha <;> simp
  rw [pairRaw_eq, List.map_congr_left hpt]
  unfold selfHit at hsh
  cases hua : cfg.useAlpha with
  | true => rw [hua] at hsh; exact hsh
  | false =>
    rw [hua, if_neg Bool.false_ne_true] at hsh
    obtain ⟨c0, hc0, rfl⟩ := Option.map_eq_some_iff.mp hsh
    simp only [Bool.false_eq_true, if_false, hc0]
    exact sumOpt_const c c0

theorem normalise_self (sh : Rat) (hne : sh ≠ 0) : normalise sh sh = some 1 := by
  rw [normalise, if_neg hne, div_self hne]

theorem defForward_self (fn : ScoreFn) (cfg : Cfg) (c : Cloud) (hdup : ConsistentDup c)
    (sh : Rat) (hsh : selfHit fn cfg.useAlpha c = some sh) :
    defForward fn cfg c c = if cfg.normalized then normalise sh sh else some sh := by
  unfold defForward
  rw [pairRaw_self fn cfg c hdup sh hsh, hsh]

theorem sqt_diag (fn : ScoreFn) (cfg : Cfg) (nb : Blaster) (i : Nat) (mode : Mode) :
    singleQueryTarget fn cfg nb i i mode = (if cfg.normalized then some 1 else nb.selfHits[i]?).map .one := by
  unfold singleQueryTarget forward; simp

theorem defScore_forward (fn : ScoreFn) (cfg : Cfg) (q t : Cloud) :
    defScore fn cfg q t .forward = (defForward fn cfg q t).map .one := by
  unfold defScore; cases defForward fn cfg q t <;> rfl

theorem idAt_eq (nb : Blaster) (i : Nat) (n : Dotprops) (h : nb.neurons[i]? = some n) : idAt nb i = n.id := by
  simp [idAt, h]

theorem mqt_eq_mkFrame (fn : ScoreFn) (cfg : Cfg) (nb : Blaster) (qix tix : List Nat) (mode : Mode) :
    multiQueryTarget fn cfg nb qix tix mode =
      (allSome (qix.map fun q => allSome (tix.map fun t => singleQueryTarget fn cfg nb q t mode))).map
        (mkFrame mode (qix.map (idAt nb)) (tix.map (idAt nb))) := by
  unfold multiQueryTarget mkFrame
  cases allSome (qix.map fun q => allSome (tix.map fun t => singleQueryTarget fn cfg nb q t mode)) with
  | none => rfl
  | some res => simp only [Option.map_some, List.map_map]; split <;> rfl

section Aligned
/-! The blaster is aligned: its `k`-th self hit is the self score of its `k`-th neuron (what `append` maintains). -/
variable (fn : ScoreFn) (cfg : Cfg) (nb : Blaster)
  (hal : nb.neurons.map (fun n => selfHit fn cfg.useAlpha n.pts) = nb.selfHits.map some)
include hal

theorem selfHit_of_aligned (i : Nat) (n : Dotprops) (hn : nb.neurons[i]? = some n) :
    ∃ sh, nb.selfHits[i]? = some sh ∧ selfHit fn cfg.useAlpha n.pts = some sh := by
  have h := congrArg (·[i]?) hal
  simp only [List.getElem?_map, hn, Option.map_some] at h
  obtain ⟨sh, hs, hsh⟩ := Option.map_eq_some_iff.mp h.symm
  exact ⟨sh, hs, hsh.symm⟩

theorem forward_eq_def (qi ti : Nat) (qn tn : Dotprops) (hne : qi ≠ ti) (hq : nb.neurons[qi]? = some qn)
    (ht : nb.neurons[ti]? = some tn) : forward fn cfg nb qi ti = defForward fn cfg qn.pts tn.pts := by
  obtain ⟨sh, hs, hsh⟩ := selfHit_of_aligned fn cfg nb hal qi qn hq
  unfold forward defForward
  simp only [hne, if_false, hq, ht, hs, hsh]

theorem sqt_eq_def (qi ti : Nat) (qn tn : Dotprops) (hne : qi ≠ ti) (hq : nb.neurons[qi]? = some qn)
    (ht : nb.neurons[ti]? = some tn) (mode : Mode) :
    singleQueryTarget fn cfg nb qi ti mode = defScore fn cfg qn.pts tn.pts mode := by
  unfold singleQueryTarget defScore
  rw [forward_eq_def fn cfg nb hal qi ti qn tn hne hq ht, forward_eq_def fn cfg nb hal ti qi tn qn (Ne.symm hne) ht hq]
  simp only [hne, if_false]

/-- `multi_query_target` on a blaster that stores the queries `q` at positions `0, 1, …` and target
`j` at position `σ j` is the definition's frame, provided a cell addressing one position twice (answered by
the short-cut) is the definition's score too. -/
theorem mqt_eq_def (q t : List Dotprops) (σ : Nat → Nat) (mode : Mode)
    (hq : ∀ i (hi : i < q.length), nb.neurons[i]? = some q[i])
    (ht : ∀ j (hj : j < t.length), nb.neurons[σ j]? = some t[j])
    (hdiag : ∀ i (hi : i < q.length) j (hj : j < t.length), i = σ j →
      singleQueryTarget fn cfg nb i i mode = defScore fn cfg q[i].pts t[j].pts mode) :
    multiQueryTarget fn cfg nb (List.range q.length) ((List.range t.length).map σ) mode = defNblast fn cfg q t mode := by
  have e1 : ((List.range q.length).map fun qi => allSome (((List.range t.length).map σ).map fun ti =>
        singleQueryTarget fn cfg nb qi ti mode)) =
      (q.map fun qn => allSome (t.map fun tn => defScore fn cfg qn.pts tn.pts mode)) :=
    range_map_eq q _ _ fun i hi => by
      rw [List.map_map]
      refine congrArg allSome (range_map_eq t _ _ fun j hj => ?_)
      by_cases hij : i = σ j
      · exact hij ▸ hdiag i hi j hj hij
      · exact sqt_eq_def fn cfg nb hal i (σ j) q[i] t[j] hij (hq i hi) (ht j hj) mode
  have e2 : (List.range q.length).map (idAt nb) = q.map (·.id) :=
    range_map_eq q _ _ fun i hi => idAt_eq nb i _ (hq i hi)
  have e3 : ((List.range t.length).map σ).map (idAt nb) = t.map (·.id) := by
    rw [List.map_map]; exact range_map_eq t _ _ fun j hj => idAt_eq nb _ _ (ht j hj)
  rw [mqt_eq_mkFrame, e1, e2, e3]; rfl

end Aligned

/-- `navis.nblast` is the definition wherever all self hits exist (and fails otherwise): the blaster it builds —
queries first, then targets, each with its own self hit — is aligned and never addresses one position twice. -/
theorem nblast_eq (fn : ScoreFn) (cfg : Cfg) (q t : List Dotprops) (mode : Mode) :
    nblast fn cfg q t mode =
      (allSome (q.map fun n => selfHit fn cfg.useAlpha n.pts)).bind fun _ =>
        (allSome (t.map fun n => selfHit fn cfg.useAlpha n.pts)).bind fun _ => defNblast fn cfg q t mode := by
  unfold nblast
  cases hq : allSome (q.map fun n => selfHit fn cfg.useAlpha n.pts) with
  | none => rfl
  | some qs =>
    cases ht : allSome (t.map fun n => selfHit fn cfg.useAlpha n.pts) with
    | none => rfl
    | some ts =>
      have hal : (q ++ t).map (fun n => selfHit fn cfg.useAlpha n.pts) = (qs ++ ts).map some := by
        rw [List.map_append, List.map_append, allSome_eq_some _ qs hq, allSome_eq_some _ ts ht]
      refine mqt_eq_def fn cfg ⟨q ++ t, qs ++ ts⟩ hal q t (· + q.length) mode
        (fun i hi => (List.getElem?_append_left hi).trans (List.getElem?_eq_getElem hi)) (fun j hj => ?_)
        fun i hi j _ hij => absurd hij (Nat.ne_of_lt (Nat.lt_of_lt_of_le hi (Nat.le_add_left ..)))
      rw [List.getElem?_append_right (Nat.le_add_left ..), Nat.add_sub_cancel, List.getElem?_eq_getElem hj]

theorem defNblast_of_nblast (fn : ScoreFn) (cfg : Cfg) (q t : List Dotprops) (mode : Mode) (f : Frame)
    (h : nblast fn cfg q t mode = some f) : defNblast fn cfg q t mode = some f := by
  rw [nblast_eq] at h
  obtain ⟨_, _, h⟩ := Option.bind_eq_some_iff.mp h
  obtain ⟨_, _, h⟩ := Option.bind_eq_some_iff.mp h
  exact h

/-- `nblast_allbyall(x)` (every neuron appended once, diagonal by the short-cut) is the definition's matrix
of `x` against `x`: on the diagonal the short-cut returns what the full computation would. -/
theorem allbyall_eq_def (fn : ScoreFn) (cfg : Cfg) (x : List Dotprops) (hs : List Rat)
    (hh : allSome (x.map fun n => selfHit fn cfg.useAlpha n.pts) = some hs)
    (hdup : ∀ n ∈ x, ConsistentDup n.pts)
    (hne : cfg.normalized = true → ∀ sh ∈ hs, sh ≠ 0) :
    nblastAllByAll fn cfg x = defNblast fn cfg x x .forward := by
  unfold nblastAllByAll
  rw [hh]
  have hal := allSome_eq_some _ hs hh
  have key := mqt_eq_def fn cfg ⟨x, hs⟩ hal x x id .forward
    (fun i hi => List.getElem?_eq_getElem hi) (fun j hj => List.getElem?_eq_getElem hj) ?_
  · rwa [List.map_id] at key
  · intro i hi j hj hij
    obtain rfl : i = j := hij
    obtain ⟨sh, hsi, hsh⟩ := selfHit_of_aligned fn cfg ⟨x, hs⟩ hal i x[i] (List.getElem?_eq_getElem hi)
    rw [sqt_diag, hsi, defScore_forward, defForward_self fn cfg _ (hdup _ (List.getElem_mem hi)) sh hsh]
    cases hn : cfg.normalized with
    | true => rw [normalise_self _ (hne hn sh (List.mem_of_getElem? hsi))]
    | false => rfl

theorem fromDataframe_some (rows cols : List Interval) (cells : List (List Rat)) (t : Lookup2d)
    (h : Lookup2d.fromDataframe rows cols cells = some t) :
    t.cells = cells ∧ Digitizer.fromIntervals rows = some t.ax0 ∧ Digitizer.fromIntervals cols = some t.ax1 ∧
      t.cells.length = t.ax0.nbins ∧ ∀ row ∈ t.cells, row.length = t.ax1.nbins := by
  unfold Lookup2d.fromDataframe at h
  split at h
  · rename_i a0 a1 h0 h1
    unfold Lookup2d.make at h
    split at h
    · rename_i hc
      cases h
      simp only [List.all_eq_true, beq_iff_eq] at hc
      exact ⟨rfl, h0, h1, hc⟩
    · cases h
  · cases h

/-- `from_dataframe` either fails or builds the table of the two label axes: its checks decide acceptance only. -/
theorem fromDataframe_eq (rows cols : List Interval) (cells : List (List Rat))
    (h : (Lookup2d.fromDataframe rows cols cells).isSome = true) :
    Lookup2d.fromDataframe rows cols cells = some ⟨axisOf rows, axisOf cols, cells⟩ := by
  obtain ⟨t, ht⟩ := Option.isSome_iff_exists.mp h
  obtain ⟨hc, h0, h1, _⟩ := fromDataframe_some _ _ _ t ht
  rw [ht]; cases t
  cases hc; cases fromIntervals_eq _ _ h0; cases fromIntervals_eq _ _ h1; rfl

/-- `smat_fcwb(alpha=False)` / `smat_fcwb(alpha=True)` in closed form.  Evaluations on a shipped table rewrite with
these first, so that the kernel builds the axes without running the checks of `from_dataframe` again. -/
theorem fcwb_eq : Gen.Smat.fcwb = some ⟨axisOf Gen.Smat.fcwbRows, axisOf Gen.Smat.fcwbCols, Gen.Smat.fcwbCells⟩ :=
  fromDataframe_eq _ _ _ (by decide +kernel)

theorem fcwbAlpha_eq :
    Gen.Smat.fcwbAlpha = some ⟨axisOf Gen.Smat.fcwbAlphaRows, axisOf Gen.Smat.fcwbAlphaCols, Gen.Smat.fcwbAlphaCells⟩ :=
  fromDataframe_eq _ _ _ (by decide +kernel)

theorem defForward_norm_some (fn : ScoreFn) (cfg : Cfg) (q t : Cloud) (hn : cfg.normalized = true) (s : Rat)
    (h : defForward fn cfg q t = some s) :
    ∃ scr sh, pairRaw fn cfg q t = some scr ∧ selfHit fn cfg.useAlpha q = some sh ∧ sh ≠ 0 ∧ s = scr / sh := by
  unfold defForward at h
  cases hp : pairRaw fn cfg q t with
  | none => rw [hp] at h; cases h
  | some scr =>
    cases hsh : selfHit fn cfg.useAlpha q with
    | none => rw [hp, hsh, hn] at h; cases h
    | some sh =>
      rw [hp, hsh, hn] at h
      simp only [if_true, normalise] at h
      split at h
      · cases h
      · rename_i hne; cases h; exact ⟨scr, sh, rfl, rfl, hne, rfl⟩

/-- **The bound behind `normalised ≤ 1`**: if the self hit is a sum of per-point self scores and every
matched point scores at most its (positive) self score, the normalised forward score is at most 1. -/
theorem defForward_le_one_of_pointwise (fn : ScoreFn) (cfg : Cfg) (hn : cfg.normalized = true) (q t : Cloud)
    (g : Pt → Option Rat) (hg : selfHit fn cfg.useAlpha q = sumOpt (q.map g))
    (hle : ∀ p ∈ q, ∀ m a b, matchPoint t cfg.bound p = some m → pointScore fn cfg.useAlpha m = some a →
      g p = some b → a ≤ b ∧ 0 < b)
    (s : Rat) (h : defForward fn cfg q t = some s) : s ≤ 1 := by
  obtain ⟨scr, sh, hp, hsh, hne, rfl⟩ := defForward_norm_some fn cfg q t hn s h
  rw [pairRaw_eq] at hp
  rw [hg] at hsh
  obtain ⟨h1, h0⟩ := sumOpt_le_sumOpt q _ g scr sh (fun p hpq a b ha hb => by
    obtain ⟨m, hm, hma⟩ := Option.bind_eq_some_iff.mp ha
    obtain ⟨hab, hb0⟩ := hle p hpq m a b hm hma hb
    exact ⟨hab, le_of_lt hb0⟩) hp hsh
  exact (div_le_one₀ (lt_of_le_of_ne h0 (Ne.symm hne))).mpr h1

theorem cell_mem (t : Lookup2d) (i j : Int) (c : Rat) (h : t.cell i j = some c) : ∃ row ∈ t.cells, c ∈ row := by
  unfold Lookup2d.cell at h
  split at h
  · obtain ⟨row, hr, hc⟩ := Option.bind_eq_some_iff.mp h
    exact ⟨row, List.mem_of_getElem? hr, List.mem_of_getElem? hc⟩
  · cases h

/-- Without alpha: if the self-match cell `M = table(0, 1.0)` is positive and maximal, the normalised
forward score is at most 1. -/
theorem defForward_le_one_of_max (t : Lookup2d) (M : Rat) (hmax : ∀ row ∈ t.cells, ∀ c ∈ row, c ≤ M)
    (hself : t.call (.sqrt 0) (.x (.fin 1)) = some M) (hM : 0 < M)
    (cfg : Cfg) (hua : cfg.useAlpha = false) (hn : cfg.normalized = true) (q tt : Cloud) (s : Rat)
    (h : defForward t.call cfg q tt = some s) : s ≤ 1 := by
  refine defForward_le_one_of_pointwise t.call cfg hn q tt (fun _ => some M) ?_ ?_ s h
  · rw [selfHit, hua, if_neg Bool.false_ne_true, hself, sumOpt_const]; rfl
  · intro p _ m a b _ ha hb
    cases hb
    obtain ⟨row, hr, hc⟩ := cell_mem t _ _ a ha
    exact ⟨hmax row hr a hc, hM⟩

theorem pyMin_le (a b c : Rat) (ha : a ≤ c) (hb : b ≤ c) : pyMin a b ≤ c := by
  unfold pyMin; split <;> assumption

theorem pyMax_le (a b c : Rat) (ha : a ≤ c) (hb : b ≤ c) : pyMax a b ≤ c := by
  unfold pyMax; split <;> assumption

theorem defScore_le (fn : ScoreFn) (cfg : Cfg) (q t : Cloud) (M : Rat)
    (hf : ∀ s, defForward fn cfg q t = some s → s ≤ M) (hr : ∀ s, defForward fn cfg t q = some s → s ≤ M)
    (mode : Mode) (sc : Score) (h : defScore fn cfg q t mode = some sc) : sc.fwd ≤ M ∧ sc.rev ≤ M := by
  unfold defScore at h
  cases hF : defForward fn cfg q t with
  | none => rw [hF] at h; cases h
  | some f =>
    have h1 := hf f hF
    cases hR : defForward fn cfg t q with
    | none =>
      -- without a reverse score only `forward` returns
      rw [hF, hR] at h
      cases mode with
      | forward => cases h; exact ⟨h1, h1⟩
      | _ => cases h
    | some r =>
      have h2 := hr r hR
      have hmean : (f + r) / 2 ≤ M :=
        (div_le_div_of_nonneg_right (add_le_add h1 h2) zero_le_two).trans_eq (add_self_div_two M)
      rw [hF, hR] at h
      cases mode <;> cases h
      · exact ⟨h1, h1⟩
      · exact ⟨hmean, hmean⟩
      · exact ⟨pyMin_le f r M h1 h2, pyMin_le f r M h1 h2⟩
      · exact ⟨pyMax_le f r M h1 h2, pyMax_le f r M h1 h2⟩
      · exact ⟨h1, h2⟩

theorem mkFrame_entry (mode : Mode) (qi ti : List Int) (res : List (List Score)) (row : List Rat)
    (h : row ∈ (mkFrame mode qi ti res).vals) (v : Rat) (hv : v ∈ row) :
    ∃ srow ∈ res, ∃ sc ∈ srow, v = sc.fwd ∨ v = sc.rev := by
  unfold mkFrame at h
  split at h
  · simp only [List.mem_flatten, List.mem_map] at h
    obtain ⟨pair, ⟨srow, hsrow, rfl⟩, h⟩ := h
    simp only [List.mem_cons, List.not_mem_nil, or_false] at h
    rcases h with rfl | rfl
    · obtain ⟨sc, hsc, rfl⟩ := List.mem_map.mp hv
      exact ⟨srow, hsrow, sc, hsc, Or.inl rfl⟩
    · obtain ⟨sc, hsc, rfl⟩ := List.mem_map.mp hv
      exact ⟨srow, hsrow, sc, hsc, Or.inr rfl⟩
  · obtain ⟨srow, hsrow, rfl⟩ := List.mem_map.mp h
    obtain ⟨sc, hsc, rfl⟩ := List.mem_map.mp hv
    exact ⟨srow, hsrow, sc, hsc, Or.inl rfl⟩

/-- Entries of the definition's frame are `fwd`/`rev` components of per-pair scores. -/
theorem defNblast_entries (fn : ScoreFn) (cfg : Cfg) (q t : List Dotprops) (mode : Mode) (f : Frame)
    (h : defNblast fn cfg q t mode = some f) (row : List Rat) (hrow : row ∈ f.vals) (v : Rat) (hv : v ∈ row) :
    ∃ qn ∈ q, ∃ tn ∈ t, ∃ sc, defScore fn cfg qn.pts tn.pts mode = some sc ∧ (v = sc.fwd ∨ v = sc.rev) := by
  obtain ⟨res, hres, rfl⟩ := Option.map_eq_some_iff.mp h
  obtain ⟨srow, hsrow, sc, hsc, hv'⟩ := mkFrame_entry _ _ _ _ _ hrow v hv
  obtain ⟨qn, hqn, hq2⟩ := allSome_mem q _ res hres srow hsrow
  obtain ⟨tn, htn, hd⟩ := allSome_mem t _ srow hq2 sc hsc
  exact ⟨qn, hqn, tn, htn, sc, hd, hv'⟩

/-- Cell by natural indices (0 outside the table). -/
def cellD (cells : List (List Rat)) (i j : Nat) : Rat := ((cells[i]?).bind (·[j]?)).getD 0

theorem npIndex_nat (n i : Nat) (h : i < n) : npIndex n (i : Int) = some i := by
  rw [npIndex, if_pos ⟨Int.natCast_nonneg i, Int.ofNat_lt.mpr h⟩, Int.toNat_natCast]

/-- On finite values a well-formed table always answers, with the cell addressed by the two bins. -/
theorem call_eq_cellD (t : Lookup2d) (hwf0 : t.ax0.WF) (hwf1 : t.ax1.WF)
    (hshape : t.cells.length = t.ax0.nbins ∧ ∀ row ∈ t.cells, row.length = t.ax1.nbins)
    (d v : Val) (hd : d.finite = true) (hv : v.finite = true) :
    ∃ i j : Nat, digitize t.ax0 d = (i : Int) ∧ digitize t.ax1 v = (j : Int) ∧ i < t.ax0.nbins ∧ j < t.ax1.nbins ∧
      t.call d v = some (cellD t.cells i j) := by
  obtain ⟨i, _, _, hi, hin, _⟩ := digitize_exists_bin t.ax0 hwf0 d hd
  obtain ⟨j, _, _, hj, hjn, _⟩ := digitize_exists_bin t.ax1 hwf1 v hv
  refine ⟨i, j, hi, hj, hin, hjn, ?_⟩
  have hil : i < t.cells.length := hshape.1 ▸ hin
  have hjl : j < (t.cells[i]).length := hshape.2 _ (List.getElem_mem hil) ▸ hjn
  unfold Lookup2d.call Lookup2d.cell cellD
  rw [hi, hj, npIndex_nat _ i hin, npIndex_nat _ j hjn]
  simp only [List.getElem?_eq_getElem hil, Option.bind_some, List.getElem?_eq_getElem hjl, Option.getD_some]

/-- What the partial bound needs of a table: well-formed axes and a cell matrix of their shape, distance 0 in
row 0, and from column `J` on the cell of row 0 is positive and dominates every cell of the columns up to its own. -/
structure PrefixMax (t : Lookup2d) (J : Nat) : Prop where
  wf0 : t.ax0.WF
  wf1 : t.ax1.WF
  shape : t.cells.length = t.ax0.nbins ∧ ∀ row ∈ t.cells, row.length = t.ax1.nbins
  zero : digitize t.ax0 (.sqrt 0) = 0
  mono : ∀ i < t.ax0.nbins, ∀ j < t.ax1.nbins, ∀ j' < t.ax1.nbins, j ≤ j' → J ≤ j' →
    cellD t.cells i j ≤ cellD t.cells 0 j'
  pos : ∀ j' < t.ax1.nbins, J ≤ j' → 0 < cellD t.cells 0 j'

/-- A matched point in a dot bin not above the query point's self bin `j' ≥ J` scores at most the self cell
`(0, j')`, which is positive. -/
theorem alpha_point_le (t : Lookup2d) (J : Nat) (T : PrefixMax t J)
    (d v w : Val) (hd : d.finite = true) (hv : v.finite = true) (hw : w.finite = true)
    (hle : digitize t.ax1 v ≤ digitize t.ax1 w) (hJ : (J : Int) ≤ digitize t.ax1 w)
    (a b : Rat) (ha : t.call d v = some a) (hb : t.call (.sqrt 0) w = some b) : a ≤ b ∧ 0 < b := by
  obtain ⟨i, j, _, hj, hin, hjn, hc⟩ := call_eq_cellD t T.wf0 T.wf1 T.shape d v hd hv
  obtain ⟨i', j', hi', hj', _, hjn', hc'⟩ := call_eq_cellD t T.wf0 T.wf1 T.shape (.sqrt 0) w rfl hw
  rw [hc] at ha; rw [hc'] at hb
  cases ha; cases hb
  obtain rfl : i' = 0 := Int.ofNat.inj (hi'.symm.trans T.zero)
  have hjj : j ≤ j' := Int.ofNat_le.mp (hj ▸ hj' ▸ hle)
  have hJj : J ≤ j' := Int.ofNat_le.mp (hj' ▸ hJ)
  exact ⟨T.mono i hin j hjn j' hjn' hjj hJj, T.pos j' hjn' hJj⟩

/-- With alpha, on a table with `PrefixMax t J`: if every query point's matched value `dot·sqrt(α_q α_t)` lands in a dot
bin not above the bin of its self value `α_q`, and that self bin is `≥ J`, the normalised forward score is at most 1. -/
theorem defForward_le_one_alpha (t : Lookup2d) (J : Nat) (T : PrefixMax t J)
    (cfg : Cfg) (hua : cfg.useAlpha = true) (hn : cfg.normalized = true) (q tt : Cloud)
    (hyp : ∀ p ∈ q, ∀ m, matchPoint tt cfg.bound p = some m →
      digitize t.ax1 (matchArgs true m).2 ≤ digitize t.ax1 (.sqrt (p.a * p.a)) ∧
      (J : Int) ≤ digitize t.ax1 (.sqrt (p.a * p.a)))
    (s : Rat) (h : defForward t.call cfg q tt = some s) : s ≤ 1 := by
  refine defForward_le_one_of_pointwise t.call cfg hn q tt (fun p => t.call (.sqrt 0) (.sqrt (p.a * p.a))) ?_ ?_ s h
  · rw [selfHit, hua, if_pos rfl]
  · intro p hpq m a b hm ha hb
    obtain ⟨h1, h2⟩ := hyp p hpq m hm
    rw [hua] at ha
    exact alpha_point_le t J T _ _ _ rfl rfl rfl h1 h2 a b ha hb

theorem mkFrame_vals (mode : Mode) (qi ti qi' ti' : List Int) (res : List (List Score)) :
    (mkFrame mode qi ti res).vals = (mkFrame mode qi' ti' res).vals := by
  unfold mkFrame; split <;> rfl

theorem map_pts_congr {β} (g : Cloud → β) {q q' : List Dotprops} (h : q.map (·.pts) = q'.map (·.pts)) :
    q.map (fun n => g n.pts) = q'.map (fun n => g n.pts) := by
  have := congrArg (List.map g) h
  rwa [List.map_map, List.map_map] at this

theorem defNblast_vals_congr (fn : ScoreFn) (cfg : Cfg) (q q' t t' : List Dotprops) (mode : Mode)
    (hq : q.map (·.pts) = q'.map (·.pts)) (ht : t.map (·.pts) = t'.map (·.pts)) :
    (defNblast fn cfg q t mode).map (·.vals) = (defNblast fn cfg q' t' mode).map (·.vals) := by
  unfold defNblast
  rw [map_pts_congr (fun qc => allSome (t.map fun tn => defScore fn cfg qc tn.pts mode)) hq,
    List.map_congr_left fun qn _ => congrArg allSome (map_pts_congr (fun tc => defScore fn cfg qn.pts tc mode) ht),
    Option.map_map, Option.map_map]
  exact congrArg (Option.map · _) (funext fun res => mkFrame_vals mode _ _ _ _ res)

theorem siteConfig_filter {V : Type} (keep : String × String → Bool) (forwarded : List (String × String))
    (args dflt : String → V) (param : String) (h : ∀ kv, (kv.1 == param) = true → keep kv = true) :
    siteConfig (forwarded.filter keep) args dflt param = siteConfig forwarded args dflt param := by
  unfold siteConfig
  rw [List.find?_filter]
  have : (fun kv : String × String => decide (keep kv = true ∧ (kv.1 == param) = true)) = fun kv => kv.1 == param := by
    funext kv
    cases hk : kv.1 == param
    · simp
    · simp [h kv hk]
  rw [this]

end Navis.Nblast

import NavisModel.Model.CutVariants
import NavisModel.Proofs.ForestConnLemmas
/-!
The undirected reachability closure `componentOf` with `|es| + 1` sweeps is the connected component of its seed
(`mem_componentOf_iff`, for any edge list: soundness by an invariant; completeness because a node is only ever added
through an edge that thereby comes to lie inside the set, so one of the sweeps adds nothing and the set is closed under
the edges).  From it `mem_distalByDecompose` (C04 `cut_bfs_eq_decompose`): the component of the cut node after deleting
the edge to its parent is `distalSet` (descendants-or-self).  (`Conn` lives in `Navis.Heal`, the namespace of
`UConnLemmas`.)  Core Lean only.
-/
namespace Navis.CutEquiv
open Navis.Forest Navis.Heal

variable {t : Table}

/-- The fold step of `growOnce`. -/
def gstep (acc : List Int) (e : Int × Int) : List Int :=
  if acc.contains e.1 && !acc.contains e.2 then acc ++ [e.2]
  else if acc.contains e.2 && !acc.contains e.1 then acc ++ [e.1]
  else acc

theorem growOnce_eq (es : List (Int × Int)) (seen : List Int) : growOnce es seen = es.foldl gstep seen := rfl

theorem gstep_cases (acc : List Int) (e : Int × Int) :
    (gstep acc e = acc ∧ (e.1 ∈ acc ↔ e.2 ∈ acc)) ∨ (e.1 ∈ acc ∧ e.2 ∉ acc ∧ gstep acc e = acc ++ [e.2]) ∨
      (e.2 ∈ acc ∧ e.1 ∉ acc ∧ gstep acc e = acc ++ [e.1]) := by
  unfold gstep
  by_cases h1 : e.1 ∈ acc <;> by_cases h2 : e.2 ∈ acc <;> simp [h1, h2]

theorem mem_gstep {acc : List Int} {e : Int × Int} {x : Int} :
    x ∈ gstep acc e ↔ x ∈ acc ∨ (x = e.2 ∧ e.1 ∈ acc) ∨ (x = e.1 ∧ e.2 ∈ acc) := by
  rcases gstep_cases acc e with ⟨h, hi⟩ | ⟨h1, h2, h⟩ | ⟨h1, h2, h⟩ <;> rw [h]
  · exact ⟨Or.inl, fun h' => h'.elim id fun h' => h'.elim (fun h' => h'.1 ▸ hi.mp h'.2) fun h' => h'.1 ▸ hi.mpr h'.2⟩
  · rw [List.mem_append, List.mem_singleton]
    exact or_congr_right ⟨fun h' => Or.inl ⟨h', h1⟩, fun h' => h'.elim (·.1) fun h' => absurd h'.2 h2⟩
  · rw [List.mem_append, List.mem_singleton]
    exact or_congr_right ⟨fun h' => Or.inr ⟨h', h1⟩, fun h' => h'.elim (fun h' => absurd h'.2 h2) (·.1)⟩

theorem growOnce_mono {es : List (Int × Int)} {seen : List Int} {x : Int} (h : x ∈ seen) : x ∈ growOnce es seen := by
  rw [growOnce_eq]
  induction es generalizing seen with
  | nil => exact h
  | cons e es ih => exact ih (mem_gstep.mpr (Or.inl h))

/-- **One-step completeness**: an edge with one end in the set has both ends in the set after a sweep. -/
theorem growOnce_step {es : List (Int × Int)} {seen : List Int} {e : Int × Int} (he : e ∈ es) :
    (e.1 ∈ seen → e.2 ∈ growOnce es seen) ∧ (e.2 ∈ seen → e.1 ∈ growOnce es seen) := by
  rw [growOnce_eq]
  induction es generalizing seen with
  | nil => simp at he
  | cons a es ih =>
    rcases List.mem_cons.mp he with h | h
    · subst h
      exact ⟨fun h1 => growOnce_mono (es := es) (mem_gstep.mpr (Or.inr (Or.inl ⟨rfl, h1⟩))),
        fun h2 => growOnce_mono (es := es) (mem_gstep.mpr (Or.inr (Or.inr ⟨rfl, h2⟩)))⟩
    · exact ⟨fun h1 => (ih h).1 (mem_gstep.mpr (Or.inl h1)), fun h2 => (ih h).2 (mem_gstep.mpr (Or.inl h2))⟩

/-- **Soundness of a sweep**: a property carried across every edge (in both directions) is an invariant. -/
theorem growOnce_inv {P : Int → Prop} {es : List (Int × Int)} {seen : List Int} (hs : ∀ x ∈ seen, P x)
    (he : ∀ e ∈ es, (P e.1 → P e.2) ∧ (P e.2 → P e.1)) : ∀ x ∈ growOnce es seen, P x := by
  rw [growOnce_eq]
  induction es generalizing seen with
  | nil => exact hs
  | cons a es ih =>
    refine ih (fun x hx => ?_) (fun e h => he e (List.mem_cons_of_mem _ h))
    have hea := he a List.mem_cons_self
    rcases mem_gstep.mp hx with h | ⟨rfl, h⟩ | ⟨rfl, h⟩
    · exact hs x h
    · exact hea.1 (hs _ h)
    · exact hea.2 (hs _ h)

theorem seed_mem_componentOf (es : List (Int × Int)) (f : Nat) (s : Int) : s ∈ componentOf es f s := by
  fun_induction componentOf es f s with
  | case1 => exact List.mem_singleton_self _
  | case2 f s ih => exact growOnce_mono ih

theorem componentOf_inv {P : Int → Prop} {es : List (Int × Int)} {s : Int} (hs : P s)
    (he : ∀ e ∈ es, (P e.1 → P e.2) ∧ (P e.2 → P e.1)) : ∀ f, ∀ x ∈ componentOf es f s, P x := by
  intro f
  fun_induction componentOf es f s with
  | case1 => exact List.forall_mem_singleton.mpr hs
  | case2 f s ih => exact growOnce_inv (ih hs) he

theorem gstep_nodup {acc : List Int} {e : Int × Int} (h : acc.Nodup) : (gstep acc e).Nodup := by
  have key : ∀ x, x ∉ acc → (acc ++ [x]).Nodup := fun _ hx => nodup_concat h hx
  rcases gstep_cases acc e with ⟨h', _⟩ | ⟨_, h2, h'⟩ | ⟨_, h2, h'⟩ <;> rw [h']
  · exact h
  · exact key _ h2
  · exact key _ h2

theorem growOnce_nodup {es : List (Int × Int)} {seen : List Int} (h : seen.Nodup) : (growOnce es seen).Nodup := by
  rw [growOnce_eq]
  induction es generalizing seen with
  | nil => exact h
  | cons e es ih => exact ih (gstep_nodup h)

theorem componentOf_nodup (es : List (Int × Int)) (f : Nat) (s : Int) : (componentOf es f s).Nodup := by
  fun_induction componentOf es f s with
  | case1 => simp
  | case2 f s ih => exact growOnce_nodup ih

/-- The measure of the search: the edges with an end outside `S`. -/
def outside (es : List (Int × Int)) (S : List Int) : List (Int × Int) :=
  es.filter fun e => decide (¬ (e.1 ∈ S ∧ e.2 ∈ S))

/-- A node is only ever added through an edge that thereby comes to lie inside the set. -/
theorem outside_gstep {es : List (Int × Int)} {S : List Int} {e : Int × Int} (he : e ∈ es) :
    gstep S e = S ∨ (outside es (gstep S e)).length < (outside es S).length := by
  have key : ∀ x, e.1 ∈ S ++ [x] → e.2 ∈ S ++ [x] → ¬ (e.1 ∈ S ∧ e.2 ∈ S) →
      (outside es (S ++ [x])).length < (outside es S).length := by
    intro x h1 h2 h3
    have hsub : outside es (S ++ [x]) = (outside es S).filter fun a => decide (¬ (a.1 ∈ S ++ [x] ∧ a.2 ∈ S ++ [x])) := by
      unfold outside
      rw [List.filter_filter]
      refine List.filter_congr fun a _ => (Bool.and_eq_left_iff_imp.mpr fun h => ?_).symm
      rw [decide_eq_true_eq] at h ⊢
      exact fun h' => h ⟨List.mem_append_left _ h'.1, List.mem_append_left _ h'.2⟩
    rw [hsub]
    exact List.length_filter_lt_length_iff_exists.mpr
      ⟨e, List.mem_filter.mpr ⟨he, decide_eq_true h3⟩, fun h => of_decide_eq_true h ⟨h1, h2⟩⟩
  rcases gstep_cases S e with ⟨h, _⟩ | ⟨h1, h2, h⟩ | ⟨h1, h2, h⟩
  · exact Or.inl h
  · exact Or.inr (h ▸ key _ (List.mem_append_left _ h1) (List.mem_append_right _ List.mem_cons_self) fun h => h2 h.2)
  · exact Or.inr (h ▸ key _ (List.mem_append_right _ List.mem_cons_self) (List.mem_append_left _ h1) fun h => h2 h.1)

theorem outside_foldl {es : List (Int × Int)} : ∀ (es' : List (Int × Int)) (S : List Int), (∀ e ∈ es', e ∈ es) →
    es'.foldl gstep S = S ∨ (outside es (es'.foldl gstep S)).length < (outside es S).length
  | [], _, _ => Or.inl rfl
  | e :: es', S, h => by
    have ih := outside_foldl es' (gstep S e) fun x hx => h x (List.mem_cons_of_mem _ hx)
    rw [List.foldl_cons]
    rcases outside_gstep (h e List.mem_cons_self) with h1 | h1
    · rw [h1] at ih ⊢; exact ih
    · exact Or.inr (ih.elim (fun h2 => by rw [h2]; exact h1) fun h2 => Nat.lt_trans h2 h1)

/-- Sweep `|es| + 2` adds nothing: every earlier sweep that added something brought an edge inside. -/
theorem componentOf_stable (es : List (Int × Int)) (s : Int) :
    growOnce es (componentOf es (es.length + 1) s) = componentOf es (es.length + 1) s := by
  have h : ∀ k, componentOf es (k + 1) s = componentOf es k s ∨
      (outside es (componentOf es (k + 1) s)).length + (k + 1) ≤ es.length := by
    intro k
    -- induction on the number of sweeps, not `fun_induction componentOf`: the claim relates sweep `k + 1` to sweep `k`
    induction k with
    | zero =>
      refine (outside_foldl es [s] fun _ h => h).imp id fun h => ?_
      have := List.length_filter_le (fun e => decide (¬ (e.1 ∈ [s] ∧ e.2 ∈ [s]))) es
      exact Nat.le_trans h this
    | succ k ih =>
      rcases ih with ih | ih
      · exact Or.inl (congrArg (growOnce es) ih)
      · exact (outside_foldl es (componentOf es (k + 1) s) fun _ h => h).imp id fun h => by
          show (outside es (growOnce es (componentOf es (k + 1) s))).length + (k + 1 + 1) ≤ es.length
          rw [growOnce_eq]; omega
  rcases h (es.length + 1) with h | h
  · exact h
  · omega

theorem componentOf_closed (es : List (Int × Int)) (s : Int) {e : Int × Int} (he : e ∈ es) :
    e.1 ∈ componentOf es (es.length + 1) s ↔ e.2 ∈ componentOf es (es.length + 1) s := by
  have := growOnce_step (seen := componentOf es (es.length + 1) s) he
  rw [componentOf_stable] at this
  exact ⟨this.1, this.2⟩

theorem mem_componentOf_iff (es : List (Int × Int)) (s x : Int) :
    x ∈ componentOf es (es.length + 1) s ↔ Conn es s x := by
  constructor
  · exact componentOf_inv (P := Conn es s) (.refl s)
      (fun e he => ⟨fun h => .step h (Or.inl he), fun h => .step h (Or.inr he)⟩) _ x
  · intro h
    induction h with
    | refl => exact seed_mem_componentOf _ _ _
    | step _ hadj ih =>
      rcases hadj with he | he
      · exact (componentOf_closed es s he).mp ih
      · exact (componentOf_closed es s he).mpr ih

theorem mem_edgesWithout {c p : Int} {e : Int × Int} :
    e ∈ edgesWithout t c p ↔ e ∈ edges t ∧ e ≠ (c, p) := by
  unfold edgesWithout
  simp [List.mem_filter]

/-! ### the component of the cut node without the deleted edge is its subtree -/

theorem Conn_of_distal (hw : WF t) (c p : Int) : ∀ i ∈ ids t, c ∈ rootPath t i → Conn (edgesWithout t c p) c i := by
  refine WF_induct hw _ fun n hn hcase hc => ?_
  by_cases hid : n.id = c
  · exact hid ▸ .refl _
  · have hp : ¬ n.parent < 0 := fun hp => by
      rw [rootPath_of_root (find?_of_mem hw.1 hn) hp] at hc
      exact hid (List.mem_singleton.mp hc).symm
    exact .step (hcase.resolve_left hp ((distal_iff_parent hw hn hp hid).mp hc))
      (Or.inr (mem_edgesWithout.mpr ⟨mem_edges.mpr ⟨n, hn, hp, rfl⟩, fun h => hid (Prod.mk.inj h).1⟩))

/-- Every remaining edge joins a node other than `c` to its parent: being distal to `c` is carried across it. -/
theorem distal_of_Conn (hw : WF t) {c p : Int} (hpar : parentOf t c = some p) {x y : Int}
    (h : Conn (edgesWithout t c p) x y) : c ∈ rootPath t x ↔ c ∈ rootPath t y := by
  have hedge : ∀ a b, (a, b) ∈ edgesWithout t c p → (c ∈ rootPath t a ↔ c ∈ rootPath t b) := by
    intro a b he
    obtain ⟨hed, hne⟩ := mem_edgesWithout.mp he
    obtain ⟨n, hn, hnp, hab⟩ := mem_edges.mp hed
    obtain ⟨rfl, rfl⟩ := Prod.mk.inj hab
    refine distal_iff_parent hw hn hnp fun hid => hne ?_
    have := parentOf_of_mem hw.1 hn
    rw [hid, hpar] at this
    rw [hid, Option.some.inj this]
  induction h with
  | refl => exact Iff.rfl
  | step _ hadj ih => exact hadj.elim (fun he => ih.trans (hedge _ _ he)) fun he => ih.trans (hedge _ _ he).symm

/-- **The two back-ends cut off the same set.** -/
theorem mem_distalByDecompose (hw : WF t) (c i : Int) : i ∈ distalByDecompose t c ↔ i ∈ distalSet t c := by
  rw [mem_distalSet]
  unfold distalByDecompose
  cases hpar : parentOf t c with
  | none =>
    refine ⟨fun h => absurd h List.not_mem_nil, fun h => ?_⟩
    obtain ⟨n, hn, rfl⟩ := mem_ids.mp (anc_ids h.2).1
    rw [parentOf_of_mem hw.1 hn] at hpar
    cases hpar
  | some p =>
    obtain ⟨n, _, hn, rfl, _⟩ := parentOf_some hpar
    have hc := mem_ids_of_mem hn
    show i ∈ componentOf _ _ _ ↔ _
    rw [mem_componentOf_iff]
    exact ⟨fun h => have := (distal_of_Conn hw hpar h).mp (rootPath_head_mem hc); ⟨(anc_ids this).2, this⟩,
      fun h => Conn_of_distal hw _ p i h.1 h.2⟩

end Navis.CutEquiv

import NavisModel.Proofs.AncestorLemmas
import NavisModel.Model.Dist
import NavisModel.Proofs.SortLemmas
/-! What `Model/Dist.lean` defines, read once: `sortedInts` (by `SortLemmas`: equal on two lists exactly when they are
permutations of each other) and with it the parts of the C05 checker (`coversEdgesOnce`, `adjacent`, `isParentPath`,
`nonIncreasing`); the equations of `pathLen`, `uptoIncl`, `distToRoot`; the directed `geo` and `lca`, which is the lowest
common ancestor of the ancestor order (`lca_spec`); the cable length as a sum over the edge list; `applyLimit`. -/
namespace Navis.Forest

theorem sortedInts_pairwise (l : List Int) : (sortedInts l).Pairwise (· ≤ ·) := by
  apply sortBy_pairwise
  · intro a b c h1 h2; exact Int.le_trans h1 h2
  · intro y x h; simpa using h
  · intro y x h
    have : ¬ y ≤ x := by simpa using h
    omega

theorem sortedInts_eq_iff {a b : List Int} : sortedInts a = sortedInts b ↔ a.Perm b := by
  have hs : ∀ l : List Int, (sortedInts l).Perm l := sortBy_perm _
  refine ⟨fun h => (hs a).symm.trans (h ▸ hs b), fun h => ?_⟩
  apply List.Perm.eq_of_pairwise (le := (· ≤ ·)) _ (sortedInts_pairwise a) (sortedInts_pairwise b)
  · exact ((hs a).trans h).trans (hs b).symm
  · intro x y _ _ h1 h2; omega

theorem coversEdgesOnce_iff {t : Table} {segs : List (List Int)} : coversEdgesOnce t segs = true ↔
    ((segs.filter fun s => s.length > 1).flatMap fun s => s.dropLast).Perm ((t.filter fun n => !isRootNode n).map (·.id)) := by
  unfold coversEdgesOnce
  rw [beq_iff_eq, sortedInts_eq_iff]

theorem adjacent_iff (t : Table) (a b : Int) :
    adjacent t a b = true ↔ ∃ n, find? t a = some n ∧ 0 ≤ n.parent ∧ n.parent = b := by
  unfold adjacent
  cases h : find? t a with
  | none => simp
  | some n => simp

theorem isParentPath_spec (t : Table) (s : List Int) (h : isParentPath t s = true) :
    s ≠ [] ∧ ∀ k (h1 : k + 1 < s.length), adjacent t (s[k]'(by omega)) (s[k+1]) = true :=
  ⟨(by rintro rfl; cases h),
   consecutive_spec (R := fun a b => adjacent t a b = true) (chk := fun l => isParentPath t l = true)
     (fun a b rest h => by simp only [isParentPath, Bool.and_eq_true] at h; exact h) s h⟩

theorem nonIncreasing_spec (l : List Nat) (h : nonIncreasing l = true) :
    ∀ k (h1 : k + 1 < l.length), l[k+1] ≤ l[k]'(by omega) :=
  consecutive_spec (R := fun a b => b ≤ a) (chk := fun l => nonIncreasing l = true)
    (fun a b rest h => by simp only [nonIncreasing, Bool.and_eq_true, decide_eq_true_eq] at h; exact h) l h

theorem nonIncreasing_of_pairwise : ∀ (l : List Nat), l.Pairwise (fun a b => b ≤ a) → nonIncreasing l = true
  | [], _ => rfl
  | [_], _ => rfl
  | a :: b :: rest, h => by
    rw [List.pairwise_cons] at h
    simp only [nonIncreasing, Bool.and_eq_true, decide_eq_true_eq]
    exact ⟨h.1 b List.mem_cons_self, nonIncreasing_of_pairwise (b :: rest) h.2⟩

theorem pathLen_nil (len : Int → Int → Nat) : pathLen len [] = 0 := rfl
theorem pathLen_single (len : Int → Int → Nat) (a : Int) : pathLen len [a] = 0 := rfl
theorem pathLen_cons_cons (len : Int → Int → Nat) (a b : Int) (rest : List Int) :
    pathLen len (a :: b :: rest) = len a b + pathLen len (b :: rest) := rfl

theorem pathLen_append (len : Int → Int → Nat) (xs : List Int) (m : Int) (ys : List Int) :
    pathLen len (xs ++ m :: ys) = pathLen len (xs ++ [m]) + pathLen len (m :: ys) := by
  induction xs with
  | nil => simp [pathLen_single]
  | cons x xs ih =>
    cases xs with
    | nil => simp [pathLen_cons_cons, pathLen_single]
    | cons y xs' =>
      simp only [List.cons_append, pathLen_cons_cons] at ih ⊢
      omega

theorem pathLen_reverse {len : Int → Int → Nat} (hs : ∀ a b, len a b = len b a) (l : List Int) :
    pathLen len l.reverse = pathLen len l := by
  induction l with
  | nil => rfl
  | cons a l ih =>
    cases l with
    | nil => rfl
    | cons b l' =>
      rw [List.reverse_cons, List.reverse_cons, List.append_assoc]
      show pathLen len (l'.reverse ++ b :: [a]) = _
      rw [pathLen_append, ← List.reverse_cons, ih, pathLen_cons_cons, pathLen_cons_cons, pathLen_single, hs b a]
      omega

theorem uptoIncl_isSome_iff (b : Int) (l : List Int) : (uptoIncl b l).isSome ↔ b ∈ l := by
  fun_induction uptoIncl b l with
  | case1 => simp
  | case2 rest => simp
  | case3 a rest h ih =>
    rw [Option.isSome_map, ih, List.mem_cons]
    exact ⟨Or.inr, fun hm => hm.resolve_left fun e => h e.symm⟩

theorem uptoIncl_eq_none {w : Int} {l : List Int} (h : w ∉ l) : uptoIncl w l = none :=
  Option.not_isSome_iff_eq_none.mp fun hs => h ((uptoIncl_isSome_iff w l).mp hs)

theorem uptoIncl_head (b : Int) (rest : List Int) : uptoIncl b (b :: rest) = some [b] := by
  simp [uptoIncl]

theorem uptoIncl_append {l : Int} {pa : List Int} (rest : List Int) (h : l ∉ pa) :
    uptoIncl l (pa ++ l :: rest) = some (pa ++ [l]) := by
  induction pa with
  | nil => simp [uptoIncl]
  | cons x pa ih =>
    have hx : x ≠ l := fun he => h (he ▸ List.mem_cons_self)
    rw [List.cons_append, uptoIncl, if_neg hx, ih fun hm => h (List.mem_cons_of_mem _ hm)]
    rfl

theorem geo_directed_isSome_iff (t : Table) (len : Int → Int → Nat) (a b : Int) :
    (geo t len true a b).isSome ↔ b ∈ rootPath t a := by
  simp [geo, distUp, uptoIncl_isSome_iff]

theorem distToRoot_root {t : Table} (len : Int → Int → Nat) {i : Int} {n : Node} (hf : find? t i = some n)
    (hp : n.parent < 0) : distToRoot t len i = 0 := by
  unfold distToRoot; rw [rootPath_of_root hf hp]; rfl

theorem distToRoot_parent {t : Table} (hw : WF t) (len : Int → Int → Nat) {n : Node} (hn : n ∈ t)
    (hp : ¬ n.parent < 0) : distToRoot t len n.id = len n.id n.parent + distToRoot t len n.parent := by
  obtain ⟨rest, hr⟩ := rootPath_cons (WF_parent_mem hw hn hp)
  unfold distToRoot
  rw [rootPath_of_nonroot hw (find?_of_mem hw.1 hn) hp, hr, pathLen_cons_cons]

theorem dist_telescope {t : Table} (hw : WF t) (len : Int → Int → Nat) : ∀ (s : List Int), isParentPath t s = true →
    distToRoot t len (s.head?.getD 0) = pathLen len s + distToRoot t len (s.getLast?.getD 0)
  | [], h => by simp [isParentPath] at h
  | [a], _ => by simp [pathLen]
  | a :: b :: rest, h => by
    simp only [isParentPath, Bool.and_eq_true] at h
    obtain ⟨n, h1, h2, h3⟩ := (adjacent_iff t a b).mp h.1
    have hn := find?_some h1
    have hd := distToRoot_parent hw len hn.1 (by omega)
    rw [hn.2, h3] at hd
    have ih := dist_telescope hw len (b :: rest) h.2
    simp only [List.head?_cons, Option.getD_some] at ih ⊢
    rw [List.getLast?_cons_cons, pathLen_cons_cons, hd, ih]
    omega

theorem distUp_self {t : Table} (len : Int → Int → Nat) {k : Int} (hk : k ∈ ids t) : distUp t len k k = some 0 := by
  obtain ⟨rest, hr⟩ := rootPath_cons hk
  unfold distUp
  rw [hr, uptoIncl_head]; rfl

/-- The first node of `p`'s root path that lies on `q`'s is below every common ancestor. -/
theorem lca_spec {t : Table} (hw : WF t) {p q l : Int} (h : lca t p q = some l) :
    l ∈ rootPath t p ∧ l ∈ rootPath t q ∧ ∀ x ∈ rootPath t p, x ∈ rootPath t q → x ∈ rootPath t l := by
  unfold lca at h
  obtain ⟨h1, h2, h3⟩ := find?_rootPath hw (fun i => (rootPath t q).contains i) h
  exact ⟨h1, List.contains_iff_mem.mp h2, fun x hx hxq => h3 x hx (List.contains_iff_mem.mpr hxq)⟩

theorem lca_isSome {t : Table} {p q b : Int} (h1 : b ∈ rootPath t p) (h2 : b ∈ rootPath t q) :
    ∃ l, lca t p q = some l :=
  Option.isSome_iff_exists.mp (List.find?_isSome.mpr ⟨b, h1, List.contains_iff_mem.mpr h2⟩)

theorem lca_symm {t : Table} (hw : WF t) {p q l : Int} (h : lca t p q = some l) : lca t q p = some l := by
  obtain ⟨lp, lq, lmin⟩ := lca_spec hw h
  obtain ⟨l', hl'⟩ := lca_isSome lq lp
  obtain ⟨lq', lp', lmin'⟩ := lca_spec hw hl'
  rw [hl', anc_antisymm hw (lmin l' lp' lq') (lmin' l lq lp)]

theorem lca_of_disjoint {t : Table} {a b : Int} (h : ∀ x ∈ rootPath t a, x ∉ rootPath t b) : lca t a b = none := by
  unfold lca
  simp only
  rw [List.find?_eq_none]
  intro x hx
  simpa using h x hx

theorem geo_self (t : Table) (len : Int → Int → Nat) (d : Bool) (a : Int) (ha : a ∈ ids t) :
    geo t len d a a = some 0 := by
  obtain ⟨rest, hr⟩ := rootPath_cons ha
  have hd := distUp_self len ha
  cases d with
  | true => simp [geo, hd]
  | false =>
    have hl : lca t a a = some a := by
      simp [lca, hr]
    simp [geo, hl, hd]

theorem cable_eq_sum_edges (t : Table) (len : Int → Int → Nat) :
    cable t len = ((edges t).map fun e => len e.1 e.2).sum := by
  unfold cable edges
  rw [List.map_map]
  rfl

theorem applyLimit_none (d : Option Nat) : applyLimit none d = d := by
  cases d <;> rfl

theorem applyLimit_some (l : Nat) (d : Option Nat) : applyLimit (some l) d = d.filter (· ≤ l) := by
  cases d with
  | none => rfl
  | some v =>
    show (if v > l then none else some v) = if decide (v ≤ l) then some v else none
    by_cases h : v ≤ l
    · rw [if_neg (Nat.not_lt.mpr h), if_pos (decide_eq_true h)]
    · rw [if_pos (Nat.lt_of_not_le h), if_neg (by simpa using h)]

end Navis.Forest

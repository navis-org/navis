import NavisModel.Model.EdgeDtype
/-! Edge lengths: the integer square root behind `coordLen` is exact on perfect squares, unit weights count edges, and
a length computed in float is the Euclidean one whatever the dtype of the coordinate columns.  Core Lean only. -/
namespace Navis.Forest

/-- Bisection keeps `lo² ≤ n < hi²`; it stops with `hi ≤ lo + 1`, and the fuel outlasts the interval. -/
theorem isqrt_go_spec (n : Nat) (fuel lo hi : Nat) (h1 : lo * lo ≤ n) (h2 : n < hi * hi) (h3 : hi ≤ lo + fuel + 1) :
    isqrt.go n fuel lo hi * isqrt.go n fuel lo hi ≤ n ∧ n < (isqrt.go n fuel lo hi + 1) * (isqrt.go n fuel lo hi + 1) := by
  fun_induction isqrt.go n fuel lo hi with
  | case1 lo hi => exact ⟨h1, Nat.lt_of_lt_of_le h2 (Nat.mul_le_mul h3 h3)⟩
  | case2 lo hi fuel hc => exact ⟨h1, Nat.lt_of_lt_of_le h2 (Nat.mul_le_mul hc hc)⟩
  | case3 lo hi fuel hc mid hm ih =>
    exact ih hm h2 (by have : lo + 1 ≤ mid := (Nat.le_div_iff_mul_le (by decide)).mpr (by omega); omega)
  | case4 lo hi fuel hc mid hm ih =>
    exact ih h1 (Nat.lt_of_not_le hm) (by have : mid < hi := (Nat.div_lt_iff_lt_mul (by decide)).mpr (by omega); omega)

theorem isqrt_spec (n : Nat) : isqrt n * isqrt n ≤ n ∧ n < (isqrt n + 1) * (isqrt n + 1) := by
  unfold isqrt
  apply isqrt_go_spec n (n + 2) 0 (n + 1) (by simp) _ (by omega)
  rw [Nat.succ_mul_succ]; omega

theorem isqrt_sq (k : Nat) : isqrt (k * k) = k := by
  obtain ⟨h1, h2⟩ := isqrt_spec (k * k)
  have a : isqrt (k * k) ≤ k := Nat.mul_self_le_mul_self_iff.mp h1
  have b : k < isqrt (k * k) + 1 := Nat.mul_self_lt_mul_self_iff.mp h2
  omega

/-- **The edge length is the Euclidean child–parent distance** whenever that distance is an integer `w`
(`w² = dx² + dy² + dz²`, which the driver checks for every generated edge). -/
theorem coordLen_exact {t : Table} {a b : Int} {na nb : Node} (ha : find? t a = some na) (hb : find? t b = some nb)
    (w : Nat) (hw : sqDist na nb = w * w) : coordLen t a b = w := by
  unfold coordLen
  rw [ha, hb]
  simp only
  rw [hw, isqrt_sq]

/-- With unit weights (`weight=None`) a path's length is its number of edges. -/
theorem pathLen_unit : ∀ (p : List Int), pathLen (fun _ _ => 1) p = p.length - 1
  | [] => rfl
  | [_] => rfl
  | a :: b :: rest => by
    have ih := pathLen_unit (b :: rest)
    simp only [pathLen, ih, List.length_cons]
    omega

end Navis.Forest

namespace Navis.EdgeDtype
open Navis.Forest

theorem sqLenIn_float (sq : Bool) (na nb : Node) : (sqLenIn .float sq na nb).toNat = sqDist na nb := by
  unfold sqLenIn sqDist
  cases sq <;> simp [wrapIn]

theorem diffDt_float_of_left {l r : Operand} (h : l.isFloat = true) (col : Dt) : diffDt l r col = .float := by
  simp [diffDt, h]

theorem diffDt_float_of_right {l r : Operand} (h : r.isFloat = true) (col : Dt) : diffDt l r col = .float := by
  simp [diffDt, h]

theorem edgeLenAt_eq_coordLen {s : Site} (h : (s.child.isFloat || s.parent.isFloat) = true) (col : Dt) (t : Table) (a b : Int) :
    edgeLenAt s col t a b = coordLen t a b := by
  unfold edgeLenAt coordLen
  have hd : diffDt s.child s.parent col = .float := by simp [diffDt, h]
  rw [hd]
  cases find? t a with
  | none => rfl
  | some na =>
    cases find? t b with
    | none => rfl
    | some nb => simp only [sqLenIn_float]

theorem diffDt_raw (col : Dt) : diffDt .raw .raw col = col := by
  simp [diffDt, Operand.isFloat]

end Navis.EdgeDtype

import NavisModel.Model.SwcText
import NavisModel.Proofs.ListLemmas
/-!
Character level of C07 (`Model/SwcText.lean`): printing an integer and lexing it back; how the written text splits into lines and
which of them the reader treats as data; every line of a commentised header is a `#` line or blank.  Core Lean only.

The model's printer, value fold, `split("\n")` and `"\n".join` are core's `Nat.toDigits 10`, `Nat.ofDigitChars 10`, `List.splitOn '\n'` and
`List.intercalate ['\n']` (`natDigits_eq`, `digitsToNat_natDigits`, `splitAll_eq`, `joinNl_eq`), and the reader's `lines` is `splitAll` without a
trailing empty piece (`lines_eq`); what is needed about them is then read off core's lemmas.
-/
namespace Navis.SwcText

theorem ne_of_isDigit {c d : Char} (hc : c.isDigit = true) (hd : d.isDigit = false) : c ≠ d :=
  fun h => by rw [h, hd] at hc; exact Bool.false_ne_true hc

theorem digitChar_eq : ∀ d < 10, digitChar d = Nat.digitChar d := by decide

theorem natDigitsAux_eq (f n : Nat) (acc : List Char) : natDigitsAux f n acc = Nat.toDigitsCore 10 f n acc := by
  induction f generalizing n acc with
  | zero => rfl
  | succ f ih => simp only [natDigitsAux, Nat.toDigitsCore, ih, digitChar_eq _ (Nat.mod_lt n (by decide))]

theorem natDigits_eq (n : Nat) : natDigits n = Nat.toDigits 10 n := natDigitsAux_eq _ _ _

theorem natDigits_isDigit {n : Nat} {c : Char} (hc : c ∈ natDigits n) : c.isDigit = true :=
  Nat.isDigit_of_mem_toDigits (by decide) (by decide) (natDigits_eq n ▸ hc)

theorem natDigits_head (n : Nat) : ∃ c rest, natDigits n = c :: rest ∧ c.isDigit = true := by
  cases h : natDigits n with
  | nil => exact absurd (natDigits_eq n ▸ h) Nat.toDigits_ne_nil
  | cons c rest => exact ⟨c, rest, rfl, natDigits_isDigit (h ▸ List.mem_cons_self)⟩

theorem isDigits_natDigits (n : Nat) : isDigits (natDigits n) = true := by
  obtain ⟨c, rest, h, _⟩ := natDigits_head n
  rw [isDigits, List.all_eq_true.2 fun _ => natDigits_isDigit, h]
  rfl

theorem digitsToNat_natDigits (n : Nat) : digitsToNat (natDigits n) = n := by
  rw [natDigits_eq, digitsToNat]
  simp only [Nat.mul_comm _ 10]
  exact Nat.ofDigitChars_ten_toDigits

theorem lexInt_intChars (i : Int) : lexInt? (intChars i) = some i := by
  cases i with
  | ofNat n =>
    obtain ⟨c, rest, h, hc⟩ := natDigits_head n
    have hd := isDigits_natDigits n
    have hv := digitsToNat_natDigits n
    simp only [intChars]
    rw [h] at hd hv ⊢
    unfold lexInt?
    split
    · rename_i heq; injection heq with h1 _; exact absurd h1 (ne_of_isDigit hc (by decide))
    · rename_i heq; injection heq with h1 _; exact absurd h1 (ne_of_isDigit hc (by decide))
    · rw [hd, hv]; rfl
  | negSucc n =>
    simp only [intChars, lexInt?, isDigits_natDigits, digitsToNat_natDigits, if_true]
    rfl

/-- The first character of a printed integer is a digit or `-`. -/
theorem intChars_head (i : Int) : ∃ c rest, intChars i = c :: rest ∧ c ≠ '#' ∧ c ≠ '\r' := by
  cases i with
  | ofNat n =>
    obtain ⟨c, rest, h, hc⟩ := natDigits_head n
    exact ⟨c, rest, h, ne_of_isDigit hc (by decide), ne_of_isDigit hc (by decide)⟩
  | negSucc n => exact ⟨'-', _, rfl, by decide, by decide⟩

theorem nl_not_mem_intChars (i : Int) : '\n' ∉ intChars i := by
  cases i with
  | ofNat n => exact fun h => absurd (natDigits_isDigit h) (by decide)
  | negSucc n =>
    intro h
    rcases List.mem_cons.mp h with h | h
    · exact absurd h (by decide)
    · exact absurd (natDigits_isDigit h) (by decide)

theorem isHdr_rowLine (i : Int) (rest : List Char) : isHdr (rowLine i rest) = false := by
  obtain ⟨c, r, h, h1, _⟩ := intChars_head i
  rw [rowLine, h]
  simp [isHdr, h1]

theorem isBlank_rowLine (i : Int) (rest : List Char) : isBlank (rowLine i rest) = false := by
  obtain ⟨c, r, h, _, h2⟩ := intChars_head i
  rw [rowLine, h, List.cons_append, isBlank, List.all_cons, beq_false_of_ne h2]
  rfl

theorem nl_not_mem_rowLine (i : Int) (rest : List Char) (hr : '\n' ∉ rest) : '\n' ∉ rowLine i rest :=
  fun h => (List.mem_append.mp h).elim (nl_not_mem_intChars i) hr

theorem nl_not_mem_rowLines (rows : List (Int × List Char)) (h : ∀ r ∈ rows, '\n' ∉ r.2) :
    ∀ l ∈ rows.map (fun r => rowLine r.1 r.2), '\n' ∉ l :=
  List.forall_mem_map.mpr fun q hq => nl_not_mem_rowLine q.1 q.2 (h q hq)

/-- A rendered row stays a data line whatever follows its PointNo: in particular with the line terminator appended. -/
theorem rowLines_data (pre : List Char) (rows : List (Int × List Char)) :
    ∀ l ∈ rows.map (fun r => rowLine r.1 r.2 ++ pre), isHdr l = false ∧ isBlank l = false := by
  refine List.forall_mem_map.mpr fun q _ => ?_
  rw [rowLine, List.append_assoc]
  exact ⟨isHdr_rowLine q.1 _, isBlank_rowLine q.1 _⟩

theorem splitAll_eq (cs : List Char) : splitAll cs = cs.splitOn '\n' := by
  induction cs with
  | nil => rfl
  | cons c cs ih =>
    rw [splitAll, ih, List.splitOn_cons_eq_if_modifyHead]
    by_cases hc : c = '\n'
    · rw [if_pos hc, if_pos (beq_iff_eq.2 hc)]
    · rw [if_neg hc, if_neg (by simpa using hc)]
      cases h : cs.splitOn '\n' with
      | nil => exact absurd h (List.splitOn_ne_nil _ _)
      | cons p ps => rfl

theorem splitAll_ne_nil (cs : List Char) : splitAll cs ≠ [] := splitAll_eq cs ▸ List.splitOn_ne_nil _ _

theorem splitAll_pieces_no_nl (cs : List Char) : ∀ p ∈ splitAll cs, '\n' ∉ p := by
  induction cs with
  | nil => simp [splitAll]
  | cons c cs ih =>
    cases hs : splitAll cs with
    | nil => exact absurd hs (splitAll_ne_nil cs)
    | cons q qs =>
      rw [hs] at ih
      by_cases hc : c = '\n'
      · rw [splitAll, if_pos hc, hs]
        exact List.forall_mem_cons.mpr ⟨List.not_mem_nil, ih⟩
      · rw [splitAll, if_neg hc, hs]
        exact List.forall_mem_cons.mpr
          ⟨fun hm => (List.mem_cons.mp hm).elim (fun e => hc e.symm) (ih q List.mem_cons_self), fun p hp => ih p (List.mem_cons_of_mem _ hp)⟩

theorem joinNl_eq (ps : List (List Char)) : joinNl ps = ['\n'].intercalate ps := by
  fun_induction joinNl ps with
  | case1 => rfl
  | case2 p => simp [List.intercalate]
  | case3 p q ps ih => rw [ih, List.intercalate_cons_cons]; simp

/-- the pieces without a last empty one -/
def trim : List (List Char) → List (List Char)
  | [] => []
  | [p] => if p.isEmpty then [] else [p]
  | p :: q :: ps => p :: trim (q :: ps)

theorem trim_append (ps : List (List Char)) {qs : List (List Char)} (h : qs ≠ []) : trim (ps ++ qs) = ps ++ trim qs := by
  induction ps with
  | nil => rfl
  | cons p ps ih =>
    cases hq : ps ++ qs with
    | nil => exact absurd (List.append_eq_nil_iff.1 hq).2 h
    | cons a as => rw [List.cons_append, hq, trim, ← hq, ih]; rfl

theorem mem_trim {ps : List (List Char)} {l : List Char} (h : l ∈ trim ps) : l ∈ ps := by
  fun_induction trim ps with
  | case1 => exact h
  | case2 => exact absurd h List.not_mem_nil
  | case3 => exact h
  | case4 p q ps ih => exact (List.mem_cons.mp h).elim (· ▸ List.mem_cons_self) fun h => List.mem_cons_of_mem _ (ih h)

theorem linesAux_eq (cs cur : List Char) (hcur : '\n' ∉ cur) : linesAux cur cs = trim ((cur.reverse ++ cs).splitOn '\n') := by
  induction cs generalizing cur with
  | nil => rw [List.append_nil, List.splitOn_eq_singleton (by simpa using hcur), linesAux, trim, List.isEmpty_reverse]
  | cons c cs ih =>
    rw [linesAux]
    split
    · next hc =>
      rw [hc, List.splitOn_append_cons_self_of_not_mem (by simpa using hcur), ih [] List.not_mem_nil]
      exact (trim_append [_] (List.splitOn_ne_nil _ _)).symm
    · next hc =>
      rw [ih (c :: cur) (fun h => (List.mem_cons.mp h).elim (fun e => hc e.symm) hcur), List.reverse_cons, List.append_assoc]
      rfl

theorem lines_eq (cs : List Char) : lines cs = trim (cs.splitOn '\n') := linesAux_eq cs [] List.not_mem_nil

theorem lines_mem_splitAll {cs l : List Char} (hl : l ∈ lines cs) : l ∈ splitAll cs :=
  splitAll_eq cs ▸ mem_trim (lines_eq cs ▸ hl)

/-- the lines of a text that ends with a line break are its pieces; what follows starts a new line -/
theorem lines_terminated (x y : List Char) : lines (x ++ '\n' :: y) = x.splitOn '\n' ++ lines y := by
  rw [lines_eq, lines_eq, List.splitOn_append_cons_self, trim_append _ (List.splitOn_ne_nil _ _)]

theorem lines_append_nl (a : List Char) (ha : '\n' ∉ a) (b : List Char) : lines (a ++ '\n' :: b) = a :: lines b := by
  rw [lines_terminated, List.splitOn_eq_singleton ha]; rfl

theorem lines_append_of_terminated {x : List Char} (hx : x = [] ∨ ∃ x', x = x' ++ ['\n']) (y : List Char) :
    lines (x ++ y) = lines x ++ lines y := by
  rcases hx with rfl | ⟨x', rfl⟩
  · rfl
  · rw [List.append_assoc, List.singleton_append, lines_terminated, lines_terminated]; exact (List.append_nil _).symm ▸ rfl

theorem lines_rowsText (pre : List Char) (hpre : '\n' ∉ pre) (rows : List (List Char)) (h : ∀ r ∈ rows, '\n' ∉ r) :
    lines (rowsText pre rows) = rows.map (· ++ pre) := by
  induction rows with
  | nil => rfl
  | cons r rs ih =>
    have hr : '\n' ∉ r ++ pre := fun hm => (List.mem_append.mp hm).elim (h r List.mem_cons_self) hpre
    rw [rowsText, lines_append_nl _ hr, ih (fun q hq => h q (List.mem_cons_of_mem _ hq))]
    rfl

/-- Text that precedes the rows without a line break belongs to the first row. -/
theorem rowsText_glue (pre last r : List Char) (rs : List (List Char)) :
    last ++ rowsText pre (r :: rs) = rowsText pre ((last ++ r) :: rs) := by
  simp [rowsText]

theorem endsWithNl_iff (h : List Char) : endsWithNl h = true ↔ ∃ x, h = x ++ ['\n'] := by
  unfold endsWithNl
  constructor
  · exact fun hh => List.getLast?_eq_some_iff.mp (by simpa using hh)
  · rintro ⟨x, rfl⟩
    simp

theorem terminateIf_true_ends (h : List Char) : ∃ x, terminateIf true h = x ++ ['\n'] := by
  unfold terminateIf
  cases hh : endsWithNl h with
  | true => simpa using (endsWithNl_iff h).mp hh
  | false => exact ⟨h, by simp⟩

/-- The test `dataLines` applies to the lines after the header rows. -/
def isData (l : List Char) : Bool := !isHdr l && !isBlank l

theorem dataLines_eq_filter (ls : List (List Char)) : dataLines ls = ls.filter isData := by
  unfold dataLines hdrRows
  exact drop_takeWhile_filter isHdr isData (fun x hx => by simp [isData, hx]) ls

theorem dataLines_header_rows (hl rs : List (List Char)) (hh : ∀ l ∈ hl, isHdr l = true ∨ isBlank l = true)
    (hr : ∀ l ∈ rs, isHdr l = false ∧ isBlank l = false) : dataLines (hl ++ rs) = rs := by
  rw [dataLines_eq_filter, List.filter_append, List.filter_eq_nil_iff.mpr, List.filter_eq_self.mpr]
  · rfl
  · intro l hl
    simp [isData, (hr l hl).1, (hr l hl).2]
  · intro l hl
    rcases hh l hl with h | h <;> simp [isData, h]

theorem hdrRows_header_rows (hl rs : List (List Char)) (hr : ∀ l ∈ rs, isHdr l = false) :
    hdrRows (hl ++ rs) = hdrRows hl := by
  apply takeWhile_append_of_nil
  cases rs with
  | nil => rfl
  | cons a rs => exact List.takeWhile_cons_of_neg (by simp [hr a List.mem_cons_self])

theorem isHdr_append_of_isHdr {a : List Char} (b : List Char) (h : isHdr a = true) : isHdr (a ++ b) = true := by
  cases a with
  | nil => simp [isHdr] at h
  | cons c a => simpa [isHdr] using h

theorem commentLine_ok (pre : List Char) (hp : isHdr pre = true) (l : List Char) :
    isHdr (commentLine pre l) = true ∨ isBlank (commentLine pre l) = true := by
  unfold commentLine
  split
  · rename_i h; simpa using h
  · exact Or.inl (isHdr_append_of_isHdr l hp)

theorem commentLine_no_nl (pre : List Char) (hpre : '\n' ∉ pre) (l : List Char) (hl : '\n' ∉ l) : '\n' ∉ commentLine pre l := by
  unfold commentLine
  split
  · exact hl
  · exact fun hm => (List.mem_append.mp hm).elim hpre hl

theorem lines_terminateIf_mem (b : Bool) {h l : List Char} (hl : l ∈ lines (terminateIf b h)) : l ∈ splitAll h := by
  unfold terminateIf at hl
  split at hl
  · rw [lines_terminated] at hl; exact splitAll_eq h ▸ by simpa [lines, linesAux] using hl
  · exact lines_mem_splitAll hl

theorem commentised_lines_ok (b : Bool) (pre : List Char) (hp : isHdr pre = true) (hpre : '\n' ∉ pre) (h : List Char) :
    ∀ l ∈ lines (terminateIf b (commentiseWith pre h)), isHdr l = true ∨ isBlank l = true := by
  intro l hl
  have hm := lines_terminateIf_mem b hl
  rw [commentiseWith, splitAll_eq, joinNl_eq, List.splitOn_intercalate] at hm
  · obtain ⟨q, _, rfl⟩ := List.mem_map.mp hm
    exact commentLine_ok pre hp q
  · exact List.forall_mem_map.2 fun q hq => commentLine_no_nl pre hpre q (splitAll_pieces_no_nl h q hq)
  · simp [splitAll_ne_nil]

/-- `toList` first, the filter afterwards: on a list of literals the characters are then read off once, whereas unfolding `filter`
string by string copies the rest of the list under every `if` (`Props.C07.gen_generic_header`). -/
theorem length_filter_toList (q : List Char → Bool) (ss : List String) :
    (ss.filter fun s => q s.toList).length = ((ss.map String.toList).filter q).length := by
  rw [List.filter_map, List.length_map]; rfl

end Navis.SwcText

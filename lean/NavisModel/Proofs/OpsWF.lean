import NavisModel.Proofs.PathLemmas
/-!
`remove_nodes`, `downsample` and `insert_nodes` preserve well-formedness (C01).  The first two link every kept node to a
proper ancestor (`NKA.anc`, `Scan.anc`), so `WF_of_anc` applies; `insert_nodes` exhibits a rank on the result built from a
rank of the input.  The two loops of `downsample` are analysed once (`dsScan_scan`, `dsWalk_pairs`), for C01 and C13.
Beside well-formedness: what `downsample` keeps (`downsample_subset`, `downsample_keeps_fixpoints`), and at the end that
each of the three operations returns its input or freshly classified labels.
-/
namespace Navis.Forest

/-- `FirstKept t S q p`: walking `q, parent q, …`, `p` is the first id that is negative or not in `S`. -/
inductive FirstKept (t : Table) (S : List Int) : Int → Int → Prop
  | stop {q : Int} : (q < 0 ∨ q ∉ S) → FirstKept t S q q
  | step {q q' p : Int} : 0 ≤ q → q ∈ S → parentOf t q = some q' → FirstKept t S q' p → FirstKept t S q p

/-- Nearest kept ancestor: `p` is the nearest proper ancestor of `c` outside `S` (or a negative root marker). -/
def NKA (t : Table) (S : List Int) (c p : Int) : Prop := ∃ q, parentOf t c = some q ∧ FirstKept t S q p

theorem FirstKept.congr {t : Table} {S S' : List Int} (hS : ∀ x, x ∈ S ↔ x ∈ S') {q p : Int}
    (h : FirstKept t S q p) : FirstKept t S' q p := by
  induction h with
  | stop h => exact .stop (by rw [← hS]; exact h)
  | step h0 hq hp _ ih => exact .step h0 ((hS _).mp hq) hp ih

theorem FirstKept.cons_ne {t : Table} {S : List Int} {q p n : Int} (h : FirstKept t S q p) (hne : p ≠ n) :
    FirstKept t (n :: S) q p := by
  induction h with
  | stop h => exact .stop (h.imp id fun h hm => (List.mem_cons.mp hm).elim hne h)
  | step h0 hq hp _ ih => exact .step h0 (List.mem_cons_of_mem _ hq) hp (ih hne)

theorem FirstKept.cons_eq {t : Table} {S : List Int} {q n pn : Int} (h : FirstKept t S q n)
    (hn0 : 0 ≤ n) (hn : NKA t S n pn) (hne : pn ≠ n) : FirstKept t (n :: S) q pn := by
  generalize hx : n = x at h
  induction h with
  | stop _ =>
    subst hx
    obtain ⟨q', hq', hfk⟩ := hn
    exact .step hn0 (by simp) hq' (hfk.cons_ne hne)
  | step h0 hq hp _ ih => exact .step h0 (List.mem_cons_of_mem _ hq) hp (ih hx)

theorem FirstKept.rootPath_find {t : Table} (hw : WF t) {S : List Int} {q p : Int} (h : FirstKept t S q p)
    (hq : q < 0 ∨ q ∈ ids t) :
    (rootPath t q).find? (fun a => !S.contains a) = some p ∨
      ((rootPath t q).find? (fun a => !S.contains a) = none ∧ p < 0) := by
  induction h with
  | @stop q hstop =>
    cases hfd : find? t q with
    | none =>
      rw [rootPath_of_not_mem (find?_none hfd)]
      exact Or.inr ⟨rfl, hq.resolve_right (find?_none hfd)⟩
    | some n =>
      obtain ⟨hn, rfl⟩ := find?_some hfd
      have hnS : n.id ∉ S := hstop.resolve_left (Int.not_lt.mpr (hw.2.1 n hn))
      rw [(rootPath_of_parent hw (parentOf_of_mem hw.1 hn)).1, List.find?_cons]
      left
      simp [hnS]
  | @step q q' p h0 hqS hp hfk ih =>
    obtain ⟨hr, hq'⟩ := rootPath_of_parent hw hp
    rw [hr, List.find?_cons, show (!S.contains q) = false by simpa using hqS]
    exact ih hq'

/-- In a well-formed forest, `NKA t S c p` says: `p` is the first node after `c` on `c`'s root path
that is not in `S`; if there is none, `p` is negative (a root marker). -/
theorem NKA.rootPath {t : Table} (hw : WF t) {S : List Int} {c p : Int} (h : NKA t S c p) :
    (rootPath t c).tail.find? (fun a => !S.contains a) = some p ∨
      ((rootPath t c).tail.find? (fun a => !S.contains a) = none ∧ p < 0) := by
  obtain ⟨q, hq, hfk⟩ := h
  obtain ⟨hr, hq'⟩ := rootPath_of_parent hw hq
  rw [hr, List.tail_cons]
  exact hfk.rootPath_find hw hq'

-- `Forest.rootPath`: inside an `NKA.` declaration the bare name is the lemma `NKA.rootPath` above.
theorem NKA.anc {t : Table} (hw : WF t) {S : List Int} {c p : Int} (h : NKA t S c p) :
    p < 0 ∨ (p ∈ (Forest.rootPath t c).tail ∧ p ∉ S) := by
  rcases h.rootPath hw with hf | ⟨_, hneg⟩
  · exact Or.inr ⟨List.mem_of_find?_eq_some hf, by simpa using List.find?_some hf⟩
  · exact Or.inl hneg

/-- Invariant of the `lop` dictionary after the nodes in `S` were processed. -/
def RmInv (t : Table) (S : List Int) (m : List (Int × Int)) : Prop :=
  m.map Prod.fst = ids t ∧ ∀ e ∈ m, NKA t S e.1 e.2

theorem RmInv.lookup {t : Table} {S : List Int} {m : List (Int × Int)} (hinv : RmInv t S m) {i : Int}
    (hi : i ∈ ids t) (d : Int) : NKA t S i (lookupD m i d) := by
  obtain ⟨e, he, hek, hlk⟩ := lookupD_mem d (hinv.1 ▸ hi)
  rw [hlk, ← hek]; exact hinv.2 e he

theorem RmInv.init {t : Table} (hnd : (ids t).Nodup) : RmInv t [] (t.map fun n => (n.id, n.parent)) := by
  refine ⟨by simp [ids, List.map_map, Function.comp_def], ?_⟩
  intro e he
  obtain ⟨n, hn, rfl⟩ := List.mem_map.mp he
  exact ⟨n.parent, parentOf_of_mem hnd hn, .stop (Or.inr (by simp))⟩

theorem RmInv.step {t : Table} (hw : WF t) {S : List Int} {m : List (Int × Int)} (hinv : RmInv t S m)
    {n : Int} (hn : n ∈ ids t) : RmInv t (n :: S) (removeOne m n) := by
  have hn0 : 0 ≤ n := ids_nonneg hw.2.1 hn
  have hpn := hinv.lookup hn (-1)
  obtain ⟨hkeys, hent⟩ := hinv
  have hne : lookupD m n (-1) ≠ n := by
    rcases hpn.anc hw with h | ⟨h, _⟩
    · omega
    · intro he; rw [he] at h; exact Nat.lt_irrefl _ (dep_lt_of_mem_tail hw h)
  unfold removeOne
  refine ⟨?_, ?_⟩
  · rw [← hkeys, List.map_map]
    apply List.map_congr_left
    intro e _
    simp only [Function.comp]
    split <;> rfl
  · intro e' he'
    obtain ⟨e, he, rfl⟩ := List.mem_map.mp he'
    obtain ⟨q, hq, hfk⟩ := hent e he
    by_cases h2 : e.2 = n
    · rw [if_pos h2]
      exact ⟨q, hq, (h2 ▸ hfk).cons_eq hn0 hpn hne⟩
    · rw [if_neg h2]
      exact ⟨q, hq, hfk.cons_ne h2⟩

theorem RmInv.foldl {t : Table} (hw : WF t) (ws : List Int) (hws : ∀ w ∈ ws, w ∈ ids t) {S : List Int}
    {m : List (Int × Int)} (hinv : RmInv t S m) : RmInv t (ws.reverse ++ S) (ws.foldl removeOne m) := by
  induction ws generalizing S m with
  | nil => simpa using hinv
  | cons w ws ih =>
    have := ih (fun x hx => hws x (List.mem_cons_of_mem _ hx)) (RmInv.step hw hinv (hws w (by simp)))
    simpa using this

theorem removeGuard_iff {t : Table} {which : List Int} :
    which.all (fun w => (ids t).contains w) = true ↔ ∀ w ∈ which, w ∈ ids t := by
  simp [List.all_eq_true]

theorem removeNodes_of_guard {t : Table} {which : List Int} (hg : ∀ w ∈ which, w ∈ ids t) :
    removeNodes t which =
      classify ((t.filter fun n => !which.contains n.id).map fun n =>
        { n with parent := lookupD (which.foldl removeOne (t.map fun n => (n.id, n.parent))) n.id n.parent }) :=
  if_pos (removeGuard_iff.mpr hg)

/-- Where navis raises (an id to remove is not in the table) the model returns its input. -/
theorem removeNodes_of_not_guard {t : Table} {which : List Int} (hg : ¬ ∀ w ∈ which, w ∈ ids t) :
    removeNodes t which = t :=
  if_neg (mt removeGuard_iff.mp hg)

/-- Row-level description of `remove_nodes` (when the guard passes): kept rows are the rows outside
`which`, with id and coordinates unchanged and the parent rewired to the nearest kept ancestor. -/
theorem mem_removeNodes {t : Table} (hw : WF t) {which : List Int} (hg : ∀ w ∈ which, w ∈ ids t) {m : Node}
    (hm : m ∈ removeNodes t which) :
    ∃ n ∈ t, n.id ∉ which ∧ m.id = n.id ∧ m.x = n.x ∧ m.y = n.y ∧ m.z = n.z ∧ NKA t which n.id m.parent := by
  rw [removeNodes_of_guard hg] at hm
  obtain ⟨a, ha, rfl⟩ := mem_classify.mp hm
  obtain ⟨n, hn, rfl⟩ := List.mem_map.mp ha
  obtain ⟨hnt, hnw⟩ := List.mem_filter.mp hn
  refine ⟨n, hnt, by simpa using hnw, rfl, rfl, rfl, rfl, ?_⟩
  obtain ⟨q, hq, hfk⟩ := (RmInv.foldl hw which hg (RmInv.init hw.1)).lookup (mem_ids_of_mem hnt) n.parent
  exact ⟨q, hq, hfk.congr (by simp)⟩

theorem ids_removeNodes {t : Table} {which : List Int} (hg : ∀ w ∈ which, w ∈ ids t) :
    ids (removeNodes t which) = (ids t).filter (fun i => !which.contains i) := by
  rw [removeNodes_of_guard hg, ids_classify, ← ids_filter t (fun i => !which.contains i)]
  simp [ids, List.map_map, Function.comp_def]

theorem WF_removeNodes {t : Table} (hw : WF t) (which : List Int) : WF (removeNodes t which) := by
  by_cases hg : ∀ w ∈ which, w ∈ ids t
  · refine WF_of_anc hw (by rw [ids_removeNodes hg]; exact hw.1.filter _) fun m hm => ?_
    obtain ⟨n, hn, _, hid, _, _, _, hnka⟩ := mem_removeNodes hw hg hm
    rw [hid, ids_removeNodes hg]
    exact ⟨hw.2.1 n hn, (hnka.anc hw).imp_right fun ⟨h1, h2⟩ =>
      ⟨List.mem_filter.mpr ⟨rootPath_sub (List.mem_of_mem_tail h1), by simpa using h2⟩, h1⟩⟩
  · rw [removeNodes_of_not_guard hg]; exact hw

/-- Fix points of `downsample`: non-slab (by current label) or preserved. -/
def dsFix (t : Table) (pres : List Int) (i : Int) : Bool :=
  match find? t i with
  | some n => n.label != .slab || pres.contains i
  | none => false

theorem dsFix_mem {t : Table} {pres : List Int} {i : Int} (h : dsFix t pres i = true) : i ∈ ids t := by
  unfold dsFix at h
  cases hf : find? t i with
  | none => rw [hf] at h; simp at h
  | some n => exact mem_ids.mpr ⟨n, (find?_some hf).1, (find?_some hf).2⟩

theorem dsFix_of_mem {t : Table} (hnd : (ids t).Nodup) {pres : List Int} {n : Node} (hn : n ∈ t)
    (h : n.label ≠ .slab ∨ n.id ∈ pres) : dsFix t pres n.id = true := by
  unfold dsFix
  rw [find?_of_mem hnd hn]
  rcases h with h | h
  · simp [h]
  · simp [h]

/-- The `new_parents` dictionary as a list of assignments, in the order navis records them. -/
def dsPairs (t : Table) (f : Option Nat) (pres : List Int) : List (Int × Int) :=
  ((ids t).filter (dsFix t pres)).flatMap fun e => dsWalk t (dsFix t pres) f (t.length + 1) e

theorem mem_dsPairs {t : Table} {f : Option Nat} {pres : List Int} {e : Int × Int} :
    e ∈ dsPairs t f pres ↔
      ∃ x, (x ∈ ids t ∧ dsFix t pres x = true) ∧ e ∈ dsWalk t (dsFix t pres) f (t.length + 1) x := by
  simp only [dsPairs, List.mem_flatMap, List.mem_filter]

theorem downsample_eq (t : Table) (f : Option Nat) (pres : List Int) :
    downsample t f pres =
      if t.length ≤ 1 then t else
        classify ((t.filter fun n => (dsPairs t f pres).any fun e => e.1 == n.id).map fun n =>
          { n with parent := lookupD (dsPairs t f pres).reverse n.id n.parent }) := rfl

/-- `i < factor` failed (`factor = inf` never fails). -/
def dsLimit (f : Option Nat) (i : Nat) : Bool :=
  match f with
  | some k => decide (k ≤ i)
  | none => false

theorem dsLimit_iff {f : Option Nat} {i : Nat} : dsLimit f i = true ↔ ∃ k, f = some k ∧ k ≤ i := by
  cases f <;> simp [dsLimit]

theorem dsWalk_succ (t : Table) (fixB : Int → Bool) (f : Option Nat) (fuel : Nat) (this : Int) :
    dsWalk t fixB f (fuel + 1) this =
      match parentOf t this with
      | none => []
      | some p =>
        if p < 0 then [(this, -1)] else
        if (dsScan t fixB f (t.length + 1) p 0).2 then [(this, (dsScan t fixB f (t.length + 1) p 0).1)]
        else (this, (dsScan t fixB f (t.length + 1) p 0).1) ::
          dsWalk t fixB f fuel (dsScan t fixB f (t.length + 1) p 0).1 := rfl

/-- A walk from a table node records that node first, whatever comes after. -/
theorem dsWalk_head (t : Table) (fixB : Int → Bool) (f : Option Nat) {fuel : Nat} (hf : 0 < fuel) {this : Int}
    (h : this ∈ ids t) : ∃ e ∈ dsWalk t fixB f fuel this, e.1 = this := by
  obtain ⟨g, rfl⟩ := Nat.exists_eq_succ_of_ne_zero (Nat.ne_of_gt hf)
  obtain ⟨p, hp⟩ := parentOf_isSome_of_mem h
  rw [dsWalk_succ, hp]
  simp only
  split
  · exact ⟨_, List.mem_cons_self, rfl⟩
  · split
    · exact ⟨_, List.mem_cons_self, rfl⟩
    · exact ⟨_, List.mem_cons_self, rfl⟩

/-- `Scan t fixB p j q`: the inner `while i < factor` loop passed over `j` consecutive non-fix nodes starting at `p`
and arrived at `q`. -/
inductive Scan (t : Table) (fixB : Int → Bool) : Int → Nat → Int → Prop
  | here (p : Int) : Scan t fixB p 0 p
  | skip {p p' q : Int} {j : Nat} : 0 ≤ p → fixB p = false → parentOf t p = some p' → Scan t fixB p' j q →
      Scan t fixB p (j + 1) q

theorem Scan.of_neg {t : Table} {fixB : Int → Bool} {p q : Int} {j : Nat} (h : Scan t fixB p j q) (hp : p < 0) :
    j = 0 ∧ q = p := by
  cases h with
  | here => exact ⟨rfl, rfl⟩
  | skip h0 _ _ _ => omega

/-- A scan ends on the root path of its start, or on the negative parent of a root. -/
theorem Scan.anc {t : Table} (hw : WF t) {fixB : Int → Bool} {p q : Int} {j : Nat} (h : Scan t fixB p j q)
    (hp : p ∈ ids t) : q < 0 ∨ q ∈ rootPath t p := by
  induction h with
  | here p => exact Or.inr (rootPath_head_mem hp)
  | skip _ _ hpp hsc ih =>
    obtain ⟨hr, hq'⟩ := rootPath_of_parent hw hpp
    rcases hq' with hneg | hin
    · exact Or.inl ((hsc.of_neg hneg).2 ▸ hneg)
    · exact (ih hin).imp_right fun h => hr ▸ List.mem_cons_of_mem _ h

/-- The inner loop, with fuel for the depth of its start: it scans, uses up the factor exactly when it does not report
`stop`, and reports `stop` only on a fix point or past a root. -/
theorem dsScan_scan {t : Table} (hw : WF t) (fixB : Int → Bool) (f : Option Nat) (fuel : Nat) (p : Int) (i : Nat)
    (hp : p < 0 ∨ p ∈ ids t) (hf : dep t p < fuel) (hi : ∀ k, f = some k → i ≤ k) :
    ∃ j, Scan t fixB p j (dsScan t fixB f fuel p i).1 ∧
      ((dsScan t fixB f fuel p i).2 = false → f = some (i + j)) ∧
      (∀ k, f = some k → i + j ≤ k) ∧
      ((dsScan t fixB f fuel p i).2 = true →
        (dsScan t fixB f fuel p i).1 < 0 ∨ fixB (dsScan t fixB f fuel p i).1 = true) := by
  fun_induction dsScan t fixB f fuel p i with
  | case1 => exact absurd hf (Nat.not_lt_zero _)
  | case2 fuel p i hc1 =>
    obtain ⟨k, hk, hki⟩ := dsLimit_iff.mp (hc1 : dsLimit f i = true)
    have := hi k hk
    refine ⟨0, .here p, fun _ => ?_, fun k' hk' => ?_, nofun⟩
    · rw [hk]; congr 1; omega
    · rw [hk] at hk'; cases hk'; omega
  | case3 fuel p i hc1 hc =>
    exact ⟨0, .here p, nofun, fun k hk => by have := hi k hk; omega, fun _ => by simpa using hc⟩
  | case4 fuel p i hc1 hc ih =>
    have hc' : ¬ p < 0 ∧ fixB p = false := by simpa using hc
    obtain ⟨p', hp'⟩ := parentOf_isSome_of_mem (hp.resolve_left hc'.1)
    have hdep := dep_of_parent hw hp'
    rw [hp'] at ih ⊢
    have hlim : ∀ k, f = some k → i < k :=
      fun k hk => Nat.lt_of_not_le fun h => hc1 (dsLimit_iff.mpr ⟨k, hk, h⟩)
    obtain ⟨j, h1, h3, h4, h5⟩ := ih (rootPath_of_parent hw hp').2 (by simp only [Option.getD_some]; omega)
      (fun k hk => by have := hlim k hk; omega)
    refine ⟨j + 1, .skip (by omega) hc'.2 hp' h1, fun hs => ?_, fun k hk => ?_, h5⟩
    · rw [h3 hs]; congr 1; omega
    · have := h4 k hk; omega

/-- What a recorded assignment `(node, new parent)` satisfies. -/
def PairOK (t : Table) (fixB : Int → Bool) (f : Option Nat) (e : Int × Int) : Prop :=
  e.1 ∈ ids t ∧ ∃ p, parentOf t e.1 = some p ∧
    ((p < 0 ∧ e.2 = -1) ∨ (0 ≤ p ∧ ∃ j, Scan t fixB p j e.2 ∧ ∀ k, f = some k → j ≤ k))

/-- One outer walk, with fuel for the depth of its start: every record is a `PairOK`; its new parent is negative, a fix
point or the start of a later record of the same walk; and what holds at the start and is carried over a scan that used
up its budget (`I`) holds at the start of every record. -/
theorem dsWalk_pairs {t : Table} (hw : WF t) (fixB : Int → Bool) (f : Option Nat) {I : Int → Prop}
    (hI : ∀ {v p q : Int} {j : Nat}, I v → parentOf t v = some p → Scan t fixB p j q → f = some j → q ∈ ids t → I q)
    (fuel : Nat) (this : Int) (hph : this ∈ ids t → I this) (hf : dep t this ≤ fuel) :
    ∀ e ∈ dsWalk t fixB f fuel this, PairOK t fixB f e ∧ I e.1 ∧
      (e.2 < 0 ∨ fixB e.2 = true ∨ ∃ e' ∈ dsWalk t fixB f fuel this, e'.1 = e.2) := by
  -- `induction fuel`, not `fun_induction`: the three cases with a parent share `hin`, `hthis` and the scan facts
  induction fuel generalizing this with
  | zero => intro e he; simp [dsWalk] at he
  | succ g ih =>
    rw [dsWalk_succ]
    cases hp : parentOf t this with
    | none => intro e he; simp at he
    | some p =>
      obtain ⟨n, _, hn, hid, _⟩ := parentOf_some hp
      have hin : this ∈ ids t := hid ▸ mem_ids_of_mem hn
      have hthis := hph hin
      have hdep := dep_of_parent hw hp
      simp only
      by_cases hneg : p < 0
      · rw [if_pos hneg]
        intro e he
        rw [List.mem_singleton.mp he]
        exact ⟨⟨hin, p, hp, Or.inl ⟨hneg, rfl⟩⟩, hthis, Or.inl (show (-1 : Int) < 0 by decide)⟩
      · rw [if_neg hneg]
        have hpin := (rootPath_of_parent hw hp).2.resolve_left hneg
        obtain ⟨j, h1, h3, h4, h5⟩ := dsScan_scan hw fixB f (t.length + 1) p 0 (Or.inr hpin)
          (Nat.lt_succ_of_le (dep_le hw p)) (fun k _ => Nat.zero_le k)
        simp only [Nat.zero_add] at h3 h4
        generalize dsScan t fixB f (t.length + 1) p 0 = r at h1 h3 h5
        have hhead : PairOK t fixB f (this, r.1) := ⟨hin, p, hp, Or.inr ⟨by omega, j, h1, h4⟩⟩
        by_cases hstop : r.2 = true
        · rw [if_pos hstop]
          intro e he
          rw [List.mem_singleton.mp he]
          exact ⟨hhead, hthis, (h5 hstop).imp_right Or.inl⟩
        · rw [if_neg hstop]
          -- the next start is no deeper than `p`, so the fuel left covers it
          have hr : r.1 ∈ ids t → dep t r.1 ≤ g := fun hmem => by
            have := dep_le_of_mem hw ((h1.anc hw hpin).resolve_left (Int.not_lt.mpr (ids_nonneg hw.2.1 hmem)))
            omega
          have hrec := ih r.1 (fun hmem => hI hthis hp h1 (h3 (by simpa using hstop)) hmem) (by
            by_cases hmem : r.1 ∈ ids t
            · exact hr hmem
            · rw [dep_of_not_mem hmem]; exact Nat.zero_le _)
          intro e he
          rcases List.mem_cons.mp he with rfl | he
          · refine ⟨hhead, hthis, (h1.anc hw hpin).imp_right fun h => Or.inr ?_⟩
            have hmem := rootPath_sub h
            obtain ⟨e', he', hee⟩ := dsWalk_head t fixB f (Nat.lt_of_lt_of_le (dep_pos hmem) (hr hmem)) hmem
            exact ⟨e', List.mem_cons_of_mem _ he', hee⟩
          · obtain ⟨a, b, c⟩ := hrec e he
            exact ⟨a, b, c.imp_right (Or.imp_right fun ⟨e', he', h⟩ => ⟨e', List.mem_cons_of_mem _ he', h⟩)⟩

/-- All recorded assignments: a scan from the old parent, the invariant at the start, and a new parent that is negative
or itself has an assignment (hence is kept). -/
theorem dsPairs_pairs {t : Table} (hw : WF t) (f : Option Nat) (pres : List Int) {I : Int → Prop}
    (hI : ∀ {v p q : Int} {j : Nat}, I v → parentOf t v = some p → Scan t (dsFix t pres) p j q → f = some j →
      q ∈ ids t → I q)
    (hfix : ∀ x ∈ ids t, dsFix t pres x = true → I x) :
    ∀ e ∈ dsPairs t f pres, PairOK t (dsFix t pres) f e ∧ I e.1 ∧ (e.2 < 0 ∨ ∃ e' ∈ dsPairs t f pres, e'.1 = e.2) := by
  intro e he
  obtain ⟨x, hx, hex⟩ := mem_dsPairs.mp he
  obtain ⟨a, b, c⟩ := dsWalk_pairs hw _ f hI _ x (fun _ => hfix x hx.1 hx.2) (Nat.le_succ_of_le (dep_le hw x)) e hex
  refine ⟨a, b, c.imp_right ?_⟩
  rintro (c | ⟨e', he', hee⟩)
  · obtain ⟨e', he', hee⟩ := dsWalk_head t (dsFix t pres) f (Nat.succ_pos t.length) (dsFix_mem c)
    exact ⟨e', mem_dsPairs.mpr ⟨e.2, ⟨dsFix_mem c, c⟩, he'⟩, hee⟩
  · exact ⟨e', mem_dsPairs.mpr ⟨x, hx, he'⟩, hee⟩

theorem mem_any_fst {P : List (Int × Int)} {i : Int} : (P.any fun e => e.1 == i) = true ↔ ∃ e ∈ P, e.1 = i := by
  simp [List.any_eq_true]

theorem mem_downsample {t : Table} {f : Option Nat} {pres : List Int} (hlen : ¬ t.length ≤ 1) {m : Node}
    (hm : m ∈ downsample t f pres) :
    ∃ n ∈ t, m.id = n.id ∧ m.x = n.x ∧ m.y = n.y ∧ m.z = n.z ∧
      ∃ e ∈ dsPairs t f pres, e.1 = n.id ∧ m.parent = e.2 := by
  rw [downsample_eq, if_neg hlen] at hm
  obtain ⟨a, ha, rfl⟩ := mem_classify.mp hm
  obtain ⟨n, hn, rfl⟩ := List.mem_map.mp ha
  obtain ⟨hnt, hany⟩ := List.mem_filter.mp hn
  obtain ⟨e0, he0, he0k⟩ := mem_any_fst.mp hany
  have hk : n.id ∈ (dsPairs t f pres).reverse.map Prod.fst :=
    List.mem_map.mpr ⟨e0, List.mem_reverse.mpr he0, he0k⟩
  obtain ⟨e, he, hek, hlk⟩ := lookupD_mem n.parent hk
  exact ⟨n, hnt, rfl, rfl, rfl, rfl, e, List.mem_reverse.mp he, hek, hlk⟩

theorem ids_downsample {t : Table} {f : Option Nat} {pres : List Int} (hlen : ¬ t.length ≤ 1) :
    ids (downsample t f pres) = (ids t).filter (fun i => (dsPairs t f pres).any fun e => e.1 == i) := by
  rw [downsample_eq, if_neg hlen, ids_classify,
    ← ids_filter t (fun i => (dsPairs t f pres).any fun e => e.1 == i)]
  simp [ids, List.map_map, Function.comp_def]

theorem WF_downsample {t : Table} (hw : WF t) (f : Option Nat) (pres : List Int) : WF (downsample t f pres) := by
  by_cases hlen : t.length ≤ 1
  · rw [downsample_eq, if_pos hlen]; exact hw
  · refine WF_of_anc hw (by rw [ids_downsample hlen]; exact hw.1.filter _) fun m hm => ?_
    obtain ⟨n, hn, hid, _, _, _, e, he, hek, hmp⟩ := mem_downsample hlen hm
    obtain ⟨⟨_, p, hpp, hcase⟩, _, hkept⟩ :=
      dsPairs_pairs hw f pres (I := fun _ => True) (fun _ _ _ _ _ => trivial) (fun _ _ _ => trivial) e he
    rw [hid, hmp]
    refine ⟨hw.2.1 n hn, ?_⟩
    rcases hcase with ⟨_, h⟩ | ⟨h0, j, hsc, _⟩
    · exact Or.inl (h ▸ by decide)
    · by_cases hneg : e.2 < 0
      · exact Or.inl hneg
      · right
        obtain ⟨hr, hq⟩ := rootPath_of_parent hw hpp
        have hanc := (hsc.anc hw (hq.resolve_left (Int.not_lt.mpr h0))).resolve_left hneg
        obtain ⟨e', he', hee⟩ := hkept.resolve_left hneg
        rw [ids_downsample hlen, List.mem_filter, ← hek, hr]
        exact ⟨⟨rootPath_sub hanc, mem_any_fst.mpr ⟨e', he', hee⟩⟩, hanc⟩

theorem downsample_subset (t : Table) (f : Option Nat) (pres : List Int) :
    ∀ m ∈ downsample t f pres, ∃ n ∈ t, n.id = m.id ∧ n.x = m.x ∧ n.y = m.y ∧ n.z = m.z := by
  intro m hm
  by_cases hlen : t.length ≤ 1
  · rw [downsample_eq, if_pos hlen] at hm
    exact ⟨m, hm, rfl, rfl, rfl, rfl⟩
  · obtain ⟨n, hn, h1, h2, h3, h4, _⟩ := mem_downsample hlen hm
    exact ⟨n, hn, h1.symm, h2.symm, h3.symm, h4.symm⟩

theorem downsample_keeps_fixpoints {t : Table} (hw : WF t) (f : Option Nat) (pres : List Int) {n : Node}
    (hn : n ∈ t) (hfix : n.label ≠ .slab ∨ n.id ∈ pres) : n.id ∈ ids (downsample t f pres) := by
  by_cases hlen : t.length ≤ 1
  · rw [downsample_eq, if_pos hlen]; exact mem_ids_of_mem hn
  · have hin := mem_ids_of_mem hn
    obtain ⟨e, he, hee⟩ := dsWalk_head t (dsFix t pres) f (Nat.succ_pos t.length) hin
    rw [ids_downsample hlen, List.mem_filter]
    exact ⟨hin, mem_any_fst.mpr ⟨e, mem_dsPairs.mpr ⟨n.id, ⟨hin, dsFix_of_mem hw.1 hn hfix⟩, he⟩, hee⟩⟩

theorem maxId_nonneg (t : Table) : 0 ≤ maxId t := (foldl_max_int (ids t) 0).1 0 List.mem_cons_self

/-- Every id is at most `maxId`, so ids from `maxId + 1` on are fresh. -/
theorem le_maxId {t : Table} {i : Int} (hi : i ∈ ids t) : i ≤ maxId t := 
  (foldl_max_int (ids t) 0).1 i (List.mem_cons_of_mem _ hi)

def insRemap (t : Table) (edgesPC : List (Int × Int)) : List (Int × Int) :=
  edgesPC.zipIdx.map fun (e, k) => (e.2, maxId t + 1 + k)

def insNew (t : Table) (edgesPC : List (Int × Int)) (coords : List (Int × Int × Int)) : Table :=
  edgesPC.zipIdx.map fun (e, k) =>
    ({ id := maxId t + 1 + k, parent := e.1, x := (coords.getD k (0, 0, 0)).1,
       y := (coords.getD k (0, 0, 0)).2.1, z := (coords.getD k (0, 0, 0)).2.2 } : Node)

def insOld (t : Table) (edgesPC : List (Int × Int)) : Table :=
  t.map fun n =>
    match (insRemap t edgesPC).reverse.find? (fun e => e.1 == n.id) with
    | some e => { n with parent := e.2 }
    | none => n

theorem insertNodes_eq (t : Table) (edgesPC : List (Int × Int)) (coords : List (Int × Int × Int)) :
    insertNodes t edgesPC coords = classify (insOld t edgesPC ++ insNew t edgesPC coords) := rfl

theorem mem_insNew {t : Table} {edgesPC : List (Int × Int)} {coords : List (Int × Int × Int)} {m : Node}
    (hm : m ∈ insNew t edgesPC coords) :
    ∃ (k : Nat) (e : Int × Int), edgesPC[k]? = some e ∧ m.id = maxId t + 1 + k ∧ m.parent = e.1 := by
  unfold insNew at hm
  obtain ⟨⟨e, k⟩, hx, rfl⟩ := List.mem_map.mp hm
  exact ⟨k, e, List.mem_zipIdx_iff_getElem?.mp hx, rfl, rfl⟩

theorem ids_insNew (t : Table) (edgesPC : List (Int × Int)) (coords : List (Int × Int × Int)) :
    ids (insNew t edgesPC coords) = (List.range' 0 edgesPC.length).map fun (k : Nat) => maxId t + 1 + (k : Int) := by
  unfold insNew ids
  rw [← List.zipIdx_map_snd 0 edgesPC, List.map_map, List.map_map]
  rfl

theorem mem_ids_insNew {t : Table} {edgesPC : List (Int × Int)} {coords : List (Int × Int × Int)} {i : Int} :
    i ∈ ids (insNew t edgesPC coords) ↔ ∃ k : Nat, k < edgesPC.length ∧ i = maxId t + 1 + k := by
  rw [ids_insNew]
  simp only [List.mem_map, List.mem_range'_1]
  constructor
  · rintro ⟨k, ⟨_, hk⟩, rfl⟩; exact ⟨k, by omega, rfl⟩
  · rintro ⟨k, hk, rfl⟩; exact ⟨k, ⟨by omega, by omega⟩, rfl⟩

theorem ids_insOld (t : Table) (edgesPC : List (Int × Int)) : ids (insOld t edgesPC) = ids t := by
  unfold insOld ids
  rw [List.map_map]
  apply List.map_congr_left
  intro n _
  simp only [Function.comp]
  split <;> rfl

theorem mem_insOld {t : Table} {edgesPC : List (Int × Int)} {m : Node} (hm : m ∈ insOld t edgesPC) :
    ∃ n ∈ t, m.id = n.id ∧
      ((∃ (k : Nat) (e : Int × Int), edgesPC[k]? = some e ∧ e.2 = n.id ∧ m.parent = maxId t + 1 + k) ∨
        m.parent = n.parent) := by
  unfold insOld at hm
  obtain ⟨n, hn, rfl⟩ := List.mem_map.mp hm
  refine ⟨n, hn, ?_⟩
  split
  · rename_i e he
    refine ⟨rfl, Or.inl ?_⟩
    have hmem := List.mem_reverse.mp (List.mem_of_find?_eq_some he)
    have hkey : e.1 = n.id := by simpa using List.find?_some he
    unfold insRemap at hmem
    obtain ⟨⟨e0, k⟩, hx, rfl⟩ := List.mem_map.mp hmem
    exact ⟨k, e0, List.mem_zipIdx_iff_getElem?.mp hx, hkey, rfl⟩
  · exact ⟨rfl, Or.inr rfl⟩

/-- **`insert_nodes` preserves well-formedness** whenever every requested `(parent, child)` pair is an
edge of the skeleton (the condition navis validates before inserting).  The rank: an old node gets `2 · rk + 2`, the
new node on the edge `(p, c)` gets `2 · rk c + 1`, strictly between its child `c` and its parent `p`. -/
theorem WF_insertNodes {t : Table} (hw : WF t) (edgesPC : List (Int × Int)) (coords : List (Int × Int × Int))
    (hg : ∀ e ∈ edgesPC, ∃ n ∈ t, n.id = e.2 ∧ n.parent = e.1) : WF (insertNodes t edgesPC coords) := by
  rw [insertNodes_eq]
  apply WF_classify
  obtain ⟨hnd, hpos, rk, hrk⟩ := hw
  have hmax := maxId_nonneg t
  let rk' : Int → Nat := fun i =>
    if i ≤ maxId t then 2 * rk i + 2
    else 2 * rk ((edgesPC[(i - (maxId t + 1)).toNat]?.getD (0, 0)).2) + 1
  have rk_old : ∀ i, i ∈ ids t → rk' i = 2 * rk i + 2 := fun i hi => if_pos (le_maxId hi)
  have rk_new : ∀ (k : Nat) (e : Int × Int), edgesPC[k]? = some e → rk' (maxId t + 1 + k) = 2 * rk e.2 + 1 := by
    intro k e he
    have h1 : ¬ (maxId t + 1 + (k : Int) ≤ maxId t) := by omega
    have h2 : (maxId t + 1 + (k : Int) - (maxId t + 1)).toNat = k := by omega
    show (if maxId t + 1 + (k : Int) ≤ maxId t then _ else _) = _
    rw [if_neg h1, h2, he]; rfl
  refine ⟨?_, ?_, rk', ?_⟩
  · rw [ids_append, ids_insOld, List.nodup_append]
    refine ⟨hnd, ?_, ?_⟩
    · rw [ids_insNew]
      exact List.Pairwise.map _ (fun a b (h : a ≠ b) => by omega) (List.nodup_range' (s := 0) (n := edgesPC.length))
    · intro a ha b hb
      obtain ⟨k, _, rfl⟩ := mem_ids_insNew.mp hb
      have := le_maxId ha
      omega
  · intro m hm
    rcases List.mem_append.mp hm with hm | hm
    · obtain ⟨n, hn, hid, _⟩ := mem_insOld hm
      rw [hid]; exact hpos n hn
    · obtain ⟨k, e, _, hid, _⟩ := mem_insNew hm
      omega
  · intro m hm
    rw [ids_append, ids_insOld]
    rcases List.mem_append.mp hm with hm | hm
    · obtain ⟨n, hn, hid, hpar⟩ := mem_insOld hm
      have hin : m.id ∈ ids t := hid ▸ mem_ids_of_mem hn
      rcases hpar with ⟨k, e, he, hen, hmp⟩ | hmp
      · right
        refine ⟨List.mem_append_right _ (mem_ids_insNew.mpr ⟨k, (List.getElem?_eq_some_iff.mp he).1, hmp⟩), ?_⟩
        rw [hmp, rk_new k e he, rk_old _ hin, hen, hid]
        omega
      · rcases hrk n hn with h | ⟨h1, h2⟩
        · exact Or.inl (hmp ▸ h)
        · right
          refine ⟨List.mem_append_left _ (hmp ▸ h1), ?_⟩
          rw [hmp, rk_old _ h1, rk_old _ hin, hid]
          omega
    · obtain ⟨k, e, he, hid, hmp⟩ := mem_insNew hm
      obtain ⟨n, hn, hn2, hn1⟩ := hg e (List.mem_of_getElem? he)
      rcases hrk n hn with h | ⟨h1, h2⟩
      · exact Or.inl (by rw [hmp, ← hn1]; exact h)
      · right
        rw [hn1] at h1 h2
        rw [hn2] at h2
        refine ⟨List.mem_append_left _ (hmp ▸ h1), ?_⟩
        rw [hmp, hid, rk_new k e he, rk_old _ h1]
        omega

/-! ### labels after operations that end in `classify_nodes` -/

theorem labels_removeNodes (t : Table) (which : List Int) :
    removeNodes t which = t ∨ labelsOKB (removeNodes t which) = true := by
  by_cases hg : ∀ w ∈ which, w ∈ ids t
  · exact Or.inr (removeNodes_of_guard hg ▸ labelsOKB_classify _)
  · exact Or.inl (removeNodes_of_not_guard hg)

theorem labels_downsample (t : Table) (f : Option Nat) (pres : List Int) :
    downsample t f pres = t ∨ labelsOKB (downsample t f pres) = true := by
  rw [downsample_eq]
  split
  · exact Or.inl rfl
  · exact Or.inr (labelsOKB_classify _)

theorem labelsOKB_insertNodes (t : Table) (edgesPC : List (Int × Int)) (coords : List (Int × Int × Int)) :
    labelsOKB (insertNodes t edgesPC coords) = true := by
  rw [insertNodes_eq]; exact labelsOKB_classify _

end Navis.Forest

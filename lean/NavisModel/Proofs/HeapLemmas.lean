import NavisModel.Model.Heap
import NavisModel.Proofs.ListLemmas
/-!
The heap model of `Model/Heap.lean`: four relations carry the proofs.

* `Ext s t` — every data / object / list cell of `s` is present and unchanged in `t` (the call only allocated);
* `Inv s0 t y v` — the receiver `y` is an object allocated after `s0` whose attributes are bound to cells allocated
  after `s0`, except possibly the graph attribute while it is a view (`v` over-approximates the view flag);
* `Sep t o` — the receiver is a valid object whose attributes are bound to pairwise distinct, valid data cells;
  under `Sep` the concrete semantics `exec` refines the address-free semantics `aexec`;
* `Loc s t o` — an in-place run changed nothing but `o`'s own record and cells.

The clauses of `Inv` and `Sep` that speak of the receiver's record are predicates on records (`Owned`, `SepRec`), each with one
lemma about `Obj.set`, by which every statement builds its record.  `Disj` (two objects share no container) is what lets `Loc` speak
of the other members of a list: the facts about one `call` are lifted to `map_neuronlist` over the members, parallel (`parCalls`)
and serial (`mapCalls`).  At the end: the run-time checkers, the always-changing write `bump`, the lock decorator.
-/
namespace Navis.Heap

structure Ext (s t : Store) : Prop where
  dlen : s.data.length ≤ t.data.length
  dget : ∀ r, r < s.data.length → t.data[r]? = s.data[r]?
  olen : s.objs.length ≤ t.objs.length
  oget : ∀ o, o < s.objs.length → t.objs[o]? = s.objs[o]?
  llen : s.lists.length ≤ t.lists.length
  lget : ∀ l, l < s.lists.length → t.lists[l]? = s.lists[l]?

theorem Ext.refl (s : Store) : Ext s s :=
  ⟨Nat.le_refl _, fun _ _ => rfl, Nat.le_refl _, fun _ _ => rfl, Nat.le_refl _, fun _ _ => rfl⟩

theorem Ext.trans {s t u : Store} (h1 : Ext s t) (h2 : Ext t u) : Ext s u where
  dlen := Nat.le_trans h1.dlen h2.dlen
  dget r hr := (h2.dget r (Nat.lt_of_lt_of_le hr h1.dlen)).trans (h1.dget r hr)
  olen := Nat.le_trans h1.olen h2.olen
  oget o ho := (h2.oget o (Nat.lt_of_lt_of_le ho h1.olen)).trans (h1.oget o ho)
  llen := Nat.le_trans h1.llen h2.llen
  lget l hl := (h2.lget l (Nat.lt_of_lt_of_le hl h1.llen)).trans (h1.lget l hl)

theorem Ext.rd {s t : Store} (h : Ext s t) {r : Ref} (hr : r < s.data.length) : t.rd r = s.rd r :=
  congrArg (·.getD 0) (h.dget r hr)

theorem Ext.obj {s t : Store} (h : Ext s t) {o : Ref} (ho : o < s.objs.length) : t.obj o = s.obj o :=
  congrArg (·.getD {}) (h.oget o ho)

theorem Ext.lst {s t : Store} (h : Ext s t) {l : Ref} (hl : l < s.lists.length) : t.lst l = s.lst l :=
  congrArg (·.getD []) (h.lget l hl)

theorem Ext.wr_fresh {s0 t : Store} (h : Ext s0 t) {r : Ref} (hr : s0.data.length ≤ r) (v : Int) :
    Ext s0 (t.wr r v) :=
  { h with
    dlen := (List.length_set ..).symm ▸ h.dlen
    dget := fun q hq => (List.getElem?_set_ne (Nat.ne_of_gt (Nat.lt_of_lt_of_le hq hr))).trans (h.dget q hq) }

theorem Ext.allocD {s0 t : Store} (h : Ext s0 t) (v : Int) : Ext s0 (t.allocD v).1 :=
  { h with
    dlen := Nat.le_trans h.dlen (List.length_append ▸ Nat.le_add_right ..)
    dget := fun q hq => (List.getElem?_append_left (Nat.lt_of_lt_of_le hq h.dlen)).trans (h.dget q hq) }

theorem Ext.setObj_fresh {s0 t : Store} (h : Ext s0 t) {o : Ref} (ho : s0.objs.length ≤ o) (ob : Obj) :
    Ext s0 (t.setObj o ob) :=
  { h with
    olen := (List.length_set ..).symm ▸ h.olen
    oget := fun q hq => (List.getElem?_set_ne (Nat.ne_of_gt (Nat.lt_of_lt_of_le hq ho))).trans (h.oget q hq) }

theorem Ext.allocObj {s0 t : Store} (h : Ext s0 t) (ob : Obj) : Ext s0 (t.allocObj ob).1 :=
  { h with
    olen := Nat.le_trans h.olen (List.length_append ▸ Nat.le_add_right ..)
    oget := fun q hq => (List.getElem?_append_left (Nat.lt_of_lt_of_le hq h.olen)).trans (h.oget q hq) }

theorem Ext.allocLst {s0 t : Store} (h : Ext s0 t) (xs : List Ref) : Ext s0 (t.allocLst xs).1 :=
  { h with
    llen := Nat.le_trans h.llen (List.length_append ▸ Nat.le_add_right ..)
    lget := fun q hq => (List.getElem?_append_left (Nat.lt_of_lt_of_le hq h.llen)).trans (h.lget q hq) }

theorem valid_of_nodes {u : Store} {x r : Ref} (h : (u.obj x).nodes = some r) : x < u.objs.length :=
  Nat.lt_of_not_le fun hx => by
    rw [Store.obj, List.getElem?_eq_none hx] at h; cases h

@[simp] theorem obj_setObj_same {t : Store} {o : Ref} (ho : o < t.objs.length) (ob : Obj) :
    (t.setObj o ob).obj o = ob := by
  simp [Store.setObj, Store.obj, ho]

theorem obj_setObj_ne {t : Store} {o o' : Ref} (h : o ≠ o') (ob : Obj) :
    (t.setObj o ob).obj o' = t.obj o' := by
  simp [Store.setObj, Store.obj, List.getElem?_set_ne h]

@[simp] theorem rd_setObj (t : Store) (o : Ref) (ob : Obj) (r : Ref) : (t.setObj o ob).rd r = t.rd r := rfl
@[simp] theorem data_setObj (t : Store) (o : Ref) (ob : Obj) : (t.setObj o ob).data = t.data := rfl
@[simp] theorem objs_length_setObj (t : Store) (o : Ref) (ob : Obj) :
    (t.setObj o ob).objs.length = t.objs.length := List.length_set ..
@[simp] theorem lists_setObj (t : Store) (o : Ref) (ob : Obj) : (t.setObj o ob).lists = t.lists := rfl
@[simp] theorem obj_wr (t : Store) (r : Ref) (v : Int) (o : Ref) : (t.wr r v).obj o = t.obj o := rfl
@[simp] theorem objs_wr (t : Store) (r : Ref) (v : Int) : (t.wr r v).objs = t.objs := rfl
@[simp] theorem lists_wr (t : Store) (r : Ref) (v : Int) : (t.wr r v).lists = t.lists := rfl
@[simp] theorem data_length_wr (t : Store) (r : Ref) (v : Int) : (t.wr r v).data.length = t.data.length :=
  List.length_set ..
@[simp] theorem obj_allocD (t : Store) (v : Int) (o : Ref) : (t.allocD v).1.obj o = t.obj o := rfl
@[simp] theorem objs_allocD (t : Store) (v : Int) : (t.allocD v).1.objs = t.objs := rfl
@[simp] theorem lists_allocD (t : Store) (v : Int) : (t.allocD v).1.lists = t.lists := rfl
@[simp] theorem snd_allocD (t : Store) (v : Int) : (t.allocD v).2 = t.data.length := rfl
@[simp] theorem data_length_allocD (t : Store) (v : Int) : (t.allocD v).1.data.length = t.data.length + 1 :=
  List.length_append

theorem rd_wr_same {t : Store} {r : Ref} (hr : r < t.data.length) (v : Int) : (t.wr r v).rd r = v := by
  simp [Store.wr, Store.rd, hr]

theorem rd_wr_ne {t : Store} {r q : Ref} (h : r ≠ q) (v : Int) : (t.wr r v).rd q = t.rd q :=
  congrArg (·.getD 0) (List.getElem?_set_ne h : (t.data.set r v)[q]? = t.data[q]?)

theorem rd_allocD_new (t : Store) (v : Int) : (t.allocD v).1.rd t.data.length = v := by
  simp [Store.allocD, Store.rd]

theorem rd_allocD_old {t : Store} {q : Ref} (h : q < t.data.length) (v : Int) : (t.allocD v).1.rd q = t.rd q :=
  congrArg (·.getD 0) (List.getElem?_append_left h : (t.data ++ [v])[q]? = t.data[q]?)

theorem Obj.get_set (ob : Obj) (a a' : Attr) (v : Option Ref) :
    (ob.set a v).get a' = if a' = a then v else ob.get a' := by
  cases a <;> cases a' <;> rfl

theorem Abs.get_set (x : Abs) (a a' : Attr) (v : Option Int) :
    (x.set a v).get a' = if a' = a then v else x.get a' := by
  cases a <;> cases a' <;> rfl

theorem Obj.view_set (ob : Obj) (a : Attr) (v : Option Ref) :
    (ob.set a v).view = if a = .graph then false else ob.view := by
  cases a <;> rfl

@[simp] theorem Obj.info_set (ob : Obj) (a : Attr) (v : Option Ref) : (ob.set a v).info = ob.info := by
  cases a <;> rfl

theorem Obj.get_withInfo (ob : Obj) (i : Int) (a : Attr) : ({ ob with info := i } : Obj).get a = ob.get a := by
  cases a <;> rfl

theorem Obj.mem_refs {ob : Obj} {r : Ref} : r ∈ ob.refs ↔ ∃ a, ob.get a = some r := by
  unfold Obj.refs
  simp only [List.mem_append, Option.mem_toList]
  constructor
  · rintro (((h | h) | h) | h)
    · exact ⟨.nodes, h⟩
    · exact ⟨.conns, h⟩
    · exact ⟨.graph, h⟩
    · exact ⟨.igraph, h⟩
  · rintro ⟨a, h⟩
    cases a
    · exact .inl (.inl (.inl h))
    · exact .inl (.inl (.inr h))
    · exact .inl (.inr h)
    · exact .inr h

theorem Abs.ext' {x y : Abs} (h : ∀ a, x.get a = y.get a) (hi : x.info = y.info) : x = y := by
  cases x; cases y
  have h1 := h .nodes; have h2 := h .conns; have h3 := h .graph; have h4 := h .igraph
  simp only [Abs.get] at h1 h2 h3 h4
  simp_all

@[simp] theorem Abs.info_set (x : Abs) (a : Attr) (v : Option Int) : (x.set a v).info = x.info := by
  cases a <;> rfl

theorem Abs.set_get_self (x : Abs) (a : Attr) : x.set a (x.get a) = x := by cases a <;> rfl

theorem absObj_get (t : Store) (ob : Obj) (a : Attr) : (t.absObj ob).get a = (ob.get a).map t.rd := by
  cases a <;> rfl

theorem abs_get (t : Store) (o : Ref) (a : Attr) : (t.abs o).get a = ((t.obj o).get a).map t.rd :=
  absObj_get t _ a

theorem absObj_set (t : Store) (ob : Obj) (a : Attr) (v : Option Ref) :
    t.absObj (ob.set a v) = (t.absObj ob).set a (v.map t.rd) := by
  cases a <;> rfl

theorem absObj_congr {t t' : Store} {ob : Obj} (h : ∀ a r, ob.get a = some r → t'.rd r = t.rd r) :
    t'.absObj ob = t.absObj ob := by
  have hm : ∀ a, (ob.get a).map t'.rd = (ob.get a).map t.rd := fun a => by
    cases hg : ob.get a with
    | none => rfl
    | some r => exact congrArg some (h a r hg)
  exact Abs.ext' (fun a => by rw [absObj_get, absObj_get, hm]) rfl

theorem abs_info (t : Store) (o : Ref) : (t.abs o).info = (t.obj o).info := rfl

theorem abs_setObj {t : Store} {o : Ref} (ho : o < t.objs.length) (ob : Obj) : (t.setObj o ob).abs o = t.absObj ob := by
  unfold Store.abs; rw [obj_setObj_same ho]; rfl

theorem astep_wr_none {x : Abs} {a : Attr} (f : Abs → Int) (hg : x.get a = none) : astep x (.wr a f) = x := by
  simp only [astep, hg]

theorem astep_wr_some {x : Abs} {a : Attr} {v : Int} (f : Abs → Int) (hg : x.get a = some v) :
    astep x (.wr a f) = x.set a (some (f x)) := by
  simp only [astep, hg]

/-! ## what one statement does to the store -/

theorem step_wr_none {t : Store} {o : Ref} {a : Attr} (f : Abs → Int) (hg : (t.obj o).get a = none) :
    step t o (.wr a f) = t := by simp only [step, hg]

theorem step_wr_some {t : Store} {o : Ref} {a : Attr} {r : Ref} (f : Abs → Int) (hg : (t.obj o).get a = some r) :
    step t o (.wr a f) = t.wr r (f (t.abs o)) := by simp only [step, hg]

theorem step_thaw_noview {t : Store} {o : Ref} (hv : (t.obj o).view = false) : step t o .thaw = t := by
  simp [step, hv]

theorem step_thaw_none {t : Store} {o : Ref} (hv : (t.obj o).view = true) (hg : (t.obj o).graph = none) :
    step t o .thaw = t.setObj o ((t.obj o).set .graph none) := by
  simp only [step, hv, hg, if_true]

theorem step_thaw_some {t : Store} {o : Ref} {r : Ref} (hv : (t.obj o).view = true) (hg : (t.obj o).graph = some r) :
    step t o .thaw = (t.allocD (t.rd r)).1.setObj o ((t.obj o).set .graph (some t.data.length)) := by
  simp only [step, hv, hg, if_true, snd_allocD]

theorem ownsGraph_rebind (a : Attr) (f : Abs → Int) : (Stmt.rebind a f).ownsGraph = decide (a = .graph) := by
  cases a <;> rfl

theorem ownsGraph_clear (a : Attr) : (Stmt.clear a).ownsGraph = decide (a = .graph) := by
  cases a <;> rfl

/-- Every statement either leaves the store alone, writes one data cell the receiver is bound to, or replaces the receiver's
record: by one with an attribute unbound, or bound to a newly allocated cell, or with other metadata.  The address-free
semantics does the same to the observable state. -/
theorem step_cases {P : Store → Abs → Prop} (t : Store) (o : Ref) (st : Stmt) (same : P t (t.abs o))
    (wr : ∀ a r w, (t.obj o).get a = some r → P (t.wr r w) ((t.abs o).set a (some w)))
    (unbind : ∀ a, P (t.setObj o ((t.obj o).set a none)) ((t.abs o).set a none))
    (bind : ∀ a w, P ((t.allocD w).1.setObj o ((t.obj o).set a (some t.data.length))) ((t.abs o).set a (some w)))
    (info : ∀ i, P (t.setObj o { t.obj o with info := i }) { t.abs o with info := i }) :
    P (step t o st) (astep (t.abs o) st) := by
  cases st with
  | wr a f =>
    cases hg : (t.obj o).get a with
    | none => rw [step_wr_none f hg, astep_wr_none f (by rw [abs_get, hg]; rfl)]; exact same
    | some r =>
      rw [step_wr_some f hg, astep_wr_some (v := t.rd r) f (by rw [abs_get, hg]; rfl)]
      exact wr a r _ hg
  | rebind a f => exact bind a _
  | setMeta f => exact info _
  | thaw =>
    -- re-binding the graph to what it holds already is invisible
    have hself : ∀ g, (t.obj o).graph = g → (t.abs o).set .graph (g.map t.rd) = t.abs o := fun g hg =>
      hg ▸ Abs.set_get_self (t.abs o) .graph
    cases hv : (t.obj o).view with
    | false => rw [step_thaw_noview hv]; exact same
    | true =>
      cases hg : (t.obj o).graph with
      | none => rw [step_thaw_none hv hg]; exact (congrArg (P _) (hself _ hg)).mp (unbind .graph)
      | some r => rw [step_thaw_some hv hg]; exact (congrArg (P _) (hself _ hg)).mp (bind .graph _)
  | clear a => exact unbind a

/-- Every container the record is bound to lies at or after address `n` — except possibly the graph while it is a view. -/
def Owned (n : Nat) (ob : Obj) : Prop :=
  ∀ a r, ob.get a = some r → (a = .graph ∧ ob.view = true) ∨ n ≤ r

theorem Owned.set {n : Nat} {ob : Obj} (h : Owned n ob) (a : Attr) {v : Option Ref} (hv : ∀ r, v = some r → n ≤ r) :
    Owned n (ob.set a v) := by
  intro a' r hr
  rw [Obj.get_set] at hr
  split at hr
  · exact .inr (hv r hr)
  · rename_i hne
    rcases h a' r hr with ⟨ha, hview⟩ | h'
    · have hag : a ≠ .graph := fun e => hne (ha.trans e.symm)
      exact .inl ⟨ha, by rw [Obj.view_set, if_neg hag]; exact hview⟩
    · exact .inr h'

/-- The receiver `y` was allocated after `s0`, and so was every container it is bound to — except possibly the
graph attribute while it is still a view (`v` over-approximates the view flag). -/
structure Inv (s0 t : Store) (y : Ref) (v : Bool) : Prop where
  ext : Ext s0 t
  fresh : s0.objs.length ≤ y
  own : Owned s0.data.length (t.obj y)
  flag : (t.obj y).view = true → v = true

theorem Inv.allocD {s0 t : Store} {y : Ref} {v : Bool} (h : Inv s0 t y v) (x : Int) : Inv s0 (t.allocD x).1 y v :=
  ⟨h.ext.allocD x, h.fresh, h.own, h.flag⟩

theorem Inv.setObj {s0 t : Store} {y : Ref} {v v' : Bool} (h : Inv s0 t y v) (hy : y < t.objs.length) {ob : Obj}
    (hown : Owned s0.data.length ob) (hflag : ob.view = true → v' = true) : Inv s0 (t.setObj y ob) y v' :=
  ⟨h.ext.setObj_fresh h.fresh ob, h.fresh, by rw [obj_setObj_same hy]; exact hown,
    by rw [obj_setObj_same hy]; exact hflag⟩

theorem Inv.set {s0 t : Store} {y : Ref} {v : Bool} (h : Inv s0 t y v) (hy : y < t.objs.length) (a : Attr) {w : Option Ref}
    (hw : ∀ r, w = some r → s0.data.length ≤ r) :
    Inv s0 (t.setObj y ((t.obj y).set a w)) y (v && !decide (a = .graph)) :=
  h.setObj hy (h.own.set a hw) fun hview => by
    -- binding the graph clears the view flag; any other binding leaves it
    rw [Obj.view_set] at hview
    split at hview
    · cases hview
    · rename_i hne; simp [h.flag hview, hne]

theorem step_inv {s0 t : Store} {y : Ref} {v : Bool} (hy : y < t.objs.length) (h : Inv s0 t y v) (st : Stmt)
    (hst : (v && st.needsOwnGraph) = false) : Inv s0 (step t y st) y (v && !st.ownsGraph) := by
  cases st with
  | wr a f =>
    have hf : (t.obj y).view = true → (v && !(Stmt.wr a f).ownsGraph) = true := fun hv => by
      rw [h.flag hv]; rfl
    cases hg : (t.obj y).get a with
    | none => rw [step_wr_none f hg]; exact ⟨h.ext, h.fresh, h.own, hf⟩
    | some r =>
      rw [step_wr_some f hg]
      -- the cell written is the receiver's own: `hst` excludes a write through the view
      have hr : s0.data.length ≤ r := by
        rcases h.own a r hg with ⟨ha, hv⟩ | h'
        · rw [ha, h.flag hv] at hst; cases hst
        · exact h'
      exact ⟨h.ext.wr_fresh hr _, h.fresh, h.own, hf⟩
  | rebind a f =>
    rw [ownsGraph_rebind]
    exact (h.allocD _).set hy a fun r hr => Option.some.inj hr ▸ h.ext.dlen
  | setMeta f =>
    refine h.setObj hy (fun a r hr => h.own a r ((Obj.get_withInfo ..).symm.trans hr)) fun hv => ?_
    rw [h.flag hv]; rfl
  | thaw =>
    cases hv : (t.obj y).view with
    | false => rw [step_thaw_noview hv]; exact ⟨h.ext, h.fresh, h.own, fun hv' => by rw [hv] at hv'; cases hv'⟩
    | true =>
      cases hg : (t.obj y).graph with
      | none => rw [step_thaw_none hv hg]; exact h.set hy .graph fun r hr => nomatch hr
      | some r =>
        rw [step_thaw_some hv hg]
        exact (h.allocD _).set hy .graph fun r hr => Option.some.inj hr ▸ h.ext.dlen
  | clear a =>
    rw [ownsGraph_clear]
    exact h.set hy a fun r hr => nomatch hr

theorem step_shape (t : Store) (o : Ref) (st : Stmt) :
    (step t o st).lists = t.lists ∧ (step t o st).objs.length = t.objs.length :=
  step_cases (P := fun u _ => u.lists = t.lists ∧ u.objs.length = t.objs.length) t o st ⟨rfl, rfl⟩ (fun _ _ _ _ => ⟨rfl, rfl⟩)
    (fun _ => ⟨rfl, objs_length_setObj ..⟩) (fun _ _ => ⟨rfl, objs_length_setObj ..⟩) (fun _ => ⟨rfl, objs_length_setObj ..⟩)

theorem exec_cons (t : Store) (o : Ref) (st : Stmt) (b : List Stmt) : exec t o (st :: b) = exec (step t o st) o b := rfl

theorem exec_shape (b : List Stmt) (t : Store) (o : Ref) :
    (exec t o b).lists = t.lists ∧ (exec t o b).objs.length = t.objs.length :=
  List.foldlRecOn (motive := fun u => u.lists = t.lists ∧ u.objs.length = t.objs.length) b _ ⟨rfl, rfl⟩
    fun u ⟨h1, h2⟩ st _ => ⟨(step_shape u o st).1.trans h1, (step_shape u o st).2.trans h2⟩

theorem exec_inv {s0 : Store} {y : Ref} (b : List Stmt) : ∀ (t : Store) (v : Bool), y < t.objs.length →
    Inv s0 t y v → writesOwn v b = true → Inv s0 (exec t y b) y (viewAfter v b) := by
  induction b with
  | nil => intro t v _ h _; exact h
  | cons st b ih =>
    intro t v hy h hw
    simp only [writesOwn, Bool.and_eq_true, Bool.not_eq_true'] at hw
    exact ih (step t y st) _ ((step_shape t y st).2.symm ▸ hy) (step_inv hy h st hw.1) hw.2

@[simp] theorem dup_objs (t : Store) (r : Option Ref) : (t.dup r).1.objs = t.objs := by cases r <;> rfl
@[simp] theorem dup_lists (t : Store) (r : Option Ref) : (t.dup r).1.lists = t.lists := by cases r <;> rfl

theorem dup_ext (t : Store) (r : Option Ref) : Ext t (t.dup r).1 := by
  cases r with
  | none => exact Ext.refl t
  | some r => exact (Ext.refl t).allocD _

theorem dup_some {t : Store} {r : Option Ref} {q : Ref} (h : (t.dup r).2 = some q) :
    q = t.data.length ∧ (t.dup r).1.data.length = q + 1 := by
  cases r with
  | none => cases h
  | some r0 => cases h; exact ⟨rfl, data_length_allocD ..⟩

theorem dup_isSome (t : Store) (r : Option Ref) : (t.dup r).2.isSome = r.isSome := by cases r <;> rfl

theorem dup_map_rd {u t : Store} {r : Option Ref} (he : Ext (u.dup r).1 t) : (u.dup r).2.map t.rd = r.map u.rd := by
  cases r with
  | none => rfl
  | some r =>
    show some (t.rd u.data.length) = some (u.rd r)
    rw [he.rd (by simp [Store.dup]), Store.dup, rd_allocD_new]

theorem map_rd_ext {u t : Store} (he : Ext u t) {o : Option Ref} (ho : ∀ q, o = some q → q < u.data.length) :
    o.map t.rd = o.map u.rd := by
  cases o with
  | none => rfl
  | some q => exact congrArg some (he.rd (ho q rfl))

/-- `copy` in two parts: the store after its three `dup`s (a stale neuron's igraph is not duplicated) … -/
def copyStore (s : Store) (x : Ref) (stale : Bool) : Store :=
  (((s.dup (s.obj x).nodes).1.dup (s.obj x).conns).1.dup (if stale then none else (s.obj x).igraph)).1

/-- … and the record it allocates there -/
def copyOf (s : Store) (x : Ref) (stale : Bool) : Obj :=
  let ob := s.obj x
  let p1 := s.dup ob.nodes
  let p2 := p1.1.dup ob.conns
  let p3 := p2.1.dup (if stale then none else ob.igraph)
  { nodes := p1.2, conns := p2.2, igraph := p3.2, info := ob.info, lock := 0,
    graph := if stale then none else ob.graph, view := if stale then false else ob.graph.isSome }

theorem copyObj_eq (s : Store) (x : Ref) (stale : Bool) :
    copyObj s x stale = (copyStore s x stale).allocObj (copyOf s x stale) := by
  cases stale <;> rfl

theorem copyStore_objs (s : Store) (x : Ref) (stale : Bool) : (copyStore s x stale).objs = s.objs := by
  simp only [copyStore, dup_objs]

theorem copyObj_snd (s : Store) (x : Ref) (stale : Bool) : (copyObj s x stale).2 = s.objs.length := by
  rw [copyObj_eq]; exact congrArg List.length (copyStore_objs s x stale)

theorem copyObj_obj (s : Store) (x : Ref) (stale : Bool) :
    (copyObj s x stale).1.obj s.objs.length = copyOf s x stale := by
  simp [copyObj_eq, Store.allocObj, Store.obj, copyStore_objs]

theorem copyObj_objs_length (s : Store) (x : Ref) (stale : Bool) :
    (copyObj s x stale).1.objs.length = s.objs.length + 1 := by
  simp [copyObj_eq, Store.allocObj, copyStore_objs]

theorem copyObj_lists (s : Store) (x : Ref) (stale : Bool) : (copyObj s x stale).1.lists = s.lists := by
  simp only [copyObj_eq, Store.allocObj, copyStore, dup_lists]

theorem copyObj_ext (s : Store) (x : Ref) (stale : Bool) : Ext s (copyObj s x stale).1 := by
  rw [copyObj_eq]; exact (((dup_ext ..).trans (dup_ext ..)).trans (dup_ext ..)).allocObj _

theorem copyObj_inv {s0 : Store} (s : Store) (x : Ref) (stale : Bool) (he : Ext s0 s) :
    Inv s0 (copyObj s x stale).1 s.objs.length true where
  ext := he.trans (copyObj_ext s x stale)
  fresh := he.olen
  flag _ := rfl
  own a r hr := by
    rw [copyObj_obj] at hr ⊢
    have e1 := (dup_ext s (s.obj x).nodes).dlen
    have e2 := (dup_ext (s.dup (s.obj x).nodes).1 (s.obj x).conns).dlen
    cases a with
    | nodes => exact .inr ((dup_some hr).1 ▸ he.dlen)
    | conns => exact .inr ((dup_some hr).1 ▸ Nat.le_trans he.dlen e1)
    | graph =>
      cases stale
      · exact .inl ⟨rfl, congrArg Option.isSome hr⟩
      · cases hr
    | igraph => exact .inr ((dup_some hr).1 ▸ Nat.le_trans he.dlen (Nat.le_trans e1 e2))

/-! ## the concrete semantics refines the address-free one -/

/-- The receiver is a valid object bound to valid, pairwise distinct containers. -/
structure Sep (t : Store) (o : Ref) : Prop where
  valid : o < t.objs.length
  bound : ∀ a r, (t.obj o).get a = some r → r < t.data.length
  inj : ∀ a a' r, (t.obj o).get a = some r → (t.obj o).get a' = some r → a = a'

/-- the same of a record, wherever it is stored: its attributes are bound to pairwise distinct cells below `n` -/
structure SepRec (n : Nat) (ob : Obj) : Prop where
  bound : ∀ a r, ob.get a = some r → r < n
  inj : ∀ a a' r, ob.get a = some r → ob.get a' = some r → a = a'

theorem Sep.record {t : Store} {o : Ref} (h : Sep t o) : SepRec t.data.length (t.obj o) := ⟨h.bound, h.inj⟩

theorem SepRec.sep {t : Store} {o : Ref} {ob : Obj} (h : SepRec t.data.length ob) (ho : o < t.objs.length) :
    Sep (t.setObj o ob) o :=
  ⟨by rw [objs_length_setObj]; exact ho, by rw [obj_setObj_same ho]; exact h.bound,
    by rw [obj_setObj_same ho]; exact h.inj⟩

theorem SepRec.congr_get {n : Nat} {ob ob' : Obj} (h : SepRec n ob) (hg : ∀ a, ob'.get a = ob.get a) : SepRec n ob' :=
  ⟨fun a r hr => h.bound a r (hg a ▸ hr), fun a a' r hr hr' => h.inj a a' r (hg a ▸ hr) (hg a' ▸ hr')⟩

theorem SepRec.set {n m : Nat} {ob : Obj} (h : SepRec n ob) (hnm : n ≤ m) (a : Attr) {v : Option Ref}
    (hv : ∀ r, v = some r → n ≤ r ∧ r < m) : SepRec m (ob.set a v) := by
  refine ⟨fun a' r hr => ?_, fun a1 a2 r h1 h2 => ?_⟩
  · rw [Obj.get_set] at hr
    split at hr
    · exact (hv r hr).2
    · exact Nat.lt_of_lt_of_le (h.bound a' r hr) hnm
  · rw [Obj.get_set] at h1 h2
    by_cases e1 : a1 = a <;> by_cases e2 : a2 = a
    · rw [e1, e2]
    · rw [if_pos e1] at h1; rw [if_neg e2] at h2
      exact absurd (h.bound a2 r h2) (Nat.not_lt.mpr (hv r h1).1)
    · rw [if_neg e1] at h1; rw [if_pos e2] at h2
      exact absurd (h.bound a1 r h1) (Nat.not_lt.mpr (hv r h2).1)
    · rw [if_neg e1] at h1; rw [if_neg e2] at h2
      exact h.inj a1 a2 r h1 h2

theorem SepRec.set_none {n : Nat} {ob : Obj} (h : SepRec n ob) (a : Attr) : SepRec n (ob.set a none) :=
  h.set (Nat.le_refl n) a fun _ hr => nomatch hr

theorem SepRec.dup {t : Store} {ob : Obj} (h : SepRec t.data.length ob) (a : Attr) (r : Option Ref) :
    SepRec (t.dup r).1.data.length (ob.set a (t.dup r).2) :=
  h.set (dup_ext t r).dlen a fun q hq => by
    obtain ⟨h1, h2⟩ := dup_some hq
    exact ⟨Nat.le_of_eq h1.symm, h2 ▸ Nat.lt_succ_self q⟩

theorem absObj_wr {t : Store} {ob : Obj} {a : Attr} {r : Ref} (h : SepRec t.data.length ob) (hg : ob.get a = some r)
    (w : Int) : (t.wr r w).absObj ob = (t.absObj ob).set a (some w) := by
  refine Abs.ext' (fun a' => ?_) (Abs.info_set (t.absObj ob) a (some w)).symm
  rw [absObj_get, Abs.get_set, absObj_get]
  by_cases e : a' = a
  · rw [if_pos e, e, hg]; exact congrArg some (rd_wr_same (h.bound a r hg) w)
  · rw [if_neg e]
    cases hg' : ob.get a' with
    | none => rfl
    | some r' => exact congrArg some (rd_wr_ne (fun e' : r = r' => e (h.inj a' a r' hg' (e' ▸ hg))) w)

theorem Sep.bind {t : Store} {o : Ref} (h : Sep t o) (a : Attr) (v : Int) :
    Sep ((t.allocD v).1.setObj o ((t.obj o).set a (some t.data.length))) o ∧
      ((t.allocD v).1.setObj o ((t.obj o).set a (some t.data.length))).abs o = (t.abs o).set a (some v) := by
  refine ⟨(h.record.set ((Ext.refl t).allocD v).dlen a fun _ hr => by
    cases hr; exact ⟨Nat.le_refl _, (data_length_allocD t v).symm ▸ Nat.lt_succ_self _⟩).sep h.valid, ?_⟩
  rw [abs_setObj (t := (t.allocD v).1) h.valid, absObj_set,
    absObj_congr fun a r hg => rd_allocD_old (h.bound a r hg) v]
  exact congrArg (fun w => (t.abs o).set a (some w)) (rd_allocD_new t v)

theorem step_abs {t : Store} {o : Ref} (h : Sep t o) (st : Stmt) :
    Sep (step t o st) o ∧ (step t o st).abs o = astep (t.abs o) st :=
  step_cases (P := fun u x => Sep u o ∧ u.abs o = x) t o st ⟨h, rfl⟩
    (fun a r w hg => ⟨⟨h.valid, fun a' r' hr' => by rw [data_length_wr]; exact h.bound a' r' hr', h.inj⟩,
      absObj_wr h.record hg w⟩)
    (fun a => ⟨(h.record.set_none a).sep h.valid, (abs_setObj h.valid _).trans (absObj_set ..)⟩)
    h.bind
    (fun _ => ⟨(h.record.congr_get (Obj.get_withInfo _ _)).sep h.valid, abs_setObj h.valid _⟩)

theorem exec_abs (b : List Stmt) {t : Store} {o : Ref} (h : Sep t o) :
    Sep (exec t o b) o ∧ (exec t o b).abs o = aexec (t.abs o) b :=
  List.foldl_rel (r := fun u a => Sep u o ∧ u.abs o = a) ⟨h, rfl⟩ fun st _ _ _ ⟨hs, ha⟩ => ha ▸ step_abs hs st

/-! ## `copy` yields a separated object with the same observable state -/

/-- observable state of a stale neuron's copy: no graphs -/
def Abs.noGraphs (x : Abs) : Abs := { x with graph := none, igraph := none }

/-- The copy's record is the original's with nodes, conns and igraph re-bound, one after the other, to the duplicates
(a stale original: graph unbound as well). -/
theorem copyOf_sep {s : Store} {x : Ref} (h : SepRec s.data.length (s.obj x)) (stale : Bool) :
    SepRec (copyStore s x stale).data.length (copyOf s x stale) := by
  have h3 := ((h.dup .nodes (s.obj x).nodes).dup .conns (s.obj x).conns).dup .igraph
    (if stale then none else (s.obj x).igraph)
  cases stale
  · exact h3.congr_get fun a => by cases a <;> rfl
  · exact (h3.set_none .graph).congr_get fun a => by cases a <;> rfl

theorem copyOf_abs {s : Store} {x : Ref} (h : SepRec s.data.length (s.obj x)) (stale : Bool) :
    (copyStore s x stale).absObj (copyOf s x stale) = if stale then (s.abs x).noGraphs else s.abs x := by
  -- the stores `copy` goes through: `s`, after duplicating nodes, after conns, after igraph (= `copyStore`)
  have e1 := dup_ext s (s.obj x).nodes
  have e2 := dup_ext (s.dup (s.obj x).nodes).1 (s.obj x).conns
  have e3 : Ext _ (copyStore s x stale) := dup_ext ((s.dup (s.obj x).nodes).1.dup (s.obj x).conns).1 _
  have live : ∀ {r : Option Ref} {q}, (if stale then none else r) = some q → r = some q := fun hq => by
    cases stale
    · exact hq
    · cases hq
  have hn : (copyOf s x stale).nodes.map (copyStore s x stale).rd = (s.obj x).nodes.map s.rd :=
    dup_map_rd (e2.trans e3)
  have hc : (copyOf s x stale).conns.map (copyStore s x stale).rd = (s.obj x).conns.map s.rd :=
    (dup_map_rd e3).trans (map_rd_ext e1 (h.bound .conns))
  have hi : (copyOf s x stale).igraph.map (copyStore s x stale).rd =
      (if stale then none else (s.obj x).igraph).map s.rd :=
    (dup_map_rd (Ext.refl _)).trans (map_rd_ext (e1.trans e2) fun q hq => h.bound .igraph q (live hq))
  have hg : (copyOf s x stale).graph.map (copyStore s x stale).rd =
      (if stale then none else (s.obj x).graph).map s.rd :=
    map_rd_ext (e1.trans (e2.trans e3)) fun q hq => h.bound .graph q (live hq)
  show Abs.mk _ _ _ _ _ = _
  rw [hn, hc, hi, hg]
  cases stale <;> rfl

theorem copy_sep {s : Store} {x : Ref} (h : Sep s x) (stale : Bool) :
    Sep (copyObj s x stale).1 s.objs.length ∧
    (copyObj s x stale).1.abs s.objs.length = (if stale then (s.abs x).noGraphs else s.abs x) := by
  have hs := copyOf_sep h.record stale
  refine ⟨⟨by rw [copyObj_objs_length]; exact Nat.lt_succ_self _, ?_, ?_⟩, ?_⟩
  · rw [copyObj_obj, copyObj_eq]; exact hs.bound
  · rw [copyObj_obj]; exact hs.inj
  · unfold Store.abs; rw [copyObj_obj, copyObj_eq]; exact copyOf_abs h.record stale

/-- an address at or beyond the old object count is none of the old objects -/
theorem fresh_ne {n x y : Nat} (h : n ≤ y) : n ≤ y ∧ (x < n → y ≠ x) :=
  ⟨h, fun hx => Nat.ne_of_gt (Nat.lt_of_lt_of_le hx h)⟩

theorem call_inplace (b : List Stmt) (s : Store) (x : Ref) (stale : Bool) : call b s x true stale = (exec s x b, x) := rfl

theorem call_copy (b : List Stmt) (s : Store) (x : Ref) (stale : Bool) :
    call b s x false stale = (exec (copyObj s x stale).1 s.objs.length b, s.objs.length) := by
  rw [← copyObj_snd s x stale]; rfl

theorem call_snd_false (b : List Stmt) (s : Store) (x : Ref) (stale : Bool) :
    (call b s x false stale).2 = s.objs.length := by rw [call_copy]

/-- what a non-inplace call hands back is a valid object that owns everything it is bound to (but for a graph view),
in a store that only grew -/
theorem call_inv (b : List Stmt) {s0 s : Store} (x : Ref) (stale : Bool) (he : Ext s0 s) (hw : writesOwn true b = true) :
    Inv s0 (call b s x false stale).1 (call b s x false stale).2 (viewAfter true b) ∧
      (call b s x false stale).2 < (call b s x false stale).1.objs.length := by
  rw [call_copy]
  have hy : s.objs.length < (copyObj s x stale).1.objs.length := copyObj_objs_length s x stale ▸ Nat.lt_succ_self _
  exact ⟨exec_inv b _ true hy (copyObj_inv s x stale he) hw, (exec_shape ..).2.symm ▸ hy⟩

/-- **Frame of the pattern**: whatever the body, as long as it respects `writesOwn`, a non-inplace call only
allocates: every cell of the old store survives unchanged. -/
theorem call_ext (b : List Stmt) (s : Store) (x : Ref) (stale : Bool) (hw : writesOwn true b = true) :
    Ext s (call b s x false stale).1 :=
  (call_inv b x stale (Ext.refl s) hw).1.ext

theorem call_shape (b : List Stmt) (s : Store) (x : Ref) (ip stale : Bool) :
    (call b s x ip stale).1.lists = s.lists ∧ s.objs.length ≤ (call b s x ip stale).1.objs.length := by
  cases ip
  · rw [call_copy, (exec_shape ..).1, (exec_shape ..).2, copyObj_lists, copyObj_objs_length]
    exact ⟨rfl, Nat.le_succ _⟩
  · rw [call_inplace, (exec_shape ..).1, (exec_shape ..).2]
    exact ⟨rfl, Nat.le_refl _⟩

theorem call_abs_copy (b : List Stmt) {s : Store} {x : Ref} (h : Sep s x) (stale : Bool) :
    Sep (call b s x false stale).1 (call b s x false stale).2 ∧
    (call b s x false stale).1.abs (call b s x false stale).2 =
      aexec (if stale then (s.abs x).noGraphs else s.abs x) b := by
  rw [call_copy]
  obtain ⟨h1, h2⟩ := copy_sep h stale
  obtain ⟨h3, h4⟩ := exec_abs b h1
  exact ⟨h3, h4.trans (congrArg (aexec · b) h2)⟩

/-- a body that starts by dropping the cached graphs does not see whether `copy` dropped them already -/
theorem aexec_noGraphs (a : Abs) (b : List Stmt) :
    aexec a.noGraphs (.clear .graph :: .clear .igraph :: b) = aexec a (.clear .graph :: .clear .igraph :: b) := rfl

theorem call_abs (b : List Stmt) {s : Store} {x : Ref} (h : Sep s x) (ip : Bool) :
    Sep (call b s x ip).1 (call b s x ip).2 ∧ (call b s x ip).1.abs (call b s x ip).2 = aexec (s.abs x) b := by
  cases ip
  · exact call_abs_copy b h false
  · exact exec_abs b h

/-! ## bodies in sequence, and the discipline `writesOwn` along them -/

theorem exec_append (s : Store) (o : Ref) (b b' : List Stmt) : exec s o (b ++ b') = exec (exec s o b) o b' :=
  List.foldl_append

theorem call_append (b b' : List Stmt) (s : Store) (x : Ref) (ip stale : Bool) :
    call (b ++ b') s x ip stale = (exec (call b s x ip stale).1 (call b s x ip stale).2 b', (call b s x ip stale).2) := by
  cases ip
  · rw [call_copy, call_copy, exec_append]
  · rw [call_inplace, call_inplace, exec_append]

theorem viewAfter_append (v : Bool) (b b' : List Stmt) : viewAfter v (b ++ b') = viewAfter (viewAfter v b) b' :=
  List.foldl_append

theorem writesOwn_append (v : Bool) (b b' : List Stmt) :
    writesOwn v (b ++ b') = (writesOwn v b && writesOwn (viewAfter v b) b') := by
  induction b generalizing v with
  | nil => rfl
  | cons st b ih => simp only [List.cons_append, writesOwn, ih, Bool.and_assoc]; rfl

theorem writesOwn_mono (b : List Stmt) (v : Bool) (h : writesOwn true b = true) : writesOwn v b = true := by
  cases v
  · clear h
    induction b with
    | nil => rfl
    | cons st b ih => exact ih
  · exact h

theorem writesOwn_noGraphWrite (v : Bool) (b : List Stmt) (h : ∀ st ∈ b, st.needsOwnGraph = false) :
    writesOwn v b = true := by
  induction b generalizing v with
  | nil => rfl
  | cons st b ih =>
    simp only [writesOwn, h st (List.mem_cons_self ..), Bool.and_false, Bool.not_false, Bool.true_and]
    exact ih _ fun st' hst' => h st' (List.mem_cons_of_mem _ hst')

theorem Sep.transport {s t : Store} {z : Ref} (hz : Sep s z) (hol : s.objs.length ≤ t.objs.length)
    (ho : t.obj z = s.obj z) (hdl : s.data.length ≤ t.data.length)
    (hrd : ∀ a r, (s.obj z).get a = some r → t.rd r = s.rd r) : Sep t z ∧ t.abs z = s.abs z := by
  refine ⟨⟨Nat.lt_of_lt_of_le hz.valid hol, ?_, ?_⟩, ?_⟩
  · rw [ho]; exact fun a r hr => Nat.lt_of_lt_of_le (hz.bound a r hr) hdl
  · rw [ho]; exact hz.inj
  · unfold Store.abs; rw [ho]; exact absObj_congr hrd

theorem Sep.of_ext {s t : Store} (he : Ext s t) {o : Ref} (h : Sep s o) : Sep t o ∧ t.abs o = s.abs o :=
  h.transport he.olen (he.obj h.valid) he.dlen fun a r hg => he.rd (h.bound a r hg)

/-! ## locality of an in-place run: only the receiver's own cells (and fresh ones) change -/

/-- `Loc s t o`: between `s` and `t` only the object cell `o`, the data cells `o` was bound to in `s`, and
freshly allocated cells may differ; `o`'s bindings in `t` are old bindings or fresh cells. -/
structure Loc (s t : Store) (o : Ref) : Prop where
  dlen : s.data.length ≤ t.data.length
  dget : ∀ r, r < s.data.length → r ∉ (s.obj o).refs → t.data[r]? = s.data[r]?
  olen : t.objs.length = s.objs.length
  oget : ∀ o', o' ≠ o → t.objs[o']? = s.objs[o']?
  lsts : t.lists = s.lists
  refs : ∀ r, r ∈ (t.obj o).refs → r ∈ (s.obj o).refs ∨ s.data.length ≤ r

theorem Loc.refl (s : Store) (o : Ref) : Loc s s o :=
  ⟨Nat.le_refl _, fun _ _ _ => rfl, rfl, fun _ _ => rfl, rfl, fun _ h => .inl h⟩

theorem Loc.trans {s t u : Store} {o : Ref} (h1 : Loc s t o) (h2 : Loc t u o) : Loc s u o where
  dlen := Nat.le_trans h1.dlen h2.dlen
  dget r hr hn := by
    rw [h2.dget r (Nat.lt_of_lt_of_le hr h1.dlen) ?_, h1.dget r hr hn]
    intro hm
    rcases h1.refs r hm with h | h
    · exact hn h
    · exact absurd hr (Nat.not_lt.mpr h)
  olen := h2.olen.trans h1.olen
  oget o' ho := (h2.oget o' ho).trans (h1.oget o' ho)
  lsts := h2.lsts.trans h1.lsts
  refs r hr := by
    rcases h2.refs r hr with h | h
    · exact h1.refs r h
    · exact .inr (Nat.le_trans h1.dlen h)

theorem Loc.setObj {t u : Store} {o : Ref} (ho : o < t.objs.length) (he : Ext t u) (hobjs : u.objs = t.objs)
    (hlists : u.lists = t.lists) {ob : Obj} (hr : ∀ r, r ∈ ob.refs → r ∈ (t.obj o).refs ∨ t.data.length ≤ r) :
    Loc t (u.setObj o ob) o where
  dlen := he.dlen
  dget r hr' _ := he.dget r hr'
  olen := (objs_length_setObj ..).trans (congrArg List.length hobjs)
  oget o' ho' := (List.getElem?_set_ne (Ne.symm ho')).trans (congrArg (·[o']?) hobjs)
  lsts := hlists
  refs r hr' := hr r (by rwa [obj_setObj_same (hobjs ▸ ho)] at hr')

theorem refs_set {ob : Obj} {a : Attr} {v : Option Ref} {n : Nat} (hv : ∀ r, v = some r → n ≤ r) (r : Ref)
    (h : r ∈ (ob.set a v).refs) : r ∈ ob.refs ∨ n ≤ r := by
  obtain ⟨a', ha'⟩ := Obj.mem_refs.mp h
  rw [Obj.get_set] at ha'
  split at ha'
  · exact .inr (hv r ha')
  · exact .inl (Obj.mem_refs.mpr ⟨a', ha'⟩)

theorem step_loc {t : Store} {o : Ref} (ho : o < t.objs.length) (st : Stmt) : Loc t (step t o st) o :=
  step_cases (P := fun u _ => Loc t u o) t o st (Loc.refl t o)
    (fun a r _ hg => ⟨Nat.le_of_eq (data_length_wr ..).symm,
      fun q _ hq => List.getElem?_set_ne fun e : r = q => hq (e ▸ Obj.mem_refs.mpr ⟨a, hg⟩),
      rfl, fun _ _ => rfl, rfl, fun _ hq => .inl hq⟩)
    (fun _ => Loc.setObj ho (Ext.refl t) rfl rfl (refs_set fun _ h => nomatch h))
    (fun _ w => Loc.setObj ho ((Ext.refl t).allocD w) rfl rfl
      (refs_set fun _ hr => Nat.le_of_eq (Option.some.inj hr)))
    (fun _ => Loc.setObj ho (Ext.refl t) rfl rfl fun _ hr => .inl hr)

theorem exec_loc (b : List Stmt) {t : Store} {o : Ref} (ho : o < t.objs.length) : Loc t (exec t o b) o :=
  List.foldlRecOn (motive := fun u => Loc t u o) b _ (Loc.refl t o)
    fun _ hl st _ => hl.trans (step_loc (hl.olen.symm ▸ ho) st)

/-- two distinct objects sharing no container -/
def Disj (s : Store) (x x' : Ref) : Prop := x ≠ x' ∧ ∀ r, r ∈ (s.obj x).refs → r ∉ (s.obj x').refs

theorem Disj.symm {s : Store} {x x' : Ref} (h : Disj s x x') : Disj s x' x := ⟨h.1.symm, fun r hr hr' => h.2 r hr' hr⟩

theorem Loc.obj_ne {s t : Store} {o z : Ref} (hl : Loc s t o) (hne : z ≠ o) : t.obj z = s.obj z :=
  congrArg (·.getD {}) (hl.oget z hne)

theorem Loc.other {s t : Store} {o z : Ref} (hl : Loc s t o) (hz : Sep s z) (hd : Disj s z o) :
    Sep t z ∧ t.abs z = s.abs z ∧ Disj t z o := by
  have ho := hl.obj_ne hd.1
  obtain ⟨h1, h2⟩ := hz.transport (Nat.le_of_eq hl.olen.symm) ho hl.dlen fun a r hg =>
    congrArg (·.getD 0) (hl.dget r (hz.bound a r hg) (hd.2 r (Obj.mem_refs.mpr ⟨a, hg⟩)))
  refine ⟨h1, h2, hd.1, fun r hr hr' => ?_⟩
  -- the receiver's new bindings are its old ones or fresh cells; `z`'s are old
  rw [ho] at hr
  rcases hl.refs r hr' with h | h
  · exact hd.2 r hr h
  · obtain ⟨a, ha⟩ := Obj.mem_refs.mp hr
    exact absurd (hz.bound a r ha) (Nat.not_lt.mpr h)

theorem Loc.disj {s t : Store} {o z z' : Ref} (hl : Loc s t o) (h : z ≠ o) (h' : z' ≠ o) (hd : Disj s z z') :
    Disj t z z' := by
  unfold Disj; rw [hl.obj_ne h, hl.obj_ne h']; exact hd

/-! ## list cells -/

theorem allocLst_snd (s : Store) (xs : List Ref) : (s.allocLst xs).2 = s.lists.length := rfl

theorem lst_allocLst_new (s : Store) (xs : List Ref) : (s.allocLst xs).1.lst s.lists.length = xs := by
  simp [Store.allocLst, Store.lst]

theorem lst_setLst_same {s : Store} {l : Ref} (hl : l < s.lists.length) (xs : List Ref) :
    (s.setLst l xs).lst l = xs := by
  simp [Store.setLst, Store.lst, hl]

theorem abs_setLst (t : Store) (l : Ref) (xs : List Ref) (o : Ref) : (t.setLst l xs).abs o = t.abs o := rfl
theorem abs_allocLst (t : Store) (xs : List Ref) (o : Ref) : (t.allocLst xs).1.abs o = t.abs o := rfl
theorem objs_setLst (t : Store) (l : Ref) (xs : List Ref) : (t.setLst l xs).objs = t.objs := rfl
theorem objs_allocLst (t : Store) (xs : List Ref) : (t.allocLst xs).1.objs = t.objs := rfl

/-! ## `map_neuronlist`: one job per member, in a worker pool (on a pickled copy of the member) or in the calling process;
the serial loop `mapCalls` is the case in which no job is pooled

A job leaves the caller's store as it was when it is not run in place or runs on a pickled copy (`runJob_ext`), and so does
the list of jobs. -/

theorem runJob_pooled (b : List Stmt) (s : Store) (x : Ref) (ip : Bool) :
    runJob b s x ip true = call b (copyObj s x true).1 (copyObj s x true).2 ip := rfl

theorem runJob_serial (b : List Stmt) (s : Store) (x : Ref) (ip : Bool) : runJob b s x ip false = call b s x ip := rfl

/-- in place on the worker's pickled copy = the copy-then-operate call (stale branch of `copy`) on the member -/
theorem runJob_pooled_inplace (b : List Stmt) (s : Store) (x : Ref) : runJob b s x true true = call b s x false true := rfl

theorem runJob_ext (b : List Stmt) (s : Store) (x : Ref) (ip pooled : Bool) (hw : writesOwn true b = true)
    (h : ip = false ∨ pooled = true) : Ext s (runJob b s x ip pooled).1 := by
  cases pooled with
  | true =>
    cases ip with
    | true => rw [runJob_pooled_inplace]; exact call_ext b s x true hw
    | false =>
      rw [runJob_pooled]
      exact (copyObj_ext s x true).trans (call_ext b (copyObj s x true).1 (copyObj s x true).2 false hw)
  | false =>
    cases h.resolve_right (fun h => nomatch h)
    rw [runJob_serial]
    exact call_ext b s x false hw

theorem parCalls_cons (b : List Stmt) (s : Store) (x : Ref) (xs : List Ref) (ip pooled : Bool) :
    parCalls b s (x :: xs) ip pooled =
      ((parCalls b (runJob b s x ip pooled).1 xs ip pooled).1,
        (runJob b s x ip pooled).2 :: (parCalls b (runJob b s x ip pooled).1 xs ip pooled).2) := rfl

theorem parCalls_ext (b : List Stmt) (hw : writesOwn true b = true) (ip pooled : Bool) (h : ip = false ∨ pooled = true) :
    ∀ (xs : List Ref) (s : Store), Ext s (parCalls b s xs ip pooled).1 := by
  intro xs; induction xs with
  | nil => intro s; exact Ext.refl s
  | cons x xs ih =>
    intro s
    rw [parCalls_cons]
    exact (runJob_ext b s x ip pooled hw h).trans (ih _)

theorem parCalls_lists (b : List Stmt) (ip pooled : Bool) : ∀ (xs : List Ref) (s : Store),
    (parCalls b s xs ip pooled).1.lists = s.lists := by
  intro xs; induction xs with
  | nil => intro s; rfl
  | cons x xs ih =>
    intro s
    rw [parCalls_cons, ih]
    cases pooled
    · rw [runJob_serial]; exact (call_shape ..).1
    · rw [runJob_pooled]; exact (call_shape ..).1.trans (copyObj_lists s x true)

theorem mapCalls_cons (b : List Stmt) (s : Store) (x : Ref) (xs : List Ref) (ip : Bool) :
    mapCalls b s (x :: xs) ip =
      ((mapCalls b (call b s x ip).1 xs ip).1, (call b s x ip).2 :: (mapCalls b (call b s x ip).1 xs ip).2) := rfl

theorem parCalls_serial (b : List Stmt) (ip : Bool) : ∀ (xs : List Ref) (s : Store),
    parCalls b s xs ip false = mapCalls b s xs ip := by
  intro xs; induction xs with
  | nil => intro s; rfl
  | cons x xs ih => intro s; rw [parCalls_cons, mapCalls_cons, runJob_serial, ih]

theorem mapCalls_lists (b : List Stmt) (ip : Bool) (xs : List Ref) (s : Store) : (mapCalls b s xs ip).1.lists = s.lists :=
  parCalls_serial b ip xs s ▸ parCalls_lists b ip false xs s

theorem mapCalls_copy (b : List Stmt) (hw : writesOwn true b = true) : ∀ (xs : List Ref) (s : Store),
    Ext s (mapCalls b s xs false).1 ∧ (mapCalls b s xs false).2.length = xs.length ∧
    (∀ y ∈ (mapCalls b s xs false).2, s.objs.length ≤ y) ∧
    ∀ (i : Nat) (x : Nat), xs[i]? = some x → Sep s x → ∃ y, (mapCalls b s xs false).2[i]? = some y ∧
      (mapCalls b s xs false).1.abs y = aexec (s.abs x) b := by
  intro xs
  induction xs with
  | nil => intro s; exact ⟨Ext.refl s, rfl, fun _ h => absurd h List.not_mem_nil, fun _ _ h => nomatch h⟩
  | cons x xs ih =>
    intro s
    rw [mapCalls_cons]
    have e1 : Ext s (call b s x false).1 := call_ext b s x false hw
    obtain ⟨e2, l2, f2, a2⟩ := ih (call b s x false).1
    refine ⟨e1.trans e2, congrArg Nat.succ l2, ?_, ?_⟩
    · intro y hy
      rcases List.mem_cons.mp hy with h | h
      · rw [h, call_snd_false]; exact Nat.le_refl _
      · exact Nat.le_trans e1.olen (f2 y h)
    · intro i x' hx' hs
      cases i with
      | zero =>
        cases hx'
        obtain ⟨h1, h2⟩ := call_abs b hs false
        exact ⟨_, rfl, (Sep.of_ext e2 h1).2.trans h2⟩
      | succ i =>
        obtain ⟨h1, h2⟩ := Sep.of_ext e1 hs
        obtain ⟨y, hy, h4⟩ := a2 i x' hx' h1
        exact ⟨y, hy, h4.trans (congrArg (aexec · b) h2)⟩

theorem mapCalls_allocLst (b : List Stmt) (s : Store) (xs : List Ref) (ip : Bool) :
    ((mapCalls b s xs ip).1.allocLst (mapCalls b s xs ip).2).2 = s.lists.length ∧
    ((mapCalls b s xs ip).1.allocLst (mapCalls b s xs ip).2).1.lst s.lists.length = (mapCalls b s xs ip).2 := by
  rw [allocLst_snd, ← congrArg List.length (mapCalls_lists b ip xs s)]
  exact ⟨rfl, lst_allocLst_new _ _⟩

theorem mapList_inplace (b : List Stmt) (s : Store) (l : Ref) :
    mapList b s l true =
      (((mapCalls b s (s.lst l) true).1.allocLst (mapCalls b s (s.lst l) true).2).1.setLst l
        (mapCalls b s (s.lst l) true).2, l) := by
  simp only [mapList, if_true, allocLst_snd, lst_allocLst_new]

theorem mapCalls_inplace_snd (b : List Stmt) : ∀ (xs : List Ref) (s : Store),
    (mapCalls b s xs true).2 = xs ∧ (mapCalls b s xs true).1.objs.length = s.objs.length := by
  intro xs; induction xs with
  | nil => intro s; exact ⟨rfl, rfl⟩
  | cons x xs ih =>
    intro s
    rw [mapCalls_cons, call_inplace, (ih _).1, (ih _).2, (exec_shape ..).2]
    exact ⟨rfl, rfl⟩

theorem mapCalls_inplace_other (b : List Stmt) : ∀ (xs : List Ref) (s : Store) (z : Ref), Sep s z →
    (∀ x ∈ xs, x < s.objs.length ∧ Disj s z x) → (mapCalls b s xs true).1.abs z = s.abs z := by
  intro xs; induction xs with
  | nil => intro s z _ _; rfl
  | cons x xs ih =>
    intro s z hz hx
    rw [mapCalls_cons, call_inplace]
    obtain ⟨hxv, hxd⟩ := hx x (List.mem_cons_self ..)
    have hl := exec_loc b hxv
    obtain ⟨h1, h2, h3⟩ := hl.other hz hxd
    refine (ih (exec s x b) z h1 fun x' hx' => ?_).trans h2
    obtain ⟨hv', hd'⟩ := hx x' (List.mem_cons_of_mem _ hx')
    refine ⟨hl.olen ▸ hv', ?_⟩
    by_cases e : x' = x
    · rw [e]; exact h3
    · exact hl.disj hxd.1 e hd'

theorem mapCalls_inplace_abs (b : List Stmt) : ∀ (xs : List Ref) (s : Store), (∀ x ∈ xs, Sep s x) →
    xs.Pairwise (Disj s) →
    ∀ x ∈ xs, (mapCalls b s xs true).1.abs x = aexec (s.abs x) b := by
  intro xs; induction xs with
  | nil => intro s _ _ x hx; cases hx
  | cons x xs ih =>
    intro s hs hp
    rw [mapCalls_cons, call_inplace]
    have hsx := hs x (List.mem_cons_self ..)
    have hl := exec_loc b hsx.valid
    obtain ⟨hpx, hpt⟩ := List.pairwise_cons.mp hp
    obtain ⟨e1, e2⟩ := exec_abs b hsx
    -- the tail members are untouched by the run on the head, and still disjoint from it
    have htail : ∀ x' ∈ xs, Sep (exec s x b) x' ∧ (exec s x b).abs x' = s.abs x' ∧ Disj (exec s x b) x' x :=
      fun x' hx' => hl.other (hs x' (List.mem_cons_of_mem _ hx')) (hpx x' hx').symm
    intro z hz
    rcases List.mem_cons.mp hz with h | h
    · subst h
      exact (mapCalls_inplace_other b xs (exec s z b) z e1 fun x' hx' =>
        ⟨(htail x' hx').1.valid, (htail x' hx').2.2.symm⟩).trans e2
    · have hpt' : xs.Pairwise (Disj (exec s x b)) :=
        hpt.imp_of_mem fun {a c} ha hc hd => hl.disj (htail a ha).2.2.1 (htail c hc).2.2.1 hd
      exact (ih (exec s x b) (fun x' hx' => (htail x' hx').1) hpt' z h).trans (congrArg (aexec · b) (htail z h).2.1)

/-! ## checkers, `bump`, `bumpLock` -/

theorem frameB_iff (s t : Store) (x : Ref) :
    frameB s t x = true ↔ (t.objs[x]? = s.objs[x]? ∧ ∀ r, r ∈ (s.obj x).refs → t.data[r]? = s.data[r]?) := by
  simp only [frameB, Bool.and_eq_true, beq_iff_eq, List.all_eq_true]

theorem step_bump {u : Store} {o r : Ref} (hn : (u.obj o).nodes = some r) :
    step u o (.wr .nodes bump) = u.wr r (u.rd r + 1) := by
  rw [step_wr_some (a := .nodes) bump hn]
  simp [bump, Store.abs, Store.absObj, hn]

theorem step_bump_mono (u : Store) (o r : Ref) (hr : r < u.data.length) :
    r < (step u o (.wr .nodes bump)).data.length ∧ u.rd r ≤ (step u o (.wr .nodes bump)).rd r := by
  cases hg : (u.obj o).nodes with
  | none => rw [step_wr_none (a := .nodes) bump hg]; exact ⟨hr, Int.le_refl _⟩
  | some q =>
    rw [step_bump hg]
    refine ⟨(data_length_wr ..).symm ▸ hr, ?_⟩
    by_cases e : q = r
    · rw [e, rd_wr_same hr]; omega
    · rw [rd_wr_ne e]; exact Int.le_refl _

theorem astep_bump_ne {a : Abs} (h : a.nodes ≠ none) : astep a (.wr .nodes bump) ≠ a := by
  intro he
  cases hn : a.nodes with
  | none => exact h hn
  | some v =>
    rw [astep_wr_some (a := .nodes) bump hn] at he
    have := (congrArg Abs.nodes he).trans hn
    simp only [Abs.set, bump, hn, Option.getD_some, Option.some.injEq] at this
    omega

theorem exec_bump {x r : Ref} : ∀ (n : Nat) (s : Store), (s.obj x).nodes = some r → r < s.data.length →
    (exec s x (List.replicate n (.wr .nodes bump))).rd r = s.rd r + n ∧
    (exec s x (List.replicate n (.wr .nodes bump))).objs = s.objs ∧
    (exec s x (List.replicate n (.wr .nodes bump))).data.length = s.data.length := by
  intro n; induction n with
  | zero => intro s _ _; exact ⟨(Int.add_zero _).symm, rfl, rfl⟩
  | succ n ih =>
    intro s hn hr
    rw [List.replicate_succ, exec_cons, step_bump hn]
    obtain ⟨h1, h2, h3⟩ := ih (s.wr r (s.rd r + 1)) hn ((data_length_wr ..).symm ▸ hr)
    refine ⟨?_, h2, h3.trans (data_length_wr ..)⟩
    rw [h1, rd_wr_same hr]; omega

theorem bumpLock_objs_ne (s : Store) (x : Ref) (up : Bool) {o : Ref} (h : x ≠ o) :
    (s.bumpLock x up).objs[o]? = s.objs[o]? :=
  List.getElem?_set_ne h

theorem bumpLock_obj_same (s : Store) {x : Ref} (up : Bool) (hx : x < s.objs.length) :
    (s.bumpLock x up).obj x =
      { s.obj x with lock := if up then (s.obj x).lock + 1 else (s.obj x).lock - 1 } :=
  obj_setObj_same hx _

/-- What `lock_restored` needs: the decorator's decrement puts back the record the input had before the increment. -/
theorem Ext.setObj_back {s t : Store} {x : Ref} {ob : Obj} (he : Ext (s.setObj x ob) t) (hx : x < s.objs.length) :
    Ext s (t.setObj x (s.obj x)) where
  dlen := he.dlen
  dget := he.dget
  llen := he.llen
  lget := he.lget
  olen := (objs_length_setObj t ..).symm ▸ objs_length_setObj s x ob ▸ he.olen
  oget o ho := by
    have ho' : o < (s.setObj x ob).objs.length := (objs_length_setObj s x ob).symm ▸ ho
    by_cases e : x = o
    · subst e
      have hxt : x < t.objs.length := Nat.lt_of_lt_of_le ho' he.olen
      simp only [Store.setObj, Store.obj, List.getElem?_set_self hxt, List.getElem?_eq_getElem hx, Option.getD_some]
    · exact (List.getElem?_set_ne e).trans ((he.oget o ho').trans (List.getElem?_set_ne e))

end Navis.Heap

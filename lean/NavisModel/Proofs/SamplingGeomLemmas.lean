import NavisModel.Model.Sampling
import NavisModel.Proofs.ListLemmas
import NavisModel.Proofs.ResampleGeomLemmas
/-! C13, the as-written model, geometry side: the three re-attachment blocks of `resample_skeleton` (soma, connectors, tags)
all map to a nearest node of the NEW table; the checker evaluated on navis' output is sound and accepts the model;
all numeric columns are interpolated with one and the same bracket/parameter (`locate`); categorical columns take the
value of a nearest knot (scipy `kind='nearest'`, half-way: the lower knot).  `floorNat_le` (the rounded-down factor is
at most the factor) is here because `SamplingLemmas` is core Lean only and the proof needs a cast lemma of Mathlib. -/
namespace Navis.Sampling
open Navis.Forest Navis.Resample

theorem floorNat_le {q : Rat} (hq : 0 ≤ q) : ((floorNat q : Nat) : Rat) ≤ q := by
  have hf0 : 0 ≤ q.floor := Rat.le_floor_iff.mpr (by simpa using hq)
  rw [← Int.cast_natCast, floorNat, Int.toNat_of_nonneg hf0]
  exact Rat.floor_le q

/-- What every attached id is mapped to under `attachRule0`: the nearest node of the new table to the old position. -/
def remap0 (old new : List (Int × Pt)) (i : Int) : Int :=
  match posOf old i with
  | none => i
  | some q => (nearest new q).getD i

/-- Under `attachRule0` all three blocks run, independently of each other. -/
theorem reattachG_rule0 (old new : List (Int × Pt)) (a : Attach) :
    reattachG attachRule0 old new a =
      { soma := a.soma.map (·.map (remap0 old new)), conn := a.conn.map (·.map (remap0 old new)),
        tags := a.tags.map (·.map fun e => (e.1, e.2.map (remap0 old new))) } := by
  have hf : remapId attachRule0 old new = remap0 old new := rfl
  obtain ⟨so, co, ta⟩ := a
  unfold reattachG
  rw [hf]
  cases so <;> cases co <;> cases ta <;> simp [runs, attachRule0]

/-- `j` is a node of `new` at minimal distance from the old position of `i`. -/
def IsNearest (old new : List (Int × Pt)) (i j : Int) : Prop :=
  ∃ q p, posOf old i = some q ∧ posOf new j = some p ∧ ∀ n' ∈ new, sqd p q ≤ sqd n'.2 q

theorem posOf_mem {nodes : List (Int × Pt)} {i : Int} {p : Pt} (h : posOf nodes i = some p) : (i, p) ∈ nodes := by
  unfold posOf at h
  simp only [Option.map_eq_some_iff] at h
  obtain ⟨e, he, rfl⟩ := h
  have h1 := List.mem_of_find?_eq_some he
  have h2 : e.1 = i := by simpa using List.find?_some he
  rw [← h2]; exact h1

theorem nearestOKB_sound {old new : List (Int × Pt)} {i j : Int} (h : nearestOKB old new i j = true) :
    IsNearest old new i j := by
  unfold nearestOKB at h
  cases hq : posOf old i with
  | none => rw [hq] at h; cases h
  | some q =>
    rw [hq] at h
    dsimp only at h
    cases hp : posOf new j with
    | none => rw [hp] at h; simp at h
    | some p =>
      cases hm : minSqd new q with
      | none => rw [hp, hm] at h; simp at h
      | some m =>
        rw [hp, hm] at h
        have he : sqd p q = m := by simpa using h
        exact ⟨q, p, hq, hp, fun n' hn' => he ▸ (minSqd_spec hm).1 n' hn'⟩

def ListNearest (old new : List (Int × Pt)) (a b : List Int) : Prop :=
  a.length = b.length ∧ ∀ e ∈ a.zip b, IsNearest old new e.1 e.2

theorem listOKB_sound {old new : List (Int × Pt)} {a b : List Int} (h : listOKB old new a b = true) :
    ListNearest old new a b := by
  unfold listOKB at h
  simp only [Bool.and_eq_true, beq_iff_eq, List.all_eq_true] at h
  exact ⟨h.1, fun e he => nearestOKB_sound (h.2 e he)⟩

/-- The clause "re-attaches soma, connectors and tags to the nearest new node" for an input attachment `a` and an
output attachment `b`: each of the three keeps its shape (`None` stays `None`, same number of entries, same tag
names in the same order) and every entry is mapped to a nearest node of the new table. -/
def AttachSpec (old new : List (Int × Pt)) (a b : Attach) : Prop :=
  (match a.soma, b.soma with
    | none, none => True
    | some x, some y => ListNearest old new x y
    | _, _ => False) ∧
  (match a.conn, b.conn with
    | none, none => True
    | some x, some y => ListNearest old new x y
    | _, _ => False) ∧
  (match a.tags, b.tags with
    | none, none => True
    | some x, some y => x.length = y.length ∧ ∀ e ∈ x.zip y, e.1.1 = e.2.1 ∧ ListNearest old new e.1.2 e.2.2
    | _, _ => False)

theorem optListOKB_sound {old new : List (Int × Pt)} : ∀ {a b : Option (List Int)},
    (match a, b with
      | none, none => true
      | some x, some y => listOKB old new x y
      | _, _ => false) = true →
    (match a, b with
      | none, none => True
      | some x, some y => ListNearest old new x y
      | _, _ => False)
  | none, none, _ => trivial
  | some _, some _, h => listOKB_sound h
  | none, some _, h => by cases h
  | some _, none, h => by cases h

theorem attachOKB_sound {old new : List (Int × Pt)} {a b : Attach} (h : attachOKB old new a b = true) :
    AttachSpec old new a b := by
  unfold attachOKB at h
  simp only [Bool.and_eq_true] at h
  obtain ⟨⟨h1, h2⟩, h3⟩ := h
  refine ⟨optListOKB_sound h1, optListOKB_sound h2, ?_⟩
  match a.tags, b.tags, h3 with
  | none, none, _ => trivial
  | some x, some y, h3 =>
    simp only [Bool.and_eq_true, beq_iff_eq, List.all_eq_true] at h3
    exact ⟨h3.1, fun e he => ⟨(h3.2 e he).1, listOKB_sound (h3.2 e he).2⟩⟩
  | none, some _, h3 => cases h3
  | some _, none, h3 => cases h3

theorem posOf_of_nodup {nodes : List (Int × Pt)} (hnd : (nodes.map (·.1)).Nodup) {n : Int × Pt} (hn : n ∈ nodes) :
    posOf nodes n.1 = some n.2 :=
  congrArg (Option.map Prod.snd) (find?_key_of_nodup hnd hn)

theorem nearestOKB_remap0 {old new : List (Int × Pt)} (hnd : (new.map (·.1)).Nodup) (hne : new ≠ []) {i : Int}
    (hi : (posOf old i).isSome) : nearestOKB old new i (remap0 old new i) = true := by
  obtain ⟨q, hq⟩ := Option.isSome_iff_exists.mp hi
  obtain ⟨j, hj⟩ := Option.isSome_iff_exists.mp (nearest_isSome q hne)
  obtain ⟨n, hn, hnj, hmin⟩ := nearest_attains hj
  unfold nearestOKB remap0
  rw [hq]
  dsimp only
  rw [hj, Option.getD_some, ← hnj, posOf_of_nodup hnd hn, hmin]
  exact beq_self_eq_true _

theorem listOKB_remap0 {old new : List (Int × Pt)} (hnd : (new.map (·.1)).Nodup) (hne : new ≠ []) (l : List Int)
    (hl : ∀ i ∈ l, (posOf old i).isSome) : listOKB old new l (l.map (remap0 old new)) = true := by
  unfold listOKB
  simp only [List.length_map, beq_self_eq_true, Bool.true_and]
  rw [← List.map_prod_left_eq_zip, List.all_map]
  exact List.all_eq_true.mpr fun i hi => nearestOKB_remap0 hnd hne (hl i hi)

/-- Every id attached to the skeleton has a position in the old table. -/
def Attach.located (old : List (Int × Pt)) (a : Attach) : Prop :=
  (∀ l, a.soma = some l → ∀ i ∈ l, (posOf old i).isSome) ∧
  (∀ l, a.conn = some l → ∀ i ∈ l, (posOf old i).isSome) ∧
  (∀ l, a.tags = some l → ∀ e ∈ l, ∀ i ∈ e.2, (posOf old i).isSome)

theorem attachOKB_reattach {old new : List (Int × Pt)} (hnd : (new.map (·.1)).Nodup) (hne : new ≠ []) (a : Attach)
    (hloc : a.located old) : attachOKB old new a (reattachG attachRule0 old new a) = true := by
  rw [reattachG_rule0]
  obtain ⟨so, co, ta⟩ := a
  obtain ⟨h1, h2, h3⟩ := hloc
  unfold attachOKB
  simp only [Bool.and_eq_true]
  refine ⟨⟨?_, ?_⟩, ?_⟩
  · cases so with
    | none => rfl
    | some l => exact listOKB_remap0 hnd hne l (h1 l rfl)
  · cases co with
    | none => rfl
    | some l => exact listOKB_remap0 hnd hne l (h2 l rfl)
  · cases ta with
    | none => rfl
    | some l =>
      simp only [Option.map_some, List.length_map, beq_self_eq_true, Bool.true_and]
      rw [← List.map_prod_left_eq_zip, List.all_map]
      exact List.all_eq_true.mpr fun e he => by
        simp only [Function.comp, beq_self_eq_true, Bool.true_and]; exact listOKB_remap0 hnd hne e.2 (h3 l rfl e he)

/-! ### columns: one bracket and one parameter for every numeric column -/

theorem locate_cons_cons (d0 d1 : Rat) (rest : List Rat) (s : Rat) :
    locate (d0 :: d1 :: rest) s =
      if d1 ≤ s then ((locate (d1 :: rest) s).1 + 1, (locate (d1 :: rest) s).2)
      else if s ≤ d0 then (0, 0) else (0, (s - d0) / (d1 - d0)) := by
  rw [locate]

theorem locate_range (ds : List Rat) (s : Rat) : 0 ≤ (locate ds s).2 ∧ (locate ds s).2 ≤ 1 := by
  fun_induction locate ds s with
  | case1 | case2 | case4 => exact ⟨le_refl _, zero_le_one⟩
  | case3 _ _ _ _ _ ih => exact ih
  | case5 d0 d1 _ s h1 h2 =>
    have hpos : 0 < d1 - d0 := sub_pos.mpr ((not_le.mp h2).trans (not_le.mp h1))
    exact ⟨div_nonneg (sub_nonneg.mpr (not_le.mp h2).le) hpos.le,
      (div_le_one hpos).mpr (sub_le_sub_right (not_le.mp h1).le d0)⟩

theorem locate_lt : ∀ (ds : List Rat) (s : Rat), ds ≠ [] → (locate ds s).1 < ds.length := by
  intro ds s h
  fun_induction locate ds s with
  | case1 => exact absurd rfl h
  | case2 | case4 | case5 => exact Nat.zero_lt_succ _
  | case3 _ _ _ _ _ ih => exact Nat.succ_lt_succ (ih (List.cons_ne_nil _ _))

/-- `np.interp` on the knots = linear interpolation between the two knots `locate` brackets `s` with, with
`locate`'s parameter — for the whole point (x, y, z, radius at once). -/
theorem polyAt_eq_locate (ks : List (Rat × Pt)) (s : Rat) :
    polyAt ks s = lerpPt (ks.getD (locate (ks.map (·.1)) s).1 (0, default)).2
      (ks.getD ((locate (ks.map (·.1)) s).1 + 1) (0, default)).2 (locate (ks.map (·.1)) s).2 := by
  fun_induction polyAt ks s with
  | case1 | case2 => exact (lerpPt_zero _ _).symm
  | case3 k0 k1 rest s h1 ih =>
    rw [List.map_cons, List.map_cons, locate_cons_cons, if_pos h1, ih, List.map_cons]
    rfl
  | case4 k0 k1 rest s h1 h2 =>
    rw [List.map_cons, List.map_cons, locate_cons_cons, if_neg h1, if_pos h2]
    exact (lerpPt_zero _ _).symm
  | case5 k0 k1 rest s h1 h2 =>
    rw [List.map_cons, List.map_cons, locate_cons_cons, if_neg h1, if_neg h2]
    rfl

/-- **Every numeric column is interpolated along the cable with the same bracket and the same parameter**: for a
column `col` of the point record (x, y, z, radius — and any further numeric column carried the same way),
`interpCol` over that column's knot values equals that column of the interpolated point. -/
theorem interpCol_of_polyAt (ks : List (Rat × Pt)) (s : Rat) (col : Pt → Rat)
    (hcol : ∀ a b τ, col (lerpPt a b τ) = col a + τ * (col b - col a)) (h0 : col default = 0) :
    interpCol (ks.map (·.1)) (ks.map fun k => col k.2) s = col (polyAt ks s) := by
  rw [polyAt_eq_locate, hcol]
  unfold interpCol
  have e : ∀ j, (ks.map fun k => col k.2).getD j 0 = col (ks.getD j (0, default)).2 := by
    intro j
    have := getD_map_default (fun k : Rat × Pt => col k.2) ks j (0, default)
    simp only [h0] at this
    exact this
  simp only [e]

/-! ### categorical columns: `kind='nearest'` -/

theorem nearestIdx_lt (ds : List Rat) (s : Rat) (h : ds ≠ []) : nearestIdx ds s < ds.length := by
  fun_induction nearestIdx ds s with
  | case1 _ _ _ _ _ ih => exact Nat.succ_lt_succ (ih (List.cons_ne_nil _ _))
  | case2 => exact Nat.zero_lt_succ _
  | case3 ds =>
    cases ds with
    | nil => exact absurd rfl h
    | cons a l => exact Nat.zero_lt_succ _

theorem sq_dist_le_of_le_mid {a b s : Rat} (hab : a ≤ b) (hs : s ≤ (a + b) / 2) :
    (a - s) * (a - s) ≤ (b - s) * (b - s) :=
  mul_self_le_mul_self_of_le_of_neg_le (sub_le_sub_right hab s) (by linarith)

theorem sq_dist_le_of_mid_le {a b s : Rat} (hab : a ≤ b) (hs : (a + b) / 2 ≤ s) :
    (b - s) * (b - s) ≤ (a - s) * (a - s) := by
  rw [← neg_mul_neg (a - s), neg_sub]
  exact mul_self_le_mul_self_of_le_of_neg_le (by linarith) (by rw [neg_sub]; exact sub_le_sub_left hab s)

/-- **The picked knot is a nearest one** (for non-decreasing arc lengths): no knot is closer to `s`. -/
theorem nearestIdx_spec (ds : List Rat) (s : Rat) (hs : ds.Pairwise (· ≤ ·)) :
    ∀ d ∈ ds, (ds.getD (nearestIdx ds s) 0 - s) * (ds.getD (nearestIdx ds s) 0 - s) ≤ (d - s) * (d - s) := by
  fun_induction nearestIdx ds s with
  | case1 d0 d1 rest s h ih =>
    intro d hd
    obtain ⟨h0, hs'⟩ := List.pairwise_cons.mp hs
    rw [List.getD_cons_succ]
    rcases List.mem_cons.mp hd with rfl | hd'
    · -- past the midpoint `d1` is closer than `d0`, and the pick is at least as close as `d1`
      exact (ih hs' d1 List.mem_cons_self).trans (sq_dist_le_of_mid_le (h0 d1 List.mem_cons_self) h.le)
    · exact ih hs' d hd'
  | case2 d0 d1 rest s h =>
    intro d hd
    obtain ⟨h0, hs'⟩ := List.pairwise_cons.mp hs
    rw [List.getD_cons_zero]
    rcases List.mem_cons.mp hd with rfl | hd'
    · exact le_refl _
    · -- `s` is not past the midpoint of `d0, d1`, all the more not past that of `d0, d`
      have hd1 : d1 ≤ d := by
        rcases List.mem_cons.mp hd' with rfl | h''
        · exact le_refl _
        · exact (List.pairwise_cons.mp hs').1 d h''
      exact sq_dist_le_of_le_mid (h0 d hd')
        ((not_lt.mp h).trans (div_le_div_of_nonneg_right (add_le_add (le_refl d0) hd1) zero_le_two))
  | case3 ds s hne =>
    intro d hd
    match ds, hd with
    | [a], hd => rw [List.mem_singleton.mp hd]; exact le_refl _
    | a :: b :: l, _ => exact absurd rfl (hne a b l)

/-- Exactly half-way between two knots the lower knot is taken (`side='left'`). -/
theorem nearestIdx_half (d0 d1 : Rat) (rest : List Rat) : nearestIdx (d0 :: d1 :: rest) ((d0 + d1) / 2) = 0 := by
  unfold nearestIdx; simp

theorem mem_uniqueCodes {α} [BEq α] [LawfulBEq α] : ∀ (l : List α) (v : α), v ∈ uniqueCodes l ↔ v ∈ l
  | [], v => by simp [uniqueCodes]
  | a :: rest, v => by
    unfold uniqueCodes
    rw [List.mem_cons, List.mem_cons, List.mem_filter, mem_uniqueCodes rest v]
    constructor
    · rintro (h | ⟨h, _⟩)
      · exact Or.inl h
      · exact Or.inr h
    · rintro (h | h)
      · exact Or.inl h
      · by_cases hva : v = a
        · exact Or.inl hva
        · exact Or.inr ⟨h, by simpa using hva⟩

/-- **A categorical column takes the value of the nearest knot**: translating to codes and back is the identity, so
the result is the original value at `nearestIdx` — never an invented one. -/
theorem catCol_eq {α} [BEq α] [LawfulBEq α] [Inhabited α] (ds : List Rat) (vs : List α) (s : Rat)
    (h : nearestIdx ds s < vs.length) : catCol ds vs s = vs[nearestIdx ds s] := by
  unfold catCol
  simp only
  have hn : (vs.map fun v => (uniqueCodes vs).idxOf v).getD (nearestIdx ds s) 0 = (uniqueCodes vs).idxOf vs[nearestIdx ds s] := by
    simp [List.getD_eq_getElem?_getD, List.getElem?_map, List.getElem?_eq_getElem h]
  rw [hn]
  have hm : vs[nearestIdx ds s] ∈ uniqueCodes vs := (mem_uniqueCodes vs _).mpr (List.getElem_mem h)
  have hlt := List.idxOf_lt_length_of_mem hm
  rw [List.getD_eq_getElem?_getD, List.getElem?_eq_getElem hlt, Option.getD_some]
  exact List.getElem_idxOf hlt

end Navis.Sampling

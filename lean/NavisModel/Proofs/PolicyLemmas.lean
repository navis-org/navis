import NavisModel.Model.Policy
/-!
The `errors` policy of navis' readers (`Model/Policy.lean`) in closed form: under `log` / `ignore` the per-file loop returns every file's
result (`readAll_nonraise`), under `raise` it returns them all or fails as soon as one file fails (`readAll_raise`); the zip loop with its
second `try` and the chunked parallel loop are the same loop (`readZipAll_eq`, `readChunks_eq`).  Core Lean only.
-/
namespace Navis.Policy

theorem wrapped_nonraise {α} {e : Errors} (he : e ≠ .raise) (r : Option α) : wrapped e r = some r := by
  cases r <;> cases e <;> first | rfl | exact absurd rfl he

theorem readAll_nonraise {φ α} (e : Errors) (he : e ≠ .raise) (read : φ → Option α) (fs : List φ) :
    readAll e read fs = some (fs.map read) := by
  induction fs with
  | nil => rfl
  | cons f fs ih => simp only [readAll, wrapped_nonraise he, ih, List.map_cons]

theorem readAll_raise {φ α} (read : φ → Option α) (fs : List φ) :
    readAll .raise read fs = if fs.all (fun f => (read f).isSome) then some (fs.map read) else none := by
  induction fs with
  | nil => rfl
  | cons f fs ih =>
    simp only [readAll, ih, List.map_cons, List.all_cons]
    cases read f with
    | none => rfl
    | some a => cases fs.all fun f => (read f).isSome <;> rfl

theorem readBatch_raise {φ α} (read : φ → Option α) (fs : List φ) :
    readBatch .raise read fs = if fs.all (fun f => (read f).isSome) then some (fs.filterMap read) else none := by
  simp only [readBatch, readAll_raise]
  cases fs.all fun f => (read f).isSome
  · rfl
  · simp only [if_true, formatOutput, Option.map_some, List.filterMap_map]; rfl

/-- The second `try` of `read_from_zip` changes nothing: the decorated reader lets an exception through under `raise` only (`wrapped e r = none`
forces `e = .raise`), and then the second `try` re-raises it; its `ignore` branch is never reached. -/
theorem zipMember_wrapped {α} (e : Errors) (r : Option α) : zipMember e (wrapped e r) = (wrapped e r).map ([·]) := by
  cases r <;> cases e <;> rfl

theorem readZipAll_eq {φ α} (e : Errors) (read : φ → Option α) (fs : List φ) :
    readZipAll e read fs = readAll e read fs := by
  induction fs with
  | nil => rfl
  | cons f fs ih =>
    simp only [readZipAll, readAll, ih, zipMember_wrapped]
    cases wrapped e (read f) <;> rfl

theorem readAll_append {φ α} (e : Errors) (read : φ → Option α) (a b : List φ) :
    readAll e read (a ++ b) = (readAll e read a).bind fun r => (readAll e read b).map (r ++ ·) := by
  induction a with
  | nil => cases h : readAll e read b <;> simp [readAll, h]
  | cons x a ih =>
    simp only [List.cons_append, readAll, ih]
    cases wrapped e (read x) with
    | none => rfl
    | some r => cases readAll e read a with
      | none => rfl
      | some rs => cases readAll e read b <;> rfl

theorem readChunks_eq {φ α} (e : Errors) (read : φ → Option α) (cs : List (List φ)) :
    readChunks e read cs = readAll e read cs.flatten := by
  induction cs with
  | nil => rfl
  | cons c cs ih =>
    simp only [readChunks, List.flatten_cons, readAll_append, ih]
    cases readAll e read c with
    | none => rfl
    | some r => cases readAll e read cs.flatten <;> rfl

end Navis.Policy

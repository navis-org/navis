import NavisModel.Proofs.TreeEditLemmas
/-!
C10 (core Lean only): the weighted graph that `reroot_skeleton` edits in place (igraph branch:
read the weights along the path, append the inverted edges with those weights, delete the path edges) is —
up to the order of the edge list — the graph of the rerooted node table.  navis keeps this graph
(`_clear_temp_attr(exclude=['igraph', …])`), so this is what makes the cached view agree with the table.
-/
namespace Navis.TreeEdit
open Navis.Forest

theorem pathEdges_cons_cons (a b : Int) (l : List Int) : pathEdges (a :: b :: l) = (a, b) :: pathEdges (b :: l) := rfl

theorem mem_pathEdges_iff {l : List Int} (hnd : l.Nodup) {a b : Int} : (a, b) ∈ pathEdges l ↔ predOnPath l b = some a := by
  fun_induction predOnPath l b with
  | case1 x rest y =>
    -- `y` is not the second component of a later edge: it would be in `rest`
    have hy : (a, y) ∉ pathEdges (y :: rest) := fun h =>
      (List.nodup_cons.mp (List.nodup_cons.mp hnd).2).1 (List.of_mem_zip h).2
    rw [pathEdges_cons_cons, List.mem_cons, Option.some.injEq, Prod.mk.injEq]
    exact ⟨fun h => h.elim (fun e => e.1.symm) fun h' => absurd h' hy, fun h => Or.inl ⟨h.symm, rfl⟩⟩
  | case2 x y rest b hy ih =>
    rw [pathEdges_cons_cons, List.mem_cons, Prod.mk.injEq, ← ih (List.nodup_cons.mp hnd).2]
    exact ⟨fun h => h.elim (fun e => absurd e.2.symm hy) id, Or.inr⟩
  | case3 l b hl =>
    match l, hl with
    | [], _ => simp [pathEdges]
    | [_], _ => simp [pathEdges]
    | x :: y :: r, hl => exact (hl x y r rfl).elim

theorem pathEdges_nodup {l : List Int} (hnd : l.Nodup) : (pathEdges l).Nodup := by
  have h2 : ((pathEdges l).map Prod.snd).Nodup := by
    rw [pathEdges, List.map_snd_zip (by simp)]
    exact hnd.sublist (List.tail_sublist l)
  exact List.Pairwise.of_map Prod.snd (fun a b hab heq => hab (by rw [heq])) h2

theorem weightOf_graphOf {t : Table} (len : Int → Int → Nat) {a b : Int} (h : (a, b) ∈ edges t) :
    weightOf (graphOf t len) a b = len a b := by
  unfold weightOf graphOf
  cases hf : ((edges t).map fun e => (e.1, e.2, len e.1 e.2)).find? (fun x => x.1 == a && x.2.1 == b) with
  | none => exact absurd (List.find?_eq_none.mp hf _ (List.mem_map.mpr ⟨_, h, rfl⟩)) (by simp)
  | some x =>
    -- whichever edge `a → b` is found first, its weight is `len` of its ends
    obtain ⟨e, _, rfl⟩ := List.mem_map.mp (List.mem_of_find?_eq_some hf)
    have := List.find?_some hf
    simp only [Bool.and_eq_true, beq_iff_eq] at this
    rw [← this.1, ← this.2]

theorem mem_graphOf {t : Table} {len : Int → Int → Nat} {x : WEdge} :
    x ∈ graphOf t len ↔ ∃ n ∈ t, ¬ n.parent < 0 ∧ x = (n.id, n.parent, len n.id n.parent) := by
  unfold graphOf
  simp only [List.mem_map]
  constructor
  · rintro ⟨e, he, rfl⟩
    obtain ⟨n, hn, hp, rfl⟩ := mem_edges.mp he
    exact ⟨n, hn, hp, rfl⟩
  · rintro ⟨n, hn, hp, rfl⟩
    exact ⟨(n.id, n.parent), mem_edges.mpr ⟨n, hn, hp, rfl⟩, rfl⟩

theorem graphOf_nodup {t : Table} (hnd : (ids t).Nodup) (len : Int → Int → Nat) : (graphOf t len).Nodup := by
  unfold graphOf
  apply List.pairwise_map.mpr
  refine (Nodup_edges hnd).imp ?_
  intro a b hab heq
  apply hab
  simp only [Prod.mk.injEq] at heq
  exact Prod.ext heq.1 heq.2.1

theorem graphOf_functional {t : Table} (hnd : (ids t).Nodup) {len : Int → Int → Nat} {x y : WEdge}
    (hx : x ∈ graphOf t len) (hy : y ∈ graphOf t len) (h : x.1 = y.1) : x = y := by
  obtain ⟨n, hn, _, rfl⟩ := mem_graphOf.mp hx
  obtain ⟨m, hm, _, rfl⟩ := mem_graphOf.mp hy
  simp only at h
  have e1 := find?_of_mem hnd hn
  have e2 := find?_of_mem hnd hm
  rw [h, e2] at e1
  simp only [Option.some.injEq] at e1
  subst e1
  rfl

theorem mem_rerootGraphIg {g : WGraph} {path : List Int} {x : WEdge} :
    x ∈ rerootGraphIg g path ↔
      (x ∈ g ∨ ∃ e ∈ pathEdges path, (e.2, e.1, weightOf g e.1 e.2) = x) ∧ (x.1, x.2.1) ∉ pathEdges path := by
  unfold rerootGraphIg
  simp only [List.mem_filter, List.mem_append, List.mem_map, Bool.not_eq_true', List.contains_eq_mem,
    decide_eq_false_iff_not]

theorem pathEdge_link {t : Table} {r : Int} {path : List Int} (h : RPath t r path) {a b : Int} (he : (a, b) ∈ pathEdges path) :
    ∃ q, find? t a = some q ∧ q.parent = b ∧ 0 ≤ b :=
  Linked_pred h.linked ((mem_pathEdges_iff h.nodup).mp he)

theorem pathEdge_mem_edges {t : Table} {r : Int} {path : List Int} (h : RPath t r path) {e : Int × Int}
    (he : e ∈ pathEdges path) : e ∈ edges t := by
  obtain ⟨a, b⟩ := e
  obtain ⟨q, hfq, hqp, hb0⟩ := pathEdge_link h he
  have hq := find?_some hfq
  exact mem_edges.mpr ⟨q, hq.1, by rw [hqp]; omega, by rw [hq.2, hqp]⟩

theorem rev_pathEdge_not_edge {t : Table} (hw : WF t) {r : Int} {path : List Int} (h : RPath t r path) {a b : Int}
    (he : (a, b) ∈ pathEdges path) : (b, a) ∉ edges t := by
  intro hrev
  obtain ⟨q, hfq, hqp, _⟩ := pathEdge_link h he
  obtain ⟨n, hn, _, e⟩ := mem_edges.mp hrev
  obtain ⟨e1, e2⟩ := Prod.mk.inj e
  have hq := find?_some hfq
  exact no_two_cycle hw hn hq.1 (by rw [← e2, hq.2]) (by rw [hqp, e1])

theorem inverted_not_pathEdge {t : Table} (hw : WF t) {r : Int} {path : List Int} (h : RPath t r path) {a b : Int}
    (he : (a, b) ∈ pathEdges path) : (b, a) ∉ pathEdges path :=
  fun hback => rev_pathEdge_not_edge hw h he (pathEdge_mem_edges h hback)

theorem mem_graph_reroot_iff {t : Table} (hw : WF t) (len : Int → Int → Nat) (hsym : ∀ a b, len a b = len b a)
    {r : Int} {path : List Int} (h : RPath t r path) (x : WEdge) :
    x ∈ rerootGraphIg (graphOf t len) path ↔ x ∈ graphOf (rerootParents t r path) len := by
  rw [mem_rerootGraphIg, rerootParents_eq_map]
  constructor
  · intro hlhs
    apply mem_graphOf.mpr
    revert hlhs
    rintro ⟨hx | ⟨e, he, rfl⟩, hnot⟩
    · -- an original edge that is not on the path: its row is untouched
      obtain ⟨n, hn, hp, rfl⟩ := mem_graphOf.mp hx
      simp only at hnot
      have hoff : n.id ∉ path := by
        intro hon
        apply hnot
        exact (mem_pathEdges_iff h.nodup).mpr (h.pred_parent hw hn hon hp)
      refine ⟨rrow r path n, List.mem_map.mpr ⟨n, hn, rfl⟩, ?_, ?_⟩
      · rw [rrow_off_path h.head_mem hoff]; exact hp
      · rw [rrow_off_path h.head_mem hoff]
    · -- an inverted path edge `(a, b)`: the row of `b` now has parent `a`
      obtain ⟨a, b⟩ := e
      simp only at hnot ⊢
      obtain ⟨q, hfq, hqp, hb0⟩ := pathEdge_link h he
      have hq := find?_some hfq
      have hpred := (mem_pathEdges_iff h.nodup).mp he
      have hbt : b ∈ path.tail := (predOnPath_some hpred).2.1
      have hbr : b ≠ r := fun hh => h.r_not_tail (hh ▸ hbt)
      have hbin : b ∈ ids t := h.sub b (List.mem_of_mem_tail hbt)
      obtain ⟨nb, hnb, hnbid⟩ := mem_ids.mp hbin
      have hrow : (rrow r path nb).parent = a := by
        unfold rrow
        rw [if_neg (by rw [hnbid]; exact hbr), hnbid, hpred]
      refine ⟨rrow r path nb, List.mem_map.mpr ⟨nb, hnb, rfl⟩, ?_, ?_⟩
      · rw [hrow, ← hq.2]; have := hw.2.1 q hq.1; omega
      · rw [hrow, rrow_id, hnbid]
        rw [weightOf_graphOf len (pathEdge_mem_edges h he), hsym]
  · intro hrhs
    obtain ⟨m, hm, hmp, rfl⟩ := mem_graphOf.mp hrhs
    obtain ⟨n, hn, rfl⟩ := List.mem_map.mp hm
    simp only
    rcases h.rrow_cases hw n with ⟨_, h1⟩ | ⟨_, htail, q, hq, h1, h2, hqon, _⟩ | ⟨hoff, h1⟩
    · rw [h1] at hmp; exact absurd (by decide) hmp
    · -- the row of a path node: its new parent `q` was its child on the path
      have hqp := WF_nonroot_of_parent_eq hw hn h2
      have hedge : (q.id, n.id) ∈ pathEdges path := by
        have := h.pred_parent hw hq hqon hqp
        rw [h2] at this
        exact (mem_pathEdges_iff h.nodup).mpr this
      refine ⟨Or.inr ⟨(q.id, n.id), hedge, ?_⟩, ?_⟩
      · rw [h1, rrow_id]
        simp only
        rw [weightOf_graphOf len (pathEdge_mem_edges h hedge), hsym]
      · rw [h1, rrow_id]
        exact inverted_not_pathEdge hw h hedge
    · rw [h1] at hmp ⊢
      refine ⟨Or.inl (mem_graphOf.mpr ⟨n, hn, hmp, rfl⟩), ?_⟩
      intro hon
      exact hoff (List.of_mem_zip hon).1

theorem rerootGraphIg_nodup {t : Table} (hw : WF t) (len : Int → Int → Nat) {r : Int} {path : List Int} (h : RPath t r path) :
    (rerootGraphIg (graphOf t len) path).Nodup := by
  unfold rerootGraphIg
  apply List.Pairwise.filter
  apply List.nodup_append.mpr
  refine ⟨graphOf_nodup hw.1 len, ?_, ?_⟩
  · apply List.pairwise_map.mpr
    refine (pathEdges_nodup h.nodup).imp ?_
    intro a b hab heq
    apply hab
    simp only [Prod.mk.injEq] at heq
    exact Prod.ext heq.2.1 heq.1
  · intro x hx y hy hxy
    subst hxy
    obtain ⟨n, hn, hp, rfl⟩ := mem_graphOf.mp hx
    obtain ⟨⟨a, b⟩, he, heq⟩ := List.mem_map.mp hy
    simp only [Prod.mk.injEq] at heq
    -- the edge `n.id → n.parent` of the table would be the path edge `a → b` the other way round
    exact rev_pathEdge_not_edge hw h he (mem_edges.mpr ⟨n, hn, hp, by rw [heq.1, heq.2.1]⟩)

theorem rerootGraphIg_perm {t : Table} (hw : WF t) (len : Int → Int → Nat) (hsym : ∀ a b, len a b = len b a)
    {r : Int} {nr : Node} (hf : find? t r = some nr) (hp : ¬ nr.parent < 0) :
    (rerootGraphIg (graphOf t len) (rootPath t r)).Perm (graphOf (reroot t r) len) := by
  have hr : r ∈ ids t := mem_ids_of_find? hf
  have h := rootPath_RPath hw hr
  have hlinks : graphOf (reroot t r) len = graphOf (rerootParents t r (rootPath t r)) len := by
    unfold graphOf
    rw [edges_congr (t := rerootParents t r (rootPath t r)) (by rw [reroot_of_nonroot hf hp, links_map_relabelRow])]
  rw [hlinks]
  apply (List.perm_ext_iff_of_nodup (rerootGraphIg_nodup hw len h) (graphOf_nodup (WF_rerootParents hw r hr).1 len)).mpr
  intro x
  exact mem_graph_reroot_iff hw len hsym h x

end Navis.TreeEdit

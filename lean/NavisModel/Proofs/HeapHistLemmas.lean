import NavisModel.Proofs.HeapLemmas
/-!
Histories: `x = f₁(x, inplace=i₁); x = f₂(x, inplace=i₂); …` with the `inplace` flag chosen freely at every step, and the same
for the `NeuronList` operators.  Each fact about one `call` lifts to histories by induction, with the state it speaks of
(`Sep`, `Inv`, a lower bound on the address of the value) threaded through.
-/
namespace Navis.Heap

/-- a history: per step the body of the function and the `inplace` flag the caller chose; the value is threaded through -/
def runHist : List (List Stmt × Bool) → Store × Ref → Store × Ref
  | [], st => st
  | op :: h, st => runHist h (call op.1 st.1 st.2 op.2)

/-- the address-free run of the same bodies: flags play no role -/
def ahist (a : Abs) (h : List (List Stmt × Bool)) : Abs := h.foldl (fun a op => aexec a op.1) a

theorem runHist_cons (op : List Stmt × Bool) (h : List (List Stmt × Bool)) (st : Store × Ref) :
    runHist (op :: h) st = runHist h (call op.1 st.1 st.2 op.2) := rfl

theorem runHist_append (h h' : List (List Stmt × Bool)) : ∀ st, runHist (h ++ h') st = runHist h' (runHist h st) := by
  induction h with
  | nil => intro st; rfl
  | cons op h ih => intro st; exact ih _

theorem runHist_abs : ∀ (h : List (List Stmt × Bool)) (st : Store × Ref), Sep st.1 st.2 →
    Sep (runHist h st).1 (runHist h st).2 ∧ (runHist h st).1.abs (runHist h st).2 = ahist (st.1.abs st.2) h := by
  intro h; induction h with
  | nil => intro st hs; exact ⟨hs, rfl⟩
  | cons op h ih =>
    intro st hs
    obtain ⟨h1, h2⟩ := call_abs op.1 hs op.2
    obtain ⟨h3, h4⟩ := ih (call op.1 st.1 st.2 op.2) h1
    exact ⟨h3, h4.trans (congrArg (ahist · h) h2)⟩

/-- once the threaded value is an object allocated after `s0` that owns its containers, the rest of the history — whatever the
flags — only touches cells allocated after `s0` -/
theorem runHist_inv {s0 : Store} : ∀ (h : List (List Stmt × Bool)) (st : Store × Ref) (v : Bool),
    (∀ op ∈ h, writesOwn true op.1 = true) → Inv s0 st.1 st.2 v → st.2 < st.1.objs.length →
    Ext s0 (runHist h st).1 := by
  intro h; induction h with
  | nil => intro st v _ hi _; exact hi.ext
  | cons op h ih =>
    intro st v hw hi hy
    obtain ⟨b, ip⟩ := op
    obtain ⟨hwb, hwh⟩ := List.forall_mem_cons.mp hw
    rw [runHist_cons]
    cases ip with
    | true =>
      exact ih (exec st.1 st.2 b, st.2) _ hwh (exec_inv b st.1 v hy hi (writesOwn_mono b v hwb))
        ((exec_shape ..).2.symm ▸ hy)
    | false =>
      obtain ⟨h1, h2⟩ := call_inv b st.2 false hi.ext hwb
      exact ih (call b st.1 st.2 false) _ hwh h1 h2

theorem runHist_all_inplace : ∀ (h : List (List Stmt × Bool)) (st : Store × Ref), (∀ op ∈ h, op.2 = true) →
    (runHist h st).2 = st.2 := by
  intro h; induction h with
  | nil => intro st _; rfl
  | cons op h ih =>
    intro st hall
    rw [runHist_cons, ih _ fun o ho => hall o (List.mem_cons_of_mem _ ho), hall op List.mem_cons_self]
    rfl

theorem runHist_fresh (n : Nat) : ∀ (h : List (List Stmt × Bool)) (st : Store × Ref), n ≤ st.1.objs.length →
    (n ≤ st.2 ∨ ∃ op ∈ h, op.2 = false) → n ≤ (runHist h st).2 := by
  intro h; induction h with
  | nil => intro st _ hh; exact hh.resolve_right fun ⟨_, ho, _⟩ => nomatch ho
  | cons op h ih =>
    intro st hn hh
    obtain ⟨b, ip⟩ := op
    have hle := Nat.le_trans hn (call_shape b st.1 st.2 ip false).2
    rw [runHist_cons]
    cases ip with
    | false => exact ih _ hle (.inl (by rw [call_snd_false]; exact hn))
    | true =>
      refine ih _ hle (hh.imp id fun ⟨op, ho, hf⟩ => ?_)
      rcases List.mem_cons.mp ho with e | ho
      · subst e; cases hf
      · exact ⟨op, ho, hf⟩

theorem runHist_frame_after_copy {s0 : Store} (b : List Stmt) (post : List (List Stmt × Bool)) (st : Store × Ref)
    (he : Ext s0 st.1) (hb : writesOwn true b = true) (hw : ∀ op ∈ post, writesOwn true op.1 = true) :
    Ext s0 (runHist ((b, false) :: post) st).1 := by
  obtain ⟨h1, h2⟩ := call_inv b st.2 false he hb
  exact runHist_inv post (call b st.1 st.2 false) _ hw h1 h2

theorem ahist_bodies (h : List (List Stmt × Bool)) (a : Abs) : ahist a h = (h.map (·.1)).foldl aexec a :=
  List.foldl_map.symm

/-! ## histories of NeuronList operators -/

inductive ListOp where
  | add (o : Ref)
  | filter (keep : Ref → Bool)
  | orOne (o : Ref) (present : Bool)
  | orList (extra : List Ref)

def applyListOp (s : Store) (l : Ref) : ListOp → Store × Ref
  | .add o => listAdd s l o
  | .filter keep => listFilter s l keep
  | .orOne o present => listOr s l o present
  | .orList extra => listOrList s l extra

/-- `nl = nl + a; nl = nl - b; nl = nl | c; …` — the list value is threaded through -/
def runListOps : List ListOp → Store × Ref → Store × Ref
  | [], st => st
  | op :: ops, st => runListOps ops (applyListOp st.1 st.2 op)

theorem applyListOp_ext (s : Store) (l : Ref) (op : ListOp) :
    Ext s (applyListOp s l op).1 ∧ (applyListOp s l op).2 = s.lists.length := by
  cases op <;> exact ⟨(Ext.refl s).allocLst _, rfl⟩

theorem runListOps_ext : ∀ (ops : List ListOp) (st : Store × Ref), Ext st.1 (runListOps ops st).1 := by
  intro ops; induction ops with
  | nil => intro st; exact Ext.refl _
  | cons op ops ih => intro st; exact (applyListOp_ext st.1 st.2 op).1.trans (ih _)

theorem runListOps_fresh (n : Nat) : ∀ (ops : List ListOp) (st : Store × Ref), n ≤ st.1.lists.length →
    (n ≤ st.2 ∨ ops ≠ []) → n ≤ (runListOps ops st).2 := by
  intro ops; induction ops with
  | nil => intro st _ h; exact h.resolve_right fun hne => hne rfl
  | cons op ops ih =>
    intro st hn _
    obtain ⟨he, h2⟩ := applyListOp_ext st.1 st.2 op
    exact ih _ (Nat.le_trans hn he.llen) (.inl (by rw [h2]; exact hn))

end Navis.Heap

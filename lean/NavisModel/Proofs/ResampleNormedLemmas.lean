import Mathlib.Analysis.Normed.Module.Basic
import Mathlib.Tactic.Linarith
import Mathlib.Tactic.Ring
/-! C13, "resampling never increases cable length" over ℝ, for a polyline in an arbitrary real
normed space (in particular ℝ³ with the Euclidean norm), with the *exact* edge lengths `dist pᵢ pᵢ₊₁` — which are
irrational in general, so the executable `Rat` model (`Resample.polyAt`, integer edge lengths) cannot state it.

`polyAtR` is `np.interp` over the knots `(cumulative arc length, point)` (the same recursion as `Resample.polyAt`);
it is 1-Lipschitz in the arc-length parameter whenever consecutive knots are at most as far apart as their arc
positions (`ArcOKR`, an equality for `knotsR`), so the chain through any increasing sequence of sample positions
is at most as long as the parameter interval — for `np.linspace(0, total, k + 2)`: at most `total`. -/
namespace Navis.ResampleR

variable {E : Type*} [NormedAddCommGroup E] [NormedSpace ℝ E]

noncomputable def lerpR (a b : E) (τ : ℝ) : E := a + τ • (b - a)

/-- `np.interp` over knots `(arc length, point)`: the last knot `j` with `d[j] ≤ s`; exactly on a knot or outside the
range that knot's point, otherwise linear interpolation towards knot `j + 1`. -/
noncomputable def polyAtR : List (ℝ × E) → ℝ → E
  | [], _ => 0
  | [k], _ => k.2
  | k0 :: k1 :: rest, s =>
    if k1.1 ≤ s then polyAtR (k1 :: rest) s
    else if s ≤ k0.1 then k0.2
    else lerpR k0.2 k1.2 ((s - k0.1) / (k1.1 - k0.1))

/-- Knots of a polyline with its exact Euclidean arc lengths: `dist = insert(cumsum(norm(diff)), 0, 0)`. -/
noncomputable def knotsR : ℝ → List E → List (ℝ × E)
  | acc, p :: q :: rest => (acc, p) :: knotsR (acc + dist p q) (q :: rest)
  | acc, [p] => [(acc, p)]
  | _, [] => []

/-- Consecutive knots are not further apart than their arc positions. -/
def ArcOKR : List (ℝ × E) → Prop
  | k0 :: k1 :: rest => k0.1 ≤ k1.1 ∧ ‖k1.2 - k0.2‖ ≤ k1.1 - k0.1 ∧ ArcOKR (k1 :: rest)
  | _ => True

/-- Length of the polyline through the points. -/
noncomputable def chainLenR : List E → ℝ
  | a :: b :: rest => dist a b + chainLenR (b :: rest)
  | _ => 0

/-- The `k + 2` points sampled at `np.linspace(0, total, k + 2)`. -/
noncomputable def samplesR (ks : List (ℝ × E)) (total : ℝ) (k : ℕ) : List E :=
  (List.range (k + 2)).map fun (j : ℕ) => polyAtR ks ((j : ℝ) * total / ((k : ℝ) + 1))

theorem polyAtR_cons_cons (k0 k1 : ℝ × E) (rest : List (ℝ × E)) (s : ℝ) :
    polyAtR (k0 :: k1 :: rest) s =
      if k1.1 ≤ s then polyAtR (k1 :: rest) s
      else if s ≤ k0.1 then k0.2
      else lerpR k0.2 k1.2 ((s - k0.1) / (k1.1 - k0.1)) := by
  rw [polyAtR]

omit [NormedSpace ℝ E] in
theorem knotsR_head (acc : ℝ) (p : E) (ps : List E) : ∃ tl, knotsR acc (p :: ps) = (acc, p) :: tl := by
  cases ps with
  | nil => exact ⟨[], by rw [knotsR]⟩
  | cons q rest => exact ⟨_, by rw [knotsR]⟩

omit [NormedSpace ℝ E] in
theorem knotsR_arcOK : ∀ (acc : ℝ) (pts : List E), ArcOKR (knotsR acc pts)
  | _, [] => trivial
  | _, [_] => trivial
  | acc, p :: q :: rest => by
    have ih := knotsR_arcOK (acc + dist p q) (q :: rest)
    obtain ⟨tl, htl⟩ := knotsR_head (acc + dist p q) q rest
    rw [htl] at ih
    rw [knotsR, htl]
    refine ⟨le_add_of_nonneg_right dist_nonneg, ?_, ih⟩
    rw [add_sub_cancel_left, ← dist_eq_norm, dist_comm]

theorem lerpR_zero (a b : E) : lerpR a b 0 = a := by rw [lerpR, zero_smul, add_zero]

theorem lerpR_one (a b : E) : lerpR a b 1 = b := by rw [lerpR, one_smul, add_sub_cancel]

/-- On one edge `a → b` of arc length `L` that is not longer than `L`: the points at arc positions `u ≤ v` (from `a`)
are at most `v − u` apart.  With `u = 0` resp. `v = L` one of the two points is `a` resp. `b`. -/
theorem norm_edge_le (a b : E) {L : ℝ} (hL : 0 < L) (he : ‖b - a‖ ≤ L) {u v : ℝ} (huv : u ≤ v) :
    ‖lerpR a b (v / L) - lerpR a b (u / L)‖ ≤ v - u := by
  rw [lerpR, lerpR, add_sub_add_left_eq_sub, ← sub_smul, norm_smul, ← sub_div,
    Real.norm_of_nonneg (div_nonneg (sub_nonneg.mpr huv) hL.le)]
  calc (v - u) / L * ‖b - a‖ ≤ (v - u) / L * L :=
        mul_le_mul_of_nonneg_left he (div_nonneg (sub_nonneg.mpr huv) hL.le)
    _ = v - u := div_mul_cancel₀ _ hL.ne'

theorem norm_polyAtR_sub_first : ∀ (rest : List (ℝ × E)) (k0 : ℝ × E), ArcOKR (k0 :: rest) → ∀ s, k0.1 ≤ s →
    ‖polyAtR (k0 :: rest) s - k0.2‖ ≤ s - k0.1
  | [], k0, _, s, hs => by rw [polyAtR, sub_self, norm_zero]; exact sub_nonneg.mpr hs
  | k1 :: rest, k0, h, s, hs => by
    obtain ⟨h01, hd, hrest⟩ := h
    rw [polyAtR_cons_cons]
    by_cases h1 : k1.1 ≤ s
    · rw [if_pos h1]
      calc ‖polyAtR (k1 :: rest) s - k0.2‖
          ≤ ‖polyAtR (k1 :: rest) s - k1.2‖ + ‖k1.2 - k0.2‖ := norm_sub_le_norm_sub_add_norm_sub _ _ _
        _ ≤ (s - k1.1) + (k1.1 - k0.1) := add_le_add (norm_polyAtR_sub_first rest k1 hrest s h1) hd
        _ = s - k0.1 := sub_add_sub_cancel _ _ _
    · rw [if_neg h1]
      by_cases h2 : s ≤ k0.1
      · rw [if_pos h2, sub_self, norm_zero]; exact sub_nonneg.mpr hs
      · rw [if_neg h2]
        have hL : 0 < k1.1 - k0.1 := sub_pos.mpr ((not_le.mp h2).trans (not_le.mp h1))
        have := norm_edge_le k0.2 k1.2 hL hd (sub_nonneg.mpr hs)
        rwa [zero_div, lerpR_zero, sub_zero] at this

/-- **The arc-length parametrisation is 1-Lipschitz.** -/
theorem norm_polyAtR_sub_le (ks : List (ℝ × E)) (h : ArcOKR ks) (s s' : ℝ) (hss : s ≤ s') :
    ‖polyAtR ks s' - polyAtR ks s‖ ≤ s' - s := by
  fun_induction polyAtR ks s with
  | case1 | case2 => simp only [polyAtR, sub_self, norm_zero]; exact sub_nonneg.mpr hss
  | case3 k0 k1 rest s h1 ih =>
    rw [polyAtR_cons_cons, if_pos (h1.trans hss)]
    exact ih h.2.2 hss
  | case4 k0 k1 rest s h1 h0 =>
    -- the lower point is the first knot
    by_cases hk : k0.1 ≤ s'
    · exact (norm_polyAtR_sub_first (k1 :: rest) k0 h s' hk).trans (sub_le_sub_left h0 s')
    · rw [polyAtR_cons_cons, if_neg (fun h' => hk (h.1.trans h')), if_pos (not_le.mp hk).le, sub_self, norm_zero]
      exact sub_nonneg.mpr hss
  | case5 k0 k1 rest s h1 h0 =>
    obtain ⟨h01, hd, hrest⟩ := h
    rw [polyAtR_cons_cons]
    have hL : 0 < k1.1 - k0.1 := sub_pos.mpr ((not_le.mp h0).trans (not_le.mp h1))
    by_cases h1' : k1.1 ≤ s'
    · rw [if_pos h1']
      -- interior point of the first edge → knot 1 → point further up
      have hB := norm_edge_le k0.2 k1.2 hL hd (sub_le_sub_right (not_le.mp h1).le k0.1)
      rw [div_self hL.ne', lerpR_one, sub_sub_sub_cancel_right] at hB
      calc ‖polyAtR (k1 :: rest) s' - lerpR k0.2 k1.2 ((s - k0.1) / (k1.1 - k0.1))‖
          ≤ ‖polyAtR (k1 :: rest) s' - k1.2‖ + ‖k1.2 - lerpR k0.2 k1.2 ((s - k0.1) / (k1.1 - k0.1))‖ :=
            norm_sub_le_norm_sub_add_norm_sub _ _ _
        _ ≤ (s' - k1.1) + (k1.1 - s) := add_le_add (norm_polyAtR_sub_first rest k1 hrest s' h1') hB
        _ = s' - s := sub_add_sub_cancel _ _ _
    · rw [if_neg h1', if_neg (fun h => h0 (hss.trans h))]
      have := norm_edge_le k0.2 k1.2 hL hd (sub_le_sub_right hss k0.1)
      rwa [sub_sub_sub_cancel_right] at this

theorem chainLenR_map_le (ks : List (ℝ × E)) (h : ArcOKR ks) (pos : ℕ → ℝ) (hmono : ∀ j, pos j ≤ pos (j + 1)) (n s : ℕ) :
    chainLenR ((List.range' s (n + 1)).map fun j => polyAtR ks (pos j)) ≤ pos (s + n) - pos s := by
  induction n generalizing s with
  | zero => simp [List.range', chainLenR]
  | succ n ih =>
    have h2 := ih (s + 1)
    rw [List.range'_succ, List.map_cons] at h2
    rw [List.range'_succ, List.map_cons, List.range'_succ, List.map_cons, chainLenR, dist_comm, dist_eq_norm]
    have h1 := norm_polyAtR_sub_le ks h (pos s) (pos (s + 1)) (hmono s)
    rw [show s + 1 + n = s + (n + 1) by omega] at h2
    linarith

/-- **Resampling one segment does not increase its length** (any knots satisfying `ArcOKR`). -/
theorem chainLenR_samples_le (ks : List (ℝ × E)) (h : ArcOKR ks) (total : ℝ) (ht : 0 ≤ total) (k : ℕ) :
    chainLenR (samplesR ks total k) ≤ total := by
  unfold samplesR
  rw [List.range_eq_range']
  have hk : (0 : ℝ) < (k : ℝ) + 1 := Nat.cast_add_one_pos k
  have := chainLenR_map_le ks h (fun j => (j : ℝ) * total / ((k : ℝ) + 1))
    (fun j => div_le_div_of_nonneg_right
      (mul_le_mul_of_nonneg_right (Nat.cast_le.mpr (Nat.le_succ j)) ht) hk.le) (k + 1) 0
  simp only [Nat.zero_add, Nat.cast_zero, zero_mul, zero_div, sub_zero] at this
  calc _ ≤ ((k + 1 : ℕ) : ℝ) * total / ((k : ℝ) + 1) := this
    _ = total := by rw [Nat.cast_succ]; exact mul_div_cancel_left₀ total hk.ne'

omit [NormedSpace ℝ E] in
theorem chainLenR_nonneg : ∀ pts : List E, 0 ≤ chainLenR pts
  | [] => le_refl _
  | [_] => le_refl _
  | a :: b :: rest => by
    rw [chainLenR]
    exact add_nonneg dist_nonneg (chainLenR_nonneg (b :: rest))

theorem polyAtR_knotsR_zero (p : E) (ps : List E) : polyAtR (knotsR 0 (p :: ps)) 0 = p := by
  have hok := knotsR_arcOK (0 : ℝ) (p :: ps)
  obtain ⟨tl, htl⟩ := knotsR_head (0 : ℝ) p ps
  rw [htl] at hok ⊢
  have := norm_polyAtR_sub_first tl (0, p) hok 0 (le_refl _)
  rw [sub_self] at this
  exact sub_eq_zero.mp (norm_eq_zero.mp (le_antisymm this (norm_nonneg _)))

/-- **"Never increases cable length" over ℝ, one segment**: for every polyline `pts` in a real normed space, with
its exact arc lengths, the chain through the `k + 2` points sampled at `np.linspace(0, L, k + 2)` (`L` the length of
`pts`) is at most `L` long. -/
theorem resample_segment_not_longer (pts : List E) (k : ℕ) :
    chainLenR (samplesR (knotsR 0 pts) (chainLenR pts) k) ≤ chainLenR pts :=
  chainLenR_samples_le _ (knotsR_arcOK 0 pts) _ (chainLenR_nonneg pts) k

end Navis.ResampleR

import NavisModel.Model.HealCheck
import NavisModel.Proofs.ForestLemmas
import NavisModel.Proofs.ListLemmas
/-!
The id-clash remap of `stitch_skeletons` (C11): one injective id map per input, disjoint id columns afterwards; what such a
map does to ids, coordinates, edges and roots of a skeleton (`ids_remapSkel` … `roots_remap`); master
selection (`largestIx`, `firstTrue`); the faces of `combine_neurons` on meshes (`concatFaces`).
-/
namespace Navis.Heal
open Navis.Forest

/-! ### `dict(zip(clash, arange + base))` -/

theorem lookup_zipIdx (l : List Int) (n : Nat) (base i d : Int) :
    lookupD ((l.zipIdx n).map fun ck => (ck.1, base + (ck.2 : Int))) i d =
      if i ∈ l then base + ((l.idxOf i + n : Nat) : Int) else d := by
  induction l generalizing n with
  | nil => rfl
  | cons x xs ih =>
    have ih := ih (n + 1)
    unfold lookupD at ih ⊢
    rw [List.zipIdx_cons, List.map_cons, List.find?_cons, List.idxOf_cons]
    by_cases hx : x = i
    · simp [hx]
    · have hb : (x == i) = false := beq_false_of_ne hx
      have hm : i ∈ x :: xs ↔ i ∈ xs := by rw [List.mem_cons]; exact or_iff_right fun h => hx h.symm
      simp only [hb, ih, hm, cond_false, Nat.add_assoc, Nat.add_comm 1 n]

def clashOf (seen this : List Int) : List Int := this.filter fun i => seen.contains i

def baseOf (seen this : List Int) : Int := maxOf (seen ++ this) + 1

theorem remapId_clashMap (seen this : List Int) (i : Int) :
    remapId (clashMap seen this) i =
      if i ∈ clashOf seen this then baseOf seen this + ((clashOf seen this).idxOf i : Nat) else i := by
  unfold remapId clashMap
  have := lookup_zipIdx (clashOf seen this) 0 (baseOf seen this) i i
  simp only [Nat.add_zero] at this
  exact this

theorem mem_clashOf {seen this : List Int} {i : Int} : i ∈ clashOf seen this ↔ i ∈ this ∧ i ∈ seen := by
  unfold clashOf; simp [List.mem_filter]

theorem lt_baseOf {seen this : List Int} {i : Int} (h : i ∈ seen ++ this) : i < baseOf seen this :=
  Int.lt_add_one_of_le ((foldl_max_int (seen ++ this) 0).1 i (List.mem_cons_of_mem _ h))

theorem baseOf_pos (seen this : List Int) : 0 < baseOf seen this :=
  Int.lt_add_one_of_le ((foldl_max_int (seen ++ this) 0).1 0 List.mem_cons_self)

/-- What one iteration of the remap loop guarantees about its id map `f` and the `seen` list it leaves (`seen1`). -/
structure StepOK (seen this : List Int) (f : Int → Int) (seen1 : List Int) : Prop where
  inj : ∀ a ∈ this, ∀ b ∈ this, f a = f b → a = b
  fresh : ∀ a ∈ this, f a ∉ seen
  claimed : ∀ a ∈ this, f a ∈ seen1
  mono : ∀ a ∈ seen, a ∈ seen1
  neg : ∀ a, a < 0 → f a = a
  nonneg : ∀ a, 0 ≤ a → 0 ≤ f a
  keep : ∀ a ∈ this, a ∉ seen → f a = a

theorem stepOK (seen this : List Int) (hpos : ∀ a ∈ this, 0 ≤ a) :
    StepOK seen this (remapId (clashMap seen this))
      (seen ++ this ++ (clashMap seen this).map (·.2)) := by
  refine ⟨?_, ?_, ?_, ?_, ?_, ?_, ?_⟩
  · intro a ha b hb hab
    rw [remapId_clashMap, remapId_clashMap] at hab
    have h1 := lt_baseOf (List.mem_append_right seen ha)
    have h2 := lt_baseOf (List.mem_append_right seen hb)
    split at hab <;> split at hab
    · -- two clashing ids with the same fresh id have the same position in the clash list
      rename_i _ cb
      exact idxOf_inj cb (by omega)
    · omega
    · omega
    · exact hab
  · intro a ha hs
    rw [remapId_clashMap] at hs
    by_cases h1 : a ∈ clashOf seen this
    · rw [if_pos h1] at hs
      have := lt_baseOf (List.mem_append_left this hs)
      omega
    · rw [if_neg h1] at hs
      exact h1 (mem_clashOf.mpr ⟨ha, hs⟩)
  · intro a ha
    rcases lookupD_eq_or (clashMap seen this) a a with h | h
    · rw [remapId, h]
      exact List.mem_append_left _ (List.mem_append_right _ ha)
    · exact List.mem_append_right _ h
  · intro a ha
    exact List.mem_append_left _ (List.mem_append_left _ ha)
  · intro a ha
    rw [remapId_clashMap, if_neg]
    intro h
    have := hpos a (mem_clashOf.mp h).1
    omega
  · intro a ha
    rw [remapId_clashMap]
    split
    · have := baseOf_pos seen this
      omega
    · exact ha
  · intro a ha hs
    rw [remapId_clashMap, if_neg]
    intro h
    exact hs (mem_clashOf.mp h).2

@[simp] theorem remapId_nil (i : Int) : remapId [] i = i := by simp [remapId, lookupD]

theorem remapNode_nil (n : Node) : remapNode [] n = n := by
  cases n; simp [remapNode]

theorem remapSkel_nil (s : Skel) : remapSkel [] s = s := by
  have hid : remapId [] = id := funext remapId_nil
  have hnode : remapNode [] = id := funext remapNode_nil
  cases s
  simp [remapSkel, hid, hnode]

theorem ids_remapNodes (m : List (Int × Int)) (t : Table) :
    ids (t.map (remapNode m)) = (ids t).map (remapId m) := by
  simp [remapNode, ids, List.map_map, Function.comp_def]

theorem ids_remapSkel (m : List (Int × Int)) (s : Skel) :
    ids (remapSkel m s).nodes = (ids s.nodes).map (remapId m) :=
  ids_remapNodes m s.nodes

theorem coords_remapSkel (m : List (Int × Int)) (s : Skel) :
    (remapSkel m s).nodes.map (fun n => (n.x, n.y, n.z)) = s.nodes.map (fun n => (n.x, n.y, n.z)) := by
  simp [remapSkel, remapNode, List.map_map, Function.comp_def]

def SkelOK (s : Skel) : Prop := (ids s.nodes).Nodup ∧ ∀ a ∈ ids s.nodes, 0 ≤ a

def Disj (a b : List Int) : Prop := ∀ x ∈ a, x ∉ b

/-- Main invariant of the remap loop, `M` being the master's ids: the outputs have duplicate-free, pairwise disjoint id
columns, and apart from the master while it is still ahead none of them uses an id that was seen before. -/
theorem stitchGo_inv (mIx : Nat) (M : List Int) (rest : List Skel) : ∀ (i : Nat) (seen : List Int),
    (∀ s ∈ rest, SkelOK s) → (∀ k m, rest[k]? = some m → i + k = mIx → ids m.nodes = M) →
    (i ≤ mIx → ∀ a ∈ M, a ∈ seen) →
    (stitchGo mIx i seen rest).Pairwise (fun a b => Disj (ids a.nodes) (ids b.nodes)) ∧
    (∀ x ∈ stitchGo mIx i seen rest, (ids x.nodes).Nodup) ∧
    ∀ x ∈ stitchGo mIx i seen rest, Disj (ids x.nodes) seen ∨ (i ≤ mIx ∧ ids x.nodes = M) := by
  induction rest with
  | nil => intro i seen _ _ _; exact ⟨List.Pairwise.nil, fun _ h => (nomatch h), fun _ h => (nomatch h)⟩
  | cons s rest ih =>
    intro i seen hok hM hsub
    have hs := hok s List.mem_cons_self
    have hrest : ∀ x ∈ rest, SkelOK x := fun x hx => hok x (List.mem_cons_of_mem _ hx)
    have hM' : ∀ k m, rest[k]? = some m → i + 1 + k = mIx → ids m.nodes = M :=
      fun k m hk he => hM (k + 1) m hk (by omega)
    rw [stitchGo]
    by_cases hi : i = mIx
    · -- the master: untouched, its ids are already claimed
      rw [if_pos hi]
      have hsM : ids s.nodes = M := hM 0 s rfl hi
      obtain ⟨p1, p2, p3⟩ := ih (i + 1) seen hrest hM' (fun h => absurd h (by omega))
      have hfresh : ∀ x ∈ stitchGo mIx (i + 1) seen rest, Disj (ids x.nodes) seen :=
        fun x hx => (p3 x hx).resolve_right fun h => absurd h.1 (by omega)
      exact ⟨List.pairwise_cons.mpr
          ⟨fun x hx a ha hax => hfresh x hx a hax (hsub (Nat.le_of_eq hi) a (hsM ▸ ha)), p1⟩,
        List.forall_mem_cons.mpr ⟨hs.1, p2⟩,
        List.forall_mem_cons.mpr ⟨Or.inr ⟨Nat.le_of_eq hi, hsM⟩, fun x hx => Or.inl (hfresh x hx)⟩⟩
    · rw [if_neg hi]
      have hst := stepOK seen (ids s.nodes) hs.2
      have hN : ids (stitchOne seen s).2.nodes = (ids s.nodes).map (remapId (clashMap seen (ids s.nodes))) :=
        ids_remapSkel _ _
      obtain ⟨p1, p2, p3⟩ := ih (i + 1) (stitchOne seen s).1 hrest hM'
        (fun h a ha => hst.mono a (hsub (by omega) a ha))
      -- the ids of the new head were not seen before and are claimed afterwards
      have hhead : ∀ a ∈ ids (stitchOne seen s).2.nodes, a ∉ seen ∧ a ∈ (stitchOne seen s).1 := by
        intro a ha
        rw [hN] at ha
        obtain ⟨b, hb, rfl⟩ := List.mem_map.mp ha
        exact ⟨hst.fresh b hb, hst.claimed b hb⟩
      refine ⟨List.pairwise_cons.mpr ⟨fun x hx a ha hax => ?_, p1⟩,
        List.forall_mem_cons.mpr ⟨by rw [hN]; exact nodup_map_of_inj hs.1 hst.inj, p2⟩,
        List.forall_mem_cons.mpr ⟨Or.inl fun a ha => (hhead a ha).1, fun x hx => ?_⟩⟩
      · rcases p3 x hx with h | ⟨hle, hxM⟩
        · exact h a hax (hhead a ha).2
        · exact (hhead a ha).1 (hsub (by omega) a (hxM ▸ hax))
      · exact (p3 x hx).imp (fun h a ha hs' => h a ha (hst.mono a hs')) (fun h => ⟨by omega, h.2⟩)

theorem disj_flatMap {a : List Int} {xs : List Skel} (h : ∀ y ∈ xs, Disj a (ids y.nodes)) :
    Disj a (ids (xs.flatMap (·.nodes))) := by
  intro i hi hb
  unfold ids at hb
  rw [List.map_flatMap, List.mem_flatMap] at hb
  obtain ⟨y, hy, hiy⟩ := hb
  exact h y hy i hi hiy

theorem nodup_flatMap_ids {l : List Skel} (h1 : l.Pairwise (fun a b => Disj (ids a.nodes) (ids b.nodes)))
    (h2 : ∀ x ∈ l, (ids x.nodes).Nodup) : (ids (l.flatMap (·.nodes))).Nodup := by
  induction l with
  | nil => exact List.nodup_nil
  | cons x xs ih =>
    rw [List.pairwise_cons] at h1
    rw [List.flatMap_cons, ids_append]
    refine List.nodup_append.mpr ⟨h2 x List.mem_cons_self, ih h1.2 fun y hy => h2 y (List.mem_cons_of_mem _ hy), ?_⟩
    intro a ha b hb hab
    exact disj_flatMap h1.1 a ha (hab ▸ hb)

theorem stitchRemap_inv (mIx : Nat) (l : List Skel) (hok : ∀ s ∈ l, SkelOK s) :
    (stitchRemap mIx l).Pairwise (fun a b => Disj (ids a.nodes) (ids b.nodes)) ∧
      ∀ x ∈ stitchRemap mIx l, (ids x.nodes).Nodup := by
  have hM : ∀ k m, l[k]? = some m → 0 + k = mIx →
      ids m.nodes = (match l[mIx]? with | some m => ids m.nodes | none => []) := by
    intro k m hk he
    rw [← he, Nat.zero_add, hk]
  obtain ⟨p1, p2, _⟩ := stitchGo_inv mIx _ l 0 _ hok hM (fun _ _ ha => ha)
  exact ⟨p1, p2⟩

/-- What happened to one input: the same skeleton under an injective id map that fixes negative
(root) parents and keeps non-negative ids non-negative. -/
structure RemapOf (s out : Skel) (m : List (Int × Int)) : Prop where
  eq : out = remapSkel m s
  inj : ∀ a ∈ ids s.nodes, ∀ b ∈ ids s.nodes, remapId m a = remapId m b → a = b
  neg : ∀ a, a < 0 → remapId m a = a
  nonneg : ∀ a, 0 ≤ a → 0 ≤ remapId m a

theorem stitchGo_cons (mIx i : Nat) (seen : List Int) (s : Skel) (rest : List Skel) :
    stitchGo mIx i seen (s :: rest) =
      (if i = mIx then s else (stitchOne seen s).2) ::
        stitchGo mIx (i + 1) (if i = mIx then seen else (stitchOne seen s).1) rest := by
  rw [stitchGo]
  split <;> rfl

theorem stitchGo_get (mIx : Nat) (rest : List Skel) : ∀ (i : Nat) (seen : List Int) (k : Nat) (s : Skel),
    (∀ s ∈ rest, SkelOK s) → rest[k]? = some s →
    ∃ out m, (stitchGo mIx i seen rest)[k]? = some out ∧ RemapOf s out m ∧ (i + k = mIx → m = []) := by
  induction rest with
  | nil => intro i seen k s _ h; simp at h
  | cons x rest ih =>
    intro i seen k s hok hk
    rw [stitchGo_cons]
    cases k with
    | zero =>
      cases (Option.some.inj hk : x = s)
      by_cases hi : i = mIx
      · rw [if_pos hi]
        exact ⟨x, [], rfl, ⟨(remapSkel_nil x).symm, by intro a _ b _ h; simpa using h, by simp, by simp⟩, fun _ => rfl⟩
      · rw [if_neg hi]
        have hst := stepOK seen (ids x.nodes) (hok x List.mem_cons_self).2
        exact ⟨_, clashMap seen (ids x.nodes), rfl, ⟨rfl, hst.inj, hst.neg, hst.nonneg⟩, fun h => absurd h hi⟩
    | succ k =>
      obtain ⟨out, m, h1, h2, h3⟩ := ih (i + 1) _ k s (fun y hy => hok y (List.mem_cons_of_mem _ hy)) hk
      exact ⟨out, m, h1, h2, fun h => h3 (by omega)⟩

/-- Every input reappears, in its position, remapped by ONE injective id map (the empty map for the master). -/
theorem stitchRemap_get (mIx : Nat) (l : List Skel) (hok : ∀ s ∈ l, SkelOK s) {k : Nat} {s : Skel}
    (hk : l[k]? = some s) :
    ∃ out m, (stitchRemap mIx l)[k]? = some out ∧ RemapOf s out m ∧ (k = mIx → m = []) := by
  unfold stitchRemap
  obtain ⟨out, m, h1, h2, h3⟩ := stitchGo_get mIx l 0 _ k s hok hk
  exact ⟨out, m, h1, h2, fun h => h3 (by omega)⟩

theorem stitchGo_length (mIx : Nat) (rest : List Skel) : ∀ (i : Nat) (seen : List Int),
    (stitchGo mIx i seen rest).length = rest.length := by
  induction rest with
  | nil => intro i seen; rfl
  | cons x rest ih => intro i seen; rw [stitchGo_cons, List.length_cons, ih, List.length_cons]

theorem stitchRemap_length (mIx : Nat) (l : List Skel) : (stitchRemap mIx l).length = l.length :=
  stitchGo_length mIx l 0 _

theorem isRootNode_remapNode {m : List (Int × Int)} (hneg : ∀ a, a < 0 → remapId m a = a)
    (hnn : ∀ a, 0 ≤ a → 0 ≤ remapId m a) (n : Node) : isRootNode (remapNode m n) = isRootNode n := by
  have : (remapId m n.parent < 0) ↔ (n.parent < 0) := by
    constructor
    · intro h
      apply Classical.byContradiction
      intro hp
      have := hnn n.parent (by omega)
      omega
    · intro h; rw [hneg _ h]; exact h
  show decide (remapId m n.parent < 0) = decide (n.parent < 0)
  exact decide_eq_decide.mpr this

theorem edges_remap {s : Skel} {m : List (Int × Int)} (hneg : ∀ a, a < 0 → remapId m a = a)
    (hnn : ∀ a, 0 ≤ a → 0 ≤ remapId m a) :
    edges (remapSkel m s).nodes = (edges s.nodes).map fun e => (remapId m e.1, remapId m e.2) := by
  unfold edges remapSkel
  simp only [List.filter_map, List.map_map]
  congr 1
  apply List.filter_congr
  intro n _
  show (!isRootNode (remapNode m n)) = !isRootNode n
  rw [isRootNode_remapNode hneg hnn]

theorem roots_remap {s : Skel} {m : List (Int × Int)} (hneg : ∀ a, a < 0 → remapId m a = a)
    (hnn : ∀ a, 0 ≤ a → 0 ≤ remapId m a) : roots (remapSkel m s).nodes = (roots s.nodes).map (remapId m) := by
  unfold roots remapSkel
  simp only [List.filter_map, List.map_map]
  congr 1
  exact List.filter_congr fun n _ => isRootNode_remapNode hneg hnn n

/-! ### master selection; `combine_neurons` on meshes -/

theorem largestIx_spec : ∀ (l : List Skel), l ≠ [] →
    ∃ s, l[largestIx l]? = some s ∧ (∀ x ∈ l, x.nodes.length ≤ s.nodes.length) ∧
      ∀ k x, k < largestIx l → l[k]? = some x → x.nodes.length < s.nodes.length
  | [], h => absurd rfl h
  | [s], _ => ⟨s, rfl, fun x hx => by rw [List.mem_singleton.mp hx]; exact Nat.le_refl _,
      fun k _ hk => absurd hk (Nat.not_lt_zero k)⟩
  | s :: t :: rest, _ => by
    obtain ⟨r, h1, h2, h3⟩ := largestIx_spec (t :: rest) (List.cons_ne_nil _ _)
    rw [largestIx, h1]
    dsimp only
    by_cases hlt : s.nodes.length < r.nodes.length
    · rw [if_pos hlt]
      refine ⟨r, h1, fun x hx => ?_, fun k x hk hx => ?_⟩
      · rcases List.mem_cons.mp hx with rfl | hx
        · exact Nat.le_of_lt hlt
        · exact h2 x hx
      · cases k with
        | zero => cases hx; exact hlt
        | succ k => exact h3 k x (Nat.lt_of_succ_lt_succ hk) hx
    · rw [if_neg hlt]
      refine ⟨s, rfl, fun x hx => ?_, fun k _ hk => absurd hk (Nat.not_lt_zero k)⟩
      rcases List.mem_cons.mp hx with rfl | hx
      · exact Nat.le_refl _
      · exact Nat.le_trans (h2 x hx) (Nat.le_of_not_lt hlt)

theorem firstTrue_eq_findIdx? (bs : List Bool) : firstTrue bs = bs.findIdx? id := by
  induction bs with
  | nil => rfl
  | cons b rest ih => rw [firstTrue, List.findIdx?_cons, ih]; rfl

theorem firstTrue_some {bs : List Bool} {i : Nat} (h : firstTrue bs = some i) :
    bs[i]? = some true ∧ ∀ k, k < i → bs[k]? = some false := by
  rw [firstTrue_eq_findIdx?] at h
  obtain ⟨hi, h1, h2⟩ := List.findIdx?_eq_some_iff_getElem.mp h
  refine ⟨(List.getElem?_eq_getElem hi).trans (congrArg some h1), fun k hk => ?_⟩
  exact (List.getElem?_eq_getElem (Nat.lt_trans hk hi)).trans (congrArg some (Bool.eq_false_iff.mpr (h2 k hk)))

theorem firstTrue_none {bs : List Bool} (h : firstTrue bs = none) : ∀ b ∈ bs, b = false :=
  List.findIdx?_eq_none_iff.mp (firstTrue_eq_findIdx? bs ▸ h)

/-- The shift is a variable `s` with an equation, so that the recursive call can rewrite the sum it stands for. -/
theorem mem_concatFaces : ∀ (meshes : List (Nat × List (Nat × Nat × Nat))) (off k : Nat) (m : Nat × List (Nat × Nat × Nat)),
    meshes[k]? = some m → ∀ f ∈ m.2, ∀ s, s = off + ((meshes.take k).map (·.1)).sum →
      (f.1 + s, f.2.1 + s, f.2.2 + s) ∈ concatFaces off meshes
  | [], _, _, _, h => nomatch h
  | m0 :: rest, off, 0, m, h => by
    cases (Option.some.inj h : m0 = m)
    intro f hf s hs
    subst hs
    exact List.mem_append_left _ (List.mem_map.mpr ⟨f, hf, rfl⟩)
  | m0 :: rest, off, k + 1, m, h => by
    intro f hf s hs
    refine List.mem_append_right _ (mem_concatFaces rest (off + m0.1) k m h f hf s ?_)
    rw [hs, List.take_succ_cons, List.map_cons, List.sum_cons, Nat.add_assoc]

theorem length_concatFaces : ∀ (meshes : List (Nat × List (Nat × Nat × Nat))) (off : Nat),
    (concatFaces off meshes).length = (meshes.map (·.2.length)).sum
  | [], _ => by simp [concatFaces]
  | m :: rest, off => by
    unfold concatFaces
    simp [length_concatFaces rest]

end Navis.Heal

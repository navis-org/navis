import NavisModel.Model.TreeCheck
import NavisModel.Proofs.SubsetAlgebra
/-!
C10 (core Lean only): what the checkers of `Model/TreeCheck.lean` test, clause by clause (`rerootOKB_clauses`,
`subsetOKB_clauses`), and the steps of their soundness, completeness and exactness (`Props/C10.lean`).
-/
namespace Navis.TreeEdit
open Navis.Forest

theorem mem_offPathRows {t : Table} {r : Int} {n : Node} : n ∈ offPathRows t r ↔ n ∈ t ∧ n.id ∉ rootPath t r := by
  unfold offPathRows
  simp [List.mem_filter]

theorem rerootOKB_clauses {t t' : Table} {r : Int} :
    rerootOKB t t' r = true ↔ coordRows t' = coordRows t ∧ wfB t' = true ∧ labelsOKB t' = true ∧
      (uedges t').Perm (uedges t) ∧ r ∈ roots t' ∧ ∀ n ∈ t, n.id ∉ rootPath t r → n ∈ t' := by
  unfold rerootOKB
  simp only [Bool.and_eq_true, beq_iff_eq, List.all_eq_true, List.contains_eq_mem, decide_eq_true_eq, and_assoc,
    List.isPerm_iff, mem_offPathRows, and_imp]

theorem subsetOKB_clauses {t t' : Table} {keep : Int → Bool} :
    subsetOKB t t' keep = true ↔
    ids t' = (ids t).filter keep ∧ labelsOKB t' = true ∧
    ∀ m ∈ t', ∃ n, find? t m.id = some n ∧ m.x = n.x ∧ m.y = n.y ∧ m.z = n.z ∧
      m.parent = (if n.parent ∈ (ids t).filter keep then n.parent else -1) := by
  unfold subsetOKB
  simp only [Bool.and_eq_true, beq_iff_eq, List.all_eq_true, and_assoc]
  refine and_congr_right fun _ => and_congr_right fun _ => forall₂_congr fun m _ => ?_
  cases find? t m.id with
  | none => simp
  | some n => simp only [Bool.and_eq_true, beq_iff_eq, and_assoc, List.contains_eq_mem, decide_eq_true_eq,
      Option.some.injEq, exists_eq_left']

theorem subsetOKB_complete {t : Table} (hw : WF t) (keep : Int → Bool) : subsetOKB t (subset t keep) keep = true := by
  refine subsetOKB_clauses.mpr ⟨ids_subset t keep, labelsOKB_subset t keep, fun m hm => ?_⟩
  obtain ⟨n, hn, hid, _, hx, hy, hz, hp⟩ := subset_parent keep hm
  exact ⟨n, hid ▸ find?_of_mem hw.1 hn, hx, hy, hz, hp⟩

/-- The row the specification prescribes for a kept id (label aside).  `id := i` so that no `n.id = i` is needed where it is
used; the `none` branch is a filler, never reached on `(ids t).filter keep`. -/
def specNode (t : Table) (keep : Int → Bool) (i : Int) : Node :=
  match find? t i with
  | some n => { n with id := i, parent := if n.parent ∈ (ids t).filter keep then n.parent else -1, label := .slab }
  | none => { id := i, parent := 0 }

theorem eraseLabel_of_subsetOKB {t u : Table} {keep : Int → Bool} (h : subsetOKB t u keep = true) :
    u.map eraseLabel = ((ids t).filter keep).map (specNode t keep) := by
  obtain ⟨hids, _, hrows⟩ := subsetOKB_clauses.mp h
  rw [← hids]
  unfold ids
  rw [List.map_map]
  refine List.map_congr_left fun m hm => ?_
  obtain ⟨n, hf, hx, hy, hz, hp⟩ := hrows m hm
  simp only [Function.comp, specNode, hf, eraseLabel]
  rw [hx, hy, hz, hp]

end Navis.TreeEdit

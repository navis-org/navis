import NavisModel.Proofs.UnitsHistLemmas
import Mathlib.Analysis.Real.Sqrt
/-! C15: the real Euclidean norm is an instance of the abstract edge-length function of `UnitsHistLemmas`. -/
namespace Navis.Units

/-- Euclidean length of a rational vector, in `ℝ` -/
noncomputable def enorm (v : V3) : ℝ := Real.sqrt ((v.x : ℝ) ^ 2 + (v.y : ℝ) ^ 2 + (v.z : ℝ) ^ 2)

theorem enorm_eq_sqrt_normSq (v : V3) : enorm v = Real.sqrt ((normSq v : Rat) : ℝ) := by
  unfold enorm normSq
  rw [sq, sq, sq]
  push_cast
  rfl

/-- absolute homogeneity for every rational factor (negative ones mirror the neuron) -/
theorem enorm_abs_homog (v : V3) (k : Rat) : enorm (v.mul (V3.rep k)) = |(k : ℝ)| * enorm v := by
  rw [enorm_eq_sqrt_normSq, enorm_eq_sqrt_normSq, normSq_mul_rep]
  push_cast
  rw [Real.sqrt_mul (mul_self_nonneg _), Real.sqrt_mul_self_eq_abs]

theorem enorm_homog (v : V3) {k : Rat} (hk : 0 < k) : enorm (v.mul (V3.rep k)) = (k : ℝ) * enorm v := by
  rw [enorm_abs_homog, abs_of_pos (by exact_mod_cast hk)]

end Navis.Units

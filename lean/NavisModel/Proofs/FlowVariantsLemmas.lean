import NavisModel.Model.FlowVariants
import NavisModel.Proofs.FlowLemmas
/-! The Python path of `synapse_flow_centrality` (formula at branch / root / connector nodes, propagation
along the small segments, fork rule) equals the formula evaluated at every node (`Flow.sfc`) —
`Props.C04.synapse_flow_python_eq_formula`.  Here: the invariant of the propagation (it rests on `Flow.sfcRaw_single_child`
and `Flow.sfcRaw_leaf`: the formula is constant along a connector-free stretch and 0 at a connector-free leaf) and its
result `propagate_column` (every row ends with the formula value). -/
namespace Navis.FlowVar
open Navis.Forest Navis.Flow

theorem get?_set_same (fl : List (Int × Nat)) (k : Int) (v : Nat) : get? (set fl k v) k = some v := by
  simp [get?, set]

theorem get?_set_ne (fl : List (Int × Nat)) {k x : Int} (v : Nat) (h : k ≠ x) : get? (set fl k v) x = get? fl x := by
  simp [get?, set, beq_false_of_ne h]

theorem get?_map (l : List Int) (f : Int → Nat) (x : Int) :
    get? (l.map fun n => (n, f n)) x = if x ∈ l then some (f x) else none := by
  have := lookup_map_append l f [] x
  rwa [List.append_nil] at this

section
variable {t : Table} {m : Mode} {pre post : List Int}

def Good (t : Table) (m : Mode) (pre post : List Int) (fl : List (Int × Nat)) : Prop :=
  ∀ x v, get? fl x = some v → v = sfcRaw t true m pre post x

def Ext (fl fl' : List (Int × Nat)) : Prop := ∀ k, (get? fl k).isSome = true → (get? fl' k).isSome = true

theorem Ext.refl (fl : List (Int × Nat)) : Ext fl fl := fun _ h => h
theorem Ext.trans {a b c : List (Int × Nat)} (h1 : Ext a b) (h2 : Ext b c) : Ext a c := fun k h => h2 k (h1 k h)

theorem Ext_set (fl : List (Int × Nat)) (k : Int) (v : Nat) : Ext fl (set fl k v) := by
  intro x h
  by_cases e : k = x
  · rw [e, get?_set_same]; rfl
  · rw [get?_set_ne fl v e]; exact h

theorem Good_set {fl : List (Int × Nat)} (hg : Good t m pre post fl) {k : Int} {v : Nat}
    (hv : v = sfcRaw t true m pre post k) : Good t m pre post (set fl k v) := by
  intro x w h
  by_cases e : k = x
  · rw [e, get?_set_same] at h
    rw [← e, ← hv]; exact (Option.some.inj h).symm
  · rw [get?_set_ne fl v e] at h; exact hg x w h

/-- What the inner loop needs of the nodes after `prev`: each either has a value already (in the dictionary
`fl0` the segment started with) or is a connector-free node whose only child is its predecessor. -/
def StepOK (t : Table) (pre post : List Int) (fl0 : List (Int × Nat)) : Int → List Int → Prop
  | _, [] => True
  | prev, x :: r =>
    ((get? fl0 x).isSome = true ∨ (children t x = [prev] ∧ x ∈ ids t ∧ x ∉ pre ∧ x ∉ post)) ∧ StepOK t pre post fl0 x r

theorem fillUp_ok (hw : WF t) (fl0 : List (Int × Nat)) :
    ∀ (rest : List Int) (prev : Int) (fl : List (Int × Nat)), Good t m pre post fl → Ext fl0 fl →
      (get? fl prev).isSome = true → StepOK t pre post fl0 prev rest →
      ∃ fl', fillUp fl prev rest = some fl' ∧ Good t m pre post fl' ∧ Ext fl fl' ∧ ∀ x ∈ rest, (get? fl' x).isSome = true := by
  intro rest
  induction rest with
  | nil => intro prev fl hg _ _ _; exact ⟨fl, rfl, hg, Ext.refl fl, by simp⟩
  | cons x r ih =>
    intro prev fl hg hext hprev hstep
    obtain ⟨hx, hr⟩ := hstep
    unfold fillUp
    cases hgx : get? fl x with
    | some v =>
      simp only
      obtain ⟨fl', h1, h2, h3, h4⟩ := ih x fl hg hext (by rw [hgx]; rfl) hr
      exact ⟨fl', h1, h2, h3, List.forall_mem_cons.mpr ⟨h3 x (by rw [hgx]; rfl), h4⟩⟩
    | none =>
      simp only
      rcases hx with hx | ⟨hch, hxi, hx1, hx2⟩
      · have := hext x hx
        rw [hgx] at this; simp at this
      · cases hgp : get? fl prev with
        | none => rw [hgp] at hprev; simp at hprev
        | some v =>
          simp only
          have hv : v = sfcRaw t true m pre post x := by
            rw [sfcRaw_single_child hw hch hxi m pre post hx1 hx2]; exact hg prev v hgp
          have hg' := Good_set hg (k := x) hv
          have hext' : Ext fl0 (set fl x v) := hext.trans (Ext_set fl x v)
          obtain ⟨fl', h1, h2, h3, h4⟩ := ih x (set fl x v) hg' hext' (by rw [get?_set_same]; rfl) hr
          exact ⟨fl', h1, h2, (Ext_set fl x v).trans h3,
            List.forall_mem_cons.mpr ⟨h3 x (by rw [get?_set_same]; rfl), h4⟩⟩

theorem flowInit_key {x : Int} (h : x ∈ calcNodes t pre post) : (get? (flowInit t m pre post) x).isSome = true := by
  unfold flowInit; rw [get?_map, if_pos h]; rfl

theorem flowInit_good : Good t m pre post (flowInit t m pre post) := by
  intro x v h
  unfold flowInit at h
  rw [get?_map] at h
  split at h
  · exact (Option.some.inj h).symm
  · exact absurd h (by simp)

theorem mem_calcNodes {x : Int} : x ∈ calcNodes t pre post ↔
    ∃ n ∈ t, n.id = x ∧ (n.label = .branch ∨ n.label = .root ∨ x ∈ pre ∨ x ∈ post) := by
  unfold calcNodes
  simp only [List.mem_map, List.mem_filter, Bool.or_eq_true, beq_iff_eq, List.contains_eq_mem, decide_eq_true_eq,
    List.mem_append]
  constructor
  · rintro ⟨n, ⟨hn, hc⟩, rfl⟩
    exact ⟨n, hn, rfl, or_assoc.mp hc⟩
  · rintro ⟨n, hn, rfl, hc⟩
    exact ⟨n, ⟨hn, or_assoc.mpr hc⟩, rfl⟩

theorem stop_is_calc (hl : labelsOKB t = true) {x : Int} (hx : x ∈ ids t) (hs : isBranchOrRoot t x = true)
    (hnd : (ids t).Nodup) : x ∈ calcNodes t pre post := by
  obtain ⟨n, hn, rfl⟩ := mem_ids.mp hx
  rw [isBranchOrRoot_of_find (find?_of_mem hnd hn)] at hs
  simp only [Bool.or_eq_true, decide_eq_true_eq] at hs
  refine mem_calcNodes.mpr ⟨n, hn, rfl, ?_⟩
  by_cases hr : n.parent < 0
  · exact Or.inr (Or.inl ((label_root_iff hl hn).mpr hr))
  · exact Or.inl ((label_branch_iff hl hn).mpr ⟨hr, by omega⟩)

/-- The nodes after the seed of a small segment satisfy `StepOK` w.r.t. any dictionary that has the calc
nodes as keys. -/
theorem stepOK_of_linked (hw : WF t) (hl : labelsOKB t = true) {fl0 : List (Int × Nat)}
    (hcalc : ∀ x ∈ calcNodes t pre post, (get? fl0 x).isSome = true) {last : Int} (hlast : last ∈ ids t)
    (hstop : isBranchOrRoot t last = true) :
    ∀ (mid : List Int) (prev : Int), Linked t (prev :: mid ++ [last]) →
      (∀ x ∈ mid, childCount t x = 1 ∧ isBranchOrRoot t x = false) → StepOK t pre post fl0 prev (mid ++ [last]) := by
  intro mid
  induction mid with
  | nil =>
    intro prev _ _
    exact ⟨Or.inl (hcalc last (stop_is_calc hl hlast hstop hw.1)), trivial⟩
  | cons x mid ih =>
    intro prev hlink hmid
    obtain ⟨hch, hxi⟩ := chain_step hw hlink (hmid x List.mem_cons_self).1
    refine ⟨?_, ih x hlink.2 (fun y hy => hmid y (List.mem_cons_of_mem _ hy))⟩
    by_cases hsyn : x ∈ pre ∨ x ∈ post
    · left
      obtain ⟨nx, hnx, hnxid⟩ := mem_ids.mp hxi
      apply hcalc x (mem_calcNodes.mpr ⟨nx, hnx, hnxid, ?_⟩)
      rcases hsyn with h | h
      · exact Or.inr (Or.inr (Or.inl h))
      · exact Or.inr (Or.inr (Or.inr h))
    · exact Or.inr ⟨hch, hxi, fun h => hsyn (Or.inl h), fun h => hsyn (Or.inr h)⟩

theorem propagateSeg_ok (hw : WF t) (hl : labelsOKB t = true) {s : List Int} (hs : s ∈ smallSegments t)
    {fl : List (Int × Nat)} (hg : Good t m pre post fl) (hcalc : ∀ x ∈ calcNodes t pre post, (get? fl x).isSome = true) :
    ∃ fl', propagateSeg fl s = some fl' ∧ Good t m pre post fl' ∧ Ext fl fl' ∧ ∀ x ∈ s, (get? fl' x).isSome = true := by
  obtain ⟨n, hnt, hp, hcc, rfl⟩ := mem_smallSegments_iff.mp hs
  obtain ⟨mid, last, hseg, hsm⟩ := segOf_spec hw hnt hp
  rw [hseg]
  show ∃ fl', fillUp (set fl n.id ((get? fl n.id).getD 0)) n.id (mid ++ [last]) = some fl' ∧ _
  have hv0 : (get? fl n.id).getD 0 = sfcRaw t true m pre post n.id := by
    cases hgn : get? fl n.id with
    | some v => exact hg n.id v hgn
    | none =>
      -- not a calc node: an end node without connectors
      have hnc : n.id ∉ calcNodes t pre post := by
        intro h; have := hcalc n.id h; rw [hgn] at this; simp at this
      have hnb : ¬ n.label = .branch := fun h => hnc (mem_calcNodes.mpr ⟨n, hnt, rfl, Or.inl h⟩)
      have hc0 : childCount t n.id = 0 := by
        rw [label_branch_iff hl hnt] at hnb
        omega
      have h1 : n.id ∉ pre := fun h => hnc (mem_calcNodes.mpr ⟨n, hnt, rfl, Or.inr (Or.inr (Or.inl h))⟩)
      have h2 : n.id ∉ post := fun h => hnc (mem_calcNodes.mpr ⟨n, hnt, rfl, Or.inr (Or.inr (Or.inr h))⟩)
      rw [sfcRaw_leaf hw (children_nil_iff.mpr hc0) m pre post h1 h2]; rfl
  have hg1 := Good_set hg (k := n.id) hv0
  have hext1 := Ext_set fl n.id ((get? fl n.id).getD 0)
  have hstep := stepOK_of_linked hw hl (fl0 := set fl n.id ((get? fl n.id).getD 0))
    (fun x hx => hext1 x (hcalc x hx)) hsm.hlast hsm.stop mid n.id hsm.linked hsm.mid_slab
  obtain ⟨fl', h1, h2, h3, h4⟩ := fillUp_ok hw _ (mid ++ [last]) n.id _ hg1 (Ext.refl _) (by rw [get?_set_same]; rfl) hstep
  exact ⟨fl', h1, h2, hext1.trans h3, List.forall_mem_cons.mpr ⟨h3 n.id (by rw [get?_set_same]; rfl), h4⟩⟩

theorem propagate_ok (hw : WF t) (hl : labelsOKB t = true) :
    ∀ (segs : List (List Int)) (fl : List (Int × Nat)), (∀ s ∈ segs, s ∈ smallSegments t) → Good t m pre post fl →
      (∀ x ∈ calcNodes t pre post, (get? fl x).isSome = true) →
      ∃ fl', propagate segs fl = some fl' ∧ Good t m pre post fl' ∧ Ext fl fl' ∧
        ∀ s ∈ segs, ∀ x ∈ s, (get? fl' x).isSome = true := by
  intro segs
  induction segs with
  | nil => intro fl _ hg _; exact ⟨fl, rfl, hg, Ext.refl fl, by simp⟩
  | cons s segs ih =>
    intro fl hsub hg hcalc
    obtain ⟨fl1, h1, h2, h3, h4⟩ := propagateSeg_ok hw hl (hsub s List.mem_cons_self) hg hcalc
    obtain ⟨fl2, k1, k2, k3, k4⟩ := ih fl1 (fun s' hs' => hsub s' (List.mem_cons_of_mem _ hs')) h2
      (fun x hx => h3 x (hcalc x hx))
    refine ⟨fl2, ?_, k2, h3.trans k3, List.forall_mem_cons.mpr ⟨fun x hx => k3 x (h4 x hx), k4⟩⟩
    unfold propagate; rw [List.foldlM_cons, h1]; exact k1

end

/-- After the propagation every row has a value, and it is the formula (the fork rule is still to come). -/
theorem propagate_column {t : Table} (hw : WF t) (hl : labelsOKB t = true) (m : Mode) (pre post : List Int)
    (segs : List (List Int)) (hperm : segs.Perm (smallSegments t)) :
    ∃ fl, propagate segs (flowInit t m pre post) = some fl ∧ ∀ i ∈ ids t, column fl i = sfcRaw t true m pre post i := by
  obtain ⟨fl, h1, h2, h3, h4⟩ := propagate_ok (m := m) (pre := pre) (post := post) hw hl segs (flowInit t m pre post)
    (fun s hs => hperm.mem_iff.mp hs) flowInit_good (fun x hx => flowInit_key hx)
  refine ⟨fl, h1, fun i hi => ?_⟩
  have hkey : (get? fl i).isSome = true := by
    obtain ⟨n, hn, rfl⟩ := mem_ids.mp hi
    by_cases hr : n.parent < 0
    · exact h3 n.id (flowInit_key (mem_calcNodes.mpr ⟨n, hn, rfl, Or.inr (Or.inl ((label_root_iff hl hn).mpr hr))⟩))
    · -- a non-root row lies on (the non-last part of) some small segment
      have hcov := (smallSegments_cover hw).mem_iff (a := n.id)
      have : n.id ∈ (t.filter fun n => !isRootNode n).map (·.id) := mem_nonroot_ids.mpr ⟨n, hn, hr, rfl⟩
      obtain ⟨s, hs, hx⟩ := List.mem_flatMap.mp (hcov.mpr this)
      have hs' : s ∈ smallSegments t := (List.mem_filter.mp hs).1
      exact h4 s (hperm.mem_iff.mpr hs') n.id ((List.dropLast_sublist s).subset hx)
  cases hg : get? fl i with
  | none => rw [hg] at hkey; simp at hkey
  | some v => unfold column; rw [hg]; exact h2 i v hg

theorem isBp_eq_isFork {t : Table} (hw : WF t) (hl : labelsOKB t = true) {n : Node} (hn : n ∈ t) :
    isBp t n.id = isFork t n.id := by
  unfold isBp isFork
  rw [find?_of_mem hw.1 hn, Bool.eq_iff_iff]
  simp only [beq_iff_eq, Bool.and_eq_true, Bool.not_eq_true', decide_eq_false_iff_not, decide_eq_true_eq]
  rw [label_branch_iff hl hn]

end Navis.FlowVar

import NavisModel.Model.ResampleSkip
import NavisModel.Proofs.ResamplePlanLemmas
/-! `resample_skeleton` with the third per-segment outcome (`skip_errors`: the original rows of `seg[:-1]` are
copied); core Lean only.  The loop `planX` is a `flatMap` over the slots of `ResamplePlanLemmas` (a kept segment is a
slot with no fresh ids); `SegsOK t segs` collects what any ordering of the small segments of a well-formed forest
guarantees; everything about the new table is derived from it. -/
namespace Navis.Resample
open Navis.Forest

def SegAct.k : SegAct → Nat
  | .fresh n => n - 2
  | _ => 0

def keptRows (t : Table) (s : List Int) : List (Int × Int) :=
  (t.filter fun m => s.dropLast.contains m.id).map (fun m => (m.id, m.parent))

theorem segRowsX_keep (t : Table) (s : List Int) (base : Int) : (segRowsX t s base .keep).1 = keptRows t s := rfl

theorem segRowsX_not_keep (t : Table) (s : List Int) (base : Int) {a : SegAct} (h : a ≠ .keep) :
    (segRowsX t s base a).1 = linkPairs (newIds (segFirst s) (segLast s) base a.k) := by
  cases a with
  | collapse => simp [segRowsX, SegAct.k, newIds, fresh, linkPairs]
  | fresh n => rfl
  | keep => exact absurd rfl h

theorem segRowsX_snd_ge (t : Table) (s : List Int) (base : Int) (a : SegAct) :
    base + (a.k : Int) ≤ (segRowsX t s base a).2 := by
  cases a with
  | collapse => exact Int.le_of_eq (Int.add_zero _)
  | fresh n => simp only [segRowsX, SegAct.k]; omega
  | keep => exact Int.le_of_eq (Int.add_zero _)

theorem mem_keptRows {t : Table} {s : List Int} {e : Int × Int} :
    e ∈ keptRows t s ↔ ∃ m ∈ t, m.id ∈ s.dropLast ∧ (m.id, m.parent) = e := by
  simp only [keptRows, mem_map_filter, List.contains_iff_mem]

def nextX (t : Table) (act : List Int → SegAct) (s : List Int) (b : Int) : Int := (segRowsX t s b (act s)).2

theorem planX_eq_slots (t : Table) (act : List Int → SegAct) : ∀ (segs : List (List Int)) (base : Int),
    planX t act segs base = (slots (nextX t act) segs base).flatMap fun p => (segRowsX t p.1 p.2 (act p.1)).1
  | [], _ => rfl
  | s :: rest, base => by rw [planX, slots, List.flatMap_cons, ← planX_eq_slots t act rest]; rfl

theorem mem_planX {t : Table} {act : List Int → SegAct} {segs : List (List Int)} {base : Int} {e : Int × Int} :
    e ∈ planX t act segs base ↔ ∃ p ∈ slots (nextX t act) segs base, e ∈ (segRowsX t p.1 p.2 (act p.1)).1 := by
  rw [planX_eq_slots, List.mem_flatMap]

theorem segLast_concat (a : Int) (mid : List Int) (last : Int) : segLast (a :: mid ++ [last]) = last := by
  unfold segLast
  rw [show a :: mid ++ [last] = (a :: mid) ++ [last] from rfl, List.getLastD_concat]

structure SegsOK (t : Table) (segs : List (List Int)) : Prop where
  spec : ∀ s ∈ segs, ∃ n ∈ t, ¬ n.parent < 0 ∧
    ∃ mid last, s = n.id :: mid ++ [last] ∧ SmallSeg t n.id mid last
  cover : (segs.flatMap fun s => s.dropLast).Perm ((t.filter fun n => !isRootNode n).map (·.id))
  seed : ∀ n ∈ t, ¬ n.parent < 0 → childCount t n.id ≠ 1 → ∃ s ∈ segs, segFirst s = n.id

theorem segsOK_of_perm {t : Table} (hw : WF t) {segs : List (List Int)} (hp : segs.Perm (smallSegments t)) :
    SegsOK t segs :=
  ⟨fun _ hs => (mem_smallSegments hw (hp.mem_iff.mp hs)).imp fun _ h => ⟨h.1, h.2.1, h.2.2.2⟩,
   (hp.flatMap_right _).trans (smallSegments_filter_long hw ▸ smallSegments_cover hw),
   fun n hn hnp hcc => ⟨_, hp.mem_iff.mpr (mem_smallSegments_iff.mpr ⟨n, hn, hnp, hcc, rfl⟩), rfl⟩⟩

namespace SegsOK
variable {t : Table} {segs : List (List Int)}

theorem facts (h : SegsOK t segs) {s : List Int} (hs : s ∈ segs) :
    ∃ n ∈ t, ¬ n.parent < 0 ∧ segFirst s = n.id ∧ segLast s ∈ ids t ∧ isBranchOrRoot t (segLast s) = true ∧
      ∃ mid, s.dropLast = n.id :: mid ∧ SmallSeg t n.id mid (segLast s) := by
  obtain ⟨n, hn, hnp, mid, last, rfl, hss⟩ := h.spec s hs
  rw [segLast_concat]
  exact ⟨n, hn, hnp, rfl, hss.hlast, hss.stop, mid, List.dropLast_concat, hss⟩

theorem dropLast_nonroot (h : SegsOK t segs) {s : List Int} (hs : s ∈ segs) {i : Int} (hi : i ∈ s.dropLast) :
    ∃ n ∈ t, ¬ n.parent < 0 ∧ n.id = i :=
  mem_nonroot_ids.mp (h.cover.mem_iff.mp (List.mem_flatMap.mpr ⟨s, hs, hi⟩))

theorem first_mem_dropLast (h : SegsOK t segs) {s : List Int} (hs : s ∈ segs) : segFirst s ∈ s.dropLast := by
  obtain ⟨n, _, _, hf, _, _, mid, hd, _⟩ := h.facts hs
  rw [hd, hf]; exact List.mem_cons_self

theorem rank (h : SegsOK t segs) {rk : Int → Nat}
    (hrk : ∀ n ∈ t, n.parent < 0 ∨ (n.parent ∈ ids t ∧ rk n.parent < rk n.id)) {s : List Int} (hs : s ∈ segs) :
    rk (segLast s) < rk (segFirst s) := by
  obtain ⟨n, _, _, hf, _, _, mid, _, hss⟩ := h.facts hs
  have hpw := (pathToRoot_ranks rk hrk (t.length + 1) n.id).1
  have hp : rootPath t n.id = (n.id :: mid) ++ rootPath t (segLast s) := hss.path
  obtain ⟨rest, hr⟩ := rootPath_cons hss.hlast
  -- `pathToRoot_ranks` speaks of the walk at explicit fuel; `rootPath` is that walk at `t.length + 1`
  unfold rootPath at hp hr
  rw [hp, hr] at hpw
  rw [hf]
  exact (List.pairwise_cons.mp hpw).1 (segLast s) (by simp)

theorem anchor (h : SegsOK t segs) (hw : WF t) {x : Int} (hx : x ∈ ids t) (hst : isBranchOrRoot t x = true) :
    (∃ m ∈ t, m.id = x ∧ m.parent < 0) ∨ ∃ s ∈ segs, segFirst s = x := by
  obtain ⟨m, hm, hmid⟩ := mem_ids.mp hx
  by_cases hp : m.parent < 0
  · exact Or.inl ⟨m, hm, hmid, hp⟩
  · rw [← hmid, isBranchOrRoot_of_find (find?_of_mem hw.1 hm)] at hst
    simp only [Bool.or_eq_true, decide_eq_true_eq] at hst
    have hcc : childCount t m.id ≠ 1 := by
      rcases hst with h | h
      · exact absurd h hp
      · omega
    exact Or.inr (hmid ▸ h.seed m hm hp hcc)

end SegsOK

theorem segRowsX_fst_mem {t : Table} {s : List Int} {base : Int} {a : SegAct} (hf : segFirst s ∈ s.dropLast) {i : Int}
    (hi : i ∈ (segRowsX t s base a).1.map Prod.fst) :
    i ∈ s.dropLast ∨ (base ≤ i ∧ i < (segRowsX t s base a).2) := by
  cases a with
  | collapse =>
    simp only [segRowsX, List.map_cons, List.map_nil, List.mem_singleton] at hi
    left; rw [hi]; exact hf
  | fresh n =>
    simp only [segRowsX] at hi ⊢
    rw [linkPairs_map_fst] at hi
    rcases List.mem_cons.mp hi with h | h
    · left; rw [h]; exact hf
    · right
      have := mem_fresh.mp h
      omega
  | keep =>
    left
    rw [segRowsX_keep] at hi
    obtain ⟨e, he, rfl⟩ := List.mem_map.mp hi
    obtain ⟨m, _, hm, rfl⟩ := mem_keptRows.mp he
    exact hm

theorem segRowsX_fst_nodup {t : Table} {s : List Int} {base : Int} {a : SegAct} (hnd : (ids t).Nodup)
    (hf : segFirst s < base) : ((segRowsX t s base a).1.map Prod.fst).Nodup := by
  cases a with
  | collapse => simp [segRowsX]
  | fresh n =>
    simp only [segRowsX]
    rw [linkPairs_map_fst, List.nodup_cons]
    refine ⟨fun hm => ?_, fresh_nodup _ _⟩
    have := mem_fresh.mp hm
    omega
  | keep =>
    rw [segRowsX_keep]
    unfold keptRows
    rw [List.map_map]
    exact hnd.sublist (List.filter_sublist.map _)

/-- No id is produced twice by the loop; every id is a non-last node of a segment or at least `base`. -/
theorem planX_fst {t : Table} {act : List Int → SegAct} (hnd : (ids t).Nodup) :
    ∀ (segs : List (List Int)) (base : Int), maxId t < base →
    (segs.flatMap fun s => s.dropLast).Nodup → (∀ s ∈ segs, segFirst s ∈ s.dropLast) →
    (∀ s ∈ segs, ∀ i ∈ s.dropLast, i ≤ maxId t) →
    ((planX t act segs base).map Prod.fst).Nodup ∧
      ∀ i ∈ (planX t act segs base).map Prod.fst, (i ∈ segs.flatMap fun s => s.dropLast) ∨ base ≤ i := by
  intro segs
  induction segs with
  | nil => intro base _ _ _ _; simp [planX]
  | cons s rest ih =>
    intro base hb hfl hfirst hle
    rw [List.flatMap_cons, List.nodup_append] at hfl
    have hb' := segRowsX_snd_ge t s base (act s)
    obtain ⟨ih1, ih2⟩ := ih (segRowsX t s base (act s)).2 (by omega) hfl.2.1
      (fun x hx => hfirst x (List.mem_cons_of_mem _ hx)) (fun x hx => hle x (List.mem_cons_of_mem _ hx))
    have hfs := hfirst s List.mem_cons_self
    have hfs_le := hle s List.mem_cons_self _ hfs
    rw [planX, List.map_append]
    constructor
    · rw [List.nodup_append]
      refine ⟨segRowsX_fst_nodup hnd (by omega), ih1, ?_⟩
      intro a ha b hb2 hab
      subst hab
      rcases segRowsX_fst_mem hfs ha with h1 | h1
      · rcases ih2 a hb2 with h2 | h2
        · exact hfl.2.2 a h1 a h2 rfl
        · have := hle s List.mem_cons_self a h1
          omega
      · rcases ih2 a hb2 with h2 | h2
        · obtain ⟨s', hs', hi⟩ := List.mem_flatMap.mp h2
          have := hle s' (List.mem_cons_of_mem _ hs') a hi
          omega
        · omega
    · intro i hi
      rcases List.mem_append.mp hi with h | h
      · rcases segRowsX_fst_mem hfs h with h1 | h1
        · left; rw [List.flatMap_cons]; exact List.mem_append_left _ h1
        · right; exact h1.1
      · rcases ih2 i h with h2 | h2
        · left; rw [List.flatMap_cons]; exact List.mem_append_right _ h2
        · right; omega

theorem planX_fst_ok {t : Table} (hw : WF t) {segs : List (List Int)} (hok : SegsOK t segs) (act : List Int → SegAct) :
    ((planX t act segs (maxId t + 1)).map Prod.fst).Nodup ∧
      ∀ i ∈ (planX t act segs (maxId t + 1)).map Prod.fst, (∃ n ∈ t, ¬ n.parent < 0 ∧ n.id = i) ∨ maxId t < i := by
  have h := planX_fst (act := act) hw.1 segs (maxId t + 1) (by omega)
    (hok.cover.nodup_iff.mpr (nonroot_ids_nodup hw.1)) (fun s hs => hok.first_mem_dropLast hs)
    (fun s hs i hi => by
      obtain ⟨n, hn, _, hid⟩ := hok.dropLast_nonroot hs hi
      exact hid ▸ le_maxId (mem_ids_of_mem hn))
  refine ⟨h.1, ?_⟩
  intro i hi
  rcases h.2 i hi with h1 | h1
  · left
    exact mem_nonroot_ids.mp (hok.cover.mem_iff.mp h1)
  · right; omega

def skipTable (t : Table) (segs : List (List Int)) (act : List Int → SegAct) : Table :=
  (planX t act segs (maxId t + 1)).map (mkNode t) ++ t.filter isRootNode

theorem resampleSkipOn_eq (t : Table) (segs : List (List Int)) (act : List Int → SegAct) :
    resampleSkipOn t segs act = classify (dedupById (skipTable t segs act)) := rfl

theorem ids_skipTable (t : Table) (segs : List (List Int)) (act : List Int → SegAct) :
    ids (skipTable t segs act) = (planX t act segs (maxId t + 1)).map Prod.fst ++ ids (t.filter isRootNode) := by
  unfold skipTable
  rw [ids_append, ids_map_mkNode]

theorem ids_skipTable_nodup {t : Table} (hw : WF t) {segs : List (List Int)} (hok : SegsOK t segs)
    (act : List Int → SegAct) : (ids (skipTable t segs act)).Nodup := by
  rw [ids_skipTable, List.nodup_append]
  obtain ⟨h1, h2⟩ := planX_fst_ok hw hok act
  refine ⟨h1, hw.1.sublist (List.filter_sublist.map _), ?_⟩
  intro a ha b hb hab
  subst hab
  obtain ⟨m, hm, hmid, hmp⟩ := mem_roots.mp hb
  rcases h2 a ha with ⟨n, hn, hnp, hnid⟩ | h
  · have : n = m := node_eq_of_id hw.1 hn hm (by rw [hnid, hmid])
    exact hnp (this ▸ hmp)
  · have := le_maxId (hmid ▸ mem_ids_of_mem hm)
    omega

theorem ids_skipTable_sub {t : Table} (hw : WF t) {segs : List (List Int)} (hok : SegsOK t segs)
    (act : List Int → SegAct) : ∀ i ∈ ids (skipTable t segs act), i ∈ ids t ∨ maxId t < i := by
  intro i hi
  rw [ids_skipTable] at hi
  rcases List.mem_append.mp hi with h | h
  · rcases (planX_fst_ok hw hok act).2 i h with ⟨n, hn, _, hid⟩ | h
    · exact Or.inl (hid ▸ mem_ids_of_mem hn)
    · exact Or.inr h
  · obtain ⟨m, hm, hmid, _⟩ := mem_roots.mp h
    exact Or.inl (hmid ▸ mem_ids_of_mem hm)

theorem slot_fst_mem {t : Table} {segs : List (List Int)} {act : List Int → SegAct} {s : List Int} {c : Int}
    (hc : (s, c) ∈ slots (nextX t act) segs (maxId t + 1)) {e : Int × Int} (he : e ∈ (segRowsX t s c (act s)).1) :
    e.1 ∈ ids (skipTable t segs act) := by
  rw [ids_skipTable]
  exact List.mem_append_left _ (List.mem_map_of_mem (mem_planX.mpr ⟨(s, c), hc, he⟩))

theorem kept_mem_skipTable {t : Table} {segs : List (List Int)} (act : List Int → SegAct) {s : List Int}
    (hs : s ∈ segs) (hk : act s = .keep) {p : Node} (hp : p ∈ t) (hpi : p.id ∈ s.dropLast) :
    p.id ∈ ids (skipTable t segs act) := by
  obtain ⟨c, hc⟩ := mem_slots_of_mem (next := nextX t act) (maxId t + 1) hs
  exact slot_fst_mem hc (e := (p.id, p.parent)) (by rw [hk]; exact mem_keptRows.mpr ⟨p, hp, hpi, rfl⟩)

theorem first_mem_skipTable {t : Table} {segs : List (List Int)} (hok : SegsOK t segs)
    (act : List Int → SegAct) {s : List Int} (hs : s ∈ segs) : segFirst s ∈ ids (skipTable t segs act) := by
  obtain ⟨n, hn, _, hf, _, _, mid, hd, _⟩ := hok.facts hs
  by_cases hk : act s = .keep
  · rw [hf]
    exact kept_mem_skipTable act hs hk hn (by rw [hd]; exact List.mem_cons_self)
  · obtain ⟨c, hc⟩ := mem_slots_of_mem (next := nextX t act) (maxId t + 1) hs
    exact slot_fst_mem hc (by rw [segRowsX_not_keep _ _ _ hk]; exact linkPairs_first_mem _ _ _ _)

theorem anchor_mem_skipTable {t : Table} (hw : WF t) {segs : List (List Int)} (hok : SegsOK t segs)
    (act : List Int → SegAct) {x : Int} (hx : x ∈ ids t) (hst : isBranchOrRoot t x = true) :
    x ∈ ids (skipTable t segs act) := by
  rcases hok.anchor hw hx hst with hroot | ⟨s, hs, hf⟩
  · rw [ids_skipTable]
    exact List.mem_append_right _ (mem_roots.mpr hroot)
  · rw [← hf]
    exact first_mem_skipTable hok act hs

theorem kept_row_ok {t : Table} (hw : WF t) {segs : List (List Int)} (hok : SegsOK t segs) (act : List Int → SegAct)
    {rk : Int → Nat} (hrk : ∀ n ∈ t, n.parent < 0 ∨ (n.parent ∈ ids t ∧ rk n.parent < rk n.id))
    {M : Nat} (hM : 1 ≤ M) (P : List SegOut) {s : List Int} (hs : s ∈ segs) (hk : act s = .keep)
    {m : Node} (hm : m ∈ t) (hmi : m.id ∈ s.dropLast) :
    m.parent ∈ ids (skipTable t segs act) ∧ rkNew t rk M P m.parent < rkNew t rk M P m.id := by
  obtain ⟨n', hn', hnp', hid'⟩ := hok.dropLast_nonroot hs hmi
  have hmm : n' = m := node_eq_of_id hw.1 hn' hm hid'
  subst hmm
  obtain ⟨n, hn, _, hf, _, _, mid, hd, hss⟩ := hok.facts hs
  have hpar := (hrk n' hm).resolve_left hnp'
  constructor
  · cases hst : isBranchOrRoot t n'.parent with
    | true => exact anchor_mem_skipTable hw hok act hpar.1 hst
    | false =>
      have hin := hss.parent_mem hm hw.1 (by rw [← hd]; exact hmi) hst
      obtain ⟨p, hp, hpid⟩ := mem_ids.mp hpar.1
      rw [← hpid]
      exact kept_mem_skipTable act hs hk hp (by rw [hd, hpid]; exact hin)
  · unfold rkNew
    rw [if_pos (le_maxId hpar.1), if_pos (le_maxId (mem_ids_of_mem hm))]
    exact rank_fresh_lt hpar.2 hM 0

/-- The slot of a segment as an entry of a plan: its anchors, its counter value and its number of fresh ids. -/
def outX (act : List Int → SegAct) (p : List Int × Int) : SegOut := ⟨segFirst p.1, segLast p.1, p.2, (act p.1).k⟩

theorem WF_skipTable {t : Table} (hw : WF t) {segs : List (List Int)} (hok : SegsOK t segs)
    (act : List Int → SegAct) : WF (skipTable t segs act) := by
  obtain ⟨rk, hrk⟩ := hw.2.2
  have hnd := ids_skipTable_nodup hw hok act
  have hsub := ids_skipTable_sub hw hok act
  obtain ⟨hge, hdis⟩ := slots_ranges (next := nextX t act) (fun s => (act s).k)
    (fun s b => segRowsX_snd_ge t s b (act s)) segs (maxId t + 1)
  -- the slots as plan entries, for the rank of the fresh ids
  generalize hP : (slots (nextX t act) segs (maxId t + 1)).map (outX act) = P
  have hdis : P.Pairwise (fun o o' => o.base + (o.k : Int) ≤ o'.base) := hP ▸ List.pairwise_map.mpr hdis
  obtain ⟨M, hM1, hM⟩ : ∃ M : Nat, 1 ≤ M ∧ ∀ o ∈ P, o.k < M :=
    ⟨1 + (P.map (·.k)).sum, by omega, fun o ho => by have := le_sum_of_mem (List.mem_map_of_mem (f := (·.k)) ho); omega⟩
  refine ⟨hnd, ?_, rkNew t rk M P, ?_⟩
  · intro m hm
    rcases hsub m.id (mem_ids_of_mem hm) with h | h
    · obtain ⟨n, hn, hid⟩ := mem_ids.mp h
      rw [← hid]; exact hw.2.1 n hn
    · have := maxId_nonneg t
      omega
  · intro m hm
    unfold skipTable at hm
    rcases List.mem_append.mp hm with hm | hm
    · obtain ⟨e, he, rfl⟩ := List.mem_map.mp hm
      rw [mkNode_id, mkNode_parent]
      right
      obtain ⟨⟨s, c⟩, hc, heo⟩ := mem_planX.mp he
      have hs : s ∈ segs := fst_mem_of_mem_slots hc
      by_cases hk : act s = .keep
      · change e ∈ (segRowsX t s c (act s)).1 at heo
        rw [hk, segRowsX_keep] at heo
        obtain ⟨m', hm', hmi, rfl⟩ := mem_keptRows.mp heo
        exact kept_row_ok hw hok act hrk hM1 P hs hk hm' hmi
      · have ho : outX act (s, c) ∈ P := hP ▸ List.mem_map_of_mem hc
        obtain ⟨n, hn, _, hf, hlin, hlst, _⟩ := hok.facts hs
        have hrows : (segRowsX t s c (act s)).1 = linkPairs (newIds (segFirst s) (segLast s) c ((act s).k)) :=
          segRowsX_not_keep _ _ _ hk
        refine chain_row_rank hdis ho (Int.lt_of_add_one_le (hge _ hc)) (show segFirst s ≤ maxId t from hf ▸ le_maxId (mem_ids_of_mem hn))
          (le_maxId hlin) (hok.rank hrk hs) (hM _ ho) (anchor_mem_skipTable hw hok act hlin hlst) ?_ (hrows ▸ heo)
        intro j hj
        exact slot_fst_mem hc (hrows ▸ linkPairs_fresh_mem _ _ c _ j hj)
    · left
      have := List.mem_filter.mp hm
      simpa [isRootNode] using this.2

/-- the loop over ANY ordering of the segments (the implementation's segment order is back-end dependent) -/
theorem WF_resampleSkipOn {t : Table} (hw : WF t) {segs : List (List Int)} (hp : segs.Perm (smallSegments t))
    (act : List Int → SegAct) : WF (resampleSkipOn t segs act) := by
  have hok := segsOK_of_perm hw hp
  rw [resampleSkipOn_eq, dedupById_of_nodup _ (ids_skipTable_nodup hw hok act)]
  exact WF_classify (WF_skipTable hw hok act)

theorem WF_resampleSkip {t : Table} (hw : WF t) (act : List Int → SegAct) : WF (resampleSkip t act) :=
  WF_resampleSkipOn hw (List.Perm.refl _) act

theorem planX_actOfCnt (t : Table) (cnt : List Int → Option Nat) (segs : List (List Int)) (base : Int) :
    planX t (actOfCnt cnt) segs base = (plan cnt segs base).flatMap segRows := by
  induction segs generalizing base with
  | nil => rfl
  | cons s rest ih =>
    have ha : actOfCnt cnt s = match cnt s with | none => .collapse | some n => .fresh n := rfl
    rw [planX, plan, ha]
    cases cnt s with
    | none => rw [ih]; simp [segRowsX, segRows, segChain, newIds, fresh, linkPairs]
    | some n => rw [ih]; rfl

theorem resampleSkip_actOfCnt (t : Table) (cnt : List Int → Option Nat) :
    resampleSkip t (actOfCnt cnt) = resampleStruct t cnt := by
  unfold resampleSkip resampleStruct allLinks planOf
  rw [planX_actOfCnt]

end Navis.Resample

import NavisModel.Proofs.HealConnLemmas
import NavisModel.Proofs.SubsetAlgebra
import NavisModel.Proofs.SortLemmas
/-!
The fragments of a forest (C11): a table whose nodes are all connected has one root; the fragments partition the node ids, the piece cut out for a fragment has exactly its root and its
edges; the size-sorted fragment list behind `break_fragments`, `drop_fluff` and `heal_skeleton(drop_disc=True)`.
-/
namespace Navis.Heal
open Navis.Forest

theorem roots_ne_nil {t : Table} (hw : WF t) (hne : t ≠ []) : roots t ≠ [] := by
  cases t with
  | nil => exact absurd rfl hne
  | cons n rest =>
    exact List.ne_nil_of_mem (fragOf_mem_roots hw (mem_ids_of_mem (List.mem_cons_self : n ∈ n :: rest)))

theorem one_root_of_connected {u : Table} (hw : WF u) (hne : u ≠ [])
    (h : ∀ i ∈ ids u, ∀ j ∈ ids u, Conn (uedges u) i j) : (roots u).length = 1 := by
  apply length_eq_one_of_all_eq (roots_nodup hw.1) (roots_ne_nil hw hne)
  intro a ha b hb
  have := fragOf_eq_of_Conn hw (h a (roots_sub ha) b (roots_sub hb))
  rwa [fragOf_root hw ha, fragOf_root hw hb] at this

theorem mem_fragment {t : Table} {r i : Int} : i ∈ fragment t r ↔ i ∈ ids t ∧ fragOf t i = r := by
  unfold fragment; simp [List.mem_filter]

theorem mem_fragments {t : Table} {f : List Int} : f ∈ fragments t ↔ ∃ r ∈ roots t, f = fragment t r := by
  simp only [fragments, List.mem_map, @eq_comm _ f]

theorem fragment_nodup {t : Table} (hnd : (ids t).Nodup) (r : Int) : (fragment t r).Nodup := by
  unfold fragment; exact hnd.filter _

theorem fragments_perm {t : Table} (hw : WF t) : (fragments t).flatten.Perm (ids t) := by
  have h := flatMap_fibres (fragOf t) (fun i => [i]) (roots t) (ids t) (roots_nodup hw.1)
    fun i hi => Or.inl (fragOf_mem_roots hw hi)
  simp only [List.flatMap_singleton'] at h
  refine (List.Perm.of_eq ?_).trans h.symm
  unfold fragments fragment
  rw [← List.flatMap_def]
  exact flatMap_congr' fun r _ => List.filter_congr fun i _ => (Bool.eq_iff_iff.mpr (by rw [beq_iff_eq, decide_eq_true_eq]))

theorem same_fragment_iff {t : Table} (hw : WF t) {i j : Int} (hi : i ∈ ids t) (hj : j ∈ ids t) :
    (∃ f ∈ fragments t, i ∈ f ∧ j ∈ f) ↔ rootOf t i = rootOf t j := by
  rw [← fragOf_eq_iff hw hi hj]
  constructor
  · rintro ⟨f, hf, h1, h2⟩
    obtain ⟨r, _, rfl⟩ := mem_fragments.mp hf
    rw [(mem_fragment.mp h1).2, (mem_fragment.mp h2).2]
  · intro h
    exact ⟨fragment t (fragOf t i), mem_fragments.mpr ⟨_, fragOf_mem_roots hw hi, rfl⟩,
      mem_fragment.mpr ⟨hi, rfl⟩, mem_fragment.mpr ⟨hj, h.symm⟩⟩

theorem ids_piece {t : Table} (r : Int) : ids (subsetIds t (fragment t r)) = fragment t r := by
  unfold subsetIds
  rw [ids_subset]
  unfold fragment
  apply List.filter_congr
  intro i hi
  simp only [List.contains_eq_mem, List.mem_filter, beq_iff_eq]
  by_cases h : fragOf t i = r <;> simp [h, hi]

/-- Keeping a whole fragment keeps the parent of every kept node. -/
theorem parent_kept {t : Table} (hw : WF t) {r : Int} {n : Node} (hn : n ∈ t) (hp : ¬ n.parent < 0)
    (hk : n.id ∈ fragment t r) : n.parent ∈ (ids t).filter fun i => (fragment t r).contains i := by
  have hpar : n.parent ∈ ids t := WF_parent_mem hw hn hp
  exact List.mem_filter.mpr ⟨hpar, List.contains_iff_mem.mpr
    (mem_fragment.mpr ⟨hpar, (fragOf_parent hw hn hp).trans (mem_fragment.mp hk).2⟩)⟩

theorem break_edges {t : Table} (hw : WF t) (e : Int × Int) :
    e ∈ edges t ↔ ∃ r ∈ roots t, e ∈ edges (subsetIds t (fragment t r)) := by
  refine ⟨fun he => ?_, fun ⟨_, _, he⟩ => (mem_edges_subset.mp he).1⟩
  obtain ⟨n, hn, hp, rfl⟩ := mem_edges.mp he
  have hk : n.id ∈ fragment t (fragOf t n.id) := mem_fragment.mpr ⟨mem_ids_of_mem hn, rfl⟩
  exact ⟨_, fragOf_mem_roots hw (mem_ids_of_mem hn),
    mem_edges_subset.mpr ⟨he, List.contains_iff_mem.mpr hk, parent_kept hw hn hp hk⟩⟩

theorem roots_piece {t : Table} (hw : WF t) {r : Int} (hr : r ∈ roots t) (x : Int) :
    x ∈ roots (subsetIds t (fragment t r)) ↔ x = r := by
  rw [subsetIds, mem_roots_subset hw]
  constructor
  · rintro ⟨n, hn, rfl, hk, hp⟩
    have hk' := List.contains_iff_mem.mp hk
    by_cases hneg : n.parent < 0
    · rw [← (mem_fragment.mp hk').2]
      exact (fragOf_root hw (mem_roots.mpr ⟨n, hn, rfl, hneg⟩)).symm
    · have := (List.mem_filter.mp (parent_kept hw hn hneg hk')).2
      rw [hp.resolve_left hneg] at this
      cases this
  · rintro rfl
    obtain ⟨n, hn, rfl, hp⟩ := mem_roots.mp hr
    exact ⟨n, hn, rfl, List.contains_iff_mem.mpr (mem_fragment.mpr ⟨mem_ids_of_mem hn, fragOf_root hw hr⟩), Or.inl hp⟩

theorem sortBySize_perm (l : List (List Int)) : (sortBySize l).Perm l := sortBy_perm _ l

theorem mem_sortBySize {l : List (List Int)} {f : List Int} : f ∈ sortBySize l ↔ f ∈ l :=
  (sortBySize_perm l).mem_iff

theorem sortBySize_sorted (l : List (List Int)) : (sortBySize l).Pairwise fun a b => b.length ≤ a.length :=
  sortBy_desc_pairwise List.length l

theorem sortBySize_head {l : List (List Int)} {f : List Int} {rest : List (List Int)}
    (h : sortBySize l = f :: rest) : f ∈ l ∧ ∀ g ∈ l, g.length ≤ f.length := by
  have hp := sortBySize_perm l
  have hs := sortBySize_sorted l
  rw [h] at hp hs
  refine ⟨hp.mem_iff.mp List.mem_cons_self, ?_⟩
  intro g hg
  rcases List.mem_cons.mp (hp.mem_iff.mpr hg) with rfl | hg'
  · exact Nat.le_refl _
  · exact (List.pairwise_cons.mp hs).1 g hg'

theorem mem_breakFragments {t : Table} {k : Nat} {p : Table} :
    p ∈ breakFragments t k ↔ ∃ r ∈ roots t, k ≤ (fragment t r).length ∧ p = subsetIds t (fragment t r) := by
  unfold breakFragments
  simp only [List.mem_map, List.mem_filter, decide_eq_true_eq, mem_sortBySize, mem_fragments]
  constructor
  · rintro ⟨f, ⟨⟨r, hr, rfl⟩, hk⟩, rfl⟩; exact ⟨r, hr, hk, rfl⟩
  · rintro ⟨r, hr, hk, rfl⟩; exact ⟨_, ⟨⟨r, hr, rfl⟩, hk⟩, rfl⟩

theorem breakFragments_length (t : Table) (k : Nat) :
    (breakFragments t k).length = ((roots t).filter fun r => decide (k ≤ (fragment t r).length)).length := by
  unfold breakFragments
  rw [List.length_map, sortBySize, ((sortBy_perm _ (fragments t)).filter _).length_eq, fragments, List.filter_map,
    List.length_map]
  rfl

/-- The components `drop_fluff` keeps. -/
def fluffSel (t : Table) (keep : Option (Nat × Nat)) (nLargest : Option Nat) : List (List Int) :=
  let cc := sortBySize (fragments t)
  match keep, nLargest with
  | some k, none => cc.filter fun c => decide (k.1 ≤ c.length * k.2)
  | some k, some n => (cc.filter fun c => decide (k.1 ≤ c.length * k.2)).take n
  | none, some n => cc.take n
  | none, none => cc.take 1

theorem dropFluff_eq (t : Table) (keep : Option (Nat × Nat)) (nl : Option Nat) :
    dropFluff t keep nl = subsetIds t (fluffSel t keep nl).flatten := by
  unfold dropFluff fluffSel
  cases keep <;> cases nl <;> rfl

end Navis.Heal

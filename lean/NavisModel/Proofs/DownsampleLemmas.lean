import NavisModel.Proofs.OpsWF
import NavisModel.Proofs.SegmentLemmas
/-! Helper lemmas for C13, downsampling: the new parent recorded by `_downsample_treeneuron` is the
nearest kept proper ancestor, at most `factor` dropped nodes away — core Lean only.

* `Scan p j q` (in `OpsWF`, where the two loops are analysed) — the inner `while i < factor` loop passed over `j`
  consecutive non-fix nodes starting at `p` and arrived at `q`;
* `Phase v r` — `v` is reached by some walk with `r` candidates already passed over since the last kept
  node (`r = 0`: `v` is kept).  When every node with two or more children is a fix point the phase of a
  non-fix node is unique, hence the passed-over nodes are not kept by any other walk. -/
namespace Navis.Forest

inductive Phase (t : Table) (fixB : Int → Bool) (f : Option Nat) : Int → Nat → Prop
  | fix {e : Int} : e ∈ ids t → fixB e = true → Phase t fixB f e 0
  | skip {v p : Int} {r : Nat} : Phase t fixB f v r → (∀ k, f = some k → r < k) → parentOf t v = some p → 0 ≤ p →
      fixB p = false → Phase t fixB f p (r + 1)
  | jump {v p : Int} {k : Nat} : Phase t fixB f v k → f = some k → parentOf t v = some p → 0 ≤ p →
      Phase t fixB f p 0

theorem Phase.of_fix {t : Table} {fixB : Int → Bool} {f : Option Nat} {v : Int} {r : Nat}
    (h : Phase t fixB f v r) (hfix : fixB v = true) : r = 0 := by
  cases h with
  | fix _ _ => rfl
  | skip _ _ _ _ hnf => rw [hfix] at hnf; cases hnf
  | jump _ _ _ _ => rfl

/-- A scan hands the phase on, and the nodes it passes over are a prefix of the root path, each of them a non-fix node with
a positive phase.  (A negative `q` is in no table: its root path is empty.) -/
theorem Scan.phase_path {t : Table} (hw : WF t) {fixB : Int → Bool} {f : Option Nat} {p q : Int} {j : Nat}
    (h : Scan t fixB p j q) : ∀ (v : Int) (r : Nat), Phase t fixB f v r → parentOf t v = some p →
      (∀ k, f = some k → r + j ≤ k) →
      (∃ v', parentOf t v' = some q ∧ Phase t fixB f v' (r + j)) ∧
      ∃ pre : List Int, pre.length = j ∧ (∀ u ∈ pre, fixB u = false ∧ ∃ m, Phase t fixB f u (m + 1)) ∧
        rootPath t p = pre ++ rootPath t q := by
  induction h with
  | here p => intro v r hv hp _; exact ⟨⟨v, hp, hv⟩, [], rfl, nofun, rfl⟩
  | @skip p p' q j h0 hnf hpp hsc ih =>
    intro v r hv hvp hb
    have hph : Phase t fixB f p (r + 1) := .skip hv (fun k hk => by have := hb k hk; omega) hvp h0 hnf
    obtain ⟨⟨v', h1, h2⟩, pre, h3, h4, h5⟩ := ih p (r + 1) hph hpp (fun k hk => by have := hb k hk; omega)
    exact ⟨⟨v', h1, by rw [show r + (j + 1) = r + 1 + j by omega]; exact h2⟩, p :: pre, by rw [List.length_cons, h3],
      List.forall_mem_cons.mpr ⟨⟨hnf, r, hph⟩, h4⟩, by rw [(rootPath_of_parent hw hpp).1, h5]; rfl⟩

/-- Every record of `downsample` starts in phase 0: a scan that used up its budget is followed by a jump. -/
theorem dsPairs_phase {t : Table} (hw : WF t) (f : Option Nat) (pres : List Int) :
    ∀ e ∈ dsPairs t f pres, PairOK t (dsFix t pres) f e ∧ Phase t (dsFix t pres) f e.1 0 ∧
      (e.2 < 0 ∨ ∃ e' ∈ dsPairs t f pres, e'.1 = e.2) :=
  dsPairs_pairs hw f pres (I := fun v => Phase t (dsFix t pres) f v 0)
    (fun hv hp hsc hf hq => by
      obtain ⟨⟨v', hv1, hv2⟩, _⟩ := hsc.phase_path hw _ 0 hv hp (fun k hk => by rw [hf] at hk; cases hk; omega)
      rw [Nat.zero_add] at hv2
      exact .jump hv2 hf hv1 (ids_nonneg hw.2.1 hq))
    fun x hx hfx => .fix hx hfx

/-- Two phases reached through children of the same non-fix node `p` agree: `p` has one child, and that child's
phase is unique (`ih`) or 0 (a fix point). -/
theorem Phase.agree {t : Table} {fixB : Int → Bool} {f : Option Nat}
    (hone : ∀ i, 0 ≤ i → fixB i = false → childCount t i ≤ 1) {v p : Int} {r : Nat} (hv : Phase t fixB f v r)
    (ih : ∀ r', fixB v = false → Phase t fixB f v r' → r = r') (hvp : parentOf t v = some p) (h0 : 0 ≤ p)
    (hnf : fixB p = false) {v' : Int} {r' : Nat} (hvp' : parentOf t v' = some p) (hv' : Phase t fixB f v' r') :
    r = r' := by
  obtain ⟨nv, _, hnv, hnvid, hnvp⟩ := parentOf_some hvp
  obtain ⟨nv', _, hnv', hnvid', hnvp'⟩ := parentOf_some hvp'
  have e : v' = v := by rw [← hnvid', ← hnvid, child_unique (hone p h0 hnf) hnv' hnv hnvp' hnvp]
  subst e
  by_cases hfv : fixB v' = true
  · rw [hv.of_fix hfv, hv'.of_fix hfv]
  · exact ih r' (by simpa using hfv) hv'

theorem Phase.unique {t : Table} {fixB : Int → Bool} {f : Option Nat}
    (hone : ∀ i, 0 ≤ i → fixB i = false → childCount t i ≤ 1)
    {u : Int} {r : Nat} (h : Phase t fixB f u r) : ∀ r', fixB u = false → Phase t fixB f u r' → r = r' := by
  induction h with
  | fix _ hfx => intro r' hnf _; rw [hfx] at hnf; cases hnf
  | @skip v p r hv hlt hvp h0 _ ih =>
    intro r' hnf h'
    cases h' with
    | fix _ hfx => rw [hfx] at hnf; cases hnf
    | skip hv' _ hvp' _ _ => rw [hv.agree hone ih hvp h0 hnf hvp' hv']
    | @jump _ _ k hv' hf hvp' _ =>
      have := hv.agree hone ih hvp h0 hnf hvp' hv'
      have := hlt k hf
      omega
  | @jump v p k hv hf hvp h0 ih =>
    intro r' hnf h'
    cases h' with
    | fix _ _ => rfl
    | skip hv' hlt' hvp' _ _ =>
      have := hv.agree hone ih hvp h0 hnf hvp' hv'
      have := hlt' k hf
      omega
    | jump _ _ _ _ => rfl

end Navis.Forest

namespace Navis.Resample
open Navis.Forest

/-- The C13 clauses for a downsampled table `u` of `t` (what `dsCheck` is sound for): kept rows are original
rows with unchanged coordinates; the listed fix points are kept; every kept node is linked to the
*first kept* node on the tail of its old root path (`< 0` when there is none), and with a finite factor
`k` at most `k` nodes are dropped in between. -/
def DsSpec (t u : Table) (f : Option Nat) (fix : List Int) : Prop :=
  (∀ m ∈ u, ∃ n ∈ t, n.id = m.id ∧ n.x = m.x ∧ n.y = m.y ∧ n.z = m.z) ∧
  (∀ i ∈ fix, i ∈ ids u) ∧
  (∀ m ∈ u,
    ((rootPath t m.id).tail.find? (fun a => (ids u).contains a) = none ∧ m.parent < 0) ∨
    (∃ a, (rootPath t m.id).tail.find? (fun a => (ids u).contains a) = some a ∧ m.parent = a ∧
      ∀ k, f = some k → (rootPath t m.id).tail.idxOf a ≤ k))

theorem one_child_of_labels {t : Table} (hw : WF t) (hl : labelsOKB t = true) (pres : List Int) :
    ∀ i, 0 ≤ i → dsFix t pres i = false → childCount t i ≤ 1 := by
  intro i _ hnf
  by_cases hin : i ∈ ids t
  · obtain ⟨n, hn, rfl⟩ := mem_ids.mp hin
    unfold dsFix at hnf
    rw [find?_of_mem hw.1 hn] at hnf
    simp only [Bool.or_eq_false_iff, bne_eq_false_iff_eq] at hnf
    exact Nat.le_of_eq ((label_slab_iff hl hn).mp hnf.1).2
  · -- no row can point to an id outside the table
    have : childCount t i = 0 := by
      unfold childCount
      rw [List.length_eq_zero_iff, List.filter_eq_nil_iff]
      intro n hn hc
      have hp : n.parent = i := by simpa using hc
      rcases WF_parents hw n hn with h | h
      · omega
      · exact hin (hp ▸ h)
    omega

/-- **The model satisfies the downsampling specification**: for every well-formed forest in which no
node with two or more children carries the label `slab` (in particular: correct labels), every factor
(incl. `inf`) and every preserved set. -/
theorem downsample_spec {t : Table} (hw : WF t)
    (f : Option Nat) (pres : List Int)
    (hone : ∀ i, 0 ≤ i → dsFix t pres i = false → childCount t i ≤ 1)
    (fix : List Int) (hfix : ∀ i ∈ fix, ∃ n ∈ t, n.id = i ∧ (n.label ≠ .slab ∨ i ∈ pres)) :
    DsSpec t (downsample t f pres) f fix := by
  refine ⟨?_, ?_, ?_⟩
  · intro m hm
    exact downsample_subset t f pres m hm
  · intro i hi
    obtain ⟨n, hn, rfl, hcase⟩ := hfix i hi
    exact downsample_keeps_fixpoints hw f pres hn hcase
  · intro m hm
    by_cases hlen : t.length ≤ 1
    · -- a well-formed table with at most one row consists of a root
      rw [downsample_eq, if_pos hlen] at hm ⊢
      have hroot := root_of_length_le_one hw hlen hm
      rw [rootPath_of_root (find?_of_mem hw.1 hm) hroot]
      exact Or.inl ⟨rfl, hroot⟩
    · have hpos := hw.2.1
      obtain ⟨n, hn, hid, _, _, _, e, he, hek, hmp⟩ := mem_downsample hlen hm
      have hkept : ∀ a, a ∈ ids (downsample t f pres) ↔ a ∈ ids t ∧ ∃ e' ∈ dsPairs t f pres, e'.1 = a := by
        intro a
        rw [ids_downsample hlen, List.mem_filter, mem_any_fst]
      have hnotkept : ∀ u mm, dsFix t pres u = false → Phase t (dsFix t pres) f u (mm + 1) →
          ((ids (downsample t f pres)).contains u) = false := by
        intro u mm hnf hph
        rw [Bool.eq_false_iff]
        intro hc
        have hc' : u ∈ ids (downsample t f pres) := by simpa using hc
        obtain ⟨_, e', he', hee⟩ := (hkept u).mp hc'
        have h0 := (dsPairs_phase hw f pres e' he').2.1
        rw [hee] at h0
        exact absurd (hph.unique hone 0 hnf h0) (Nat.succ_ne_zero mm)
      obtain ⟨⟨_, p, hpp, hcase⟩, hph0, hkp⟩ := dsPairs_phase hw f pres e he
      rw [hek] at hpp hph0
      have hpn : p = n.parent := by
        have := parentOf_of_mem hw.1 hn
        rw [this] at hpp; exact (Option.some.inj hpp).symm
      rw [hid]
      rcases hcase with ⟨hneg, he2⟩ | ⟨hnn, j, hsc, hj⟩
      · left
        rw [rootPath_of_root (find?_of_mem hw.1 hn) (hpn ▸ hneg)]
        exact ⟨rfl, by rw [hmp, he2]; decide⟩
      · have hnr : ¬ n.parent < 0 := hpn ▸ Int.not_lt.mpr hnn
        have hpin : p ∈ ids t := hpn ▸ WF_parent_mem hw hn hnr
        obtain ⟨_, pre, hpl, hpre, hq⟩ := hsc.phase_path hw n.id 0 hph0 hpp
          (fun k hk => by rw [Nat.zero_add]; exact hj k hk)
        have htl : (rootPath t n.id).tail = rootPath t p := by
          rw [rootPath_of_nonroot hw (find?_of_mem hw.1 hn) hnr, hpn]; rfl
        rw [htl]
        have hprek : ∀ u ∈ pre, ((ids (downsample t f pres)).contains u) = false := by
          intro u hu
          obtain ⟨hnf, mm, hph⟩ := hpre u hu
          exact hnotkept u mm hnf hph
        rcases hsc.anc hw hpin with hqneg | hqmem
        · left
          rw [hq, rootPath_of_not_mem fun hm' => absurd (ids_nonneg hpos hm') (Int.not_le.mpr hqneg), List.append_nil]
          exact ⟨List.find?_eq_none.mpr fun u hu => Bool.eq_false_iff.mp (hprek u hu), by rw [hmp]; exact hqneg⟩
        · right
          have hqin := rootPath_sub hqmem
          obtain ⟨rest, hrest⟩ := rootPath_cons hqin
          have hqkept : ((ids (downsample t f pres)).contains e.2) = true := by
            have hq0 := ids_nonneg hpos hqin
            obtain ⟨e', he', hee⟩ := hkp.resolve_left (Int.not_lt.mpr hq0)
            simpa using (hkept e.2).mpr ⟨hqin, e', he', hee⟩
          refine ⟨e.2, ?_, hmp, ?_⟩
          · rw [hq, hrest]
            exact find?_append_skip _ pre e.2 rest hprek hqkept
          · intro k hk
            rw [hq, hrest, idxOf_append_skip pre e.2 rest (fun hm' => by
              have := hprek e.2 hm'; rw [hqkept] at this; cases this)]
            exact hpl ▸ hj k hk

end Navis.Resample

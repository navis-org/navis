import NavisModel.Model.Flow
import Mathlib.Algebra.Order.Field.Basic
import Mathlib.Algebra.Order.Field.Rat
import Mathlib.Tactic.Ring
/-! Segregation index over an arbitrary linearly ordered field (`segIdxG`): what the code's guard tests, the bounds
(Jensen's inequality for a concave guarded entropy), the exact cases 0 and 1, the converse of the 1-case, and the
reading of all this at `K = Rat`, the executable model. -/
namespace Navis.Flow

section Generic
variable {K : Type} [Field K] [LinearOrder K]

/-- `guardH` of `Model/Flow.lean` over any `K` (`guardH_eq_G`): the model file states it at `Rat` only and imports no
ordered field. -/
def guardG (H : K → K) (p : K) : K := if 0 < p ∧ p < 1 then H p else 0

/-- `ConcaveNonneg` of `Model/Flow.lean` over any `K` (`concaveNonneg_guardH_iff`). -/
structure ConcaveNonnegG (G : K → K) : Prop where
  nonneg : ∀ p, 0 ≤ G p
  conc : ∀ x y lam : K, 0 ≤ x → x ≤ 1 → 0 ≤ y → y ≤ 1 → 0 ≤ lam → lam ≤ 1 →
    lam * G x + (1 - lam) * G y ≤ G (lam * x + (1 - lam) * y)

theorem guardG_of_ends {H : K → K} (h0 : H 0 = 0) (h1 : H 1 = 0) {w : K} (hw0 : 0 ≤ w) (hw1 : w ≤ 1) :
    guardG H w = H w := by
  unfold guardG
  split
  · rfl
  · rename_i h
    rcases hw0.eq_or_lt with rfl | hw0
    · exact h0.symm
    rcases hw1.eq_or_lt with rfl | hw1
    · exact h1.symm
    exact absurd ⟨hw0, hw1⟩ h

theorem guardG_nonneg {H : K → K} (hn : ∀ p, 0 < p → p < 1 → 0 ≤ H p) (p : K) : 0 ≤ guardG H p := by
  unfold guardG
  split
  · rename_i h
    exact hn p h.1 h.2
  · exact le_rfl

theorem fragEntropyG_guard (H : K → K) (f : Frag) :
    fragEntropyG H f = if f.tot = 0 then 0 else guardG H ((f.post : K) / (f.tot : K)) := rfl

/-- A fragment's term, without the case `tot = 0`: there both sides vanish. -/
theorem fragTerm_eq (H : K → K) (f : Frag) :
    fragEntropyG H f * (f.tot : K) = (f.tot : K) * guardG H ((f.post : K) / (f.tot : K)) := by
  rw [fragEntropyG_guard, mul_comm]
  split
  · rename_i h
    rw [h, Nat.cast_zero, zero_mul, zero_mul]
  · rfl

def wsumG (H : K → K) (fs : List Frag) : K := (fs.map fun f => fragEntropyG H f * (f.tot : K)).sum

theorem wsumG_cons (H : K → K) (f : Frag) (fs : List Frag) :
    wsumG H (f :: fs) = fragEntropyG H f * (f.tot : K) + wsumG H fs := rfl

theorem meanEntropyG_eq (H : K → K) (fs : List Frag) :
    meanEntropyG H fs = wsumG H fs / ((totPre fs + totPost fs : Nat) : K) := by
  unfold meanEntropyG wsumG
  rw [one_div, inv_mul_eq_div]

omit [LinearOrder K] in
theorem totG_cons (f : Frag) (fs : List Frag) :
    ((totPre (f :: fs) + totPost (f :: fs) : Nat) : K) = (f.tot : K) + ((totPre fs + totPost fs : Nat) : K) :=
  (congrArg Nat.cast (Nat.add_add_add_comm f.pre (totPre fs) f.post (totPost fs))).trans (Nat.cast_add _ _)

omit [LinearOrder K] in
theorem postG_cons (f : Frag) (fs : List Frag) :
    ((totPost (f :: fs) : Nat) : K) = (f.post : K) + ((totPost fs : Nat) : K) :=
  Nat.cast_add f.post (totPost fs)

theorem wsumG_identical (H : K → K) (P : K) (fs : List Frag)
    (h : ∀ f ∈ fs, f.tot ≠ 0 → (f.post : K) / (f.tot : K) = P) :
    wsumG H fs = ((totPre fs + totPost fs : Nat) : K) * guardG H P := by
  induction fs with
  | nil => rw [show totPre ([] : List Frag) + totPost [] = 0 from rfl, Nat.cast_zero, zero_mul]; rfl
  | cons f fs ih =>
    rw [wsumG_cons, fragTerm_eq, totG_cons, add_mul, ih fun g hg => h g (List.mem_cons_of_mem _ hg)]
    by_cases ht : f.tot = 0
    · rw [ht, Nat.cast_zero, zero_mul, zero_mul]
    · rw [h f List.mem_cons_self ht]

variable [IsStrictOrderedRing K]

/-- The code's guard `0 < q/(p+q) < 1` is the test "both kinds of synapse present". -/
theorem share_guard_iff (tp tq : Nat) :
    (0 < (tq : K) / ((tp + tq : Nat) : K) ∧ (tq : K) / ((tp + tq : Nat) : K) < 1) ↔ tp ≠ 0 ∧ tq ≠ 0 := by
  rcases Nat.eq_zero_or_pos (tp + tq) with h0 | hpos
  · -- no synapse at all: the share is 0
    rw [(Nat.add_eq_zero_iff.mp h0).2, Nat.cast_zero, zero_div]
    exact iff_of_false (fun h => lt_irrefl _ h.1) fun h => h.2 rfl
  · -- otherwise the guard says `0 < tq < tp + tq`
    have hT : (0 : K) < ((tp + tq : Nat) : K) := Nat.cast_pos.mpr hpos
    rw [lt_div_iff₀ hT, zero_mul, div_lt_one₀ hT, Nat.cast_pos, Nat.cast_lt]
    omega

theorem guardG_share (H : K → K) {tp tq : Nat} (hp : tp ≠ 0) (hq : tq ≠ 0) :
    guardG H ((tq : K) / ((tp + tq : Nat) : K)) = H ((tq : K) / ((tp + tq : Nat) : K)) :=
  if_pos ((share_guard_iff tp tq).mpr ⟨hp, hq⟩)

theorem fragEntropyG_eq (H : K → K) (f : Frag) :
    fragEntropyG H f = if f.pre ≠ 0 ∧ f.post ≠ 0 then H ((f.post : K) / (f.tot : K)) else 0 := by
  rw [fragEntropyG_guard]
  by_cases ht : f.tot = 0
  · rw [if_pos ht, if_neg (fun h => h.1 (Nat.eq_zero_of_add_eq_zero_right ht))]
  · rw [if_neg ht]
    exact if_congr (share_guard_iff f.pre f.post) rfl rfl

/-- Only one kind of synapse in the whole neuron: the index is 0 by the code's guard. -/
theorem segIdxG_one_kind (H : K → K) (fs : List Frag) (htot : totPre fs + totPost fs ≠ 0)
    (h : totPre fs = 0 ∨ totPost fs = 0) : segIdxG H fs = some 0 :=
  (if_neg htot).trans (if_neg fun hg => h.elim ((share_guard_iff _ _).mp hg).1 ((share_guard_iff _ _).mp hg).2)

theorem segIdxG_both (H : K → K) (fs : List Frag) (hp : totPre fs ≠ 0) (hq : totPost fs ≠ 0) :
    segIdxG H fs = some (1 - meanEntropyG H fs /
      H (((totPost fs : Nat) : K) / ((totPre fs + totPost fs : Nat) : K))) :=
  (if_neg fun h => hp (Nat.eq_zero_of_add_eq_zero_right h)).trans (if_pos ((share_guard_iff _ _).mpr ⟨hp, hq⟩))

theorem wsumG_nonneg (H : K → K) (hn : ∀ p, 0 ≤ guardG H p) (fs : List Frag) : 0 ≤ wsumG H fs := by
  induction fs with
  | nil => exact le_rfl
  | cons f fs ih =>
    rw [wsumG_cons, fragTerm_eq]
    exact add_nonneg (mul_nonneg (Nat.cast_nonneg _) (hn _)) ih

theorem div_mem_unit {q a : K} (hq : 0 ≤ q) (hqa : q ≤ a) : 0 ≤ q / a ∧ q / a ≤ 1 :=
  ⟨div_nonneg hq (hq.trans hqa), div_le_one_of_le₀ hqa (hq.trans hqa)⟩

/-- One step of Jensen's inequality: the perspective `(q, a) ↦ a · G (q / a)` of a concave `G` is superadditive
(a weight 0 contributes nothing on either side). -/
theorem ConcaveNonnegG.persp_add {G : K → K} (hG : ConcaveNonnegG G) {q a Q T : K}
    (hq : 0 ≤ q) (hqa : q ≤ a) (hQ : 0 ≤ Q) (hQT : Q ≤ T) :
    a * G (q / a) + T * G (Q / T) ≤ (a + T) * G ((q + Q) / (a + T)) := by
  rcases (hq.trans hqa).eq_or_lt with rfl | ha
  · obtain rfl : q = 0 := le_antisymm hqa hq
    rw [zero_mul, zero_add, zero_add, zero_add]
  rcases (hQ.trans hQT).eq_or_lt with rfl | hT
  · obtain rfl : Q = 0 := le_antisymm hQT hQ
    rw [zero_mul, add_zero, add_zero, add_zero]
  have hs : 0 < a + T := add_pos ha hT
  have hx := div_mem_unit hq hqa
  have hy := div_mem_unit hQ hQT
  have hl := div_mem_unit ha.le (le_add_of_nonneg_right hT.le)
  have c := hG.conc (q / a) (Q / T) (a / (a + T)) hx.1 hx.2 hy.1 hy.2 hl.1 hl.2
  -- the weights are `a / (a + T)` and `T / (a + T)`; the point between is the pooled share; then clear `a + T`
  rw [one_sub_div hs.ne', add_sub_cancel_left, div_mul_div_cancel₀' ha.ne', div_mul_div_cancel₀' hT.ne',
    ← add_div, div_mul_eq_mul_div, div_mul_eq_mul_div, ← add_div, div_le_iff₀' hs] at c
  exact c

/-- **Jensen**: the synapse-weighted sum of the fragment entropies is at most the total times the entropy of the
pooled mixture. -/
theorem jensenG (H : K → K) (hG : ConcaveNonnegG (guardG H)) (fs : List Frag) :
    wsumG H fs ≤ ((totPre fs + totPost fs : Nat) : K) *
      guardG H (((totPost fs : Nat) : K) / ((totPre fs + totPost fs : Nat) : K)) := by
  induction fs with
  | nil =>
    rw [show totPre ([] : List Frag) + totPost [] = 0 from rfl, Nat.cast_zero, zero_mul]
    exact le_rfl
  | cons f fs ih =>
    rw [wsumG_cons, fragTerm_eq, totG_cons, postG_cons]
    exact (add_le_add le_rfl ih).trans (hG.persp_add (Nat.cast_nonneg _) (Nat.cast_le.mpr (Nat.le_add_left _ _))
      (Nat.cast_nonneg _) (Nat.cast_le.mpr (Nat.le_add_left _ _)))

theorem segIdxG_bounds (H : K → K) (hG : ConcaveNonnegG (guardG H)) (fs : List Frag) (v : K)
    (h : segIdxG H fs = some v) : 0 ≤ v ∧ v ≤ 1 := by
  by_cases htot : totPre fs + totPost fs = 0
  · rw [show segIdxG H fs = none from if_pos htot] at h
    cases h
  by_cases hk : totPre fs = 0 ∨ totPost fs = 0
  · rw [segIdxG_one_kind H fs htot hk] at h
    obtain rfl := Option.some.inj h
    exact ⟨le_rfl, zero_le_one⟩
  · obtain ⟨hp, hq⟩ := not_or.mp hk
    rw [segIdxG_both H fs hp hq, meanEntropyG_eq] at h
    obtain rfl := Option.some.inj h
    have hj := jensenG H hG fs
    rw [guardG_share H hp hq] at hj
    -- `v = 1 − W / (T · H pn)` with `0 ≤ W ≤ T · H pn`
    have hx := div_mem_unit (wsumG_nonneg H hG.nonneg fs) hj
    rw [div_div]
    exact ⟨sub_nonneg.mpr hx.2, sub_le_self _ hx.1⟩

theorem fragEntropyG_separated (H : K → K) (f : Frag) (h : f.pre = 0 ∨ f.post = 0) : fragEntropyG H f = 0 := by
  rw [fragEntropyG_eq, if_neg fun hb => h.elim hb.1 hb.2]

theorem fragEntropyG_eq_zero_iff (H : K → K) (hH : ∀ p : K, 0 < p → p < 1 → 0 < H p) (f : Frag) :
    fragEntropyG H f = 0 ↔ f.pre = 0 ∨ f.post = 0 := by
  refine ⟨fun h => ?_, fragEntropyG_separated H f⟩
  by_contra hne
  obtain ⟨hp, hq⟩ := not_or.mp hne
  have b := (share_guard_iff (K := K) f.pre f.post).mpr ⟨hp, hq⟩
  rw [fragEntropyG_eq, if_pos ⟨hp, hq⟩] at h
  exact (hH _ b.1 b.2).ne' h

theorem wsumG_separated (H : K → K) (fs : List Frag) (h : ∀ f ∈ fs, f.pre = 0 ∨ f.post = 0) : wsumG H fs = 0 := by
  induction fs with
  | nil => rfl
  | cons f fs ih =>
    rw [wsumG_cons, fragEntropyG_separated H f (h f List.mem_cons_self), zero_mul, zero_add]
    exact ih fun g hg => h g (List.mem_cons_of_mem _ hg)

theorem wsumG_eq_zero_iff (H : K → K) (hH : ∀ p : K, 0 < p → p < 1 → 0 < H p) (fs : List Frag) :
    wsumG H fs = 0 ↔ ∀ f ∈ fs, f.pre = 0 ∨ f.post = 0 := by
  refine ⟨fun h => ?_, wsumG_separated H fs⟩
  induction fs with
  | nil => intro f hf; cases hf
  | cons f fs ih =>
    have hn : ∀ p, 0 ≤ guardG H p := guardG_nonneg fun p h0 h1 => (hH p h0 h1).le
    have h1 : 0 ≤ fragEntropyG H f * (f.tot : K) := by
      rw [fragTerm_eq]; exact mul_nonneg (Nat.cast_nonneg _) (hn _)
    obtain ⟨e1, e2⟩ := (add_eq_zero_iff_of_nonneg h1 (wsumG_nonneg H hn fs)).mp h
    intro g hg
    rcases List.mem_cons.mp hg with rfl | hg
    · rcases mul_eq_zero.mp e1 with e | e
      · exact (fragEntropyG_eq_zero_iff H hH g).mp e
      · exact Or.inl (Nat.eq_zero_of_add_eq_zero_right (Nat.cast_eq_zero.mp e))
    · exact ih e2 g hg

theorem segIdxG_separated (H : K → K) (fs : List Frag) (hp : totPre fs ≠ 0) (hq : totPost fs ≠ 0)
    (h : ∀ f ∈ fs, f.pre = 0 ∨ f.post = 0) : segIdxG H fs = some 1 := by
  rw [segIdxG_both H fs hp hq, meanEntropyG_eq, wsumG_separated H fs h, zero_div, zero_div, sub_zero]

theorem segIdxG_eq_one_iff (H : K → K) (hH : ∀ p : K, 0 < p → p < 1 → 0 < H p) (fs : List Frag)
    (hp : totPre fs ≠ 0) (hq : totPost fs ≠ 0) :
    segIdxG H fs = some 1 ↔ ∀ f ∈ fs, f.pre = 0 ∨ f.post = 0 := by
  have b := (share_guard_iff (K := K) (totPre fs) (totPost fs)).mpr ⟨hp, hq⟩
  have hT : ((totPre fs + totPost fs : Nat) : K) ≠ 0 :=
    Nat.cast_ne_zero.mpr fun h => hp (Nat.eq_zero_of_add_eq_zero_right h)
  rw [segIdxG_both H fs hp hq, meanEntropyG_eq, Option.some_inj, sub_eq_self, div_eq_zero_iff,
    or_iff_left (hH _ b.1 b.2).ne', div_eq_zero_iff, or_iff_left hT, wsumG_eq_zero_iff H hH]

theorem segIdxG_identical (H : K → K) (fs : List Frag) (hp : totPre fs ≠ 0) (hq : totPost fs ≠ 0)
    (hH : H ((totPost fs : K) / ((totPre fs + totPost fs : Nat) : K)) ≠ 0)
    (h : ∀ f ∈ fs, f.tot ≠ 0 → (f.post : K) / (f.tot : K) = (totPost fs : K) / ((totPre fs + totPost fs : Nat) : K)) :
    segIdxG H fs = some 0 := by
  have hT : ((totPre fs + totPost fs : Nat) : K) ≠ 0 :=
    Nat.cast_ne_zero.mpr fun h => hp (Nat.eq_zero_of_add_eq_zero_right h)
  rw [segIdxG_both H fs hp hq, meanEntropyG_eq, wsumG_identical H _ fs h, guardG_share H hp hq,
    mul_div_cancel_left₀ _ hT, div_self hH, sub_self]

theorem segExactG_sound (H : K → K) (hH : ∀ p : K, 0 < p → p < 1 → H p ≠ 0) (fs : List Frag) (k : Nat)
    (h : segExact fs = some k) : segIdxG H fs = some (k : K) := by
  unfold segExact at h
  simp only at h
  by_cases h0 : totPre fs + totPost fs = 0
  · rw [if_pos h0] at h
    cases h
  rw [if_neg h0] at h
  by_cases h1 : totPre fs = 0 ∨ totPost fs = 0
  · rw [if_pos h1] at h
    obtain rfl := Option.some.inj h
    rw [Nat.cast_zero]
    exact segIdxG_one_kind H fs h0 h1
  rw [if_neg h1] at h
  obtain ⟨hp, hq⟩ := not_or.mp h1
  by_cases h2 : (fs.all fun f => f.pre == 0 || f.post == 0) = true
  · rw [if_pos h2] at h
    obtain rfl := Option.some.inj h
    rw [Nat.cast_one]
    refine segIdxG_separated H fs hp hq fun f hf => ?_
    have := List.all_eq_true.mp h2 f hf
    rwa [Bool.or_eq_true, beq_iff_eq, beq_iff_eq] at this
  rw [if_neg h2] at h
  by_cases h3 : (fs.all fun f => f.post * (totPre fs + totPost fs) == totPost fs * f.tot) = true
  · rw [if_pos h3] at h
    obtain rfl := Option.some.inj h
    have b := (share_guard_iff (K := K) (totPre fs) (totPost fs)).mpr ⟨hp, hq⟩
    rw [Nat.cast_zero]
    refine segIdxG_identical H fs hp hq (hH _ b.1 b.2) fun f hf ht => ?_
    -- the driver's cross-multiplied test is the equality of the two shares
    have e : f.post * (totPre fs + totPost fs) = totPost fs * f.tot := beq_iff_eq.mp (List.all_eq_true.mp h3 f hf)
    rw [div_eq_div_iff (Nat.cast_ne_zero.mpr ht) (Nat.cast_ne_zero.mpr h0), ← Nat.cast_mul, ← Nat.cast_mul, e]
  · rw [if_neg h3] at h
    cases h

/-- A function that vanishes at 0 and 1 and is non-negative and concave on [0,1] has a non-negative concave guarded
form: on [0,1] the guard changes nothing, and [0,1] is convex. -/
theorem ConcaveNonnegG.of_unit {H : K → K} (h0 : H 0 = 0) (h1 : H 1 = 0) (hn : ∀ p, 0 < p → p < 1 → 0 ≤ H p)
    (hc : ∀ x y lam : K, 0 ≤ x → x ≤ 1 → 0 ≤ y → y ≤ 1 → 0 ≤ lam → lam ≤ 1 →
      lam * H x + (1 - lam) * H y ≤ H (lam * x + (1 - lam) * y)) : ConcaveNonnegG (guardG H) where
  nonneg := guardG_nonneg hn
  conc x y lam hx0 hx1 hy0 hy1 hl0 hl1 := by
    have hl' : 0 ≤ 1 - lam := sub_nonneg.mpr hl1
    have hz0 : 0 ≤ lam * x + (1 - lam) * y := add_nonneg (mul_nonneg hl0 hx0) (mul_nonneg hl' hy0)
    have hz1 : lam * x + (1 - lam) * y ≤ lam * 1 + (1 - lam) * 1 :=
      add_le_add (mul_le_mul_of_nonneg_left hx1 hl0) (mul_le_mul_of_nonneg_left hy1 hl')
    rw [mul_one, mul_one, add_sub_cancel] at hz1
    rw [guardG_of_ends h0 h1 hx0 hx1, guardG_of_ends h0 h1 hy0 hy1, guardG_of_ends h0 h1 hz0 hz1]
    exact hc x y lam hx0 hx1 hy0 hy1 hl0 hl1

end Generic

theorem guardH_eq_G (H : Rat → Rat) : guardH H = guardG H := rfl

/-- The hypothesis of the bound as `Model/Flow.lean` states it for the executable model. -/
theorem concaveNonneg_guardH_iff (H : Rat → Rat) : ConcaveNonneg (guardH H) ↔ ConcaveNonnegG (guardG H) := by
  rw [guardH_eq_G]
  exact ⟨fun h => ⟨h.nonneg, h.conc⟩, fun h => ⟨h.nonneg, h.conc⟩⟩

/-- `p(1−p)` is a non-negative concave "entropy": the hypothesis of the bound is satisfiable.  The chord lies below
the parabola by `λ(1−λ)(x−y)²`. -/
theorem concave_example : ConcaveNonneg (guardH fun p => p * (1 - p)) := by
  rw [concaveNonneg_guardH_iff]
  refine ConcaveNonnegG.of_unit (zero_mul _) (by rw [sub_self, mul_zero])
    (fun p h0 h1 => mul_nonneg h0.le (sub_nonneg.mpr h1.le)) fun x y lam _ _ _ _ hl0 hl1 => ?_
  have e : (lam * x + (1 - lam) * y) * (1 - (lam * x + (1 - lam) * y)) =
      lam * (x * (1 - x)) + (1 - lam) * (y * (1 - y)) + lam * (1 - lam) * ((x - y) * (x - y)) := by ring
  rw [e]
  exact le_add_of_nonneg_right (mul_nonneg (mul_nonneg hl0 (sub_nonneg.mpr hl1)) (mul_self_nonneg _))

end Navis.Flow

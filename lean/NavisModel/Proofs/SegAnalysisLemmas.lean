import NavisModel.Model.SegAnalysis
import NavisModel.Proofs.FlowLemmas
import Mathlib.Algebra.BigOperators.Group.List.Basic
/-! Helper lemmas for the `segment_analysis` model: its rows correspond one-to-one to the small segments (so a column
is a function of the segments), the Strahler index is constant along an unbranched chain, `nanSum` distributes over
the segments and is invariant under permutation. -/
namespace Navis.Flow
open Navis.Forest

theorem segRow_isSome {t : Table} (rad : Int → Option Int) {s : List Int} (hs : s ≠ []) :
    ∃ r, segRow t rad s = some r := by
  cases s with
  | nil => exact absurd rfl hs
  | cons a rest =>
    unfold segRow
    rw [List.head?_cons, List.getLast?_eq_some_getLast (List.cons_ne_nil a rest)]
    exact ⟨_, rfl⟩

theorem segRow_fields {t : Table} {rad : Int → Option Int} {s : List Int} {r : SegRow} (h : segRow t rad s = some r) :
    r.length = arcLen t s ∧ r.chordSq = chordSq t s ∧ r.nodes = s.length ∧
      some r.first = s.head? ∧ some r.last = s.getLast? ∧
      r.volume3 = nanSum (s.dropLast.map (frustum3 t rad)) := by
  unfold segRow at h
  split at h
  · rename_i a b ha hb
    obtain rfl := Option.some.inj h
    exact ⟨rfl, rfl, rfl, ha.symm, hb.symm, rfl⟩
  · cases h

theorem smallSegment_ne_nil {t : Table} {s : List Int} (h : s ∈ smallSegments t) : s ≠ [] := by
  obtain ⟨n, _, _, _, rfl⟩ := mem_smallSegments_iff.mp h
  exact List.cons_ne_nil _ _

/-- One row per small segment, in the same order: a column of the table is a function of the segments. -/
theorem segAnalysis_map {t : Table} (rad : Int → Option Int) {β : Type} (f : SegRow → β) (g : List Int → β)
    (h : ∀ s r, segRow t rad s = some r → f r = g s) : (segAnalysis t rad).map f = (smallSegments t).map g := by
  unfold segAnalysis
  rw [List.map_filterMap, ← List.filterMap_eq_map]
  refine List.filterMap_congr fun s hs => ?_
  obtain ⟨r, hr⟩ := segRow_isSome (t := t) rad (smallSegment_ne_nil hs)
  rw [hr]
  exact congrArg some (h s r hr)

theorem strahler_chain {t : Table} (hw : WF t) (g : Bool) : ∀ (mid : List Int) (a : Int), Linked t (a :: mid) →
    (∀ x ∈ mid, childCount t x = 1) → ∀ x ∈ mid, strahler t g [] x = strahler t g [] a := by
  intro mid
  induction mid with
  | nil => intro a _ _ x hx; cases hx
  | cons b rest ih =>
    intro a hl hc x hx
    obtain ⟨hch, hbi⟩ := chain_step hw hl (hc b List.mem_cons_self)
    have eb : strahler t g [] b = strahler t g [] a := by
      rw [strahler_nil, strahler_nil, strahlerRaw_single_child hw g [] hch]
    rcases List.mem_cons.mp hx with e | e
    · rw [e]; exact eb
    · rw [ih b hl.2 (fun y hy => hc y (List.mem_cons_of_mem _ hy)) x e, eb]

theorem nanSum_append (a b : List (Option Int)) : nanSum (a ++ b) = nanSum a + nanSum b := by
  unfold nanSum
  rw [List.filterMap_append, List.sum_append]

theorem nanSum_flatMap (segs : List (List Int)) (f : Int → Option Int) :
    nanSum ((segs.flatMap fun s => s.dropLast).map f) = (segs.map fun s => nanSum (s.dropLast.map f)).sum := by
  induction segs with
  | nil => rfl
  | cons s segs ih =>
    rw [List.flatMap_cons, List.map_append, nanSum_append, ih]
    simp

theorem nanSum_perm {a b : List (Option Int)} (h : a.Perm b) : nanSum a = nanSum b :=
  (h.filterMap id).sum_eq

end Navis.Flow

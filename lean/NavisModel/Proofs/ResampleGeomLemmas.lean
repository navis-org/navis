import NavisModel.Model.Resample
import NavisModel.Proofs.RoundLemmas
import Mathlib.Algebra.Order.Field.Basic
import NavisModel.Proofs.RatLemmas
/-! Helper lemmas for C13, geometry part: `roundHalfEven` is half-to-even rounding in the sense of `RoundLemmas`,
arc-length interpolation on a polyline (every sampled point lies on the cable), admissible knots, nearest-node remap.
"Chords are not longer than arcs" is proved once, over ℝ (`ResampleNormedLemmas`), and read back to this model in
`ResampleEuclidLemmas`. -/
namespace Navis.Resample

theorem halfEven : HalfEven roundHalfEven := halfEven_ite

theorem round_intCast (n : Int) : roundHalfEven (n : Rat) = n := halfEven.intCast n

/-- A segment at least as long as the target gets at least one sample position. -/
theorem round_pos_of_ge_one (q : Rat) (h : 1 ≤ q) : 1 ≤ roundHalfEven q :=
  (round_intCast 1).ge.trans (halfEven.mono (Int.cast_one.trans_le h))

theorem lerpPt_zero (a b : Pt) : lerpPt a b 0 = a := by
  cases a; simp [lerpPt]

theorem lerpPt_one (a b : Pt) : lerpPt a b 1 = b := by
  cases a; cases b; simp [lerpPt]

/-- `p` lies on the closed straight piece between two *consecutive* knots of `ks`. -/
def OnCable (ks : List (Rat × Pt)) (p : Pt) : Prop :=
  ∃ (pre post : List (Rat × Pt)) (k0 k1 : Rat × Pt) (τ : Rat),
    ks = pre ++ k0 :: k1 :: post ∧ 0 ≤ τ ∧ τ ≤ 1 ∧ p = lerpPt k0.2 k1.2 τ

theorem OnCable.cons {ks : List (Rat × Pt)} {p : Pt} (k : Rat × Pt) (h : OnCable ks p) : OnCable (k :: ks) p := by
  obtain ⟨pre, post, k0, k1, τ, he, h0, h1, hp⟩ := h
  exact ⟨k :: pre, post, k0, k1, τ, by rw [he]; rfl, h0, h1, hp⟩

theorem polyAt_cons_cons (k0 k1 : Rat × Pt) (rest : List (Rat × Pt)) (s : Rat) :
    polyAt (k0 :: k1 :: rest) s =
      if k1.1 ≤ s then polyAt (k1 :: rest) s
      else if s ≤ k0.1 then k0.2 else lerpPt k0.2 k1.2 ((s - k0.1) / (k1.1 - k0.1)) := by
  rw [polyAt]

theorem onCable_first_edge (k0 k1 : Rat × Pt) (rest : List (Rat × Pt)) {s : Rat} (h1 : ¬ k1.1 ≤ s) :
    OnCable (k0 :: k1 :: rest) (if s ≤ k0.1 then k0.2 else lerpPt k0.2 k1.2 ((s - k0.1) / (k1.1 - k0.1))) := by
  by_cases h0 : s ≤ k0.1
  · rw [if_pos h0]
    exact ⟨[], rest, k0, k1, 0, rfl, le_refl _, zero_le_one, (lerpPt_zero _ _).symm⟩
  · rw [if_neg h0]
    have hd : 0 < k1.1 - k0.1 := sub_pos.mpr ((not_le.mp h0).trans (not_le.mp h1))
    exact ⟨[], rest, k0, k1, _, rfl, div_nonneg (sub_nonneg.mpr (not_le.mp h0).le) hd.le,
      (div_le_one hd).mpr (sub_le_sub_right (not_le.mp h1).le _), rfl⟩

theorem polyAt_onCable (k0 k1 : Rat × Pt) (rest : List (Rat × Pt)) (s : Rat) :
    OnCable (k0 :: k1 :: rest) (polyAt (k0 :: k1 :: rest) s) := by
  induction rest generalizing k0 k1 with
  | nil =>
    rw [polyAt_cons_cons]
    by_cases h1 : k1.1 ≤ s
    · rw [if_pos h1]
      exact ⟨[], [], k0, k1, 1, rfl, zero_le_one, le_refl _, (lerpPt_one _ _).symm⟩
    · rw [if_neg h1]; exact onCable_first_edge k0 k1 [] h1
  | cons k2 rest ih =>
    rw [polyAt_cons_cons]
    by_cases h1 : k1.1 ≤ s
    · rw [if_pos h1]; exact (ih k1 k2).cons k0
    · rw [if_neg h1]; exact onCable_first_edge k0 k1 (k2 :: rest) h1

theorem polyAt_first (k0 : Rat × Pt) (rest : List (Rat × Pt)) (s : Rat) (hs : s ≤ k0.1)
    (hlt : ∀ k ∈ rest, s < k.1) : polyAt (k0 :: rest) s = k0.2 := by
  cases rest with
  | nil => rfl
  | cons k1 rest =>
    unfold polyAt
    have := hlt k1 (by simp)
    rw [if_neg (by linarith), if_pos hs]

theorem sqd_self (a : Pt) : sqd a a = 0 := by simp [sqd]

theorem sqd_nonneg (a b : Pt) : 0 ≤ sqd a b := sq3_nonneg _ _ _

theorem sqd_eq_zero {a b : Pt} (h : sqd a b = 0) : a.x = b.x ∧ a.y = b.y ∧ a.z = b.z := by
  obtain ⟨h1, h2, h3⟩ := sq3_eq_zero h
  exact ⟨sub_eq_zero.mp h1, sub_eq_zero.mp h2, sub_eq_zero.mp h3⟩

theorem sqd_comm (a b : Pt) : sqd a b = sqd b a := by unfold sqd; ring

/-- Knot arc lengths are non-decreasing and no edge is longer than the arc-length step assigned to it
(with exact Euclidean edge lengths: equality). -/
def ArcOK : List (Rat × Pt) → Prop
  | k0 :: k1 :: rest => k0.1 ≤ k1.1 ∧ sqd k0.2 k1.2 ≤ (k1.1 - k0.1) * (k1.1 - k0.1) ∧ ArcOK (k1 :: rest)
  | _ => True

/-- Edge lengths handed to `knots` are non-negative and not shorter than the Euclidean distance of the
two end points (exact lengths: equality). -/
def LensOK : List Pt → List Rat → Prop
  | p :: q :: ps, l :: ls => 0 ≤ l ∧ sqd p q ≤ l * l ∧ LensOK (q :: ps) ls
  | _, _ => True

theorem knots_cons_cons (acc : Rat) (p q : Pt) (ps : List Pt) (l : Rat) (ls : List Rat) :
    knots acc (p :: q :: ps) (l :: ls) = (acc, p) :: knots (acc + l) (q :: ps) ls := by
  rw [knots]

theorem knots_head (acc : Rat) (p : Pt) (ps : List Pt) (ls : List Rat) :
    ∃ tl, knots acc (p :: ps) ls = (acc, p) :: tl := by
  cases ls with
  | nil => exact ⟨[], by rw [knots]⟩
  | cons l ls => exact ⟨knots (acc + l) ps ls, by rw [knots]⟩

theorem knots_arcOK (acc : Rat) (pts : List Pt) (lens : List Rat) (h : LensOK pts lens) :
    ArcOK (knots acc pts lens) := by
  induction pts generalizing acc lens with
  | nil => simp [knots, ArcOK]
  | cons p ps ih =>
    cases lens with
    | nil => simp [knots, ArcOK]
    | cons l ls =>
      cases ps with
      | nil => simp [knots, ArcOK]
      | cons q ps =>
        obtain ⟨h0, h1, h2⟩ := h
        rw [knots_cons_cons]
        obtain ⟨tl, htl⟩ := knots_head (acc + l) q ps ls
        have := ih (acc + l) ls h2
        rw [htl] at this ⊢
        refine ⟨by simp only; linarith, ?_, this⟩
        simp only
        have e : acc + l - acc = l := by ring
        rw [e]; exact h1

theorem lensOK_seg (pt : Int → Pt) (len : Int → Int → Nat)
    (h : ∀ a b, sqd (pt a) (pt b) ≤ ((len a b : Nat) : Rat) * ((len a b : Nat) : Rat)) :
    ∀ s : List Int, LensOK (s.map pt) (segLens len s)
  | [] => trivial
  | [_] => trivial
  | a :: b :: rest => by
    have ih := lensOK_seg pt len h (b :: rest)
    exact ⟨Nat.cast_nonneg _, h a b, ih⟩

theorem samplePos_step (total : Rat) (k j : Nat) :
    samplePos total k (j + 1) - samplePos total k j = total / ((k : Rat) + 1) := by
  rw [samplePos, samplePos, ← sub_div, Nat.cast_succ, add_one_mul, add_sub_cancel_left]

theorem samplePos_zero (total : Rat) (k : Nat) : samplePos total k 0 = 0 := by simp [samplePos]

theorem samplePos_last (total : Rat) (k : Nat) : samplePos total k (k + 1) = total := by
  rw [samplePos, Nat.cast_succ]
  exact mul_div_cancel_left₀ total (Nat.cast_add_one_ne_zero k)

theorem minSqd_eq_min? (q : Pt) : ∀ nodes : List (Int × Pt), minSqd nodes q = (nodes.map fun n => sqd n.2 q).min?
  | [] => rfl
  | n :: rest => by
    rw [minSqd, minSqd_eq_min? q rest, List.map_cons, List.min?_cons]
    cases (rest.map fun n => sqd n.2 q).min? with
    | none => rfl
    | some m =>
      show (if sqd n.2 q < m then some (sqd n.2 q) else some m) = some (min (sqd n.2 q) m)
      rcases lt_or_ge (sqd n.2 q) m with h | h
      · rw [if_pos h, min_eq_left h.le]
      · rw [if_neg (not_lt.mpr h), min_eq_right h]

theorem minSqd_isSome {nodes : List (Int × Pt)} (q : Pt) (h : nodes ≠ []) : ∃ m, minSqd nodes q = some m := by
  rw [minSqd_eq_min?]
  exact Option.ne_none_iff_exists'.mp fun e => h (List.map_eq_nil_iff.mp (List.min?_eq_none_iff.mp e))

theorem minSqd_spec {nodes : List (Int × Pt)} {q : Pt} {m : Rat} (h : minSqd nodes q = some m) :
    (∀ n ∈ nodes, m ≤ sqd n.2 q) ∧ ∃ n ∈ nodes, sqd n.2 q = m := by
  rw [minSqd_eq_min?, List.min?_eq_some_iff] at h
  exact ⟨fun n hn => h.2 _ (List.mem_map_of_mem hn), List.mem_map.mp h.1⟩

theorem nearest_attains {nodes : List (Int × Pt)} {q : Pt} {i : Int} (h : nearest nodes q = some i) :
    ∃ n ∈ nodes, n.1 = i ∧ minSqd nodes q = some (sqd n.2 q) := by
  unfold nearest at h
  cases hm : minSqd nodes q with
  | none => rw [hm] at h; cases h
  | some m =>
    rw [hm] at h
    simp only [Option.map_eq_some_iff] at h
    obtain ⟨n, hn, rfl⟩ := h
    have heq : sqd n.2 q = m := by simpa using List.find?_some hn
    exact ⟨n, List.mem_of_find?_eq_some hn, rfl, by rw [heq]⟩

theorem nearest_spec {nodes : List (Int × Pt)} {q : Pt} {i : Int} (h : nearest nodes q = some i) :
    ∃ n ∈ nodes, n.1 = i ∧ ∀ n' ∈ nodes, sqd n.2 q ≤ sqd n'.2 q := by
  obtain ⟨n, hn, hi, hm⟩ := nearest_attains h
  exact ⟨n, hn, hi, (minSqd_spec hm).1⟩

theorem nearest_isSome {nodes : List (Int × Pt)} (q : Pt) (h : nodes ≠ []) : (nearest nodes q).isSome := by
  unfold nearest
  obtain ⟨m, hm⟩ := minSqd_isSome q h
  rw [hm]
  obtain ⟨n, hn, hne⟩ := (minSqd_spec hm).2
  simp only [Option.isSome_map]
  rw [List.find?_isSome]
  exact ⟨n, hn, by simp [hne]⟩

end Navis.Resample

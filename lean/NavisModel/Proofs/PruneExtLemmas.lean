import NavisModel.Model.PruneExt
import NavisModel.Proofs.PruneLemmas
/-!
Each group of lemmas ties one piece of navis' option handling as it is written (`Model/PruneExt.lean`, C12) to the
definition-style model of `Model/Prune.lean`: the parametrised twig rule at the constants of the source is `twigDelete`;
the `recursive` loop is a run of productive rounds (`TwigRounds`), hence `pruneTwigs` with the right round count;
Python's `range` and slices select what `siSet` selects (`siListX_ofSel`); the parent walk of connector relocation is
`relocate`; a non-negative rational depth acts as its floor in `pruneAtDepth`.
-/
namespace Navis.PruneX
open Navis.Forest

theorem pyIndex_zero {α} (l : List α) : pyIndex l 0 = l.head? := List.head?_eq_getElem?.symm

theorem pyIndex_neg_one {α} (l : List α) : pyIndex l (-1) = l.getLast? := getElem?_pred_length l

theorem terminalSegsG_rule0 (t : Table) : terminalSegsG twigRule0 t = terminalSegs t := by
  unfold terminalSegsG terminalSegs
  apply List.filter_congr
  intro s _
  rw [show twigRule0.leafPos = 0 from rfl, show twigRule0.forkPos = -1 from rfl, pyIndex_zero, pyIndex_neg_one]
  -- `n_childs > 1` and `≥ 2` are the same test
  rfl

theorem twigDeleteG_rule0 (t : Table) (len : Int → Int → Nat) (size : Nat) (mask : Option (List Int)) :
    twigDeleteG twigRule0 t len size mask = twigDelete t len size mask := by
  unfold twigDeleteG twigDelete
  rw [terminalSegsG_rule0]
  simp only [show twigRule0.maskPos = 0 from rfl, pyIndex_zero, show twigRule0.dropTail = 1 from rfl,
    ← List.dropLast_eq_take]
  rfl

theorem pruneTwigsAW_succ (len : Int → Int → Nat) (size : Nat) (mask : Option (List Int)) (fuel : Nat) (t : Table) (r : RecArg) :
    pruneTwigsAW len size mask (fuel + 1) t r =
      if (twigDelete t len size mask).isEmpty then t else
      match r.step with
      | none => subset t fun i => !(twigDelete t len size mask).contains i
      | some r' => pruneTwigsAW len size mask fuel (subset t fun i => !(twigDelete t len size mask).contains i) r' := rfl

section
variable {len : Int → Int → Nat} {size : Nat} {mask : Option (List Int)} {t : Table}

theorem pruneTwigsAW_of_nil (h : twigDelete t len size mask = []) (fuel : Nat) (r : RecArg) :
    pruneTwigsAW len size mask (fuel + 1) t r = t := by
  rw [pruneTwigsAW_succ, h]; rfl

theorem pruneTwigsAW_step_none {r : RecArg} (hs : r.step = none) (fuel : Nat) (t : Table) :
    pruneTwigsAW len size mask (fuel + 1) t r = pruneTwigsOnce t len size mask := by
  rw [pruneTwigsAW_succ, pruneTwigsOnce_eq, hs]

theorem pruneTwigsAW_step_some (h : twigDelete t len size mask ≠ []) {r r' : RecArg} (hs : r.step = some r') (fuel : Nat) :
    pruneTwigsAW len size mask (fuel + 1) t r =
      pruneTwigsAW len size mask fuel (subset t fun i => !(twigDelete t len size mask).contains i) r' := by
  rw [pruneTwigsAW_succ, if_neg (by simpa using h), hs]

theorem pruneTwigsAW_rounds (fuel : Nat) (t : Table) (r : RecArg) :
    TwigRounds len size mask t (pruneTwigsAW len size mask fuel t r) := by
  unfold pruneTwigsAW
  fun_induction roundsAW (fun t => twigDelete t len size mask) fuel t r with
  | case1 t => exact .done t
  | case2 f t r del h => exact .done t
  | case3 f t r del h hs => exact .single (by simpa using h)
  | case4 f t r del h r' hs ih => exact .step (by simpa using h) ih

end

/-- An argument that never becomes falsy. -/
def RecArg.unbounded : RecArg → Prop
  | .inf => True
  | .int k => k < 0
  | _ => False

theorem RecArg.step_unbounded {r : RecArg} (h : r.unbounded) : ∃ r', r.step = some r' ∧ r'.unbounded := by
  cases r with
  | bool b => exact h.elim
  | inf => exact ⟨.inf, rfl, trivial⟩
  | int k =>
    have hk : k < 0 := h
    exact ⟨.int (k - 1), if_neg (Int.ne_of_lt hk), Int.lt_trans (Int.sub_lt_self k (by decide)) hk⟩

/-- With an argument that never becomes falsy the loop runs until nothing is deleted (every productive round
removes a row, so `|t| + 1` steps of fuel are enough). -/
theorem pruneTwigsAW_fixpoint (len : Int → Int → Nat) (size : Nat) (mask : Option (List Int)) :
    ∀ (fuel : Nat) (t : Table) (r : RecArg), r.unbounded → t.length < fuel →
      twigDelete (pruneTwigsAW len size mask fuel t r) len size mask = [] := by
  -- `induction fuel`, not `fun_induction roundsAW`: the loop's two cases `r.step = none` do not arise for an unbounded
  -- `r`, and the split on `twigDelete t` below never meets them
  intro fuel
  induction fuel with
  | zero => intro _ _ _ hf; exact absurd hf (Nat.not_lt_zero _)
  | succ f ih =>
    intro t r hr hf
    by_cases h : twigDelete t len size mask = []
    · rw [pruneTwigsAW_of_nil h]; exact h
    · obtain ⟨r', hs, hr'⟩ := RecArg.step_unbounded hr
      rw [pruneTwigsAW_step_some h hs]
      exact ih _ r' hr' (Nat.lt_of_lt_of_le (length_twigRound_lt h) (Nat.le_of_lt_succ hf))

/-- … which is what `pruneTwigs` reaches with `|t|` further rounds: both are runs of productive rounds from `t`
that end in a fixpoint. -/
theorem pruneTwigsAW_unbounded (len : Int → Int → Nat) (size : Nat) (mask : Option (List Int))
    (fuel : Nat) (t : Table) (r : RecArg) (hr : r.unbounded) (hf : t.length < fuel) :
    pruneTwigsAW len size mask fuel t r = pruneTwigs t len size mask t.length :=
  (pruneTwigsAW_rounds fuel t r).fixpoint_unique (pruneTwigs_rounds len size mask t.length t)
    (pruneTwigsAW_fixpoint len size mask fuel t r hr hf)
    (pruneTwigs_fixpoint_succ len size mask t.length t (Nat.le_succ _))

theorem pruneTwigsAW_int (len : Int → Int → Nat) (size : Nat) (mask : Option (List Int)) :
    ∀ (fuel : Nat) (k : Nat) (t : Table), t.length < fuel →
      pruneTwigsAW len size mask fuel t (.int k) = pruneTwigs t len size mask k := by
  -- `induction fuel`: the other side recurses on the round count `k`, so every step splits on `k` as well, which the
  -- cases of `roundsAW` (on `r.step`) do not follow
  intro fuel
  induction fuel with
  | zero => intro _ _ hf; exact absurd hf (Nat.not_lt_zero _)
  | succ f ih =>
    intro k t hf
    cases k with
    | zero => exact pruneTwigsAW_step_none rfl f t
    | succ k =>
      by_cases h : twigDelete t len size mask = []
      · rw [pruneTwigsAW_of_nil h, pruneTwigs_of_nil h]
      · have hs : (RecArg.int ((k + 1 : Nat) : Int)).step = some (.int k) := by
          show (if (k : Int) + 1 = 0 then none else some (RecArg.int ((k : Int) + 1 - 1))) = _
          rw [if_neg (show ¬ (k : Int) + 1 = 0 from Int.ne_of_gt (Int.natCast_succ_pos k)), Int.add_sub_cancel]
        rw [pruneTwigsAW_step_some h hs, pruneTwigs_succ_of_ne_nil h]
        exact ih k _ (Nat.lt_of_lt_of_le (length_twigRound_lt h) (Nat.le_of_lt_succ hf))

/-- Ceiling division: `k` is below `⌈d / s⌉` iff the `k`-th multiple of `s` is below `d`. -/
theorem lt_ceilDiv_iff {s : Int} (hs : 0 < s) (d : Int) (k : Nat) :
    k < ((d + s - 1) / s).toNat ↔ (k : Int) * s < d := by
  rw [Int.lt_toNat, ← Int.add_one_le_iff, Int.le_ediv_iff_mul_le hs, Int.add_mul, Int.one_mul]
  omega

theorem mem_pyRange_pos {a b s x : Int} (hs : 0 < s) : x ∈ pyRange a b s ↔ ∃ k : Nat, x = a + k * s ∧ x < b := by
  unfold pyRange
  simp only [show s > 0 from hs, if_true, List.mem_map, List.mem_range, lt_ceilDiv_iff hs]
  constructor
  · rintro ⟨k, hk, rfl⟩; exact ⟨k, rfl, Int.add_lt_of_lt_sub_left hk⟩
  · rintro ⟨k, rfl, hlt⟩; exact ⟨k, Int.lt_sub_left_of_add_lt hlt, rfl⟩

theorem mem_pyRange_neg {a b s x : Int} (hs : s < 0) : x ∈ pyRange a b s ↔ ∃ k : Nat, x = a + k * s ∧ b < x := by
  unfold pyRange
  simp only [show ¬ s > 0 from Int.lt_asymm hs, if_false, hs, if_true, List.mem_map, List.mem_range,
    lt_ceilDiv_iff (Int.neg_pos_of_neg hs), Int.mul_neg]
  constructor
  · rintro ⟨k, hk, rfl⟩; exact ⟨k, rfl, by omega⟩
  · rintro ⟨k, rfl, hlt⟩; exact ⟨k, by omega, rfl⟩

theorem mem_pyRange_one {a b x : Int} : x ∈ pyRange a b 1 ↔ a ≤ x ∧ x < b := by
  rw [mem_pyRange_pos (by decide)]
  constructor
  · rintro ⟨k, rfl, h⟩; omega
  · rintro ⟨h1, h2⟩
    exact ⟨(x - a).toNat, by rw [Int.toNat_of_nonneg (Int.sub_nonneg.mpr h1)]; omega, h2⟩

theorem pyRange_one (a b : Int) : pyRange a b 1 = (List.range (b - a).toNat).map fun (k : Nat) => a + (k : Int) := by
  unfold pyRange
  simp only [show (1 : Int) > 0 by decide, if_true, Int.add_sub_cancel, Int.ediv_one, Int.mul_one]

theorem pyRange_one_length (a b : Int) : (pyRange a b 1).length = (b - a).toNat := by
  rw [pyRange_one, List.length_map, List.length_range]

theorem pyRange_one_get (a b : Int) (p : Nat) (h : p < (b - a).toNat) : (pyRange a b 1)[p]? = some (a + p) := by
  rw [pyRange_one, List.getElem?_map, List.getElem?_range h]; rfl

theorem clampPos_bounds (n : Nat) (v : Option Int) (d : Int) (hd : 0 ≤ d ∧ d ≤ n) : 0 ≤ clampPos n v d ∧ clampPos n v d ≤ n := by
  cases v with
  | none => exact hd
  | some i =>
    unfold clampPos
    simp only
    generalize (if i < 0 then i + (n : Int) else i) = j
    by_cases h1 : j < 0
    · rw [if_pos h1]; exact ⟨Int.le_refl _, Int.natCast_nonneg n⟩
    · rw [if_neg h1]
      by_cases h2 : j > n
      · rw [if_pos h2]; exact ⟨Int.natCast_nonneg n, Int.le_refl _⟩
      · rw [if_neg h2]; exact ⟨Int.not_lt.mp h1, Int.not_lt.mp h2⟩

theorem mem_sliceIdx_pos {n : Nat} {a b : Option Int} {s : Int} (hs : 0 < s) (i : Nat) :
    i ∈ sliceIdx n a b s ↔ i < n ∧ clampPos n a 0 ≤ (i : Int) ∧ (i : Int) < clampPos n b n ∧
      ((i : Int) - clampPos n a 0) % s = 0 := by
  unfold sliceIdx
  simp only [show s > 0 from hs, if_true, List.mem_filter, List.mem_range, Bool.and_eq_true, decide_eq_true_eq, and_assoc]

theorem mem_sliceIdx_neg {n : Nat} {a b : Option Int} {s : Int} (hs : s < 0) (i : Nat) :
    i ∈ sliceIdx n a b s ↔ i < n ∧ clampNeg n b (-1) < (i : Int) ∧ (i : Int) ≤ clampNeg n a ((n : Int) - 1) ∧
      (clampNeg n a ((n : Int) - 1) - (i : Int)) % (-s) = 0 := by
  unfold sliceIdx
  have hns : ¬ s > 0 := Int.lt_asymm hs
  simp only [hns, if_false, hs, if_true, List.mem_reverse, List.mem_filter, List.mem_range, Bool.and_eq_true, decide_eq_true_eq,
    and_assoc]

theorem sliceIdx_zero (n : Nat) (a b : Option Int) : sliceIdx n a b 0 = [] := rfl

theorem mem_sliceIdx_lt {n : Nat} {a b : Option Int} {s : Int} {i : Nat} (h : i ∈ sliceIdx n a b s) : i < n := by
  rcases Int.lt_trichotomy s 0 with hs | hs | hs
  · exact ((mem_sliceIdx_neg hs i).mp h).1
  · subst hs; rw [sliceIdx_zero] at h; simp at h
  · exact ((mem_sliceIdx_pos hs i).mp h).1

theorem mem_pySlice {α} {l : List α} {a b : Option Int} {s : Int} {x : α} :
    x ∈ pySlice l a b s ↔ ∃ i ∈ sliceIdx l.length a b s, l[i]? = some x := by
  unfold pySlice
  simp [List.mem_filterMap]

/-- The slice bounds of CPython (`clampPos`, on integers) and `sliceBound` of `Model/Prune.lean` agree. -/
theorem clampPos_eq_sliceBound (n : Nat) (v : Option Int) (d : Nat) :
    clampPos n v (d : Int) = (sliceBound n v d : Nat) := by
  cases v with
  | none => rfl
  | some i =>
    unfold clampPos sliceBound
    by_cases hi : i < 0
    · simp only [if_pos hi]
      by_cases h2 : i + n < 0
      · rw [if_pos h2, Int.toNat_of_nonpos (Int.add_comm i n ▸ Int.le_of_lt h2)]; rfl
      · rw [if_neg h2, if_neg (by omega), Int.toNat_of_nonneg (Int.add_comm i n ▸ Int.not_lt.mp h2)]
        exact Int.add_comm _ _
    · simp only [if_neg hi]
      by_cases h2 : i > n
      · rw [if_pos h2, Nat.min_eq_left ((Int.le_toNat (Int.not_lt.mp hi)).mpr (Int.le_of_lt h2))]
      · rw [if_neg h2, Nat.min_eq_right (Int.toNat_le.mpr (Int.not_lt.mp h2)), Int.toNat_of_nonneg (Int.not_lt.mp hi)]

theorem sliceIdx_none_one (n : Nat) (b : Option Int) : sliceIdx n none b 1 = List.range (sliceBound n b n) := by
  unfold sliceIdx
  rw [if_pos (by decide), clampPos_eq_sliceBound n b n]
  refine filter_range_lt (sliceBound_le n b (Nat.le_refl n)) fun i _ => ?_
  simp only [show clampPos n none 0 = 0 from rfl, Int.emod_one, decide_true, Bool.and_true, Int.ofNat_lt,
    Int.natCast_nonneg, Bool.true_and]

theorem mem_sliceIdx_one {n : Nat} {a b : Option Int} {p : Nat} :
    p ∈ sliceIdx n a b 1 ↔ sliceBound n a 0 ≤ p ∧ p < sliceBound n b n := by
  have lo : clampPos n a 0 = (sliceBound n a 0 : Nat) := clampPos_eq_sliceBound n a 0
  rw [mem_sliceIdx_pos (by decide), lo, clampPos_eq_sliceBound n b n]
  simp only [Int.ofNat_le, Int.ofNat_lt, Int.emod_one, and_true]
  exact ⟨fun h => h.2, fun h => ⟨Nat.lt_of_lt_of_le h.2 (sliceBound_le n b (Nat.le_refl n)), h⟩⟩

theorem pySlice_take {α} (l : List α) (n : Int) (hn : 0 ≤ n) : pySlice l none (some n) 1 = l.take n.toNat := by
  unfold pySlice
  rw [sliceIdx_none_one, sliceBound_nonneg _ _ hn, filterMap_range_get, Nat.min_comm, ← List.take_eq_take_min]

/-- Slicing `list(range(1, mx+1))`: position `p` holds the value `p + 1`. -/
theorem mem_pySlice_range_one (mx : Nat) (a b : Option Int) (s v : Int) :
    v ∈ pySlice (pyRange 1 ((mx : Int) + 1) 1) a b s ↔ ∃ p ∈ sliceIdx mx a b s, v = (p : Int) + 1 := by
  have hsub : ((mx : Int) + 1 - 1).toNat = mx := by rw [Int.add_sub_cancel]; rfl
  have hget : ∀ p ∈ sliceIdx mx a b s, (pyRange 1 ((mx : Int) + 1) 1)[p]? = some ((p : Int) + 1) := fun p hp => by
    rw [pyRange_one_get _ _ _ (hsub.symm ▸ mem_sliceIdx_lt hp), Int.add_comm]
  rw [mem_pySlice, pyRange_one_length, hsub]
  constructor
  · rintro ⟨p, hp, hg⟩
    rw [hget p hp] at hg
    exact ⟨p, hp, (Option.some.inj hg).symm⟩
  · rintro ⟨p, hp, rfl⟩
    exact ⟨p, hp, hget p hp⟩

/-! The branches of `relocWalk` as equations (`relocWalk_spec` goes along the definition itself). -/

theorem relocWalk_neg (t : Table) (kept : List Int) (fuel : Nat) {i : Int} (hi : i < 0) :
    relocWalk t kept fuel i = i := by
  cases fuel with
  | zero => rfl
  | succ f => exact if_pos hi

theorem relocWalk_kept (t : Table) {kept : List Int} (fuel : Nat) {i : Int} (hi : ¬ i < 0) (hc : kept.contains i = true) :
    relocWalk t kept (fuel + 1) i = i := (if_neg hi).trans (if_pos hc)

theorem relocWalk_step (t : Table) {kept : List Int} (fuel : Nat) {i : Int} (hi : ¬ i < 0) (hc : ¬ kept.contains i = true) :
    relocWalk t kept (fuel + 1) i = match find? t i with
      | some n => relocWalk t kept fuel n.parent
      | none => -1 := (if_neg hi).trans (if_neg hc)

theorem relocWalk_spec {t : Table} (hw : WF t) {kept : List Int} (hk : ∀ m ∈ kept, m ∈ ids t) (fuel : Nat) (i : Int) :
    (rootPath t i).length ≤ fuel →
      match (rootPath t i).find? (fun a => kept.contains a) with
      | some a => relocWalk t kept fuel i = a
      | none => relocWalk t kept fuel i ∉ kept := by
  -- a negative value is no node: it is not kept and has no root path
  have hneg : ∀ j : Int, j < 0 → j ∉ ids t := fun _ hj hm => Int.not_lt.mpr (ids_nonneg hw.2.1 hm) hj
  fun_induction relocWalk t kept fuel i with
  | case1 i =>
    intro h
    have e := List.eq_nil_of_length_eq_zero (Nat.le_zero.mp h)
    rw [e]
    exact fun hm => rootPath_ne_nil (hk i hm) e
  | case2 fuel i hi => intro _; rw [rootPath_of_not_mem (hneg i hi)]; exact fun hm => hneg i hi (hk i hm)
  | case3 fuel i _ hc =>
    intro _
    obtain ⟨r, hr⟩ := rootPath_cons (hk i (by simpa using hc))
    rw [hr, List.find?_cons_of_pos (l := r) hc]
  | case4 fuel i _ hc n hf ih =>
    intro h
    by_cases hp : n.parent < 0
    · -- a root that is not kept: the walk steps to its negative parent entry
      rw [rootPath_of_not_mem (hneg _ hp)] at ih
      rw [rootPath_of_root hf hp, List.find?_cons_of_neg (l := []) hc]
      exact ih (Nat.zero_le _)
    · have e := rootPath_of_nonroot hw hf hp
      rw [e, List.find?_cons_of_neg (l := rootPath t n.parent) hc]
      exact ih (by rw [e] at h; exact Nat.le_of_succ_le_succ h)
  | case5 fuel i _ _ hf => intro _; rw [rootPath_of_not_mem (find?_none hf)]; exact fun hm => hneg (-1) (by decide) (hk _ hm)

/-- **Relocation**: the walk returns the nearest kept ancestor when there is one, and otherwise a value that is not a
kept node (so the connector is dropped by the final filter). -/
theorem relocate_eq_some_iff {t : Table} (hw : WF t) {kept : List Int} (hk : ∀ m ∈ kept, m ∈ ids t) (node a : Int) :
    relocate t kept node = some a ↔ relocWalk t kept (t.length + 1) node = a ∧ a ∈ kept := by
  have h := relocWalk_spec hw hk (t.length + 1) node (Nat.le_succ_of_le (rootPath_length_le hw node))
  unfold relocate
  constructor
  · intro h'
    rw [h'] at h
    exact ⟨h, by simpa using List.find?_some h'⟩
  · rintro ⟨rfl, hm⟩
    split at h
    · next b hb => rw [hb, h]
    · exact absurd hm h

/-- A non-negative rational depth acts as its floor (distances are integers). -/
theorem pruneAtDepthQ_floor (t : Table) (len : Int → Int → Nat) (s : Int) (q : Rat) (hq : 0 ≤ q) :
    pruneAtDepthQ t len s q = pruneAtDepth t len s q.floor.toNat := by
  unfold pruneAtDepthQ pruneAtDepth
  congr 1
  funext i
  cases geo t len false s i with
  | none => rfl
  | some v =>
    have hfl : (0 : Int) ≤ q.floor := Rat.le_floor_iff.mpr (by simpa using hq)
    refine decide_eq_decide.mpr ?_
    rw [show ((v : Nat) : Rat) = (((v : Nat) : Int) : Rat) from rfl, ← Rat.le_floor_iff, Int.le_toNat hfl]

theorem pruneAtDepthQ_nat (t : Table) (len : Int → Int → Nat) (s : Int) (d : Nat) :
    pruneAtDepthQ t len s (d : Rat) = pruneAtDepth t len s d :=
  pruneAtDepthQ_floor t len s d Rat.natCast_nonneg

theorem ids_pruneAtDepthQ (t : Table) (len : Int → Int → Nat) (s : Int) (q : Rat) :
    ids (pruneAtDepthQ t len s q) = (ids t).filter fun i => match geo t len false s i with
      | some d => decide (((d : Nat) : Rat) ≤ q)
      | none => false := ids_subset t _

theorem ids_longestFromSegs (t : Table) (segs : List (List Int)) (inv : Bool) :
    ids (longestFromSegs t segs inv) = (ids t).filter fun i =>
      if inv then !segs.flatten.contains i else segs.flatten.contains i := by
  cases inv
  · exact ids_subset t fun i => segs.flatten.contains i
  · exact ids_subset t fun i => !segs.flatten.contains i

theorem siListX_int_neg (mx : Int) {k : Int} (hk : k < 0) : siListX mx (.int k) = some (pyRange 1 (mx + (k + 1)) 1) :=
  if_pos (decide_eq_true hk)

theorem siListX_int_of_one_le (mx : Int) {k : Int} (hk : 1 ≤ k) : siListX mx (.int k) = some [k] :=
  (if_neg fun h => Int.not_lt.mpr (Int.le_trans (by decide) hk) (of_decide_eq_true (p := k < 0) h)).trans
    (if_neg fun h => Int.not_lt.mpr hk (of_decide_eq_true (p := k < 1) h))

/-- The list handed to `isin` and the index *set* `siSet` raise together and otherwise have the same natural
numbers (the possible Strahler indices) as members, for every selection `siSet` knows. -/
theorem siListX_ofSel (mx : Nat) (sel : SISel) :
    match siSet mx sel, siListX mx (.ofSel sel) with
    | none, none => True
    | some s, some l => ∀ i : Nat, i ∈ s ↔ (i : Int) ∈ l
    | _, _ => False := by
  cases sel with
  | int k =>
    simp only [SISelX.ofSel]
    rcases Int.lt_trichotomy k 0 with hk | rfl | hk
    · rw [siSet_int_neg_eq mx hk, siListX_int_neg mx hk]
      intro i
      rw [mem_siSet_int_neg hk (siSet_int_neg_eq mx hk) i, mem_pyRange_one]
      exact and_congr_left' Int.ofNat_le.symm
    · trivial
    · rw [siSet_int_of_one_le mx hk, siListX_int_of_one_le _ hk]
      intro i
      rw [List.mem_singleton, List.mem_singleton]
      exact ⟨fun h => by rw [h, Int.toNat_of_nonneg (by omega)], fun h => by rw [← h]; rfl⟩
  | list ks => exact fun i => mem_siSet_list (mx := mx) rfl i
  | range a b =>
    intro i
    show i ∈ _ ↔ (i : Int) ∈ pyRange a b 1
    rw [mem_pyRange_one]
    exact mem_siSet_range (mx := mx) rfl i
  | slice a b =>
    intro i
    show i ∈ _ ↔ (i : Int) ∈ pySlice (pyRange 1 ((mx : Int) + 1) 1) a b 1
    rw [mem_siSet_slice rfl i, mem_pySlice_range_one]
    simp only [mem_sliceIdx_one]
    constructor
    · rintro ⟨h1, h2⟩
      obtain ⟨p, rfl⟩ := Nat.exists_eq_succ_of_ne_zero (Nat.ne_of_gt (Nat.zero_lt_of_lt h1))
      exact ⟨p, ⟨Nat.lt_succ_iff.mp h1, h2⟩, rfl⟩
    · rintro ⟨p, ⟨h1, h2⟩, he⟩
      obtain rfl : i = p + 1 := Int.ofNat.inj he
      exact ⟨Nat.lt_succ_iff.mpr h1, h2⟩

theorem pruneByStrahlerX_eq {t : Table} {o : SIOpts} {sel : SISelX} {cn : List (Int × Int)} {r : Table × List (Int × Int)}
    (h : pruneByStrahlerX t o sel cn = some r) :
    ∃ l, siListX (((ids (siTable t o)).map (siColumn (siTable t o) o)).foldl max 0) sel = some l ∧
      r.1 = subset (siTable t o) (fun i => !l.contains (siColumn (siTable t o) o i)) ∧
      r.2 = connAfter (siTable t o) (ids r.1) o.relocate cn := by
  unfold pruneByStrahlerX at h
  simp only at h
  split at h
  · exact nomatch h
  · next l hl => cases h; exact ⟨l, hl, rfl, rfl⟩

end Navis.PruneX

import NavisModel.Model.HeapDeep
/-!
The two-level container model (`Model/HeapDeep.lean`).  An outer container allocated after the first `n` cells, all of whose
inner containers were allocated after them too (`Own`), can be edited at will without touching those `n` cells, and stays such
a container; `deep1` hands back one, with the input's content.  Before that: a store that keeps the first cells of another
shows the same content for every well-formed container of it (`absOf_of_take`); `shallow` hands back the input's own inner
containers.
-/
namespace Navis.HeapDeep

theorem kidsOf_node {s : Store} {r : Nat} {ks : List Nat} (h : s[r]? = some (.node ks)) : kidsOf s r = ks := by
  simp only [kidsOf, h]

theorem kidsOf_congr {s t : Store} {r : Nat} (h : t[r]? = s[r]?) : kidsOf t r = kidsOf s r := by
  unfold kidsOf; rw [h]

theorem leafVal_leaf {s : Store} {k : Nat} {v : Int} (h : s[k]? = some (.leaf v)) : leafVal s k = v := by
  simp only [leafVal, h]

theorem leafVal_congr {s t : Store} {k : Nat} (h : t[k]? = s[k]?) : leafVal t k = leafVal s k := by
  unfold leafVal; rw [h]

theorem kidsOf_set_same {t : Store} {c : Nat} (hc : c < t.length) (ks : List Nat) : kidsOf (t.set c (.node ks)) c = ks :=
  kidsOf_node (List.getElem?_set_self hc)

theorem wfB_spec {s : Store} {r : Nat} (hw : wfB s r = true) :
    ∃ ks, s[r]? = some (.node ks) ∧ ∀ k ∈ ks, ∃ v, s[k]? = some (.leaf v) := by
  unfold wfB at hw
  split at hw
  · rename_i ks hr
    refine ⟨ks, hr, fun k hk => ?_⟩
    have := List.all_eq_true.mp hw k hk
    split at this
    · rename_i v hv; exact ⟨v, hv⟩
    · cases this
  · cases hw

theorem absOf_of_take {s t : Store} (h : t.take s.length = s) {r : Nat} (hw : wfB s r = true) : absOf t r = absOf s r := by
  have hget : ∀ {i c}, s[i]? = some c → t[i]? = s[i]? := fun hi => by
    rw [← List.getElem?_take_of_lt (List.getElem?_eq_some_iff.mp hi).1, h]
  obtain ⟨ks, hr, hks⟩ := wfB_spec hw
  unfold absOf
  rw [kidsOf_congr (hget hr), kidsOf_node hr]
  exact List.map_congr_left fun k hk => let ⟨_, hv⟩ := hks k hk; leafVal_congr (hget hv)

/-! ## edits through a container that owns its inner containers -/

/-- `c` is a valid cell at or after address `n`, and every inner container it lists lies at or after `n` too: edits made through
`c` leave the first `n` cells alone. -/
structure Own (n : Nat) (t : Store) (c : Nat) : Prop where
  fresh : n ≤ c
  valid : c < t.length
  kids : ∀ k ∈ kidsOf t c, n ≤ k

theorem applyEdit_own {n : Nat} {t : Store} {c : Nat} (h : Own n t c) (e : Edit) :
    (applyEdit c t e).take n = t.take n ∧ Own n (applyEdit c t e) c := by
  cases e with
  | inner i v =>
    show (wrInner t c i v).take n = _ ∧ Own n (wrInner t c i v) c
    unfold wrInner
    cases hk : (kidsOf t c)[i]? with
    | none => exact ⟨rfl, h⟩
    | some k =>
      refine ⟨List.take_set_of_le (h.kids k (List.mem_of_getElem? hk)), h.fresh, by rw [List.length_set]; exact h.valid, ?_⟩
      by_cases hkc : k = c
      · -- the container lists itself: it becomes a leaf, no inner containers left
        intro k' hk'
        rw [hkc, kidsOf, List.getElem?_set_self h.valid] at hk'
        cases hk'
      · rw [kidsOf_congr (List.getElem?_set_ne hkc)]; exact h.kids
  | add v =>
    show ((t ++ [Cell.leaf v]).set c _).take n = _ ∧ Own n ((t ++ [Cell.leaf v]).set c _) c
    have hc' : c < (t ++ [Cell.leaf v]).length := by rw [List.length_append]; exact Nat.lt_succ_of_lt h.valid
    refine ⟨?_, h.fresh, by rw [List.length_set]; exact hc', ?_⟩
    · rw [List.take_set_of_le h.fresh,
        List.take_append_of_le_length (Nat.le_of_lt (Nat.lt_of_le_of_lt h.fresh h.valid))]
    · rw [kidsOf_set_same hc']
      intro k hk
      rcases List.mem_append.mp hk with hk | hk
      · exact h.kids k hk
      · cases List.mem_singleton.mp hk
        exact Nat.le_of_lt (Nat.lt_of_le_of_lt h.fresh h.valid)
  | del i =>
    show (t.set c _).take n = _ ∧ Own n (t.set c _) c
    refine ⟨List.take_set_of_le h.fresh, h.fresh, by rw [List.length_set]; exact h.valid, ?_⟩
    rw [kidsOf_set_same h.valid]
    exact fun k hk => h.kids k (List.mem_of_mem_eraseIdx hk)

theorem applyEdits_own {n : Nat} {c : Nat} (es : List Edit) {t : Store} (h : Own n t c) :
    (applyEdits t c es).take n = t.take n :=
  (List.foldlRecOn (motive := fun u => u.take n = t.take n ∧ Own n u c) es _ ⟨rfl, h⟩
    fun _ ⟨h1, h2⟩ e _ => ⟨(applyEdit_own h2 e).1.trans h1, (applyEdit_own h2 e).2⟩).1

theorem deep1_snd (s : Store) (r : Nat) : (deep1 s r).2 = s.length + (kidsOf s r).length := by
  simp [deep1]

theorem deep1_take (s : Store) (r : Nat) : (deep1 s r).1.take s.length = s := by
  simp only [deep1, List.append_assoc]
  rw [List.take_append_of_le_length (Nat.le_refl _), List.take_length]

theorem deep1_kids (s : Store) (r : Nat) :
    kidsOf (deep1 s r).1 (deep1 s r).2 = List.range' s.length (kidsOf s r).length :=
  kidsOf_node List.getElem?_concat_length

theorem deep1_own (s : Store) (r : Nat) : Own s.length (deep1 s r).1 (deep1 s r).2 where
  fresh := deep1_snd s r ▸ Nat.le_add_right ..
  valid := by simp [deep1]
  kids := by
    rw [deep1_kids]
    exact fun k hk => (List.mem_range'_1.mp hk).1

theorem deep1_leafVal (s : Store) (r : Nat) (j : Nat) (hj : j < (kidsOf s r).length) :
    leafVal (deep1 s r).1 (s.length + j) = leafVal s ((kidsOf s r)[j]) := by
  refine leafVal_leaf ?_
  simp only [deep1, List.append_assoc]
  rw [List.getElem?_append_right (Nat.le_add_right _ _), Nat.add_sub_cancel_left,
    List.getElem?_append_left (by rw [List.length_map]; exact hj), List.getElem?_map, List.getElem?_eq_getElem hj]
  rfl

theorem absOf_deep1 (s : Store) (r : Nat) : absOf (deep1 s r).1 (deep1 s r).2 = absOf s r := by
  unfold absOf
  rw [deep1_kids]
  apply List.ext_getElem
  · simp
  · intro j h1 h2
    simp only [List.length_map, List.length_range'] at h1
    simp only [List.getElem_map, List.getElem_range', Nat.one_mul]
    exact deep1_leafVal s r j h1

theorem shallow_kids (s : Store) (r : Nat) : kidsOf (shallow s r).1 (shallow s r).2 = kidsOf s r :=
  kidsOf_node List.getElem?_concat_length

end Navis.HeapDeep

import NavisModel.Model.JobSpec
import NavisModel.Proofs.PartitionLemmas
/-! The interpreter of the extracted job programs (C09; core Lean only): what makes a program `Sound`, that a sound
program assembles the right matrix, and that the two loop shapes navis uses are sound.  Then the extracted expressions that
are not interpreted job by job but shown equal to the hand model once: the `scores='both'` rows (`both_rows_eval`) and,
for the full phase of `nblast_smart`, `this.pairs`, `this.mask` (through `pyIndex` at `0` and `-1`) and the local list. -/
namespace Navis.JobSpec
open Navis.Partition

/-- `enum` may stand for `list(set(qix) | set(tix))` of job `j`. -/
def ValidEnum (enum : List Nat) (j : Job) : Prop :=
  (∀ x ∈ j.qix, x ∈ enum) ∧ (∀ x ∈ j.tix, x ∈ enum)

/-- What has to be true of a job program for the assembled matrix to be right: through its own index
expressions, local query `a` is query `qix[a]` of the row list (with that neuron's own self hit), local
target `b` is target `tix[b]` of the column list, and the block goes to `(qix, tix)`.  `grid` is not read by
`run_sound`: it carries the declarative flags the interpreter does not interpret (loops, shape and labels name the same
two lists, the job travels with its future), so that the `*_source_sound` theorems pin them too. -/
structure Sound (p : Program) (sh : Bool) (V : List Nat → Job → Prop) : Prop where
  grid : p.gridOk = true
  lenQ : ∀ enum j, V enum j → (p.submitQ.eval (p.env enum j)).length = j.qix.length
  lenT : ∀ enum j, V enum j → (p.submitT.eval (p.env enum j)).length = j.tix.length
  entQ : ∀ enum j, V enum j → ∀ a (ha : a < j.qix.length),
    ((p.submitQ.eval (p.env enum j))[a]?).bind (fun k => (p.localList (p.env enum j))[k]?) =
      some (mkEnt sh p.indexRows j.qix[a])
  entT : ∀ enum j, V enum j → ∀ b (hb : b < j.tix.length),
    ((p.submitT.eval (p.env enum j))[b]?).bind (fun k => (p.localList (p.env enum j))[k]?) =
      some (mkEnt sh p.indexCols j.tix[b])
  destR : ∀ enum j, V enum j → p.placeRows.eval (p.env enum j) = j.qix
  destC : ∀ enum j, V enum j → p.placeCols.eval (p.env enum j) = j.tix

theorem block_get {α} (p : Program) (sh : Bool) (V : List Nat → Job → Prop) (hs : Sound p sh V)
    (f : Ent → Ent → α) (enum : List Nat) (j : Job) (hv : V enum j) :
    BlockHolds (fun r c => some (f (mkEnt sh p.indexRows r) (mkEnt sh p.indexCols c))) j (p.block f enum j) := by
  intro a b ha hb
  have ha' : a < (p.submitQ.eval (p.env enum j)).length := (hs.lenQ enum j hv).symm ▸ ha
  have hb' : b < (p.submitT.eval (p.env enum j)).length := (hs.lenT enum j hv).symm ▸ hb
  have hq := hs.entQ enum j hv a ha
  have ht := hs.entT enum j hv b hb
  rw [List.getElem?_eq_getElem ha', Option.bind_some] at hq
  rw [List.getElem?_eq_getElem hb', Option.bind_some] at ht
  unfold Program.block
  simp only [List.getElem?_map, List.getElem?_eq_getElem ha', List.getElem?_eq_getElem hb', Option.map_some,
    Option.bind_some]
  rw [hq, ht]

/-- **Interpreter correctness.** A sound program assembles the full matrix for every partition, every
enumeration order of the per-job sets and every completion order. -/
theorem run_sound {α} (p : Program) (sh : Bool) (V : List Nat → Job → Prop) (hs : Sound p sh V) (f : Ent → Ent → α)
    (nq nt rows cols : Nat) (hr : 0 < rows) (hc : 0 < cols) (enum : Job → List Nat)
    (henum : ∀ j ∈ jobs nq nt rows cols, V (enum j) j)
    (done : List Job) (hperm : done.Perm (jobs nq nt rows cols)) (r c : Nat) :
    p.run f enum done r c =
      if r < nq ∧ c < nt then some (some (f (mkEnt sh p.indexRows r) (mkEnt sh p.indexCols c))) else none := by
  have hmap : done.map (fun j => (p.dest (enum j) j, p.block f (enum j) j)) =
      done.map (fun j => (j, p.block f (enum j) j)) :=
    List.map_congr_left fun j hj => by
      have hv := henum j (hperm.mem_iff.mp hj)
      unfold Program.dest
      rw [hs.destR _ j hv, hs.destC _ j hv]
  unfold Program.run assembleBlocks
  rw [hmap, List.foldl_map]
  exact foldl_place_grid _ hr hc (fun j => p.block f (enum j) j) (fun _ => hperm.mem_iff)
    (fun j hj => block_get p sh V hs f (enum j) j (henum j (hperm.mem_iff.mp hj))) emptyMat r c

/-! ### The two shapes of append loops navis uses -/

theorem entries_elem (over : IxE) (R : String) (sh : Bool) (env : Env) :
    AppendLoop.entries ⟨over, R, .elem, if sh then some R else none, .elem⟩ env =
      (over.eval env).map (mkEnt sh R) := by
  rw [show (over.eval env).map (mkEnt sh R) = ((over.eval env).zipIdx.map Prod.fst).map (mkEnt sh R) by
    rw [List.zipIdx_map_fst], List.map_map]
  cases sh <;> rfl

/-- `nblast`, the pre-phase of `nblast_smart`, `synblast`, `nblast_align`: queries appended first
(`qix`), then targets (`tix`), each looked up by its element `ix`; `queries = arange(len(qix))`,
`targets = arange(len(tix)) + len(qix)`; block placed at `(qix, tix)`. -/
theorem sound_concat (p : Program) (sh : Bool) (R C : String)
    (happ : p.appends = [⟨.qix, R, .elem, if sh then some R else none, .elem⟩,
                         ⟨.tix, C, .elem, if sh then some C else none, .elem⟩])
    (hq : p.submitQ = .arange .qix) (ht : p.submitT = .addLen (.arange .tix) .qix)
    (hr : p.placeRows = .qix) (hc : p.placeCols = .tix)
    (hir : p.indexRows = R) (hic : p.indexCols = C) (hg : p.gridOk = true) : Sound p sh (fun _ _ => True) := by
  have hloc : ∀ enum j, p.localList (p.env enum j) = j.qix.map (mkEnt sh R) ++ j.tix.map (mkEnt sh C) := by
    intro enum j
    unfold Program.localList
    rw [happ]
    show AppendLoop.entries _ _ ++ (AppendLoop.entries _ _ ++ []) = _
    rw [List.append_nil, entries_elem, entries_elem]
    rfl
  refine ⟨hg, ?_, ?_, ?_, ?_, ?_, ?_⟩
  · intro enum j _; rw [hq]; exact List.length_range
  · intro enum j _; rw [ht]; exact (List.length_map _).trans List.length_range
  · intro enum j _ a ha
    rw [hq, hloc, hir]
    show ((List.range j.qix.length)[a]?).bind _ = _
    rw [List.getElem?_range ha, Option.bind_some, List.getElem?_append_left (by rw [List.length_map]; exact ha),
      List.getElem?_map, List.getElem?_eq_getElem ha]
    rfl
  · intro enum j _ b hb
    rw [ht, hloc, hic]
    show (((List.range j.tix.length).map (· + j.qix.length))[b]?).bind _ = _
    rw [List.getElem?_map, List.getElem?_range hb, Option.map_some, Option.bind_some,
      List.getElem?_append_right (by rw [List.length_map]; exact Nat.le_add_left _ _), List.length_map,
      Nat.add_sub_cancel, List.getElem?_map, List.getElem?_eq_getElem hb]
    rfl
  · intro enum j _; rw [hr]; rfl
  · intro enum j _; rw [hc]; rfl

theorem lookup_zipIdx (enum : List Nat) (x k : Nat) (hx : x ∈ enum) :
    ((enum.zipIdx k).map fun q => (q.1, q.2)).lookup x = some (k + enum.idxOf x) := by
  induction enum generalizing k with
  | nil => simp at hx
  | cons e es ih =>
    simp only [List.zipIdx_cons, List.map_cons, List.lookup_cons, List.idxOf_cons]
    by_cases hxe : x = e
    · subst hxe; simp
    · rw [beq_false_of_ne hxe, beq_false_of_ne (Ne.symm hxe)]
      simp only [cond_false]
      rw [ih (k + 1) ((List.mem_cons.mp hx).resolve_left hxe)]; congr 1; omega

theorem viaMap_eval (p : Program) (hix : p.ixmap = some (.elem, .counter)) (enum : List Nat) (j : Job) (e : IxE)
    (hmem : ∀ x ∈ e.eval (p.env enum j), x ∈ enum) :
    (IxE.viaMap e).eval (p.env enum j) = (e.eval (p.env enum j)).map fun x => enum.idxOf x := by
  simp only [IxE.eval]
  apply List.map_congr_left
  intro x hx
  have : (p.env enum j).ixmap = (enum.zipIdx 0).map fun q => (q.1, q.2) := by
    simp only [Program.env, Program.ixmapOf, hix, pick]
  rw [this, lookup_zipIdx enum x 0 (hmem x hx)]
  simp

/-- `nblast_allbyall`: one append loop over `list(set(qix) | set(tix))` that also fills `ixmap[ix] = i`;
`queries = [ixmap[ix] for ix in qix]`, `targets = [ixmap[ix] for ix in tix]`. -/
theorem sound_union (p : Program) (sh : Bool) (R : String)
    (happ : p.appends = [⟨.union, R, .elem, if sh then some R else none, .elem⟩])
    (hix : p.ixmap = some (.elem, .counter))
    (hq : p.submitQ = .viaMap .qix) (ht : p.submitT = .viaMap .tix)
    (hr : p.placeRows = .qix) (hc : p.placeCols = .tix)
    (hir : p.indexRows = R) (hic : p.indexCols = R) (hg : p.gridOk = true) : Sound p sh ValidEnum := by
  have hloc : ∀ enum j, p.localList (p.env enum j) = enum.map (mkEnt sh R) := by
    intro enum j
    unfold Program.localList
    rw [happ]
    show AppendLoop.entries _ _ ++ [] = _
    rw [List.append_nil, entries_elem]
    rfl
  -- the position of `l[a]` in the enumeration holds `l[a]`
  have key : ∀ enum j (l : List Nat), (∀ x ∈ l, x ∈ enum) → ∀ a (ha : a < l.length),
      ((l.map fun x => enum.idxOf x)[a]?).bind (fun k => (p.localList (p.env enum j))[k]?) =
        some (mkEnt sh R l[a]) := by
    intro enum j l hl a ha
    have hlt := List.idxOf_lt_length_of_mem (hl _ (List.getElem_mem ha))
    rw [List.getElem?_map, List.getElem?_eq_getElem ha, Option.map_some, Option.bind_some, hloc,
      List.getElem?_map, List.getElem?_eq_getElem hlt, Option.map_some, List.getElem_idxOf]
  refine ⟨hg, ?_, ?_, ?_, ?_, ?_, ?_⟩
  · intro enum j hv
    rw [hq, viaMap_eval p hix enum j .qix hv.1]; exact List.length_map _
  · intro enum j hv
    rw [ht, viaMap_eval p hix enum j .tix hv.2]; exact List.length_map _
  · intro enum j hv a ha
    rw [hq, viaMap_eval p hix enum j .qix hv.1, hir]
    exact key enum j j.qix hv.1 a ha
  · intro enum j hv b hb
    rw [ht, viaMap_eval p hix enum j .tix hv.2, hic]
    exact key enum j j.tix hv.2 b hb
  · intro enum j _; rw [hr]; rfl
  · intro enum j _; rw [hc]; rfl

/-! ### Extracted expressions that evaluate to the hand model: the `both` rows, the smart phase -/

theorem both_rows_eval (env : Env) :
    (IxE.addSlice (.rep (.mul .qix 2) 2) 1 2 1).eval env = bothRows env.j.qix := by
  -- `x[1::2]` touches exactly the odd positions
  have h : ∀ i, (1 ≤ i ∧ (i - 1) % 2 = 0) ↔ i % 2 = 1
    | 0 => ⟨fun h => absurd h.1 (Nat.not_succ_le_zero 0), fun h => absurd h Nat.zero_ne_one⟩
    | j + 1 => by
      rw [Nat.add_sub_cancel, and_iff_right (Nat.le_add_left 1 j), Nat.add_mod]
      rcases Nat.mod_two_eq_zero_or_one j with h | h <;> rw [h] <;> decide
  simp only [IxE.eval, bothRows, addOdd, repeat2, h]
  rfl

theorem pyIndex_zero (l : List Nat) : pyIndex l 0 = l.head? := List.head?_eq_getElem?.symm

theorem pyIndex_neg_one (l : List Nat) : pyIndex l (-1) = l.getLast? := getElem?_pred_length l

theorem smart_pairs_eq (sf : SmartFacts) (h1 : sf.submaskRows = .qix) (h2 : sf.submaskCols = .tix)
    (h3 : sf.pairsOffsetCol = 1) (h4 : sf.pairsOffset = .qix) (mask : Nat → Nat → Bool) (j : Job) :
    sf.pairs mask j = Smart.pairs mask j := by
  unfold SmartFacts.pairs Smart.pairs Smart.submask
  simp only [h1, h2, h3, h4, IxE.eval, SmartFacts.env, if_true]

theorem smart_jobMask_eq (sf : SmartFacts) (h1 : sf.sliceRows = ⟨.qix, 0, -1, 1⟩)
    (h2 : sf.sliceCols = ⟨.tix, 0, -1, 1⟩) (mask : Nat → Nat → Bool) (j : Job) :
    sf.jobMask mask j = Smart.jobMask mask j := by
  unfold SmartFacts.jobMask Smart.jobMask SliceE.bounds
  simp only [h1, h2, IxE.eval, SmartFacts.env, pyIndex_zero, pyIndex_neg_one]

theorem smart_local_eq (sf : SmartFacts) (R C : String)
    (happ : sf.appends = [⟨.qix, R, .elem, some R, .elem⟩, ⟨.tix, C, .elem, some C, .elem⟩]) (j : Job) :
    sf.localList j = j.qix.map (mkEnt true R) ++ j.tix.map (mkEnt true C) := by
  unfold SmartFacts.localList
  rw [happ]
  show AppendLoop.entries _ _ ++ (AppendLoop.entries _ _ ++ []) = _
  rw [List.append_nil]
  exact (congrArg (· ++ _) (entries_elem .qix R true _)).trans (congrArg (_ ++ ·) (entries_elem .tix C true _))

end Navis.JobSpec

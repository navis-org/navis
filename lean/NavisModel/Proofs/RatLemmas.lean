import Mathlib.Algebra.Order.Ring.Rat
/-! Facts about rational variables that the packages with a 3-vector type of their own (`Voxel.P3`, `Xform.V3`,
`Resample.Pt`, `Nblast.V3`) all need: each states its squared norm or distance as a sum of three squares. -/
namespace Navis

theorem sq3_nonneg (a b c : Rat) : 0 ≤ a * a + b * b + c * c :=
  add_nonneg (add_nonneg (mul_self_nonneg a) (mul_self_nonneg b)) (mul_self_nonneg c)

theorem sq3_eq_zero {a b c : Rat} (h : a * a + b * b + c * c = 0) : a = 0 ∧ b = 0 ∧ c = 0 := by
  have ha := mul_self_nonneg a; have hb := mul_self_nonneg b; have hc := mul_self_nonneg c
  have hab := (add_eq_zero_iff_of_nonneg (add_nonneg ha hb) hc).mp h
  have hab' := (add_eq_zero_iff_of_nonneg ha hb).mp hab.1
  exact ⟨mul_self_eq_zero.mp hab'.1, mul_self_eq_zero.mp hab'.2, mul_self_eq_zero.mp hab.2⟩

end Navis

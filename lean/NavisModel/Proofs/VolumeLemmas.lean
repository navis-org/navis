import NavisModel.Model.Volume
import NavisModel.Model.InVolumeShape
import NavisModel.Proofs.DictLemmas
/-!
What the C18 theorems rest on, in the order of `Model/Volume.lean`.
Geometry: the per-axis interval test and its transport under a pose; membership of a CSG program is decided by the last box
that contains the point, so it depends on the boxes only through their tests.
Pruning: a mask applied to a table is a filter of the table, with or without the `if not all(mask)` shortcut, hence `IN` and
`OUT` split any table of rows with a position (`keep_partition`); skeleton nodes are kept by id.
Several volumes: a dict built in a loop over distinct names is the list of its items.
`snap`: `argmin` returns the first index of a minimum of the squared distances (`IsArgmin`, `snapIdx_spec`).
Rows of a point cloud or of a vertex array are kept by index (`sel`); the connector table of a pruned point cloud or mesh is
read off once for both (`conns_table_spec`); a mesh whose faces do not straddle the surface (`FacesValid`, `Referenced`,
`NoStraddle`) loses no selected vertex; voxels are kept by their centre.
Back-ends: the selection is a `find?`, the ray loop of `in_volume_pyoc` a conjunction over the rays.
Last, the extracted shape of `in_volume` without a recognised deviation is the hand-written model.  Core Lean only.
-/
namespace Navis.Volume

theorem strictIn_eq_closedIn_of_odd (lo hi q : Int) (h : q % 2 = 1) : strictIn lo hi q = closedIn lo hi q := by
  unfold strictIn closedIn
  have h1 : decide (2 * lo < q) = decide (2 * lo ≤ q) := by
    apply decide_eq_decide.mpr; omega
  have h2 : decide (q < 2 * hi) = decide (q ≤ 2 * hi) := by
    apply decide_eq_decide.mpr; omega
  rw [h1, h2]

theorem halfB_iff (p : P3) : halfB p = true ↔ Half p := by
  simp [halfB, Half, and_assoc]

theorem strictIn_iff (lo hi q : Int) : strictIn lo hi q = true ↔ 2 * lo < q ∧ q < 2 * hi := by
  simp [strictIn]

theorem inBox_iff (b : Box) (p : P3) :
    inBox b p = true ↔ (2 * b.lo.x < p.x ∧ p.x < 2 * b.hi.x) ∧ (2 * b.lo.y < p.y ∧ p.y < 2 * b.hi.y)
      ∧ (2 * b.lo.z < p.z ∧ p.z < 2 * b.hi.z) := by
  simp [inBox, strictIn_iff, and_assoc]

theorem foldl_step_append (p : P3) (acc : Bool) (S T : Solid) :
    (S ++ T).foldl (step p) acc = T.foldl (step p) (S.foldl (step p) acc) := by
  simp [List.foldl_append]

theorem mem_append_singleton (S : Solid) (sb : Bool × Box) (p : P3) :
    mem (S ++ [sb]) p = step p (mem S p) sb :=
  foldl_step_append p false S [sb]

theorem foldl_step_union (p : P3) (acc : Bool) (bs : List Box) :
    (unionOf bs).foldl (step p) acc = (acc || bs.any fun b => inBox b p) := by
  induction bs generalizing acc with
  | nil => simp [unionOf]
  | cons b t ih =>
    have : unionOf (b :: t) = (true, b) :: unionOf t := rfl
    rw [this, List.foldl_cons, ih]
    unfold step
    cases acc <;> cases h : inBox b p <;> simp [h]

theorem mem_unionOf (bs : List Box) (p : P3) : mem (unionOf bs) p = bs.any fun b => inBox b p := by
  unfold mem; rw [foldl_step_union]; rfl

theorem foldl_step_last (p : P3) (acc : Bool) (S : Solid) :
    S.foldl (step p) acc =
      match S.reverse.find? (fun sb => inBox sb.2 p) with
      | some sb => sb.1
      | none => acc := by
  induction S generalizing acc with
  | nil => rfl
  | cons x t ih =>
    rw [List.foldl_cons, ih, List.reverse_cons, List.find?_append]
    cases h : t.reverse.find? (fun sb => inBox sb.2 p) with
    | some sb => rfl
    | none =>
      simp only [Option.or, List.find?_cons, List.find?_nil, step]
      cases hx : inBox x.2 p <;> simp

theorem mem_eq_last (S : Solid) (p : P3) :
    mem S p = match S.reverse.find? (fun sb => inBox sb.2 p) with
      | some sb => sb.1
      | none => false := foldl_step_last p false S

theorem mem_false_of_no_box (S : Solid) (p : P3) (h : ∀ sb ∈ S, inBox sb.2 p = false) : mem S p = false := by
  rw [mem_eq_last]
  have : S.reverse.find? (fun sb => inBox sb.2 p) = none := by
    rw [List.find?_eq_none]
    intro sb hsb
    simp [h sb (List.mem_reverse.mp hsb)]
  rw [this]

/-- Membership depends on the boxes only through the tests `inBox · p`: moving the boxes by `F` and the point to `q` so that
every test keeps its answer keeps the answer of the whole CSG program. -/
theorem mem_map_boxes (F : Box → Box) (S : Solid) (p q : P3) (h : ∀ sb ∈ S, inBox (F sb.2) q = inBox sb.2 p) :
    mem (S.map fun sb => (sb.1, F sb.2)) q = mem S p := by
  unfold mem
  generalize false = acc
  induction S generalizing acc with
  | nil => rfl
  | cons x t ih =>
    have hx : step q acc (x.1, F x.2) = step p acc x := by simp only [step, h x List.mem_cons_self]
    rw [List.map_cons, List.foldl_cons, List.foldl_cons, hx]
    exact ih (fun sb hsb => h sb (List.mem_cons_of_mem _ hsb)) _

theorem strictIn_unit (a b : Int) : strictIn a (a + 1) (2 * b + 1) = decide (a = b) := by
  rw [Bool.eq_iff_iff, strictIn_iff, decide_eq_true_iff]; omega

theorem inBox_cell_centre (v w : P3) : inBox (cell v) (centre w) = decide (v = w) := by
  rcases v with ⟨a, b, c⟩
  rcases w with ⟨a', b', c'⟩
  rw [Bool.eq_iff_iff, decide_eq_true_iff, P3.mk.injEq]
  simp only [inBox, cell, centre, strictIn_unit, Bool.and_eq_true, decide_eq_true_iff, and_assoc]

def boxPoly (b : Box) : Polytope :=
  [⟨⟨1, 0, 0⟩, b.hi.x⟩, ⟨⟨-1, 0, 0⟩, -b.lo.x⟩, ⟨⟨0, 1, 0⟩, b.hi.y⟩, ⟨⟨0, -1, 0⟩, -b.lo.y⟩,
   ⟨⟨0, 0, 1⟩, b.hi.z⟩, ⟨⟨0, 0, -1⟩, -b.lo.z⟩]

def Box.ok (b : Box) : Prop := b.lo.x ≤ b.hi.x ∧ b.lo.y ≤ b.hi.y ∧ b.lo.z ≤ b.hi.z

instance (b : Box) : Decidable b.ok := by unfold Box.ok; exact inferInstance

/-! A pose acts on one axis by scaling with a positive factor, possibly negating, and translating; each of the three moves
carries the interval and the doubled query along. -/

theorem strictIn_scale (k : Int) (hk : 0 < k) (lo hi q : Int) : strictIn (k * lo) (k * hi) (k * q) = strictIn lo hi q := by
  unfold strictIn
  rw [Int.mul_left_comm 2 k lo, Int.mul_left_comm 2 k hi, decide_eq_decide.mpr (Int.mul_lt_mul_left hk),
    decide_eq_decide.mpr (Int.mul_lt_mul_left hk)]

theorem strictIn_neg (lo hi q : Int) : strictIn (-hi) (-lo) (-q) = strictIn lo hi q := by
  unfold strictIn
  rw [Int.mul_neg, Int.mul_neg, decide_eq_decide.mpr Int.neg_lt_neg_iff, decide_eq_decide.mpr Int.neg_lt_neg_iff,
    Bool.and_comm]

theorem strictIn_shift (lo hi q t : Int) : strictIn (lo + t) (hi + t) (q + 2 * t) = strictIn lo hi q := by
  unfold strictIn
  rw [Int.mul_add, Int.mul_add, decide_eq_decide.mpr (Int.add_lt_add_iff_right _),
    decide_eq_decide.mpr (Int.add_lt_add_iff_right _)]

theorem strictIn_pose (s : Nat) (hs : 0 < s) (f : Bool) (lo hi q t : Int) (h : lo ≤ hi) :
    strictIn (min (sgn f s * lo + t) (sgn f s * hi + t)) (max (sgn f s * lo + t) (sgn f s * hi + t))
      (sgn f s * q + 2 * t) = strictIn lo hi q := by
  have hk : (0 : Int) < (s : Int) := Int.natCast_pos.mpr hs
  have hle : (s : Int) * lo ≤ (s : Int) * hi := Int.mul_le_mul_of_nonneg_left h (Int.le_of_lt hk)
  cases f
  · simp only [sgn, Bool.false_eq_true, if_false]
    rw [Int.min_eq_left (Int.add_le_add_right hle t), Int.max_eq_right (Int.add_le_add_right hle t), strictIn_shift,
      strictIn_scale _ hk]
  · simp only [sgn, if_true]
    have hge := Int.add_le_add_right (Int.neg_le_neg hle) t
    rw [Int.neg_mul, Int.neg_mul, Int.neg_mul, Int.min_eq_right hge, Int.max_eq_left hge, strictIn_shift, strictIn_neg,
      strictIn_scale _ hk]

theorem inBox_pose (π : Pose) (hπ : π.ok) (b : Box) (hb : b.ok) (p : P3) :
    inBox (π.box b) (π.pt p) = inBox b p := by
  obtain ⟨h1, h2, h3⟩ := hπ
  obtain ⟨b1, b2, b3⟩ := hb
  have ex := strictIn_pose π.sx h1 π.fx b.lo.x b.hi.x p.x
  have ey := strictIn_pose π.sy h2 π.fy b.lo.y b.hi.y p.y
  have ez := strictIn_pose π.sz h3 π.fz b.lo.z b.hi.z p.z
  unfold Pose.box Pose.vert Pose.pt Pose.lin
  -- per axis the test is unchanged; a permutation only reorders the three conjuncts
  cases π.perm <;> simp only [Perm3.app, inBox, ex _ b1, ey _ b2, ez _ b3] <;> ac_rfl

theorem Pose.box_ok (π : Pose) (b : Box) : (π.box b).ok :=
  ⟨Int.le_trans (Int.min_le_left _ _) (Int.le_max_left _ _), Int.le_trans (Int.min_le_left _ _) (Int.le_max_left _ _),
    Int.le_trans (Int.min_le_left _ _) (Int.le_max_left _ _)⟩

theorem Pose.solid_ok (π : Pose) (S : Solid) : ∀ sb ∈ π.solid S, sb.2.ok := by
  intro sb h
  unfold Pose.solid at h
  obtain ⟨x, _, rfl⟩ := List.mem_map.mp h
  exact Pose.box_ok π x.2

/-- the solid after a chain of in-place poses -/
def poseChainSolid (πs : List Pose) (S : Solid) : Solid := πs.foldl (fun S π => π.solid S) S
/-- the image of a query point under the same chain -/
def poseChainPt (πs : List Pose) (p : P3) : P3 := πs.foldl (fun p π => π.pt p) p

theorem sgn_mul_odd (f : Bool) (s : Nat) (q : Int) (hs : s % 2 = 1) (hq : q % 2 = 1) : (sgn f s * q) % 2 = 1 := by
  have hs' : (s : Int) % 2 = 1 := by omega
  have h : ((s : Int) * q) % 2 = 1 := by rw [Int.mul_emod, hs', hq]; rfl
  cases f
  · exact h
  · show (-(s : Int) * q) % 2 = 1
    rw [Int.neg_mul, Int.neg_emod_two]; exact h

theorem half_app (π : Perm3) (p : P3) (h : Half p) : Half (π.app p) := by
  obtain ⟨hx, hy, hz⟩ := h
  cases π <;> exact ⟨by assumption, by assumption, by assumption⟩

theorem half_add_even (p t : P3) (h : Half p) : Half ⟨p.x + 2 * t.x, p.y + 2 * t.y, p.z + 2 * t.z⟩ := by
  obtain ⟨hx, hy, hz⟩ := h
  show (p.x + 2 * t.x) % 2 = 1 ∧ (p.y + 2 * t.y) % 2 = 1 ∧ (p.z + 2 * t.z) % 2 = 1
  rw [Int.add_mul_emod_self_left, Int.add_mul_emod_self_left, Int.add_mul_emod_self_left]
  exact ⟨hx, hy, hz⟩

/-- Half-integer points stay half-integer points under a pose with odd scales: an odd factor keeps oddness, flips and
permutations do not touch it, and the translation enters doubled. -/
theorem half_pose_of_odd (π : Pose) (p : P3) (hp : Half p)
    (ho : π.sx % 2 = 1 ∧ π.sy % 2 = 1 ∧ π.sz % 2 = 1) : Half (π.pt p) :=
  half_add_even _ π.t (half_app π.perm _
    ⟨sgn_mul_odd π.fx π.sx p.x ho.1 hp.1, sgn_mul_odd π.fy π.sy p.y ho.2.1 hp.2.1, sgn_mul_odd π.fz π.sz p.z ho.2.2 hp.2.2⟩)

theorem masked_cons {α} (a : α) (l : List α) (b : Bool) (m : List Bool) :
    masked (a :: l) (b :: m) = if b then a :: masked l m else masked l m := by
  cases b <;> rfl

theorem masked_map_map {α β} (l : List α) (f : α → β) (g : α → Bool) :
    masked (l.map f) (l.map g) = (l.filter g).map f := by
  induction l with
  | nil => rfl
  | cons a t ih =>
    rw [List.map_cons, List.map_cons, masked_cons, ih, List.filter_cons]
    cases g a <;> rfl

theorem masked_map {α} (l : List α) (g : α → Bool) : masked l (l.map g) = l.filter g := by
  rw [← List.map_id (l.filter g), ← masked_map_map, List.map_id]

theorem all_id_map {α} (l : List α) (g : α → Bool) : (l.map g).all id = l.all g := by
  simp [List.all_map]

/-- `if not all(mask): x = x[mask]`, with or without the shortcut, is filtering. -/
theorem masked_shortcut {α} (l : List α) (g : α → Bool) :
    (if (l.map g).all id then l else masked l (l.map g)) = l.filter g := by
  rw [masked_map, all_id_map]
  split
  · rename_i h; exact (List.filter_eq_self.mpr (List.all_eq_true.mp h)).symm
  · rfl

/-- the predicate a mode keeps -/
def keepPred (μ : Inside) (mode : Mode) (q : P3) : Bool :=
  match mode with
  | .IN => μ q
  | .OUT => !μ q

theorem keepMask_points (μ : Inside) (mode : Mode) (pts : List P3) :
    keepMask mode (inVolumePoints μ pts) = pts.map (keepPred μ mode) := by
  cases mode <;> simp [keepMask, inVolumePoints, keepPred, List.map_map, Function.comp_def]

theorem keepPred_out (μ : Inside) (q : P3) : keepPred μ .OUT q = !keepPred μ .IN q := rfl

theorem keepPred_congr (μ : Inside) (mode : Mode) (p q : P3) (h : μ p = μ q) :
    keepPred μ mode p = keepPred μ mode q := by
  cases mode <;> simp [keepPred, h]

/-- `IN` and `OUT` split any table whose rows carry a position: skeleton nodes, row indices of a point cloud or a vertex array,
voxels. -/
theorem keep_partition {ρ : Type} (μ : Inside) (pos : ρ → P3) (l : List ρ) :
    (l.filter (fun r => keepPred μ .IN (pos r)) ++ l.filter (fun r => keepPred μ .OUT (pos r))).Perm l
    ∧ (∀ r ∈ l.filter (fun r => keepPred μ .IN (pos r)), r ∉ l.filter (fun r => keepPred μ .OUT (pos r)))
    ∧ (∀ r, r ∈ l.filter (fun r => keepPred μ .IN (pos r)) ↔ r ∈ l ∧ μ (pos r) = true)
    ∧ (∀ r, r ∈ l.filter (fun r => keepPred μ .OUT (pos r)) ↔ r ∈ l ∧ μ (pos r) = false) := by
  have hI : ∀ r, r ∈ l.filter (fun r => keepPred μ .IN (pos r)) ↔ r ∈ l ∧ μ (pos r) = true := fun r => List.mem_filter
  have hO : ∀ r, r ∈ l.filter (fun r => keepPred μ .OUT (pos r)) ↔ r ∈ l ∧ μ (pos r) = false := fun r =>
    List.mem_filter.trans (and_congr_right fun _ => Bool.not_eq_true' _ ▸ Iff.rfl)
  exact ⟨List.filter_append_perm (fun r => keepPred μ .IN (pos r)) l,
    fun r h h' => Bool.noConfusion (((hI r).mp h).2.symm.trans ((hO r).mp h').2), hI, hO⟩

/-- what `subset_neuron` does for a row predicate `g` when `node_id`s are unique -/
def pruneBy (g : Node → Bool) (t : Tree) : Tree :=
  { nodes := t.nodes.filter g,
    conns := t.conns.filter fun c => ((t.nodes.filter g).map (·.id)).contains c.node }

def Attached (t : Tree) : Prop := ∀ c ∈ t.conns, c.node ∈ t.ids

theorem inVolumeTree_unfold (μ : Inside) (mode : Mode) (t : Tree) :
    inVolumeTree μ mode t =
      if t.nodes.all (fun v => keepPred μ mode v.pos) then t
      else subsetTree t ((t.nodes.filter fun v => keepPred μ mode v.pos).map (·.id)) := by
  unfold inVolumeTree
  simp only [keepMask_points, List.map_map, Tree.ids]
  rw [all_id_map, masked_map_map]
  rfl

theorem contains_ids_filter (l : List Node) (hn : (l.map (·.id)).Nodup) (g : Node → Bool) (v : Node) (hv : v ∈ l) :
    ((l.filter g).map (·.id)).contains v.id = g v := by
  rw [Bool.eq_iff_iff, List.contains_iff_mem, List.mem_map]
  constructor
  · rintro ⟨w, hw, hid⟩
    rw [List.mem_filter] at hw
    rw [← inj_of_nodup_map hn w hw.1 v hv hid]; exact hw.2
  · intro h; exact ⟨v, List.mem_filter.mpr ⟨hv, h⟩, rfl⟩

theorem filter_isin_ids (l : List Node) (hn : (l.map (·.id)).Nodup) (g : Node → Bool) :
    (l.filter fun v => ((l.filter g).map (·.id)).contains v.id) = l.filter g :=
  List.filter_congr fun v hv => contains_ids_filter l hn g v hv

theorem subsetTree_eq_pruneBy (t : Tree) (hn : t.ids.Nodup) (g : Node → Bool) :
    subsetTree t ((t.nodes.filter g).map (·.id)) = pruneBy g t := by
  unfold subsetTree pruneBy
  simp only [filter_isin_ids t.nodes hn g]

theorem pruneBy_of_all (t : Tree) (ha : Attached t) (g : Node → Bool) (hall : t.nodes.all g = true) :
    pruneBy g t = t := by
  unfold pruneBy
  rw [List.filter_eq_self.mpr (List.all_eq_true.mp hall)]
  exact congrArg (Tree.mk t.nodes) (List.filter_eq_self.mpr fun c hc => List.contains_iff_mem.mpr (ha c hc))

theorem inVolumeTree_nodes (μ : Inside) (mode : Mode) (t : Tree) (hn : t.ids.Nodup) :
    (inVolumeTree μ mode t).nodes = t.nodes.filter fun v => keepPred μ mode v.pos := by
  rw [inVolumeTree_unfold]
  split
  · rename_i hall
    exact (List.filter_eq_self.mpr (List.all_eq_true.mp hall)).symm
  · rw [subsetTree_eq_pruneBy t hn]; rfl

theorem inVolumeTree_eq_pruneBy (μ : Inside) (mode : Mode) (t : Tree) (hn : t.ids.Nodup) (ha : Attached t) :
    inVolumeTree μ mode t = pruneBy (fun v => keepPred μ mode v.pos) t := by
  rw [inVolumeTree_unfold]
  split
  · rename_i hall
    exact (pruneBy_of_all t ha _ hall).symm
  · exact subsetTree_eq_pruneBy t hn _

theorem pruneBy_ids (g : Node → Bool) (t : Tree) : (pruneBy g t).ids = (t.nodes.filter g).map (·.id) := rfl

theorem conn_out_eq_not_in (μ : Inside) (l : List Node) (hn : (l.map (·.id)).Nodup) (i : Int) (hi : i ∈ l.map (·.id)) :
    ((l.filter fun v => keepPred μ .OUT v.pos).map (·.id)).contains i
      = !((l.filter fun v => keepPred μ .IN v.pos).map (·.id)).contains i := by
  obtain ⟨v, hv, rfl⟩ := List.mem_map.mp hi
  rw [contains_ids_filter l hn _ v hv, contains_ids_filter l hn _ v hv]
  exact keepPred_out μ v.pos

section Dict
variable {β γ σ : Type}

theorem dget_eq : @dget β = Conn.dget := by
  funext d k
  induction d with
  | nil => rfl
  | cons p t ih => rw [dget, Conn.dget, ih]

theorem dset_eq : @dset β = Conn.dset := by
  funext d k v
  induction d with
  | nil => rfl
  | cons p t ih => rw [dset, Conn.dset, ih]

theorem inVolumeDict_eq_map (f : σ → β) (vols : List (String × σ)) (h : (vols.map (·.1)).Nodup) :
    inVolumeDict f vols = vols.map fun kv => (kv.1, f kv.2) := by
  unfold inVolumeDict
  rw [dset_eq]
  exact Conn.foldl_dset_fresh f vols [] h (fun _ _ hm => nomatch hm)

theorem mkDict_eq_self (vols : List (String × γ)) (h : (vols.map (·.1)).Nodup) : mkDict vols = vols :=
  (inVolumeDict_eq_map (fun x : γ => x) vols h).trans (by simp)

end Dict

theorem sq_nonneg (a : Int) : 0 ≤ sq a :=
  (Int.le_total 0 a).elim (fun h => Int.mul_nonneg h h) fun h => Int.mul_nonneg_of_nonpos_of_nonpos h h

theorem sq_eq_zero (a : Int) (h : sq a = 0) : a = 0 := by
  unfold sq at h
  rcases Int.mul_eq_zero.mp h with h | h <;> exact h

theorem d2_nonneg (a b : P3) : 0 ≤ d2 a b :=
  Int.add_nonneg (Int.add_nonneg (sq_nonneg _) (sq_nonneg _)) (sq_nonneg _)

theorem d2_self (a : P3) : d2 a a = 0 := by simp [d2, sq]

theorem d2_eq_zero (a b : P3) (h : d2 a b = 0) : a = b := by
  rcases a with ⟨ax, ay, az⟩; rcases b with ⟨bx, b_y, bz⟩
  have h : sq (ax - bx) + sq (ay - b_y) + sq (az - bz) = 0 := h
  have h1 := sq_nonneg (ax - bx); have h2 := sq_nonneg (ay - b_y); have h3 := sq_nonneg (az - bz)
  -- each square is at most the vanishing sum
  have e1 := Int.le_antisymm (h ▸ Int.le_trans (Int.le_add_of_nonneg_right h2) (Int.le_add_of_nonneg_right h3)) h1
  have e2 := Int.le_antisymm (h ▸ Int.le_trans (Int.le_add_of_nonneg_left h1) (Int.le_add_of_nonneg_right h3)) h2
  have e3 := Int.le_antisymm (h ▸ Int.le_add_of_nonneg_left (Int.add_nonneg h1 h2)) h3
  rw [Int.sub_eq_zero.mp (sq_eq_zero _ e1), Int.sub_eq_zero.mp (sq_eq_zero _ e2), Int.sub_eq_zero.mp (sq_eq_zero _ e3)]

theorem d2_comm (a b : P3) : d2 a b = d2 b a := by
  unfold d2 sq
  have h : ∀ u v : Int, (u - v) * (u - v) = (v - u) * (v - u) := by
    intro u v
    rw [← Int.neg_sub u v, Int.neg_mul_neg]
  rw [h a.x b.x, h a.y b.y, h a.z b.z]

/-- `k` is the first index of a minimum `m` of `ds` -/
def IsArgmin (ds : List Int) (k : Nat) (m : Int) : Prop :=
  ds[k]? = some m ∧ (∀ x ∈ ds, m ≤ x) ∧ ∀ j x, j < k → ds[j]? = some x → m < x

/-- The scan keeps: `(bi, bv)` is the first minimum of the prefix `pre` already read, and the running index is `pre.length`.
Each step moves the head of `l` to the end of `pre`. -/
theorem argminAux_spec (l pre : List Int) (bi : Nat) (bv : Int) (h : IsArgmin pre bi bv) :
    IsArgmin (pre ++ l) (argminAux bi bv pre.length l).1 (argminAux bi bv pre.length l).2 := by
  induction l generalizing pre bi bv with
  | nil => simpa [argminAux] using h
  | cons v t ih =>
    obtain ⟨hget, hmin, hfirst⟩ := h
    have hbi : bi < pre.length := (List.getElem?_eq_some_iff.mp hget).1
    have hassoc : pre ++ v :: t = (pre ++ [v]) ++ t := by simp
    have hlen : (pre ++ [v]).length = pre.length + 1 := by simp
    unfold argminAux
    rw [hassoc, ← hlen]
    split
    · rename_i hlt
      refine ih _ _ _ ⟨by simp, ?_, ?_⟩
      · intro x hx
        rcases List.mem_append.mp hx with hx | hx
        · exact Int.le_of_lt (Int.lt_of_lt_of_le hlt (hmin x hx))
        · rw [List.mem_singleton.mp hx]; exact Int.le_refl v
      · intro j x hj hx
        rw [List.getElem?_append_left hj] at hx
        exact Int.lt_of_lt_of_le hlt (hmin x (List.mem_of_getElem? hx))
    · rename_i hge
      refine ih _ _ _ ⟨?_, ?_, ?_⟩
      · rw [List.getElem?_append_left hbi]; exact hget
      · intro x hx
        rcases List.mem_append.mp hx with hx | hx
        · exact hmin x hx
        · rw [List.mem_singleton.mp hx]; exact Int.not_lt.mp hge
      · intro j x hj hx
        rw [List.getElem?_append_left (Nat.lt_trans hj hbi)] at hx
        exact hfirst j x hj hx

theorem argmin_spec (ds : List Int) (k : Nat) (m : Int) (h : argmin ds = some (k, m)) : IsArgmin ds k m := by
  cases ds with
  | nil => cases h
  | cons v t =>
    simp only [argmin, Option.some.injEq] at h
    have := argminAux_spec t [v] 0 v ⟨by simp, by simp, by intro j x hj; omega⟩
    simp only [List.length_singleton, List.singleton_append] at this
    rw [h] at this
    exact this

theorem argmin_isSome (ds : List Int) (h : ds ≠ []) : ∃ k m, argmin ds = some (k, m) := by
  cases ds with
  | nil => exact absurd rfl h
  | cons v t => exact ⟨_, _, rfl⟩

theorem argmin_none (ds : List Int) : argmin ds = none ↔ ds = [] := by
  cases ds <;> simp [argmin]

theorem isArgmin_unique (ds : List Int) (k k' : Nat) (m m' : Int) (h : IsArgmin ds k m) (h' : IsArgmin ds k' m') :
    k = k' ∧ m = m' := by
  obtain ⟨g, mn, fs⟩ := h
  obtain ⟨g', mn', fs'⟩ := h'
  have hm : m = m' := Int.le_antisymm (mn m' (List.mem_of_getElem? g')) (mn' m (List.mem_of_getElem? g))
  subst hm
  refine ⟨?_, rfl⟩
  rcases Nat.lt_trichotomy k k' with h | h | h
  · exact absurd (fs' k m h g) (Int.lt_irrefl m)
  · exact h
  · exact absurd (fs k' m h g') (Int.lt_irrefl m)

theorem snapIdx_spec (data : List P3) (p : P3) (k : Nat) (m : Int) (h : snapIdx data p = some (k, m)) :
    ∃ q, data[k]? = some q ∧ d2 p q = m ∧ (∀ r ∈ data, m ≤ d2 p r)
      ∧ ∀ j r, j < k → data[j]? = some r → m < d2 p r := by
  obtain ⟨hget, hmin, hfirst⟩ := argmin_spec _ _ _ h
  rw [List.getElem?_map, Option.map_eq_some_iff] at hget
  obtain ⟨q, hq, hd⟩ := hget
  exact ⟨q, hq, hd, fun r hr => hmin _ (List.mem_map_of_mem hr),
    fun j r hj hr => hfirst j _ hj (by rw [List.getElem?_map, hr]; rfl)⟩

theorem snapIdx_isSome (data : List P3) (p : P3) (h : data ≠ []) : ∃ k m, snapIdx data p = some (k, m) :=
  argmin_isSome _ fun e => h (List.map_eq_nil_iff.mp e)

theorem attach_lt (data : List P3) (c : PConn) (h : data ≠ []) : attach data c < data.length := by
  obtain ⟨k, m, hk⟩ := snapIdx_isSome data c.pos h
  obtain ⟨q, hq, _⟩ := snapIdx_spec data c.pos k m hk
  simp [attach, hk, (List.getElem?_eq_some_iff.mp hq).1]

theorem castQuery_of_not_truncating (c : QCast) (b : Bool) (q : P3) (h : c ≠ .data ∨ b = false) : castQuery c b q = q := by
  unfold castQuery
  cases c with
  | data =>
    rcases h with h | h
    · exact absurd rfl h
    · simp [h]
  | float64 => rfl
  | other => rfl

/-- the row indices the volume test selects; a row outside the table reads as the origin, as in `Face.straddles` -/
def sel (μ : Inside) (mode : Mode) (pts : List P3) : List Nat :=
  (List.range pts.length).filter fun i => keepPred μ mode (pts.getD i ⟨0, 0, 0⟩)

theorem map_eq_range_map (l : List P3) (g : P3 → Bool) :
    l.map g = (List.range l.length).map fun i => g (l.getD i ⟨0, 0, 0⟩) :=
  (range_map_eq l _ g fun _ _ => congrArg g (List.getElem_eq_getD _).symm).symm

/-- both branches of `if not all(in_v)` -/
theorem selected_eq (μ : Inside) (mode : Mode) (pts : List P3) :
    (if (keepMask mode (inVolumePoints μ pts)).all id then List.range pts.length
      else maskedIdx (keepMask mode (inVolumePoints μ pts))) = sel μ mode pts := by
  unfold maskedIdx
  rw [keepMask_points, List.length_map, map_eq_range_map]
  exact masked_shortcut _ _

theorem mem_sel (μ : Inside) (mode : Mode) (pts : List P3) (i : Nat) :
    i ∈ sel μ mode pts ↔ ∃ q, pts[i]? = some q ∧ keepPred μ mode q = true := by
  unfold sel
  rw [List.mem_filter, List.mem_range]
  constructor
  · rintro ⟨hi, hg⟩
    exact ⟨pts[i], List.getElem?_eq_getElem hi, by rwa [← List.getElem_eq_getD (h := hi)] at hg⟩
  · rintro ⟨q, hq, hg⟩
    obtain ⟨hi, rfl⟩ := List.getElem?_eq_some_iff.mp hq
    exact ⟨hi, by rwa [← List.getElem_eq_getD (h := hi)]⟩

theorem inVolumeDots_kept (μ : Inside) (mode : Mode) (d : Dots) : (inVolumeDots μ mode d).kept = sel μ mode d.pts := by
  rw [← selected_eq]
  unfold inVolumeDots
  split <;> rfl

theorem inVolumeMesh_subset (μ : Inside) (mode : Mode) (m : Mesh) : (inVolumeMesh μ mode m).subset = sel μ mode m.verts := by
  rw [← selected_eq]
  unfold inVolumeMesh
  split <;> rfl

/-- The connector table of a pruned point cloud / mesh has one of two shapes — nothing removed (`point` / `vertex_id` is the
row itself), or the rows `kept` survive and the index is rewritten with `dict(zip(kept, arange(len(kept))))`.  In both, the
connectors kept are those attached to a kept row, and the new index addresses that row. -/
theorem conns_table_spec (data : List P3) (conns : List PConn) (hne : data ≠ []) (kept : List Nat) (out : List (Int × Nat))
    (h : (kept = List.range data.length ∧ out = conns.map fun c => (c.cid, attach data c)) ∨
      out = (conns.filter fun c => kept.contains (attach data c)).map fun c => (c.cid, kept.idxOf (attach data c))) :
    out.map (·.1) = (conns.filter fun c => kept.contains (attach data c)).map (·.cid) ∧
    ∀ cj ∈ out, ∃ c ∈ conns, c.cid = cj.1 ∧ kept[cj.2]? = some (attach data c) := by
  rcases h with ⟨rfl, rfl⟩ | rfl
  · have hall : (conns.filter fun c => (List.range data.length).contains (attach data c)) = conns :=
      List.filter_eq_self.mpr fun c _ => by
        rw [List.contains_iff_mem, List.mem_range]; exact attach_lt data c hne
    refine ⟨by rw [hall, List.map_map]; rfl, fun cj hcj => ?_⟩
    obtain ⟨c, hc, rfl⟩ := List.mem_map.mp hcj
    exact ⟨c, hc, rfl, List.getElem?_range (attach_lt data c hne)⟩
  · refine ⟨by rw [List.map_map]; rfl, fun cj hcj => ?_⟩
    obtain ⟨c, hc, rfl⟩ := List.mem_map.mp hcj
    rw [List.mem_filter, List.contains_iff_mem] at hc
    have hl := List.idxOf_lt_length_of_mem hc.2
    exact ⟨c, hc.1, rfl, by rw [List.getElem?_eq_getElem hl, List.getElem_idxOf hl]⟩

theorem sel_out_eq_not_in (μ : Inside) (pts : List P3) (i : Nat) (hi : i < pts.length) :
    (sel μ .OUT pts).contains i = !(sel μ .IN pts).contains i := by
  unfold sel
  rw [contains_filter_of_mem (List.mem_range.mpr hi), contains_filter_of_mem (List.mem_range.mpr hi)]
  exact keepPred_out μ _

def FacesValid (m : Mesh) : Prop := ∀ f ∈ m.faces, f.a < m.verts.length ∧ f.b < m.verts.length ∧ f.c < m.verts.length

/-- every vertex belongs to at least one face (what `trimesh` processing leaves) -/
def Referenced (m : Mesh) : Prop := ∀ i, i < m.verts.length → ∃ f ∈ m.faces, f.has i = true

def NoStraddle (μ : Inside) (m : Mesh) : Prop := ∀ f ∈ m.faces, f.straddles μ m.verts = false

theorem Face.has_iff (f : Face) (i : Nat) : f.has i = true ↔ f.a = i ∨ f.b = i ∨ f.c = i := by
  simp [Face.has, or_assoc]

theorem Face.allIn_iff (f : Face) (s : List Nat) : f.allIn s = true ↔ f.a ∈ s ∧ f.b ∈ s ∧ f.c ∈ s := by
  simp [Face.allIn, and_assoc]

theorem submeshVerts_sub (m : Mesh) (subset : List Nat) (i : Nat) (h : i ∈ submeshVerts m subset) : i ∈ subset := by
  unfold submeshVerts at h
  rw [List.mem_filter, List.any_eq_true] at h
  obtain ⟨_, f, _, hf⟩ := h
  rw [Bool.and_eq_true, Face.allIn_iff, Face.has_iff] at hf
  obtain ⟨⟨ha, hb, hc⟩, hi⟩ := hf
  rcases hi with rfl | rfl | rfl <;> assumption

theorem submeshVerts_eq_of_noStraddle (μ : Inside) (mode : Mode) (m : Mesh) (hv : FacesValid m)
    (hr : Referenced m) (hs : NoStraddle μ m) : submeshVerts m (sel μ mode m.verts) = sel μ mode m.verts := by
  have hsel : ∀ k, k < m.verts.length → (k ∈ sel μ mode m.verts ↔ keepPred μ mode (m.verts.getD k ⟨0, 0, 0⟩) = true) :=
    fun k hk => List.mem_filter.trans (and_iff_right (List.mem_range.mpr hk))
  unfold submeshVerts
  apply List.filter_congr
  intro i hi
  have hi' := List.mem_range.mp hi
  cases hg : keepPred μ mode (m.verts.getD i ⟨0, 0, 0⟩)
  · apply Bool.eq_false_iff.mpr
    intro hany
    have := (hsel i hi').mp (submeshVerts_sub m _ i (List.mem_filter.mpr ⟨hi, hany⟩))
    rw [hg] at this
    exact Bool.false_ne_true this
  · rw [List.any_eq_true]
    obtain ⟨f, hf, hfi⟩ := hr i hi'
    obtain ⟨va, vb, vc⟩ := hv f hf
    have hst := hs f hf
    simp only [Face.straddles, Bool.not_eq_false', Bool.and_eq_true, beq_iff_eq] at hst
    obtain ⟨eab, ebc⟩ := hst
    -- the three vertices of `f` get the same answer; `i` is one of them and is kept, so all three are
    have hia : μ (m.verts.getD i ⟨0, 0, 0⟩) = μ (m.verts.getD f.a ⟨0, 0, 0⟩) := by
      rcases (Face.has_iff f i).mp hfi with h | h | h <;> subst h
      · rfl
      · exact eab.symm
      · exact (eab.trans ebc).symm
    have keep : ∀ k, k < m.verts.length → μ (m.verts.getD k ⟨0, 0, 0⟩) = μ (m.verts.getD f.a ⟨0, 0, 0⟩) →
        k ∈ sel μ mode m.verts := fun k hk e =>
      (hsel k hk).mpr ((keepPred_congr μ mode _ _ (e.trans hia.symm)).trans hg)
    exact ⟨f, hf, Bool.and_eq_true _ _ ▸ ⟨(Face.allIn_iff f _).mpr
      ⟨keep _ va rfl, keep _ vb eab.symm, keep _ vc (eab.trans ebc).symm⟩, hfi⟩⟩

theorem inVolumeMesh_kept_sub (μ : Inside) (mode : Mode) (m : Mesh) (i : Nat)
    (h : i ∈ (inVolumeMesh μ mode m).kept) : i ∈ (inVolumeMesh μ mode m).subset := by
  unfold inVolumeMesh at h ⊢
  split
  · rename_i hall; simp only [hall, if_true] at h; exact h
  · rename_i hall; simp only [hall] at h
    exact submeshVerts_sub m _ i h

theorem inVolumeMesh_kept_of_noStraddle (μ : Inside) (mode : Mode) (m : Mesh) (hv : FacesValid m)
    (hr : Referenced m) (hs : NoStraddle μ m) :
    (inVolumeMesh μ mode m).kept = sel μ mode m.verts := by
  have hsel := selected_eq μ mode m.verts
  unfold inVolumeMesh
  split at hsel
  · rename_i hall
    rw [if_pos hall]; exact hsel
  · rename_i hall
    rw [if_neg hall]
    show submeshVerts m (maskedIdx (keepMask mode (inVolumePoints μ m.verts))) = _
    rw [hsel]
    exact submeshVerts_eq_of_noStraddle μ mode m hv hr hs

theorem odd_affine (c u o : Int) (h : u % 2 = 1) : (2 * (c * u) + u + 2 * o) % 2 = 1 := by
  rw [Int.add_mul_emod_self_left, Int.add_comm, Int.add_mul_emod_self_left]; exact h

theorem half_centre2 (v : Vox) (c : P3) (hu : v.units.x % 2 = 1 ∧ v.units.y % 2 = 1 ∧ v.units.z % 2 = 1) :
    Half (v.centre2 c) :=
  ⟨odd_affine _ _ _ hu.1, odd_affine _ _ _ hu.2.1, odd_affine _ _ _ hu.2.2⟩

theorem inVolumeVox_cells (μ : Inside) (mode : Mode) (v : Vox) :
    (inVolumeVox μ mode v).cells = v.cells.filter fun c => keepPred μ mode (v.centre2 c) := by
  unfold inVolumeVox
  rw [keepMask_points, List.map_map]
  refine Eq.trans ?_ (masked_shortcut v.cells (keepPred μ mode ∘ v.centre2))
  split <;> rfl

theorem selectBackend_eq_find? (av : String → Bool) (bs : List String) :
    selectBackend av bs = bs.find? fun b => b == "scipy" || av b := by
  induction bs with
  | nil => rfl
  | cons c t ih =>
    unfold selectBackend
    rw [List.find?_cons, ih]
    cases (c == "scipy" || av c) <;> rfl

theorem foldl_pyocRay {α} (rays : List (α → Bool)) (st : List (α × Bool)) :
    rays.foldl (fun st r => pyocRay r st) st = st.map fun x => (x.1, x.2 || !(rays.all fun r => r x.1)) := by
  induction rays generalizing st with
  | nil => simp
  | cons r t ih =>
    rw [List.foldl_cons, ih]
    unfold pyocRay
    rw [List.map_map]
    apply List.map_congr_left
    intro x _
    simp only [Function.comp, List.all_cons]
    cases x.2 <;> cases r x.1 <;> simp

theorem notFalse_iff (o : Option Bool) : notFalse o = true ↔ (o == some false) = false := by
  unfold notFalse
  cases o with
  | none => simp
  | some b => cases b <;> simp

theorem Shape.ok_fields (s : Shape) (h : s.ok = true) :
    (s.invertBeforeShortcut == some false) = false ∧ (s.invertOnOUT == some false) = false
    ∧ (s.innerModeIN == some false) = false ∧ (s.dictForwardsMode == some false) = false
    ∧ (s.listForwardsMode == some false) = false ∧ (s.pruneForwardsMode == some false) = false
    ∧ (s.treeSubsetById == some false) = false ∧ (s.defaultModeIN == some false) = false := by
  unfold Shape.ok at h
  simpa only [Bool.and_eq_true, notFalse_iff, and_assoc] using h

theorem inVolumeTreeAs_eq (s : Shape) (h : s.ok = true) (μ : Inside) (mode : Mode) (t : Tree) :
    inVolumeTreeAs s μ mode t = inVolumeTree μ mode t := by
  unfold inVolumeTreeAs inVolumeTree Shape.treeSubset Shape.effMode
  simp [s.ok_fields h]

theorem pruneByVolumeAs_eq (s : Shape) (h : s.ok = true) (μ : Inside) (mode : Mode) (t : Tree) :
    pruneByVolumeAs s μ mode t = pruneByVolume μ mode t := by
  unfold pruneByVolumeAs pruneByVolume
  simp [s.ok_fields h, inVolumeTreeAs_eq s h]

theorem inVolumeListAs_eq (s : Shape) (h : s.ok = true) (μ : Inside) (mode : Mode) (ts : List Tree) :
    inVolumeListAs s μ mode ts = inVolumeList μ mode ts := by
  unfold inVolumeListAs inVolumeList
  simp [s.ok_fields h, inVolumeTreeAs_eq s h]

theorem dictMode_eq (s : Shape) (h : s.ok = true) (mode : Mode) : s.dictMode mode = mode := by
  unfold Shape.dictMode
  simp [s.ok_fields h]

end Navis.Volume

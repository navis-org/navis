import NavisModel.Proofs.ForestLemmas
/-!
Root paths in well-formed forests: the fuelled walk `pathToRoot`, then `rootPath` in a well-formed forest, where the fuel
never runs out, so that `rootPath_of_root` / `rootPath_of_nonroot` are its recursion equations and `rootPath_induct` is
induction along them (`WF_induct` from the roots outward, `WF_induct_down` and `children_induct` from the leafs inward).
The root path of a node on a root path is the rest of that path (`rootPath_suffix`, `rootPath_split`): the ancestor order
and the depth `dep` rest on that, and `rootOf` is the last node.  `Linked` (consecutive elements are child and parent) is
what a root path, and every piece of one, is.  Then `WF_of_anc`: a table whose parent links go to proper ancestors of a
well-formed forest is well-formed (`subset`, `cut`), with `dep` as its rank.  At the end: the executable check `wfB`
decides `WF`.
-/
namespace Navis.Forest

theorem pathToRoot_of_absent {t : Table} {i : Int} (h : find? t i = none) (f : Nat) : pathToRoot t f i = [] := by
  cases f with
  | zero => rfl
  | succ f => simp only [pathToRoot, h]

theorem pathToRoot_of_root {t : Table} {i : Int} {n : Node} (h : find? t i = some n) (hp : n.parent < 0) (f : Nat) :
    pathToRoot t (f + 1) i = [i] := by
  simp only [pathToRoot, h, if_pos hp]

theorem pathToRoot_of_nonroot {t : Table} {i : Int} {n : Node} (h : find? t i = some n) (hp : ¬ n.parent < 0) (f : Nat) :
    pathToRoot t (f + 1) i = i :: pathToRoot t f n.parent := by
  simp only [pathToRoot, h, if_neg hp]

theorem pathToRoot_subset (t : Table) (f : Nat) (i : Int) : ∀ a ∈ pathToRoot t f i, a ∈ ids t := by
  fun_induction pathToRoot t f i with
  | case1 => simp
  | case2 => simp
  | case3 f i n hf =>
    intro a ha
    rw [List.mem_singleton.mp ha]; exact mem_ids_of_find? hf
  | case4 f i n hf _ ih =>
    intro a ha
    rcases List.mem_cons.mp ha with h | h
    · rw [h]; exact mem_ids_of_find? hf
    · exact ih a h

theorem pathToRoot_head (t : Table) (f : Nat) (i : Int) (hi : i ∈ ids t) :
    (pathToRoot t (f + 1) i).head? = some i := by
  cases hf : find? t i with
  | none => exact absurd hi (find?_none hf)
  | some n =>
    by_cases hp : n.parent < 0
    · rw [pathToRoot_of_root hf hp]; rfl
    · rw [pathToRoot_of_nonroot hf hp]; rfl

theorem pathToRoot_eq_cons {t : Table} {f : Nat} {i b : Int} {rest : List Int} (h : pathToRoot t f i = b :: rest) :
    b = i := by
  fun_induction pathToRoot t f i with
  | case1 => cases h
  | case2 => cases h
  | case3 => exact (List.cons.inj h).1.symm
  | case4 => exact (List.cons.inj h).1.symm

/-- Ranks strictly decrease along the path (so it never repeats a node). -/
theorem pathToRoot_ranks {t : Table} (rk : Int → Nat)
    (hrk : ∀ n ∈ t, n.parent < 0 ∨ (n.parent ∈ ids t ∧ rk n.parent < rk n.id)) (f : Nat) (i : Int) :
    (pathToRoot t f i).Pairwise (fun a b => rk b < rk a) ∧ ∀ a ∈ pathToRoot t f i, rk a ≤ rk i := by
  fun_induction pathToRoot t f i with
  | case1 => simp
  | case2 => simp
  | case3 => simp
  | case4 f i n hf hp ih =>
    have hn := find?_some hf
    have hlt : rk n.parent < rk i := by
      rcases hrk n hn.1 with h | h
      · exact absurd h hp
      · rw [← hn.2]; exact h.2
    refine ⟨List.pairwise_cons.mpr ⟨fun a ha => Nat.lt_of_le_of_lt (ih.2 a ha) hlt, ih.1⟩, fun a ha => ?_⟩
    rcases List.mem_cons.mp ha with h | h
    · rw [h]; exact Nat.le_refl _
    · exact Nat.le_of_lt (Nat.lt_of_le_of_lt (ih.2 a h) hlt)

theorem pathToRoot_nodup {t : Table} (hw : WF t) (f : Nat) (i : Int) : (pathToRoot t f i).Nodup := by
  obtain ⟨_, _, rk, hrk⟩ := hw
  exact (pathToRoot_ranks rk hrk f i).1.imp fun {a b} h he => by rw [he] at h; exact Nat.lt_irrefl _ h

theorem pathToRoot_length_le {t : Table} (hw : WF t) (f : Nat) (i : Int) : (pathToRoot t f i).length ≤ t.length := by
  rw [← ids_length]
  exact (pathToRoot_nodup hw f i).length_le_of_subset (pathToRoot_subset t f i)

theorem pathToRoot_ends {t : Table} (hpar : ∀ n ∈ t, n.parent < 0 ∨ n.parent ∈ ids t) (f : Nat) (i : Int) (hi : i ∈ ids t)
    (hlen : (pathToRoot t f i).length < f) :
    ∃ r n, (pathToRoot t f i).getLast? = some r ∧ find? t r = some n ∧ n.parent < 0 := by
  fun_induction pathToRoot t f i with
  | case1 => simp at hlen
  | case2 f i hf => exact absurd hi (find?_none hf)
  | case3 f i n hf hp => exact ⟨i, n, rfl, hf, hp⟩
  | case4 f i n hf hp ih =>
    have hpi : n.parent ∈ ids t := (hpar n (find?_some hf).1).resolve_left hp
    obtain ⟨r, m, h1, h2, h3⟩ := ih hpi (by simpa using hlen)
    exact ⟨r, m, by rw [List.getLast?_cons, h1]; rfl, h2, h3⟩

theorem WF_parents {t : Table} (hw : WF t) : ∀ n ∈ t, n.parent < 0 ∨ n.parent ∈ ids t := by
  obtain ⟨_, _, rk, hrk⟩ := hw
  exact fun n hn => (hrk n hn).imp_right And.left

theorem WF_parent_mem {t : Table} (hw : WF t) {n : Node} (hn : n ∈ t) (hp : ¬ n.parent < 0) : n.parent ∈ ids t :=
  (WF_parents hw n hn).resolve_left hp

theorem rootPath_ends {t : Table} (hw : WF t) (i : Int) (hi : i ∈ ids t) :
    ∃ r n, (rootPath t i).getLast? = some r ∧ find? t r = some n ∧ n.parent < 0 :=
  pathToRoot_ends (WF_parents hw) _ i hi (Nat.lt_succ_of_le (pathToRoot_length_le hw (t.length + 1) i))

theorem reachesRoot_iff_ends (t : Table) (f : Nat) (i : Int) :
    reachesRoot t f i = true ↔ ∃ r n, (pathToRoot t f i).getLast? = some r ∧ find? t r = some n ∧ n.parent < 0 := by
  -- `reachesRoot` branches exactly as `pathToRoot` does, so the latter's induction serves both
  fun_induction pathToRoot t f i with
  | case1 => simp [reachesRoot]
  | case2 f i hf => simp [reachesRoot, hf]
  | case3 f i n hf hp =>
    simp only [reachesRoot, hf, hp, if_true, true_iff]
    exact ⟨i, n, rfl, hf, hp⟩
  | case4 f i n hf hp ih =>
    simp only [reachesRoot, hf, hp, if_false]
    rw [ih, List.getLast?_cons]
    cases hl : (pathToRoot t f n.parent).getLast? with
    | none =>
      -- with nothing behind it `i` would be the last node, but `i` is not a root
      simp only [Option.getD_none, Option.some.injEq, reduceCtorEq, false_and, exists_false, false_iff]
      rintro ⟨r, m, rfl, h2, h3⟩
      rw [hf] at h2
      exact hp (Option.some.inj h2 ▸ h3)
    | some r' => simp

theorem reachesRoot_parent {t : Table} {f : Nat} {i : Int} {n : Node} (hf : find? t i = some n) (hp : ¬ n.parent < 0)
    (h : reachesRoot t (f + 1) i = true) : reachesRoot t f n.parent = true := by
  simpa only [reachesRoot, hf, if_neg hp] using h

theorem pathToRoot_fuel_succ (t : Table) (f : Nat) (i : Int) (h : reachesRoot t f i = true) :
    pathToRoot t (f + 1) i = pathToRoot t f i := by
  fun_induction pathToRoot t f i with
  | case1 => simp [reachesRoot] at h
  | case2 f i hf => exact pathToRoot_of_absent hf _
  | case3 f i n hf hp => exact pathToRoot_of_root hf hp _
  | case4 f i n hf hp ih => rw [pathToRoot_of_nonroot hf hp, ih (reachesRoot_parent hf hp h)]

/-- Consecutive elements are child and parent. -/
def Linked (t : Table) : List Int → Prop
  | a :: b :: rest => (∃ n, find? t a = some n ∧ n.parent = b ∧ 0 ≤ b) ∧ Linked t (b :: rest)
  | _ => True

theorem pathToRoot_linked (t : Table) (f : Nat) (i : Int) : Linked t (pathToRoot t f i) := by
  fun_induction pathToRoot t f i with
  | case1 => trivial
  | case2 => trivial
  | case3 => trivial
  | case4 f i n hf hp ih =>
    cases hpth : pathToRoot t f n.parent with
    | nil => trivial
    | cons b rest =>
      obtain rfl := pathToRoot_eq_cons hpth
      rw [hpth] at ih
      exact ⟨⟨n, hf, rfl, by omega⟩, ih⟩

theorem Linked_prefix {t : Table} : ∀ (xs ys : List Int), Linked t (xs ++ ys) → Linked t xs
  | [], _, _ => trivial
  | [_], _, _ => trivial
  | _ :: y :: xs, ys, h => ⟨h.1, Linked_prefix (y :: xs) ys h.2⟩

theorem Linked_tail {t : Table} {a : Int} {l : List Int} (h : Linked t (a :: l)) : Linked t l := by
  cases l with
  | nil => trivial
  | cons b l' => exact h.2

theorem Linked_at {t : Table} (A : List Int) (y z : Int) (C : List Int) (h : Linked t (A ++ y :: z :: C)) :
    ∃ n, find? t y = some n ∧ n.parent = z ∧ 0 ≤ z := by
  induction A with
  | nil => exact h.1
  | cons a A ih => exact ih (Linked_tail h)

theorem Linked_childCount_pos {t : Table} (y : Int) (l : List Int) (h : Linked t (y :: l)) :
    ∀ x ∈ l, 0 < childCount t x := by
  induction l generalizing y with
  | nil => intro x hx; simp at hx
  | cons z l ih =>
    obtain ⟨⟨n, h1, h2, _⟩, h'⟩ := h
    exact List.forall_mem_cons.mpr ⟨h2 ▸ childCount_pos_of_child (find?_some h1).1, ih z h'⟩

theorem Linked_next_mem {t : Table} : ∀ (L : List Int) (a last : Int), Linked t (a :: L ++ [last]) →
    ∀ x ∈ a :: L, ∃ n, find? t x = some n ∧ ¬ n.parent < 0 ∧ n.parent ∈ L ++ [last] := by
  intro L
  induction L with
  | nil =>
    intro a last h
    obtain ⟨n, h1, h2, h3⟩ := h.1
    exact List.forall_mem_singleton.mpr ⟨n, h1, by omega, by simp [h2]⟩
  | cons b L ih =>
    intro a last h
    obtain ⟨n, h1, h2, h3⟩ := h.1
    exact List.forall_mem_cons.mpr ⟨⟨n, h1, by omega, by simp [h2]⟩,
      fun x e => (ih b last h.2 x e).imp fun _ hn => ⟨hn.1, hn.2.1, List.mem_cons_of_mem _ hn.2.2⟩⟩

theorem rootPath_of_not_mem {t : Table} {a : Int} (h : a ∉ ids t) : rootPath t a = [] := by
  cases hf : find? t a with
  | none => exact pathToRoot_of_absent hf _
  | some n => exact absurd (mem_ids_of_find? hf) h

theorem rootPath_of_root {t : Table} {i : Int} {n : Node} (h : find? t i = some n) (hp : n.parent < 0) :
    rootPath t i = [i] :=
  pathToRoot_of_root h hp _

/-- In a well-formed forest the fuel never runs out: the root path of a non-root is the node followed
by the root path of its parent. -/
theorem rootPath_of_nonroot {t : Table} (hw : WF t) {i : Int} {n : Node} (h : find? t i = some n)
    (hp : ¬ n.parent < 0) : rootPath t i = i :: rootPath t n.parent := by
  have hr : reachesRoot t (t.length + 1) i = true :=
    (reachesRoot_iff_ends t _ i).mpr (rootPath_ends hw i (mem_ids_of_find? h))
  unfold rootPath
  rw [pathToRoot_of_nonroot h hp, pathToRoot_fuel_succ t _ _ (reachesRoot_parent h hp hr)]

theorem rootPath_cons {t : Table} {a : Int} (ha : a ∈ ids t) : ∃ rest, rootPath t a = a :: rest := by
  have := pathToRoot_head t t.length a ha
  unfold rootPath
  cases h : pathToRoot t (t.length + 1) a with
  | nil => rw [h] at this; simp at this
  | cons x rest => rw [h] at this; exact ⟨rest, by rw [Option.some.inj this]⟩

theorem rootPath_cons_tail {t : Table} {i : Int} (hi : i ∈ ids t) : rootPath t i = i :: (rootPath t i).tail := by
  obtain ⟨rest, hr⟩ := rootPath_cons hi
  rw [hr]; rfl

theorem rootPath_head_mem {t : Table} {r : Int} (hr : r ∈ ids t) : r ∈ rootPath t r := by
  obtain ⟨rest, h⟩ := rootPath_cons hr
  rw [h]; exact List.mem_cons_self

theorem rootPath_ne_nil {t : Table} {a : Int} (ha : a ∈ ids t) : rootPath t a ≠ [] := by
  obtain ⟨rest, hr⟩ := rootPath_cons ha
  rw [hr]; exact List.cons_ne_nil _ _

theorem rootPath_head {t : Table} {d x : Int} {S : List Int} (h : rootPath t d = x :: S) : d = x :=
  (pathToRoot_eq_cons h).symm

theorem rootPath_nodup {t : Table} (hw : WF t) (i : Int) : (rootPath t i).Nodup := pathToRoot_nodup hw _ i

theorem rootPath_sub {t : Table} {i x : Int} (h : x ∈ rootPath t i) : x ∈ ids t := pathToRoot_subset t _ i x h

theorem anc_ids {t : Table} {a d : Int} (h : a ∈ rootPath t d) : a ∈ ids t ∧ d ∈ ids t := by
  refine ⟨rootPath_sub h, ?_⟩
  cases hf : find? t d with
  | none => rw [rootPath_of_not_mem (find?_none hf)] at h; simp at h
  | some n => exact mem_ids_of_find? hf

theorem rootPath_linked (t : Table) (i : Int) : Linked t (rootPath t i) := pathToRoot_linked t _ i

theorem Linked_rootPath_prefix {t : Table} {i last : Int} {pre : List Int} (h : rootPath t i = pre ++ rootPath t last)
    (hl : last ∈ ids t) : Linked t (pre ++ [last]) := by
  obtain ⟨rest, hr⟩ := rootPath_cons hl
  have := rootPath_linked t i
  rw [h, hr, List.append_cons] at this
  exact Linked_prefix _ _ this

theorem rootPath_length_le {t : Table} (hw : WF t) (i : Int) : (rootPath t i).length ≤ t.length :=
  pathToRoot_length_le hw _ i

theorem WF_nonroot_of_parent_eq {t : Table} (hw : WF t) {x c : Node} (hx : x ∈ t) (hcp : c.parent = x.id) :
    ¬ c.parent < 0 := by
  rw [hcp]; exact Int.not_lt.mpr (hw.2.1 x hx)

theorem WF_no_loop {t : Table} (hw : WF t) : ∀ n ∈ t, n.parent ≠ n.id := by
  obtain ⟨_, hpos, rk, hrk⟩ := hw
  intro n hn he
  rcases hrk n hn with h | ⟨_, h⟩
  · have := hpos n hn; omega
  · rw [he] at h; omega

theorem root_of_length_le_one {t : Table} (hw : WF t) (hlen : t.length ≤ 1) {m : Node} (hm : m ∈ t) :
    m.parent < 0 := by
  rcases WF_parents hw m hm with h | h
  · exact h
  · obtain ⟨n, hn, hnid⟩ := mem_ids.mp h
    have hnm : n = m := by
      cases t with
      | nil => cases hm
      | cons a rest =>
        have hrest : rest = [] := List.eq_nil_of_length_eq_zero (by simpa using hlen)
        subst hrest
        rw [List.mem_singleton.mp hm, List.mem_singleton.mp hn]
    exact absurd (hnm ▸ hnid).symm (WF_no_loop hw m hm)

theorem parent_not_distal {t : Table} (hw : WF t) {n : Node} (hn : n ∈ t) (hp : ¬ n.parent < 0) :
    n.id ∉ rootPath t n.parent := by
  have hnd := rootPath_nodup hw n.id
  rw [rootPath_of_nonroot hw (find?_of_mem hw.1 hn) hp] at hnd
  exact (List.nodup_cons.mp hnd).1

theorem distal_iff_parent {t : Table} (hw : WF t) {c : Int} {n : Node} (hn : n ∈ t) (hp : ¬ n.parent < 0)
    (hc : n.id ≠ c) : c ∈ rootPath t n.id ↔ c ∈ rootPath t n.parent := by
  rw [rootPath_of_nonroot hw (find?_of_mem hw.1 hn) hp, List.mem_cons]
  constructor
  · rintro (h | h)
    · exact absurd h.symm hc
    · exact h
  · exact Or.inr

theorem no_two_cycle {t : Table} (hw : WF t) {n q : Node} (hn : n ∈ t) (hq : q ∈ t) (h1 : n.parent = q.id) (h2 : q.parent = n.id) : False := by
  have hqp := WF_nonroot_of_parent_eq hw hn h2
  have hnp := WF_nonroot_of_parent_eq hw hq h1
  have hnot := parent_not_distal hw hn hnp
  apply hnot
  rw [h1, rootPath_of_nonroot hw (find?_of_mem hw.1 hq) hqp, h2]
  exact List.mem_cons_of_mem _ (rootPath_head_mem (mem_ids_of_mem hn))

/-- A negative parent is in no table, so its path is empty and roots need no case of their own. -/
theorem rootPath_of_parent {t : Table} (hw : WF t) {c q : Int} (h : parentOf t c = some q) :
    rootPath t c = c :: rootPath t q ∧ (q < 0 ∨ q ∈ ids t) := by
  obtain ⟨n, hfd, hn, _, rfl⟩ := parentOf_some h
  by_cases hneg : n.parent < 0
  · rw [rootPath_of_root hfd hneg, rootPath_of_not_mem (neg_not_mem_ids hw hneg)]
    exact ⟨rfl, Or.inl hneg⟩
  · exact ⟨rootPath_of_nonroot hw hfd hneg, Or.inr ((WF_parents hw n hn).resolve_left hneg)⟩

theorem rootPath_child {t : Table} (hw : WF t) {c : Node} (hc : c ∈ t) {i : Int} (hp : c.parent = i) :
    rootPath t c.id = c.id :: rootPath t i :=
  hp ▸ (rootPath_of_parent hw (parentOf_of_mem hw.1 hc)).1

theorem rootPath_of_mem_children {t : Table} (hw : WF t) {i c : Int} (hc : c ∈ children t i) :
    c ∈ ids t ∧ rootPath t c = c :: rootPath t i := by
  obtain ⟨n, hn, hp, rfl⟩ := mem_children.mp hc
  exact ⟨mem_ids_of_mem hn, rootPath_child hw hn hp⟩

/-- Induction from the roots outward. -/
theorem WF_induct {t : Table} (hw : WF t) (P : Int → Prop)
    (h : ∀ n ∈ t, (n.parent < 0 ∨ P n.parent) → P n.id) : ∀ i ∈ ids t, P i := by
  obtain ⟨_, _, rk, hrk⟩ := hw
  have key : ∀ k i, rk i < k → i ∈ ids t → P i := by
    intro k
    induction k with
    | zero => intro i hi; omega
    | succ k ih =>
      intro i hi him
      obtain ⟨n, hn, rfl⟩ := mem_ids.mp him
      apply h n hn
      rcases hrk n hn with hp | ⟨hp1, hp2⟩
      · exact Or.inl hp
      · exact Or.inr (ih _ (by omega) hp1)
  intro i hi
  exact key (rk i + 1) i (by omega) hi

theorem rootPath_induct {t : Table} (hw : WF t) (P : Int → Prop)
    (root : ∀ n ∈ t, n.parent < 0 → rootPath t n.id = [n.id] → P n.id)
    (step : ∀ n ∈ t, ¬ n.parent < 0 → rootPath t n.id = n.id :: rootPath t n.parent → P n.parent → P n.id) :
    ∀ i ∈ ids t, P i := by
  refine WF_induct hw P fun n hn hcase => ?_
  have hf := find?_of_mem hw.1 hn
  by_cases hp : n.parent < 0
  · exact root n hn hp (rootPath_of_root hf hp)
  · exact step n hn hp (rootPath_of_nonroot hw hf hp) (hcase.resolve_left hp)

theorem closed_rootPath {t : Table} (hw : WF t) (seen : List Int)
    (hcl : ∀ n ∈ t, n.id ∈ seen → ¬ n.parent < 0 → n.parent ∈ seen) :
    ∀ i ∈ ids t, i ∈ seen → ∀ x ∈ rootPath t i, x ∈ seen := by
  refine rootPath_induct hw (fun i => i ∈ seen → ∀ x ∈ rootPath t i, x ∈ seen) ?_ ?_
  · intro n _ _ e hs
    rw [e]
    exact List.forall_mem_singleton.mpr hs
  · intro n hn hp e ih hs
    rw [e]
    exact List.forall_mem_cons.mpr ⟨hs, ih (hcl n hn hs hp)⟩

/-- Induction from the leafs inward: a child's root path is one longer than its parent's, and no root path is longer
than the table. -/
theorem WF_induct_down {t : Table} (hw : WF t) (P : Node → Prop)
    (h : ∀ x ∈ t, (∀ c ∈ t, c.parent = x.id → P c) → P x) : ∀ x ∈ t, P x := by
  have key : ∀ k x, x ∈ t → t.length < (rootPath t x.id).length + k → P x := by
    intro k
    induction k with
    | zero =>
      intro x _ hk
      have := rootPath_length_le hw x.id
      omega
    | succ k ih =>
      intro x hx hk
      refine h x hx fun c hc hcp => ih c hc ?_
      have hcnr := WF_nonroot_of_parent_eq hw hx hcp
      rw [rootPath_of_nonroot hw (find?_of_mem hw.1 hc) hcnr, hcp, List.length_cons]
      omega
  exact fun x hx => key (t.length + 1) x hx (by omega)

/-- `WF_induct_down` over ids. -/
theorem children_induct {t : Table} (hw : WF t) (P : Int → Prop)
    (step : ∀ i ∈ ids t, (∀ c ∈ children t i, P c) → P i) : ∀ i ∈ ids t, P i := by
  intro i hi
  obtain ⟨x, hx, rfl⟩ := mem_ids.mp hi
  refine WF_induct_down hw (fun n => P n.id) (fun x hx ih => step x.id (mem_ids_of_mem hx) fun c hc => ?_) x hx
  obtain ⟨n, hn, hp, rfl⟩ := mem_children.mp hc
  exact ih n hn hp

/-- A root path that passes through `p` and does not start there enters `p` through one of its children. -/
theorem child_on_path {t : Table} (hw : WF t) {p s : Int} (hp : p ∈ rootPath t s) (hne : s ≠ p) :
    ∃ c ∈ children t p, c ∈ rootPath t s := by
  refine rootPath_induct hw (fun s => p ∈ rootPath t s → s ≠ p → ∃ c ∈ children t p, c ∈ rootPath t s) ?_ ?_
    s (anc_ids hp).2 hp hne
  · intro n _ _ e hp hne
    rw [e] at hp
    exact absurd (List.mem_singleton.mp hp).symm hne
  · intro n hn _ e ih hp hne
    rw [e] at hp ⊢
    have hp' : p ∈ rootPath t n.parent := (List.mem_cons.mp hp).resolve_left fun e => hne e.symm
    by_cases hpp : n.parent = p
    · exact ⟨n.id, mem_children.mpr ⟨n, hn, hpp, rfl⟩, List.mem_cons_self⟩
    · obtain ⟨c, hc, hcm⟩ := ih hp' hpp
      exact ⟨c, hc, List.mem_cons_of_mem _ hcm⟩

theorem rootPath_suffix {t : Table} (hw : WF t) {a d : Int} (h : a ∈ rootPath t d) : rootPath t a <:+ rootPath t d := by
  refine rootPath_induct hw (fun i => ∀ a ∈ rootPath t i, rootPath t a <:+ rootPath t i) ?_ ?_ d (anc_ids h).2 a h
  · intro n _ _ e
    rw [e]
    exact List.forall_mem_singleton.mpr (e ▸ List.suffix_refl _)
  · intro n _ _ e ih
    rw [e]
    exact List.forall_mem_cons.mpr ⟨e ▸ List.suffix_refl _, fun a h => (ih a h).trans (List.suffix_cons _ _)⟩

/-- Every suffix of a root path is the root path of its head. -/
theorem rootPath_split {t : Table} (hw : WF t) {d a : Int} {pre post : List Int}
    (h : rootPath t d = pre ++ a :: post) : rootPath t a = a :: post := by
  have ha : a ∈ rootPath t d := by rw [h]; exact List.mem_append_right _ List.mem_cons_self
  obtain ⟨P, hP⟩ := rootPath_suffix hw ha
  obtain ⟨rest, hrest⟩ := rootPath_cons (rootPath_sub ha)
  rw [hrest, (split_unique_of_nodup (h ▸ rootPath_nodup hw d) (h.symm.trans (hrest ▸ hP.symm))).2]

/-- Depth: 0 off the table, at least 1 on it (`dep_of_not_mem`, `dep_pos`); the rank behind `WF_of_anc` and the fuel bounds. -/
def dep (t : Table) (i : Int) : Nat := (rootPath t i).length

theorem dep_le {t : Table} (hw : WF t) (i : Int) : dep t i ≤ t.length := rootPath_length_le hw i

theorem dep_pos {t : Table} {i : Int} (hi : i ∈ ids t) : 1 ≤ dep t i := by
  obtain ⟨rest, hr⟩ := rootPath_cons hi
  unfold dep; rw [hr]; simp

theorem child_facts {t : Table} (hw : WF t) {i c : Int} (hc : c ∈ children t i) :
    c ∈ ids t ∧ dep t c = dep t i + 1 :=
  ⟨(rootPath_of_mem_children hw hc).1, congrArg List.length (rootPath_of_mem_children hw hc).2⟩

theorem dep_of_parent {t : Table} (hw : WF t) {c q : Int} (h : parentOf t c = some q) : dep t c = dep t q + 1 :=
  congrArg List.length (rootPath_of_parent hw h).1

theorem parentOf_up {t : Table} (hw : WF t) {c p : Int} (h : parentOf t c = some p) (h0 : 0 ≤ p) :
    p ∈ ids t ∧ dep t c = dep t p + 1 := by
  obtain ⟨n, _, hn, rfl, rfl⟩ := parentOf_some h
  exact ⟨WF_parent_mem hw hn (by omega), dep_of_parent hw h⟩

theorem dep_lt_of_mem_tail {t : Table} (hw : WF t) {i p : Int} (h : p ∈ (rootPath t i).tail) : dep t p < dep t i := by
  unfold dep
  cases hr : rootPath t i with
  | nil => rw [hr] at h; cases h
  | cons x l =>
    rw [hr, List.tail_cons] at h
    obtain ⟨A, B, rfl⟩ := List.append_of_mem h
    rw [rootPath_split hw (pre := x :: A) hr, List.length_cons, List.length_cons, List.length_append, List.length_cons]
    omega

theorem dep_le_of_mem {t : Table} (hw : WF t) {a d : Int} (h : a ∈ rootPath t d) : dep t a ≤ dep t d :=
  (rootPath_suffix hw h).length_le

theorem dep_of_not_mem {t : Table} {i : Int} (h : i ∉ ids t) : dep t i = 0 :=
  congrArg List.length (rootPath_of_not_mem h)

theorem parent_mem_tail {t : Table} (hw : WF t) {n : Node} (hn : n ∈ t) (hp : ¬ n.parent < 0) :
    n.parent ∈ (rootPath t n.id).tail := by
  rw [rootPath_of_nonroot hw (find?_of_mem hw.1 hn) hp]
  exact rootPath_head_mem (WF_parent_mem hw hn hp)

/-! ## The root of a node's tree -/

theorem rootOf_of_mem_rootPath {t : Table} (hw : WF t) {i a : Int} (ha : a ∈ rootPath t i) :
    rootOf t a = rootOf t i := by
  obtain ⟨pre, hpre⟩ := rootPath_suffix hw ha
  obtain ⟨ro, _, hl, _, _⟩ := rootPath_ends hw a (rootPath_sub ha)
  unfold rootOf
  rw [← hpre, List.getLast?_append, hl]; rfl

theorem rootOf_of_root {t : Table} (hw : WF t) {n : Node} (hn : n ∈ t) (hp : n.parent < 0) :
    rootOf t n.id = some n.id := by
  unfold rootOf
  rw [rootPath_of_root (find?_of_mem hw.1 hn) hp]; rfl

theorem not_mem_rootPath_of_rootOf_ne {t : Table} (hw : WF t) {i a : Int} (h : rootOf t a ≠ rootOf t i) :
    a ∉ rootPath t i := fun ha => h (rootOf_of_mem_rootPath hw ha)

theorem rootOf_parent {t : Table} (hw : WF t) {n : Node} (hn : n ∈ t) (hp : ¬ n.parent < 0) :
    rootOf t n.id = rootOf t n.parent := by
  unfold rootOf
  rw [rootPath_of_nonroot hw (find?_of_mem hw.1 hn) hp]
  obtain ⟨rest, hr⟩ := rootPath_cons (WF_parent_mem hw hn hp)
  rw [hr, List.getLast?_cons_cons]

theorem rootOf_spec {t : Table} (hw : WF t) {i : Int} (hi : i ∈ ids t) :
    ∃ r, rootOf t i = some r ∧ r ∈ roots t ∧ r ∈ rootPath t i := by
  obtain ⟨r, n, h1, h2, h3⟩ := rootPath_ends hw i hi
  have hn := find?_some h2
  exact ⟨r, h1, mem_roots.mpr ⟨n, hn.1, hn.2, h3⟩, List.mem_of_getLast? h1⟩

theorem root_mem_of_rootOf {t : Table} {i r : Int} (h : rootOf t i = some r) : r ∈ rootPath t i :=
  List.mem_of_getLast? h

/-! ## Tables derived from a forest

Filtering and cutting (here), contracting and re-linking to a nearest kept ancestor (`OpsWF`) all yield a table whose parent
links go to proper ancestors in the old forest; the old depth is then a rank for it. -/

theorem WF_of_anc {t u : Table} (hw : WF t) (hnd : (ids u).Nodup)
    (h : ∀ m ∈ u, 0 ≤ m.id ∧ (m.parent < 0 ∨ (m.parent ∈ ids u ∧ m.parent ∈ (rootPath t m.id).tail))) : WF u :=
  ⟨hnd, fun m hm => (h m hm).1, dep t, fun m hm => (h m hm).2.imp_right fun ⟨h1, h2⟩ => ⟨h1, dep_lt_of_mem_tail hw h2⟩⟩

/-- Well-formedness is about ids and parents only. -/
theorem WF_of_same_links {t u : Table} (h : links u = links t) (hw : WF t) : WF u := by
  have hids : ids u = ids t := by
    have := congrArg (List.map Prod.fst) h
    simpa [links, ids, List.map_map, Function.comp_def] using this
  refine WF_of_anc hw (hids ▸ hw.1) fun m hm => ?_
  have : (m.id, m.parent) ∈ links t := h ▸ List.mem_map.mpr ⟨m, hm, rfl⟩
  obtain ⟨n, hn, he⟩ := List.mem_map.mp this
  obtain ⟨h1, h2⟩ := Prod.mk.inj he
  rw [← h1, ← h2, hids]
  exact ⟨hw.2.1 n hn, (Classical.em (n.parent < 0)).imp_right fun hp => ⟨WF_parent_mem hw hn hp, parent_mem_tail hw hn hp⟩⟩

theorem WF_classify {t : Table} (hw : WF t) : WF (classify t) :=
  WF_of_same_links (links_classify t) hw

theorem WF_fixOrphans_filter {t : Table} (hw : WF t) (keep : Int → Bool) :
    WF (fixOrphans (t.filter fun n => keep n.id)) := by
  refine WF_of_anc hw (by rw [ids_fixOrphans, ids_filter]; exact hw.1.filter _) fun m hm => ?_
  obtain ⟨n, hn, rfl⟩ := mem_fixOrphans.mp hm
  have hnt := (List.mem_filter.mp hn).1
  rw [ids_fixOrphans]
  split
  · rename_i hc
    exact ⟨hw.2.1 n hnt, (Classical.em (n.parent < 0)).imp_right fun hp => ⟨by simpa using hc, parent_mem_tail hw hnt hp⟩⟩
  · exact ⟨hw.2.1 n hnt, Or.inl (show (-1 : Int) < 0 by decide)⟩

theorem WF_subset {t : Table} (hw : WF t) (keep : Int → Bool) : WF (subset t keep) :=
  WF_classify (WF_fixOrphans_filter hw keep)

theorem WF_cut {t : Table} (hw : WF t) {c : Int} {d p : Table} (h : cut t c = some (d, p)) :
    (WF d ∧ labelsOKB d = true) ∧ (WF p ∧ labelsOKB p = true) := by
  obtain ⟨rfl, rfl, _⟩ := cut_some h
  exact ⟨⟨WF_subset hw _, labelsOKB_subset _ _⟩, ⟨WF_subset hw _, labelsOKB_subset _ _⟩⟩

/-! ## The executable well-formedness check `wfB` decides `WF` -/

theorem nodupB_iff (l : List Int) : nodupB l = true ↔ l.Nodup := by
  induction l with
  | nil => simp [nodupB]
  | cons x xs ih =>
    simp only [nodupB, Bool.and_eq_true, Bool.not_eq_true', List.contains_eq_mem, decide_eq_false_iff_not,
      List.nodup_cons, ih]

theorem wfB_sound {t : Table} (h : wfB t = true) : WF t := by
  unfold wfB at h
  simp only [Bool.and_eq_true, List.all_eq_true, decide_eq_true_eq, Bool.or_eq_true, List.contains_eq_mem] at h
  obtain ⟨⟨⟨h1, h2⟩, h3⟩, h4⟩ := h
  have hnd := (nodupB_iff _).mp h1
  refine ⟨hnd, h2, fun i => (rootPath t i).length, ?_⟩
  intro n hn
  by_cases hp : n.parent < 0
  · exact Or.inl hp
  · right
    have hpin : n.parent ∈ ids t := (h3 n hn).resolve_left hp
    refine ⟨hpin, ?_⟩
    have hf := find?_of_mem hnd hn
    have hr := reachesRoot_parent hf hp (h4 n hn)
    have e1 : rootPath t n.id = n.id :: pathToRoot t t.length n.parent := pathToRoot_of_nonroot hf hp _
    have e2 : rootPath t n.parent = pathToRoot t t.length n.parent := by
      unfold rootPath; exact pathToRoot_fuel_succ t _ _ hr
    show (rootPath t n.parent).length < (rootPath t n.id).length
    rw [e1, e2]; simp

theorem wfB_complete {t : Table} (hw : WF t) : wfB t = true := by
  have hpar := WF_parents hw
  unfold wfB
  simp only [Bool.and_eq_true, List.all_eq_true, decide_eq_true_eq, Bool.or_eq_true, List.contains_eq_mem]
  refine ⟨⟨⟨(nodupB_iff _).mpr hw.1, hw.2.1⟩, hpar⟩, ?_⟩
  intro n hn
  rw [reachesRoot_iff_ends]
  exact rootPath_ends hw n.id (mem_ids_of_mem hn)

theorem wfB_iff (t : Table) : wfB t = true ↔ WF t := ⟨wfB_sound, wfB_complete⟩

end Navis.Forest

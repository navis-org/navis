import NavisModel.Model.Backends
import NavisModel.Proofs.SegmentLemmas
/-! For C04, two places where the back-ends derive the same object differently: the row labels of
`geodesic_matrix(from_=…)` (fastcore: sorted unique `from_`; igraph / networkx: table order) and the path
`reroot_skeleton` reverses (igraph: the first non-empty shortest path to a root; networkx: follow the parents). -/
namespace Navis.Forest

variable {t : Table}

/-! ### `np.unique` and the row labels of `geodesic_matrix(from_=…)` -/

theorem mem_dedup (l : List Int) (x : Int) : x ∈ dedup l ↔ x ∈ l := by
  induction l with
  | nil => rfl
  | cons a l ih =>
    unfold dedup
    by_cases h : l.contains a = true
    · rw [if_pos h, ih, List.mem_cons]
      exact ⟨Or.inr, fun hx => hx.elim (fun e => e ▸ List.contains_iff_mem.mp h) id⟩
    · rw [if_neg h, List.mem_cons, List.mem_cons, ih]

theorem dedup_nodup (l : List Int) : (dedup l).Nodup := by
  induction l with
  | nil => simp [dedup]
  | cons a l ih =>
    unfold dedup
    by_cases h : l.contains a = true
    · rw [if_pos h]; exact ih
    · rw [if_neg h]
      have ha : a ∉ l := by simpa using h
      exact List.nodup_cons.mpr ⟨fun hm => ha ((mem_dedup l a).mp hm), ih⟩

theorem mem_npUnique (l : List Int) (x : Int) : x ∈ npUnique l ↔ x ∈ l := by
  unfold npUnique sortedInts
  rw [(sortBy_perm _ _).mem_iff, mem_dedup]

theorem npUnique_nodup (l : List Int) : (npUnique l).Nodup := by
  unfold npUnique sortedInts
  exact (sortBy_perm _ _).nodup_iff.mpr (dedup_nodup l)

theorem npUnique_sorted (l : List Int) : (npUnique l).Pairwise (· ≤ ·) := sortedInts_pairwise _

theorem npUnique_singleton (i : Int) : npUnique [i] = [i] := by
  simp [npUnique, dedup, sortedInts, sortBy, insertBy]

/-- Same rows under the same labels, only in a different order: table order (igraph / networkx) versus
ascending id (fastcore). -/
theorem geoRowLabels_perm (hnd : (ids t).Nodup) (from_ : List Int) (hsub : ∀ i ∈ from_, i ∈ ids t) :
    (geoRowLabelsPython t from_).Perm (geoRowLabelsFastcore t from_) := by
  unfold geoRowLabelsPython geoRowLabelsFastcore
  apply (List.perm_ext_iff_of_nodup (hnd.filter _) (npUnique_nodup _)).mpr
  intro x
  simp only [List.mem_filter, List.contains_eq_mem, decide_eq_true_eq]
  constructor
  · exact fun h => h.2
  · intro h
    exact ⟨hsub x ((mem_npUnique _ _).mp h), h⟩

/-! ### the prefix of a root path up to a root; the reroot path -/

/-- The prefix of a root path up to a root `r`: the whole path when `r` is the root of that path, nothing otherwise — a
root's own root path is the root alone, so the stretch below it is all of the path but its end. -/
theorem uptoIncl_root (hw : WF t) {i r : Int} (hr : r ∈ roots t) :
    uptoIncl r (rootPath t i) = if rootOf t i = some r then some (rootPath t i) else none := by
  obtain ⟨n, hn, rfl, hroot⟩ := mem_roots.mp hr
  by_cases h : n.id ∈ rootPath t i
  · obtain ⟨pre, hpre⟩ := rootPath_suffix hw h
    have e := rootPath_of_root (find?_of_mem hw.1 hn) hroot
    have hnp := (stretch_nodup hw hpre.symm).2 n.id
    rw [e] at hpre hnp
    rw [← hpre, if_pos (by unfold rootOf; rw [← hpre]; exact List.getLast?_concat)]
    exact uptoIncl_append [] fun hm => hnp hm (List.mem_singleton_self _)
  · rw [uptoIncl_eq_none h, if_neg fun (e : rootOf t i = _) => h (root_mem_of_rootOf e)]

/-- **The igraph and the networkx branch of `reroot_skeleton` reverse the same path**: of the shortest
paths from the new root to all roots exactly one is non-empty, and it is the walk along the parents. -/
theorem rerootPath_igraph_eq_nx (hw : WF t) {r : Int} (hr : r ∈ ids t) :
    rerootPathIgraph t r = some (rerootPathNx t r) := by
  unfold rerootPathIgraph rerootPathNx
  obtain ⟨rt0, hro, hroot0, _⟩ := rootOf_spec hw hr
  obtain ⟨rest, hcons⟩ := rootPath_cons hr
  -- towards the root of `r` the shortest path is the whole root path; towards any other root there is none
  have hout : ∀ w ∈ roots t, shortestOut t r w = if rootOf t r = some w then rootPath t r else [] := fun w hwr => by
    unfold shortestOut
    rw [uptoIncl_root hw hwr, apply_ite (Option.getD · [])]
    rfl
  cases hfind : ((roots t).map fun rt => shortestOut t r rt).find? (fun p => !p.isEmpty) with
  | none =>
    exfalso
    have := List.find?_eq_none.mp hfind (rootPath t r)
      (List.mem_map.mpr ⟨rt0, hroot0, by rw [hout rt0 hroot0, if_pos hro]⟩)
    rw [hcons] at this; simp at this
  | some p =>
    have hne := List.find?_some hfind
    obtain ⟨w, hwr, rfl⟩ := List.mem_map.mp (List.mem_of_find?_eq_some hfind)
    rw [hout w hwr] at hne ⊢
    by_cases hm : rootOf t r = some w
    · rw [if_pos hm]
    · rw [if_neg hm] at hne
      exact absurd hne (by simp)

end Navis.Forest

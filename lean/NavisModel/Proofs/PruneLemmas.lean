import NavisModel.Model.Prune
import NavisModel.Proofs.PathLemmas
/-!
Helper lemmas for C12 (pruning): recursive `prune_twigs` as a run of productive rounds (`TwigRounds`) that reaches
a fixpoint within `|t|` rounds and removes only twig nodes; the pruning functions preserve well-formedness; the
Strahler index sets of `prune_by_strahler` (`int`, `range`, `slice`, `list`); membership in `prune_at_depth`.
Core Lean only.
-/
namespace Navis.Forest

/-- All nodes of a walk but the one it stops at are rows of the table, and so is its start when the walk emits anything.
(No well-formedness is needed: a node is followed by another only if it was found.) -/
theorem walkToStop_dropLast_mem (t : Table) (stop : Int → Bool) (fuel : Nat) (i : Int) :
    ∀ x ∈ (i :: walkToStop t stop fuel i).dropLast, x ∈ ids t := by
  fun_induction walkToStop t stop fuel i with
  | case1 => nofun
  | case2 => nofun
  | case3 => nofun
  | case4 fuel i n hf _ _ => exact List.forall_mem_singleton.mpr (mem_ids.mpr ⟨n, find?_some hf⟩)
  | case5 fuel i n hf _ _ ih => exact List.forall_mem_cons.mpr ⟨mem_ids.mpr ⟨n, find?_some hf⟩, ih⟩

section
variable {t : Table} {len : Int → Int → Nat} {size : Nat} {mask : Option (List Int)}

theorem twigDelete_sub_ids {x : Int} (hx : x ∈ twigDelete t len size mask) : x ∈ ids t := by
  unfold twigDelete at hx
  obtain ⟨s, hs, hxs⟩ := List.mem_flatMap.mp hx
  have hs1 := (List.mem_filter.mp hs).1
  unfold terminalSegs smallSegments at hs1
  obtain ⟨n, _, rfl⟩ := List.mem_map.mp (List.mem_filter.mp hs1).1
  exact walkToStop_dropLast_mem t _ _ n.id x hxs

theorem twigDelete_nil (len : Int → Int → Nat) (size : Nat) (mask : Option (List Int)) :
    twigDelete [] len size mask = [] := rfl

theorem length_twigRound_lt (h : twigDelete t len size mask ≠ []) :
    (subset t fun i => !(twigDelete t len size mask).contains i).length < t.length := by
  obtain ⟨x, hx⟩ := List.exists_mem_of_ne_nil _ h
  exact length_subset_lt (twigDelete_sub_ids hx) (by simpa using hx)

theorem pruneTwigsOnce_eq (t : Table) (len : Int → Int → Nat) (size : Nat) (mask : Option (List Int)) :
    pruneTwigsOnce t len size mask =
      if (twigDelete t len size mask).isEmpty then t
      else subset t fun i => !(twigDelete t len size mask).contains i := rfl

theorem pruneTwigs_zero (t : Table) (len : Int → Int → Nat) (size : Nat) (mask : Option (List Int)) :
    pruneTwigs t len size mask 0 = pruneTwigsOnce t len size mask := rfl

theorem pruneTwigs_succ (t : Table) (len : Int → Int → Nat) (size : Nat) (mask : Option (List Int)) (k : Nat) :
    pruneTwigs t len size mask (k + 1) =
      if (twigDelete t len size mask).isEmpty then t
      else pruneTwigs (subset t fun i => !(twigDelete t len size mask).contains i) len size mask k := rfl

theorem pruneTwigsOnce_of_nil (h : twigDelete t len size mask = []) : pruneTwigsOnce t len size mask = t := by
  rw [pruneTwigsOnce_eq, h]; rfl

theorem pruneTwigs_of_nil (h : twigDelete t len size mask = []) (k : Nat) : pruneTwigs t len size mask k = t := by
  cases k with
  | zero => exact pruneTwigsOnce_of_nil h
  | succ k => rw [pruneTwigs_succ, h]; rfl

theorem pruneTwigsOnce_of_ne_nil (h : twigDelete t len size mask ≠ []) :
    pruneTwigsOnce t len size mask = subset t fun i => !(twigDelete t len size mask).contains i := by
  rw [pruneTwigsOnce_eq, if_neg (by simpa using h)]

theorem pruneTwigs_succ_of_ne_nil (h : twigDelete t len size mask ≠ []) (k : Nat) :
    pruneTwigs t len size mask (k + 1) =
      pruneTwigs (subset t fun i => !(twigDelete t len size mask).contains i) len size mask k := by
  rw [pruneTwigs_succ, if_neg (by simpa using h)]

end

/-- **Fuel sufficiency**: after the first round plus `k` further rounds with `|t| ≤ k + 1`, nothing more can be
pruned (every productive round removes a row, and the first round counts). -/
theorem pruneTwigs_fixpoint_succ (len : Int → Int → Nat) (size : Nat) (mask : Option (List Int)) (k : Nat) (t : Table)
    (hk : t.length ≤ k + 1) : twigDelete (pruneTwigs t len size mask k) len size mask = [] := by
  fun_induction pruneTwigs t len size mask k with
  | case1 t =>
    by_cases h : twigDelete t len size mask = []
    · rw [pruneTwigsOnce_of_nil h]; exact h
    · rw [pruneTwigsOnce_of_ne_nil h]
      have : (subset t fun i => !(twigDelete t len size mask).contains i) = [] :=
        List.eq_nil_of_length_eq_zero
          (Nat.le_zero.mp (Nat.le_of_lt_succ (Nat.lt_of_lt_of_le (length_twigRound_lt h) hk)))
      rw [this]; rfl
  | case2 t k del h => exact List.isEmpty_iff.mp h
  | case3 t k del h ih =>
    exact ih (Nat.le_of_lt_succ (Nat.lt_of_lt_of_le (length_twigRound_lt (by simpa using h)) hk))

/-- `TwigRounds len size mask t t'`: `t'` is obtained from `t` by zero or more *productive* rounds,
each removing exactly `twigDelete` of the then-current table. -/
inductive TwigRounds (len : Int → Int → Nat) (size : Nat) (mask : Option (List Int)) : Table → Table → Prop
  | done (t : Table) : TwigRounds len size mask t t
  | step {t t' : Table} : twigDelete t len size mask ≠ [] →
      TwigRounds len size mask (subset t fun i => !(twigDelete t len size mask).contains i) t' →
      TwigRounds len size mask t t'

namespace TwigRounds
variable {len : Int → Int → Nat} {size : Nat} {mask : Option (List Int)}

theorem trans {t u v : Table} (h1 : TwigRounds len size mask t u) (h2 : TwigRounds len size mask u v) :
    TwigRounds len size mask t v := by
  induction h1 with
  | done _ => exact h2
  | step hne _ ih => exact .step hne (ih h2)

theorem single {t : Table} (h : twigDelete t len size mask ≠ []) :
    TwigRounds len size mask t (subset t fun i => !(twigDelete t len size mask).contains i) :=
  .step h (.done _)

theorem ids_sublist {t t' : Table} (h : TwigRounds len size mask t t') : (ids t').Sublist (ids t) := by
  induction h with
  | done _ => exact List.Sublist.refl _
  | step _ _ ih => exact ih.trans (by rw [ids_subset]; exact List.filter_sublist)

theorem ids_sub {t t' : Table} (h : TwigRounds len size mask t t') {i : Int} (hi : i ∈ ids t') : i ∈ ids t :=
  h.ids_sublist.subset hi

theorem length_le {t t' : Table} (h : TwigRounds len size mask t t') : t'.length ≤ t.length := by
  have := h.ids_sublist.length_le
  simpa using this

theorem wf {t t' : Table} (h : TwigRounds len size mask t t') (hw : WF t) : WF t' := by
  induction h with
  | done _ => exact hw
  | step _ _ ih => exact ih (WF_subset hw _)

/-- Without a label hypothesis: the input, or correctly labelled. -/
theorem same_or_labels {t t' : Table} (h : TwigRounds len size mask t t') : t' = t ∨ labelsOKB t' = true := by
  induction h with
  | done _ => exact Or.inl rfl
  | step _ _ ih =>
    rcases ih with h | h
    · rw [h]; exact Or.inr (labelsOKB_subset _ _)
    · exact Or.inr h

/-- Labels: a productive round re-classifies; with no productive round the input is returned as is. -/
theorem labels {t t' : Table} (h : TwigRounds len size mask t t') (hl : labelsOKB t = true) :
    labelsOKB t' = true :=
  h.same_or_labels.elim (fun e => e ▸ hl) id

/-- **Only twigs are removed**: a row of `t` missing from `t'` was, in some intermediate table `u`
of the run, a member of that round's `twigDelete u`. -/
theorem removed {t t' : Table} (h : TwigRounds len size mask t t') {i : Int} (hi : i ∈ ids t) (hni : i ∉ ids t') :
    ∃ u, TwigRounds len size mask t u ∧ i ∈ ids u ∧ i ∈ twigDelete u len size mask ∧
      TwigRounds len size mask (subset u fun j => !(twigDelete u len size mask).contains j) t' := by
  induction h with
  | done _ => exact absurd hi hni
  | @step t t' hne hr ih =>
    by_cases hk : i ∈ ids (subset t fun j => !(twigDelete t len size mask).contains j)
    · obtain ⟨u, h1, h2, h3, h4⟩ := ih hk hni
      exact ⟨u, .step hne h1, h2, h3, h4⟩
    · refine ⟨t, .done _, hi, ?_, hr⟩
      rw [ids_subset, List.mem_filter] at hk
      have : ¬ (!(twigDelete t len size mask).contains i) = true := fun hc => hk ⟨hi, hc⟩
      simpa using this

/-- A row that survives a run was not deleted in its first round — unless the run has no round at all (`t' = t`; a run
may stop anywhere, so then nothing can be said about `twigDelete t`). -/
theorem kept {t t' : Table} (h : TwigRounds len size mask t t') {i : Int} (hi : i ∈ ids t') :
    i ∉ twigDelete t len size mask ∨ t' = t := by
  cases h with
  | done _ => exact Or.inr rfl
  | step hne hr =>
    left
    have := hr.ids_sub hi
    rw [ids_subset, List.mem_filter] at this
    simpa using this.2

theorem fixpoint_unique {t a b : Table} (ha : TwigRounds len size mask t a) (hb : TwigRounds len size mask t b)
    (hfa : twigDelete a len size mask = []) (hfb : twigDelete b len size mask = []) : a = b := by
  induction ha with
  | done _ =>
    cases hb with
    | done _ => rfl
    | step hne _ => exact absurd hfa hne
  | step hne _ ih =>
    cases hb with
    | done _ => exact absurd hfb hne
    | step _ hr => exact ih hr hfa

end TwigRounds

theorem pruneTwigs_rounds (len : Int → Int → Nat) (size : Nat) (mask : Option (List Int)) (k : Nat) (t : Table) :
    TwigRounds len size mask t (pruneTwigs t len size mask k) := by
  fun_induction pruneTwigs t len size mask k with
  | case1 t =>
    by_cases h : twigDelete t len size mask = []
    · rw [pruneTwigsOnce_of_nil h]; exact .done _
    · rw [pruneTwigsOnce_of_ne_nil h]; exact .single h
  | case2 t k del h => exact .done _
  | case3 t k del h ih => exact .step (by simpa using h) ih

theorem WF_pruneTwigs {t : Table} (hw : WF t) (len : Int → Int → Nat) (size : Nat) (mask : Option (List Int)) (k : Nat) :
    WF (pruneTwigs t len size mask k) :=
  (pruneTwigs_rounds len size mask k t).wf hw

theorem WF_pruneAtDepth {t : Table} (hw : WF t) (len : Int → Int → Nat) (src : Int) (depth : Nat) :
    WF (pruneAtDepth t len src depth) := WF_subset hw _

theorem WF_longestNeurite {t : Table} (hw : WF t) (len : Int → Int → Nat) (lo hi : Nat) (inv : Bool) :
    WF (longestNeurite t len lo hi inv) := by
  simp only [longestNeurite]
  split
  · exact WF_subset hw _
  · exact WF_subset hw _

theorem pruneByStrahler_eq_subset {t : Table} {sel : SISel} {t' : Table} (h : pruneByStrahler t sel = some t') :
    ∃ s, siSet (((ids t).map (strahler t false [])).foldl max 0) sel = some s ∧
      t' = subset t fun i => !s.contains (strahler t false [] i) := by
  unfold pruneByStrahler at h
  simp only at h
  split at h
  · exact nomatch h
  · next s hs => exact ⟨s, hs, (Option.some.inj h).symm⟩

theorem WF_pruneByStrahler {t : Table} (hw : WF t) {sel : SISel} {t' : Table} (h : pruneByStrahler t sel = some t') :
    WF t' := by
  obtain ⟨s, _, rfl⟩ := pruneByStrahler_eq_subset h
  exact WF_subset hw _

theorem siSet_int_neg_eq (mx : Nat) {k : Int} (hk : k < 0) :
    siSet mx (.int k) = some ((List.range (Int.toNat (mx + (k + 1)))).filter (· ≥ 1)) := if_pos hk

theorem mem_siSet_int_neg {mx : Nat} {k : Int} (hk : k < 0) {s : List Nat} (h : siSet mx (.int k) = some s) (i : Nat) :
    i ∈ s ↔ 1 ≤ i ∧ (i : Int) < mx + (k + 1) := by
  rw [siSet_int_neg_eq mx hk] at h
  rw [← Option.some.inj h, List.mem_filter, List.mem_range, decide_eq_true_eq, Int.lt_toNat]
  exact and_comm

theorem siSet_int_of_one_le (mx : Nat) {k : Int} (hk : 1 ≤ k) : siSet mx (.int k) = some [k.toNat] :=
  (if_neg (Int.not_lt.mpr (Int.le_trans (by decide) hk))).trans (if_neg (Int.not_lt.mpr hk))

theorem filter_ge_one_range (n : Nat) : (List.range (n + 1)).filter (· ≥ 1) = List.range' 1 n := by
  rw [List.range_succ_eq_map, List.filter_cons]
  simp [List.filter_map, List.range'_eq_map_range, Function.comp_def, Nat.add_comm]
  rw [List.filter_eq_self.mpr (fun _ _ => rfl)]

theorem sliceBound_none (n d : Nat) : sliceBound n none d = d := rfl

theorem sliceBound_nonneg (n d : Nat) {i : Int} (h : 0 ≤ i) : sliceBound n (some i) d = min n i.toNat := by
  unfold sliceBound; simp only [if_neg (Int.not_lt.mpr h)]

theorem sliceBound_neg (n d : Nat) {i : Int} (h : i < 0) : sliceBound n (some i) d = n - (-i).toNat := by
  have e : (n : Int) + i = n - ((-i).toNat : Nat) := by rw [Int.toNat_of_nonneg (by omega)]; omega
  unfold sliceBound; simp only [if_pos h]; rw [e, Int.toNat_sub]

theorem sliceBound_le (n : Nat) (v : Option Int) {d : Nat} (h : d ≤ n) : sliceBound n v d ≤ n := by
  unfold sliceBound
  cases v with
  | none => exact h
  | some i =>
    simp only
    split
    · exact Int.toNat_le.mpr (by omega)
    · exact Nat.min_le_left _ _

theorem siSet_slice_eq (mx : Nat) (a b : Option Int) :
    siSet mx (.slice a b) =
      some (List.range' (sliceBound mx a 0 + 1) (sliceBound mx b mx - sliceBound mx a 0)) := by
  have hb := sliceBound_le mx b (Nat.le_refl mx)
  simp only [siSet, filter_ge_one_range, List.length_range']
  rw [List.take_range'_of_length_ge hb, List.drop_range']
  congr 2; omega

theorem mem_siSet_slice {mx : Nat} {a b : Option Int} {s : List Nat} (h : siSet mx (.slice a b) = some s) (i : Nat) :
    i ∈ s ↔ sliceBound mx a 0 < i ∧ i ≤ sliceBound mx b mx := by
  rw [siSet_slice_eq] at h
  rw [← Option.some.inj h, List.mem_range'_1]
  omega

theorem siSet_range_eq (mx : Nat) (a b : Int) :
    siSet mx (.range a b) = some ((List.range b.toNat).filter fun (i : Nat) => decide (a ≤ (i : Int))) := rfl

theorem mem_siSet_range {mx : Nat} {a b : Int} {s : List Nat} (h : siSet mx (.range a b) = some s) (i : Nat) :
    i ∈ s ↔ a ≤ (i : Int) ∧ (i : Int) < b := by
  rw [siSet_range_eq] at h
  rw [← Option.some.inj h, List.mem_filter, List.mem_range, decide_eq_true_eq, Int.lt_toNat]
  exact and_comm

theorem siSet_list_eq (mx : Nat) (ks : List Int) :
    siSet mx (.list ks) = some ((ks.filter (· ≥ 0)).map Int.toNat) := rfl

theorem mem_siSet_list {mx : Nat} {ks : List Int} {s : List Nat} (h : siSet mx (.list ks) = some s) (i : Nat) :
    i ∈ s ↔ (i : Int) ∈ ks := by
  rw [siSet_list_eq] at h
  rw [← Option.some.inj h, List.mem_map]
  constructor
  · rintro ⟨k, hk, rfl⟩
    rw [List.mem_filter, decide_eq_true_eq] at hk
    rw [Int.toNat_of_nonneg hk.2]; exact hk.1
  · intro hi
    exact ⟨(i : Int), List.mem_filter.mpr ⟨hi, by simp⟩, by simp⟩

theorem mem_pruneAtDepth {t : Table} {len : Int → Int → Nat} {src : Int} {depth : Nat} {i : Int} :
    i ∈ ids (pruneAtDepth t len src depth) ↔
      i ∈ ids t ∧ ∃ d, geo t len false src i = some d ∧ d ≤ depth := by
  unfold pruneAtDepth
  rw [ids_subset, List.mem_filter]
  cases geo t len false src i <;> simp

end Navis.Forest

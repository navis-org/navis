import NavisModel.Gen.Mmetrics
import NavisModel.Proofs.FlowLemmas
import NavisModel.Proofs.SegRealLemmas
/-! What `Gen/Mmetrics.lean` extracts from `navis/morpho/mmetrics.py` is read here as the model's own formulas.  The
Strahler rule the source spells out (comparison operators, constants and aggregates) is assembled into `genRule`, which
is `strahlerRule`; the expressions of the three synapse flows and of the leaf flow are evaluated in `flowEnv` (the source's
names ↦ the model's counts at a node) and give `centrifugal`, `centripetal`, their sum and `leafFormula`; `genSelect`
reads which formula a mode selects; `expectedFork` and `expectedPropagation` are the tables `Props/C17.lean` compares the
fork-rule and propagation tables with, the bending tables pass `bendFactorsOK` / `symLabelsOK`; over ℝ the entropy
expression is evaluated at a share `p`, the segregation expressions in `segEnv`, the frustum volume over `Rat` in `volEnv`.  `genRule` and `genSelect` read the generated constants inside their
bodies, and apart from the cast and comparison helpers every lemma mentions a generated definition: when the source
changes such a fact, the lemma (and the property theorem built on it) stops checking; a generated definition that no
lemma here and no theorem of `Props/C17.lean` mentions is tied to nothing. -/
namespace Navis.Flow
open Navis.Forest Navis.PyExpr Navis.Gen

def aggNat (name : String) (l : List Nat) : Option Nat :=
  if name = "sum" then some l.sum else if name = "max" then some (l.foldl max 0) else none

/-- The rule as the source spells it, assembled from the extracted comparison operators, constants and aggregates. -/
def genRule (greedy : Bool) (cs : List Nat) : Option Nat :=
  if cs.length = 0 then some Mmetrics.siLeafValue else
  match cmpInt Mmetrics.siSingleCmp cs.length Mmetrics.siSingleK with
  | none => none
  | some true => cs[Mmetrics.siSingleIndex.toNat]?
  | some false =>
    if greedy then aggNat Mmetrics.siGreedyAgg cs else
    match aggNat Mmetrics.siCountOf cs, aggNat Mmetrics.siTieAgg cs, aggNat Mmetrics.siElseAgg cs with
    | some m, some a, some e =>
      match cmpInt Mmetrics.siCountCmp (cs.count m) Mmetrics.siCountK with
      | some true => if Mmetrics.siTieOp = "Add" then some (a + Mmetrics.siTieK) else none
      | some false => some e
      | none => none
    | _, _, _ => none

theorem cmp_single (a : Int) : cmpInt Mmetrics.siSingleCmp a Mmetrics.siSingleK = some (a == 1) := rfl
theorem cmp_count (a : Int) : cmpInt Mmetrics.siCountCmp a Mmetrics.siCountK = some (decide (a ≥ 2)) := rfl
theorem agg_greedy (l : List Nat) : aggNat Mmetrics.siGreedyAgg l = some l.sum := rfl
theorem agg_countOf (l : List Nat) : aggNat Mmetrics.siCountOf l = some (l.foldl max 0) := rfl
theorem agg_tie (l : List Nat) : aggNat Mmetrics.siTieAgg l = some (l.foldl max 0) := rfl
theorem agg_else (l : List Nat) : aggNat Mmetrics.siElseAgg l = some (l.foldl max 0) := rfl
theorem tie_op : (Mmetrics.siTieOp = "Add") ∧ Mmetrics.siTieK = 1 := ⟨rfl, rfl⟩

theorem genRule_eq (g : Bool) (cs : List Nat) : genRule g cs = some (strahlerRule g cs) := by
  match cs with
  | [] => rfl
  | [c] => rfl
  | c1 :: c2 :: rest =>
    have hne : ((((c1 :: c2 :: rest).length : Nat) : Int) == 1) = false := by
      rw [beq_eq_false_iff_ne]; simp only [List.length_cons]; omega
    unfold genRule
    rw [if_neg (by simp), cmp_single, hne]
    cases g with
    | true => simp only [if_true, agg_greedy, strahlerRule]
    | false =>
      simp only [Bool.false_eq_true, if_false, agg_countOf, agg_tie, agg_else, cmp_count, if_pos tie_op.1, tie_op.2, strahlerRule]
      -- the source compares the count as a Python integer
      generalize (c1 :: c2 :: rest).count ((c1 :: c2 :: rest).foldl max 0) = k
      by_cases h : k ≥ 2
      · rw [decide_eq_true (by omega : (k : Int) ≥ 2), if_pos h]
      · rw [decide_eq_false (by omega : ¬ (k : Int) ≥ 2), if_neg h]

/-- Python's `c > 1` on a count is the model's `2 ≤ c`. -/
theorem cmpInt_gt_one (c : Nat) : cmpInt "Gt" c 1 = some (decide (2 ≤ c)) :=
  congrArg some (decide_eq_decide.mpr (by omega))

/-- forking roots are treated as branch points: `len(childs) > 1` is the model's `2 ≤ childCount`. -/
theorem gen_rootFork (c : Nat) : cmpInt Mmetrics.siRootForkCmp c Mmetrics.siRootForkK = some (decide (2 ≤ c)) :=
  cmpInt_gt_one c

theorem gen_bendRoot (d : Nat) : cmpInt Mmetrics.bendRootCmp d Mmetrics.bendRootK = some (decide (2 ≤ d)) :=
  cmpInt_gt_one d

theorem gen_twigCmp (len k : Nat) : cmpInt Mmetrics.siTwigCmp len k = some (decide (len < k)) :=
  congrArg some (decide_eq_decide.mpr Int.ofNat_lt)

/-- The environment in which the source's formulas are read: its names ↦ the model's quantities at node `n`. -/
def flowEnv (t : Table) (pre post : List Int) (n : Int) (name : String) : Int :=
  if name = "total_post" then (total t true post n : Nat)
  else if name = "total_pre" then (total t true pre n : Nat)
  else if name = "distal_post" then (distalCount t post n : Nat)
  else if name = "distal_pre" then (distalCount t pre n : Nat)
  else if name = "centrifugal" then (centrifugal t true pre post n : Nat)
  else if name = "centripetal" then (centripetal t true pre post n : Nat)
  else if name = "leafs_per_comp.get0" then (total t true (Flow.leafIds t) n : Nat)
  else if name = "distal" then (distalCount t (Flow.leafIds t) n : Nat)
  else 0

/-- The source computes `(total − distal)·other` over Python integers; the model over naturals. They agree
because a distal count never exceeds the total. -/
theorem cast_sub_mul {a b c : Nat} (h : b ≤ a) : ((a : Int) - b) * c = (((a - b) * c : Nat) : Int) := by
  rw [Nat.cast_mul, Nat.cast_sub h]

theorem cast_mul_sub {a b c : Nat} (h : b ≤ a) : (c : Int) * ((a : Int) - b) = ((c * (a - b) : Nat) : Int) := by
  rw [Nat.cast_mul, Nat.cast_sub h]

theorem gen_centrifugal {t : Table} (hw : WF t) (pre post : List Int) (n : Int) :
    evalInt (flowEnv t pre post n) Mmetrics.sfcCentrifugalE = some ((centrifugal t true pre post n : Nat) : Int) :=
  congrArg some (cast_sub_mul (distalCount_le_total hw post n))

theorem gen_centripetal {t : Table} (hw : WF t) (pre post : List Int) (n : Int) :
    evalInt (flowEnv t pre post n) Mmetrics.sfcCentripetalE = some ((centripetal t true pre post n : Nat) : Int) :=
  congrArg some (cast_mul_sub (distalCount_le_total hw pre n))

theorem gen_sum (t : Table) (pre post : List Int) (n : Int) :
    evalInt (flowEnv t pre post n) Mmetrics.sfcSumE = some ((sfcRaw t true .sum pre post n : Nat) : Int) :=
  congrArg some (Nat.cast_add _ _).symm

theorem gen_leafFormula {t : Table} (hw : WF t) (n : Int) :
    evalInt (flowEnv t [] [] n) Mmetrics.fcFormulaE = some ((leafFormula t true n : Nat) : Int) :=
  congrArg some (cast_sub_mul (distalCount_le_total hw (Flow.leafIds t) n))

/-- which formula a mode selects, read off `sfcSelect` -/
def genSelect (m : Mode) : Option String :=
  (Mmetrics.sfcSelect.find? fun p => p.1 == (match m with | .centrifugal => "centrifugal" | .centripetal => "centripetal" | .sum => "sum")).map (·.2)

theorem genSelect_eq (m : Mode) :
    genSelect m = some (match m with | .centrifugal => "centrifugal" | .centripetal => "centripetal" | .sum => "sum") := by
  cases m <;> decide +kernel

/-- the fork rule every code path must implement: `type == "branch"`, children by `parent_id`, grouped by
`parent_id`, `max`, written back through `.loc[bp]` (by id) with `bp` read off the same mask. -/
def expectedFork (col : String) : Mmetrics.ForkRule :=
  { maskCol := "type", maskCmp := "Eq", maskVal := "branch", childCol := "parent_id", key := "parent_id", aggCol := col,
    agg := "max", lookup := "loc[BP]", idsFromMask := true }

def expectedPropagation : Mmetrics.Propagation :=
  { seedIndex := 0, seedDefault := 0, stepOp := "Sub", stepK := 1, rangeFrom := 1, onlyIfMissing := true }

/-- Bending flow is symmetric in (pre, post) and in (left, right) — the sum runs over *ordered* pairs —, so only this is
demanded of the product: two factors, one per synapse kind, indexed by the two different loop variables. -/
def bendFactorsOK (l : List (String × Nat)) : Bool :=
  match l with
  | [(a, i), (b, j)] =>
    (a != b) && (i != j) && (a == "distal_post_sum" || a == "distal_pre_sum") && (b == "distal_post_sum" || b == "distal_pre_sum") &&
    decide (i < 2) && decide (j < 2)
  | _ => false

/-- Label detection for a function that is symmetric in (pre, post): both schemes present, quantifier `any`, the chosen
pair is the tested pair in either order. -/
def symLabelsOK (l : List (String × List String × List String)) : Bool :=
  match l with
  | [(q1, t1, c1), (q2, t2, c2)] =>
    (q1 == "any") && (q2 == "any") && (t1 == ["pre", "post"]) && (t2 == ["0", "1"]) &&
    (c1 == t1 || c1 == t1.reverse) && (c2 == t2 || c2 == t2.reverse)
  | _ => false

theorem gen_bend_sym : bendFactorsOK Mmetrics.bendFactors = true ∧ symLabelsOK Mmetrics.bendLabels = true := by
  decide +kernel

theorem gen_entropy_real (p : ℝ) :
    evalK Real.pi Real.log (fun _ => p) Mmetrics.segEntropyE = navisEntropy p ∧
    evalK Real.pi Real.log (fun _ => p) Mmetrics.segEntropyNormE = navisEntropy p := by
  -- both expressions are the same tree; the literal `1` arrives as an integer cast
  have e : evalK Real.pi Real.log (fun _ => p) Mmetrics.segEntropyE = navisEntropy p := by
    show -(p * Real.log p + (((1 : Int) : ℝ) - p) * Real.log (((1 : Int) : ℝ) - p)) = _
    rw [Int.cast_one]
    rfl
  exact ⟨e, e⟩

/-- Every name not listed reads `totalSyn`; the formulas below are evaluated with `totalSyn = tot`. -/
def segEnv (post tot totalPost totalSyn S Sn e : ℝ) (name : String) : ℝ :=
  if name = "postsynapses" then post else if name = "total_syn" then tot
  else if name = "total_post" then totalPost else if name = "S" then S else if name = "S_norm" then Sn
  else if name = "e" then e else totalSyn

theorem gen_seg_formulas (post tot totalPost S Sn e : ℝ) :
    True ∧ True ∧
    evalK Real.pi Real.log (segEnv post tot totalPost tot S Sn e) Mmetrics.segHE = 1 - S / Sn ∧
    evalK Real.pi Real.log (segEnv post tot totalPost tot S Sn e) Mmetrics.segMeanScaleE = 1 / tot ∧
    evalK Real.pi Real.log (segEnv post tot totalPost tot S Sn e) Mmetrics.segMeanTermE = e * tot := by
  refine ⟨trivial, trivial, ?_, ?_, ?_⟩ <;>
    simp [Mmetrics.segHE, Mmetrics.segMeanScaleE, Mmetrics.segMeanTermE, evalK, segEnv]

theorem gen_seg_guard : Mmetrics.segGuard = (0, "Lt", "Lt", 1) := rfl

def volEnv (r1 r2 h : Rat) (name : String) : Rat :=
  if name = "r1" then r1 else if name = "r2" then r2 else h

theorem gen_volume (piQ : Rat) (lg : Rat → Rat) (r1 r2 h : Int) :
    evalK piQ lg (volEnv r1 r2 h) Mmetrics.saVolE = 1 / 3 * piQ * (((r1 * r1 + r1 * r2 + r2 * r2) * h : Int) : Rat) := by
  simp only [Mmetrics.saVolE, evalK, volEnv, String.reduceEq, if_true, if_false, powK]
  push_cast; ring

end Navis.Flow

import NavisModel.Model.DpCache
import NavisModel.Proofs.ListLemmas
/-!
The kd-tree cache of `Dotprops` (C06): a safe step keeps every object `Fresh` and logs only queries answered from the
current geometry; a tree built from the current positions answers like the cloud itself; `downsampleSimple` point by point.
-/
namespace Navis.DpCache
open Navis.Nblast

variable {G : Type}

theorem Method.mem_all (m : Method) : m ∈ Method.all :=
  List.contains_iff_mem.mp (by cases m <;> rfl)

theorem forall_mem_upd {α} (P : α → Prop) (f : α → α) (hf : ∀ a, P a → P (f a)) (l : List α) (i : Nat)
    (hl : ∀ x ∈ l, P x) : ∀ x ∈ upd f l i, P x := by
  induction l generalizing i with
  | nil => exact hl
  | cons a r ih =>
    rw [List.forall_mem_cons] at hl
    cases i with
    | zero => exact List.forall_mem_cons.mpr ⟨hf a hl.1, hl.2⟩
    | succ n => exact List.forall_mem_cons.mpr ⟨hl.1, ih n hl.2⟩

theorem Obj.used_of_fresh (o : Obj G) (h : o.Fresh) : o.used = o.geo := by
  unfold Obj.used
  rcases h with h | h <;> rw [h] <;> rfl

theorem Obj.ensure_fresh (o : Obj G) (h : o.Fresh) : o.ensure.Fresh := by
  unfold Obj.ensure
  cases ht : o.tree with
  | none => exact Or.inr rfl
  | some g => exact h

theorem Obj.ensure_geo (o : Obj G) : o.ensure.geo = o.geo := by
  unfold Obj.ensure; cases o.tree <;> rfl

theorem Obj.resolve_fresh (o : Obj G) (h : o.Fresh) : o.resolve.Fresh :=
  Obj.ensure_fresh o h

theorem Obj.mutate_fresh (inv : Method → Bool) (m : Method) (g : G) (o : Obj G) (hm : inv m = true) :
    (o.mutate inv m g).Fresh := by
  unfold Obj.mutate Obj.Fresh
  left
  simp [hm]

/-- A change through a path that does not invalidate still keeps the invariant if there is no tree to go stale and no
lazy tangents to resolve first (resolving would build one). -/
theorem Obj.mutate_fresh_of_no_tree (inv : Method → Bool) (m : Method) (g : G) (o : Obj G)
    (ht : o.tree = none) (hl : (m.needsTangents && o.lazy) = false) : (o.mutate inv m g).Fresh := by
  unfold Obj.mutate Obj.Fresh
  left
  simp only [hl]
  cases inv m <;> simp [ht]

/-- One safe step preserves the invariant and only queries trees of the current geometry: whatever it logs is
`(o.used, o.geo)` of an object `o` of the store it started from. -/
theorem step_fresh (inv : Method → Bool) (s : List (Obj G)) (e : Ev G)
    (hs : ∀ o ∈ s, o.Fresh) (he : ∀ m i g, e = .mutate m i g → inv m = true) :
    (∀ o ∈ (step inv s e).1, o.Fresh) ∧ ∀ p ∈ (step inv s e).2, p.1 = p.2 := by
  have hq : ∀ (i : Nat) (o : Obj G), s[i]? = some o → ∀ p ∈ [(o.used, o.geo)], p.1 = p.2 := fun i o hi p hp => by
    rw [List.mem_singleton.mp hp]
    exact o.used_of_fresh (hs o (List.mem_of_getElem? hi))
  have hnil : ∀ p ∈ ([] : List (G × G)), p.1 = p.2 := fun p hp => by cases hp
  cases e with
  | use i =>
    refine ⟨forall_mem_upd _ _ Obj.ensure_fresh s i hs, ?_⟩
    simp only [step]
    cases hi : s[i]? with
    | none => exact hnil
    | some o => exact hq i o hi
  | setVect i => exact ⟨forall_mem_upd Obj.Fresh (fun o => { o with lazy := false }) (fun _ h => h) s i hs, hnil⟩
  | mutate m i g =>
    refine ⟨forall_mem_upd _ _ (fun o _ => Obj.mutate_fresh inv m g o (he m i g rfl)) s i hs, ?_⟩
    simp only [step]
    cases hi : s[i]? with
    | none => exact hnil
    | some o =>
      dsimp only
      split
      · exact hq i o hi
      · exact hnil
  | vect i =>
    simp only [step]
    cases hi : s[i]? with
    | none => exact ⟨hs, hnil⟩
    | some o =>
      dsimp only
      split
      · exact ⟨forall_mem_upd _ _ Obj.resolve_fresh s i hs, hq i o hi⟩
      · exact ⟨hs, hnil⟩
  | copy i =>
    simp only [step]
    cases s[i]? with
    | none => exact ⟨hs, hnil⟩
    | some o => exact ⟨List.forall_mem_append.mpr ⟨hs, List.forall_mem_singleton.mpr (Or.inl rfl)⟩, hnil⟩
  | pickle keeps i =>
    simp only [step]
    cases hi : s[i]? with
    | none => exact ⟨hs, hnil⟩
    | some o =>
      refine ⟨List.forall_mem_append.mpr ⟨hs, List.forall_mem_singleton.mpr ?_⟩, hnil⟩
      cases keeps
      · exact Or.inl rfl
      · exact hs o (List.mem_of_getElem? hi)

theorem safe_of_forall (inv : Method → Bool) (evs : List (Ev G))
    (h : ∀ m i g, Ev.mutate m i g ∈ evs → inv m = true) : safe inv evs = true := by
  unfold safe
  rw [List.all_eq_true]
  intro e he
  cases e with
  | mutate m i g => exact h m i g he
  | _ => rfl

theorem safe_cons (inv : Method → Bool) (e : Ev G) (es : List (Ev G)) (h : safe inv (e :: es) = true) :
    (∀ m i g, e = .mutate m i g → inv m = true) ∧ safe inv es = true := by
  unfold safe at h ⊢
  rw [List.all_cons, Bool.and_eq_true] at h
  exact ⟨fun m i g hm => by subst hm; exact h.1, h.2⟩

theorem nearestAux_map (f : Pt → Pt) (hf : ∀ x, (f x).p = x.p) (p : V3) (l : List Pt) (i : Nat) (best : Nat × Rat) :
    nearestAux p (l.map f) i best = nearestAux p l i best := by
  induction l generalizing i best with
  | nil => rfl
  | cons a r ih => simp only [List.map_cons, nearestAux, hf, ih]

/-- The search looks at positions only. -/
theorem nearest_map (f : Pt → Pt) (hf : ∀ x, (f x).p = x.p) (t : Cloud) (p : V3) :
    nearest (t.map f) p = nearest t p := by
  cases t with
  | nil => rfl
  | cons a r => simp only [List.map_cons, nearest, hf, nearestAux_map f hf]

theorem nearestP_fresh (cur : Cloud) (p : V3) : nearestP (cur.map (·.p)) p = nearest cur p := by
  unfold nearestP
  rw [List.map_map]
  exact nearest_map (fun x => ⟨x.p, default, 0⟩) (fun _ => rfl) cur p

theorem downsampleSimple_small (f : Nat) (c : Cloud) (h : c.length ≤ f) : downsampleSimple f c = c := by
  unfold downsampleSimple; simp [h]

/-- The indices of `np.arange(0, n, f)` — `ceil(n / f)` of them — stay inside the array. -/
theorem mul_lt_of_lt_ceilDiv (n f i : Nat) (hf : 0 < f) (hi : i < (n + f - 1) / f) : i * f < n := by
  have : (i + 1) * f ≤ n + f - 1 := (Nat.le_div_iff_mul_le hf).mp hi
  rw [Nat.add_mul, Nat.one_mul] at this
  omega

/-- The down-sampled cloud, point by point (`np.arange(0, n, f)` as the mask). -/
theorem downsampleSimple_eq_map (f : Nat) (c : Cloud) (hf : 0 < f) (h : f < c.length) :
    downsampleSimple f c = (List.range ((c.length + f - 1) / f)).map fun i => c.getD (i * f) default := by
  unfold downsampleSimple
  rw [if_neg (by omega)]
  refine filterMap_eq_map_of_some fun i hi => ?_
  rw [List.getD_eq_getElem?_getD, List.getElem?_eq_getElem (mul_lt_of_lt_ceilDiv _ f i hf (List.mem_range.mp hi))]
  rfl

end Navis.DpCache

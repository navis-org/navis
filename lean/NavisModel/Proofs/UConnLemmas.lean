/-! Connectivity in an undirected edge list (`Adj`, `Conn`) and its laws: what the Kruskal argument of C11 (`Heal`) and
the component searches of C04 (`componentOf`) are both about; acyclic edge lists (`Acyc`).  `EL`, `Adj`, `Conn` and `Acyc` stand in
`namespace Navis.Heal`, the namespace of C11's model, so `Props/C04` speaks of `Heal.Conn` (C10 meets it only inside a proof of `TreeEditLemmas`).  No imports. -/
namespace Navis.Heal

abbrev EL := List (Int × Int)

def Adj (E : EL) (a b : Int) : Prop := (a, b) ∈ E ∨ (b, a) ∈ E

theorem Adj.symm {E : EL} {a b : Int} (h : Adj E a b) : Adj E b a := Or.symm h

theorem adj_append {A B : EL} {a b : Int} : Adj (A ++ B) a b ↔ Adj A a b ∨ Adj B a b := by
  simp only [Adj, List.mem_append]
  exact or_or_or_comm

/-- Connected by a path of edges of `E`. -/
inductive Conn (E : EL) : Int → Int → Prop
  | refl (a : Int) : Conn E a a
  | step {a b c : Int} : Conn E a b → Adj E b c → Conn E a c

namespace Conn

theorem single {E : EL} {a b : Int} (h : Adj E a b) : Conn E a b := .step (.refl a) h

theorem trans {E : EL} {a b c : Int} (h1 : Conn E a b) (h2 : Conn E b c) : Conn E a c := by
  induction h2 with
  | refl => exact h1
  | step _ hadj ih => exact .step ih hadj

theorem symm {E : EL} {a b : Int} (h : Conn E a b) : Conn E b a := by
  induction h with
  | refl => exact .refl _
  | step _ hadj ih => exact (single hadj.symm).trans ih

/-- Paths may be replaced edge by edge. -/
theorem bind {E E' : EL} (h : ∀ a b, Adj E a b → Conn E' a b) {a b : Int} (hc : Conn E a b) : Conn E' a b := by
  induction hc with
  | refl => exact .refl _
  | step _ hadj ih => exact ih.trans (h _ _ hadj)

theorem mono {E E' : EL} (hsub : ∀ a b, Adj E a b → Adj E' a b) {a b : Int} (h : Conn E a b) : Conn E' a b :=
  h.bind fun a b hab => single (hsub a b hab)

theorem of_subset {E E' : EL} (hsub : ∀ e ∈ E, e ∈ E') {a b : Int} (h : Conn E a b) : Conn E' a b :=
  h.mono fun _ _ hadj => hadj.elim (fun h => Or.inl (hsub _ h)) (fun h => Or.inr (hsub _ h))

/-- A path in `e :: E` avoids `e`, or reaches one end of `e` inside `E` and leaves from the other inside `E`; the step case
classifies the last edge. -/
theorem cons_split {E : EL} {e : Int × Int} {u v : Int} (h : Conn (e :: E) u v) :
    Conn E u v ∨ (Conn E u e.1 ∧ Conn E e.2 v) ∨ (Conn E u e.2 ∧ Conn E e.1 v) := by
  induction h with
  | refl => exact Or.inl (.refl _)
  | @step b c _ hadj ih =>
    have hlast : Adj E b c ∨ (b = e.1 ∧ c = e.2) ∨ (b = e.2 ∧ c = e.1) := by
      rcases hadj with h | h
      · rcases List.mem_cons.mp h with h | h
        · right; left
          rw [← h]; exact ⟨rfl, rfl⟩
        · exact Or.inl (Or.inl h)
      · rcases List.mem_cons.mp h with h | h
        · right; right
          rw [← h]; exact ⟨rfl, rfl⟩
        · exact Or.inl (Or.inr h)
    rcases ih with h0 | ⟨h1, h2⟩ | ⟨h1, h2⟩
    · rcases hlast with ha | ⟨hb, hc⟩ | ⟨hb, hc⟩
      · exact Or.inl (.step h0 ha)
      · right; left; exact ⟨hb ▸ h0, hc ▸ .refl _⟩
      · right; right; exact ⟨hb ▸ h0, hc ▸ .refl _⟩
    · rcases hlast with ha | ⟨hb, hc⟩ | ⟨hb, hc⟩
      · right; left; exact ⟨h1, .step h2 ha⟩
      · right; left; exact ⟨h1, hc ▸ .refl _⟩
      · left; exact hc ▸ h1
    · rcases hlast with ha | ⟨hb, hc⟩ | ⟨hb, hc⟩
      · right; right; exact ⟨h1, .step h2 ha⟩
      · left; exact hc ▸ h1
      · right; right; exact ⟨h1, hc ▸ .refl _⟩

theorem of_erase {E : EL} {e : Int × Int} {a b : Int} (h : Conn (E.erase e) a b) : Conn E a b :=
  h.of_subset fun _ hx => List.mem_of_mem_erase hx

end Conn

/-- No edge's ends are connected without it (and no edge is listed twice). -/
def Acyc (E : EL) : Prop := E.Nodup ∧ ∀ e ∈ E, ¬ Conn (E.erase e) e.1 e.2

theorem Acyc.nil : Acyc [] := ⟨List.nodup_nil, by simp⟩

/-- Kruskal's step. -/
theorem Acyc.cons {E : EL} (h : Acyc E) {a b : Int} (hn : ¬ Conn E a b) : Acyc ((a, b) :: E) := by
  obtain ⟨hnd, hac⟩ := h
  have hnot : (a, b) ∉ E := fun hm => hn (Conn.single (Or.inl hm))
  refine ⟨List.nodup_cons.mpr ⟨hnot, hnd⟩, ?_⟩
  intro e he
  rcases List.mem_cons.mp he with rfl | he
  · rw [List.erase_cons_head]; exact hn
  · have hne : (a, b) ≠ e := fun h => hnot (h ▸ he)
    have : ((a, b) :: E).erase e = (a, b) :: E.erase e := by
      rw [List.erase_cons_tail]
      simpa using hne
    rw [this]
    intro hc
    -- a path between the ends of the old edge `e` that runs over `(a, b)`, closed through `e` itself, would connect `a` and `b` in `E`
    have hadj : Conn E e.1 e.2 := Conn.single (Or.inl he)
    rcases hc.cons_split with h0 | ⟨h1, h2⟩ | ⟨h1, h2⟩
    · exact hac e he h0
    · exact hn ((h1.of_erase.symm.trans hadj).trans h2.of_erase.symm)
    · exact hn ((h2.of_erase.trans hadj.symm).trans h1.of_erase)

theorem Acyc.perm {E E' : EL} (h : Acyc E) (hp : E.Perm E') : Acyc E' := by
  obtain ⟨hnd, hac⟩ := h
  refine ⟨hp.nodup_iff.mp hnd, ?_⟩
  intro e he hc
  exact hac e (hp.mem_iff.mpr he) (hc.of_subset fun x hx => (hp.erase e).mem_iff.mpr hx)

theorem Acyc.snoc {E : EL} (h : Acyc E) {a b : Int} (hn : ¬ Conn E a b) : Acyc (E ++ [(a, b)]) :=
  (h.cons hn).perm (List.perm_append_singleton _ _).symm

theorem Acyc.of_cons {E : EL} {x : Int × Int} (h : Acyc (x :: E)) : Acyc E ∧ ¬ Conn E x.1 x.2 := by
  obtain ⟨hnd, hac⟩ := h
  obtain ⟨hx, hnd'⟩ := List.nodup_cons.mp hnd
  refine ⟨⟨hnd', fun e he hc => hac e (List.mem_cons_of_mem _ he) (hc.of_subset fun y hy => ?_)⟩, ?_⟩
  · rw [List.erase_cons_tail (by simpa using fun h : x = e => hx (h ▸ he))]
    exact List.mem_cons_of_mem _ hy
  · have := hac x List.mem_cons_self
    rwa [List.erase_cons_head] at this

end Navis.Heal

import NavisModel.Proofs.FlowLemmas
/-! The code's child-pair test is "the tree path bends at the fork"; at most one child of a node is an ancestor of a
given node (`child_anc_unique`), so the summands of the bending flow count disjoint sets of paths; the leaf-flow formula is constant
along unbranched chains and counts tip-to-tip paths, which the seeding scheme of `flow_centrality` relies on. -/
namespace Navis.Flow
open Navis.Forest

theorem product_nodup {α β} {xs : List α} {ys : List β} (hx : xs.Nodup) (hy : ys.Nodup) : (product xs ys).Nodup := by
  induction xs with
  | nil => simp [product]
  | cons a xs ih =>
    obtain ⟨ha, hxs⟩ := List.nodup_cons.mp hx
    rw [product_cons]
    refine List.nodup_append.mpr ⟨?_, ih hxs, ?_⟩
    · exact List.pairwise_map.mpr (hy.imp fun h e => h (Prod.mk.inj e).2)
    · intro u hu v hv e
      obtain ⟨b, _, rfl⟩ := List.mem_map.mp hu
      have := (mem_product.mp hv).1
      rw [← e] at this
      exact ha this

theorem childPairs_nodup {t : Table} (hnd : (ids t).Nodup) (b : Int) : (childPairs t b).Nodup :=
  (product_nodup (children_nodup hnd b) (children_nodup hnd b)).sublist List.filter_sublist

theorem mem_childPairs {t : Table} {b : Int} {c : Int × Int} :
    c ∈ childPairs t b ↔ c.1 ∈ children t b ∧ c.2 ∈ children t b ∧ c.1 ≠ c.2 := by
  unfold childPairs
  rw [List.mem_filter, mem_product]
  simp [and_assoc]

theorem legUp_isEmpty_iff {t : Table} {p q l : Int} (hp : p ∈ ids t) (h : lca t p q = some l) :
    (legUp t p q).isEmpty = true ↔ p = l := by
  obtain ⟨rest, hr⟩ := rootPath_cons hp
  unfold legUp
  rw [h]
  simp only
  rw [hr, List.takeWhile_cons]
  by_cases e : p = l
  · simp [e]
  · simp [e]

theorem bendsAt_iff {t : Table} (hw : WF t) {b p q : Int} :
    bendsAt t b p q = true ↔ lca t p q = some b ∧ p ≠ b ∧ q ≠ b := by
  unfold bendsAt
  cases hl : lca t p q with
  | none => simp
  | some l =>
    obtain ⟨lp, lq, _⟩ := lca_spec hw hl
    simp only [Bool.and_eq_true, beq_iff_eq, Bool.not_eq_true', Option.some.injEq]
    rw [Bool.eq_false_iff, Bool.eq_false_iff, ne_eq, ne_eq, legUp_isEmpty_iff (anc_ids lp).2 hl,
      legUp_isEmpty_iff (anc_ids lq).2 (lca_symm hw hl)]
    constructor
    · rintro ⟨⟨rfl, h1⟩, h2⟩; exact ⟨rfl, h1, h2⟩
    · rintro ⟨rfl, h1, h2⟩; exact ⟨⟨rfl, h1⟩, h2⟩

theorem any_childPairs_iff_bendsAt {t : Table} (hw : WF t) {b : Int} (hb : b ∈ ids t) (p q : Int) :
    ((childPairs t b).any fun c => isDistal t c.1 p && isDistal t c.2 q) = bendsAt t b p q := by
  rw [Bool.eq_iff_iff, List.any_eq_true, bendsAt_iff hw]
  constructor
  · rintro ⟨c, hc, hd⟩
    obtain ⟨hc1, hc2, hne⟩ := mem_childPairs.mp hc
    simp only [Bool.and_eq_true, isDistal_iff] at hd
    obtain ⟨a1, a2⟩ := hd
    obtain ⟨_, b1, n1⟩ := child_anc hw hb hc1
    obtain ⟨_, b2, n2⟩ := child_anc hw hb hc2
    have bp := anc_trans hw b1 a1
    have bq := anc_trans hw b2 a2
    obtain ⟨l, hl⟩ := lca_isSome bp bq
    obtain ⟨lp, lq, lmin⟩ := lca_spec hw hl
    -- the meet is `b` itself: a meet strictly below `b` would lie under one child of `b`, but `p`, `q` lie under two
    have e : l = b := by
      by_contra hlb
      obtain ⟨c, hcc, hcl⟩ := child_on_path hw (lmin b bp bq) hlb
      have e1 := child_anc_unique hw hb hcc hc1 (anc_trans hw hcl lp) a1
      have e2 := child_anc_unique hw hb hcc hc2 (anc_trans hw hcl lq) a2
      exact hne (e1.symm.trans e2)
    subst e
    exact ⟨hl, fun e => n1 (e ▸ a1), fun e => n2 (e ▸ a2)⟩
  · rintro ⟨hl, hpne, hqne⟩
    obtain ⟨lp, lq, lmin⟩ := lca_spec hw hl
    obtain ⟨c1, hc1, a1⟩ := child_on_path hw lp hpne
    obtain ⟨c2, hc2, a2⟩ := child_on_path hw lq hqne
    have hne : c1 ≠ c2 := by
      rintro rfl
      exact (child_anc hw hb hc1).2.2 (lmin c1 a1 a2)
    refine ⟨(c1, c2), mem_childPairs.mpr ⟨hc1, hc2, hne⟩, ?_⟩
    simp only [Bool.and_eq_true, isDistal_iff]
    exact ⟨a1, a2⟩

/-- `leafFormula` is both flow formulas of the neuron with one pre- and one postsynapse on every leaf: the centrifugal one
literally (used here), the centripetal one up to `Nat.mul_comm` (`leafFormula_eq_tipPaths`); a node with a child is no
leaf.  (`Flow.leafIds` is written qualified: `Forest.leafIds` of `SegmentLemmas` is the same list, and both namespaces
are open.) -/
theorem leafFormula_single_child {t : Table} (hw : WF t) {n c : Int} (hn : n ∈ ids t) (hc : children t n = [c]) :
    leafFormula t true n = leafFormula t true c := by
  have hl : n ∉ Flow.leafIds t := fun h => by
    obtain ⟨m, _, rfl, _, h0⟩ := mem_leafIds.mp h
    rw [← children_length, hc] at h0
    cases h0
  exact sfcRaw_single_child hw hc hn .centrifugal _ _ hl hl

theorem leafFormula_chainSeed {t : Table} (hw : WF t) (f : Nat) (n : Int) (hn : n ∈ ids t) :
    leafFormula t true n = leafFormula t true (chainSeed t f n) := by
  fun_induction chainSeed t f n with
  | case1 => rfl
  | case2 f n c hc ih =>
    rw [leafFormula_single_child hw hn hc]
    exact ih (child_anc hw hn (hc ▸ List.mem_singleton_self c)).1
  | case3 => rfl

theorem leafFormula_eq_tipPaths {t : Table} (hw : WF t) (n : Int) : leafFormula t true n = tipPaths t n := by
  unfold tipPaths
  rw [pathsUp_eq hw]
  unfold leafFormula centripetal
  exact Nat.mul_comm _ _

theorem fcPre_eq_tipPaths {t : Table} (hw : WF t) {n : Int} (hn : n ∈ ids t) : fcPre t true n = tipPaths t n := by
  unfold fcPre
  split
  · exact leafFormula_eq_tipPaths hw n
  · rw [← leafFormula_chainSeed hw _ n hn, leafFormula_eq_tipPaths hw]

/-- Off terminal twigs the seeding scheme of the code before the fixes yields the tip-path count… -/
theorem fcPreHist_of_seedIsFork {t : Table} (hw : WF t) {n : Int} (hn : n ∈ ids t) (h : seedIsFork t n = true) :
    fcPreHist t true n = tipPaths t n := by
  unfold seedIsFork at h
  unfold fcPreHist
  simp only [h, if_true]
  rw [← leafFormula_chainSeed hw _ n hn, leafFormula_eq_tipPaths hw]

/-- …on them (and at forking roots) it yields 0. -/
theorem fcPreHist_of_not_seedIsFork {t : Table} {n : Int} (h : seedIsFork t n = false) : fcPreHist t true n = 0 := by
  unfold seedIsFork at h
  unfold fcPreHist
  simp [h]

theorem fcPreHist_le_tipPaths {t : Table} (hw : WF t) {n : Int} (hn : n ∈ ids t) : fcPreHist t true n ≤ tipPaths t n := by
  cases h : seedIsFork t n with
  | true => exact Nat.le_of_eq (fcPreHist_of_seedIsFork hw hn h)
  | false => rw [fcPreHist_of_not_seedIsFork h]; exact Nat.zero_le _

end Navis.Flow

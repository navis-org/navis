import NavisModel.Model.VolCache
/-!
The invariant behind the cache theorems of C18 (`FreshFor` for one Volume object, `StoreFresh` for all of them): an operation
that meets `OpOK` keeps it, and under it a query answers from the current geometry.  The Boolean coverage checks of
`Model/VolCache.lean` (`coversB`, `clearingMutators`) are read as the side conditions `OpOK` asks of a mutator.  Core Lean only.
-/
namespace Navis.VolCache

variable {G : Type}

/-- every cache entry under an attribute of `A` was built from the object's current geometry -/
def FreshFor (A : List String) (o : Obj G) : Prop := ∀ e ∈ o.cache, e.attr ∈ A → e.built = o.geom

def StoreFresh (A : List String) (st : Store G) : Prop := ∀ o ∈ st, FreshFor A o

theorem freshFor_fresh (A : List String) (g : G) : FreshFor A (Obj.fresh g) := by
  intro e he; cases he

theorem storeFresh_fresh (A : List String) (gs : List G) : StoreFresh A (gs.map Obj.fresh) := by
  intro o ho
  obtain ⟨g, _, rfl⟩ := List.mem_map.mp ho
  exact freshFor_fresh A g

theorem lookup_mem (c : List (Entry G)) (a : String) (e : Entry G) (h : lookup c a = some e) :
    e ∈ c ∧ e.attr = a := by
  unfold lookup at h
  refine ⟨List.mem_of_find?_eq_some h, ?_⟩
  have := List.find?_some h
  simpa using this

theorem freshFor_store (A : List String) (o : Obj G) (a : String) (r : Nat) (h : FreshFor A o) :
    FreshFor A (o.store a r) := by
  intro e he _
  simp only [Obj.store, List.mem_cons] at he
  rcases he with rfl | he
  · rfl
  · exact h e (List.mem_filter.mp he).1 ‹_›

theorem query_spec (A : List String) (be : Backend) (r : Nat) (o : Obj G) (h : FreshFor A o)
    (ha : ∀ a, be.attr = some a → a ∈ A) :
    FreshFor A (o.query be r).1 ∧ (o.query be r).2 = o.geom := by
  unfold Obj.query
  cases hattr : be.attr with
  | none => exact ⟨h, rfl⟩
  | some a =>
    simp only
    cases hl : lookup o.cache a with
    | none => exact ⟨freshFor_store A o a r h, rfl⟩
    | some e =>
      simp only
      by_cases hk : (be.raysKeyed && !(e.rays == r)) = true
      · rw [if_pos hk]; exact ⟨freshFor_store A o a r h, rfl⟩
      · rw [if_neg hk]
        obtain ⟨hm, hea⟩ := lookup_mem _ _ _ hl
        exact ⟨h, h e hm (hea ▸ ha a hattr)⟩

theorem freshFor_mutate (A : List String) (cl : List String) (f : G → G) (o : Obj G)
    (hc : ∀ a ∈ A, a ∈ cl) : FreshFor A (o.mutate cl f) := by
  intro e he hA
  simp only [Obj.mutate, List.mem_filter] at he
  have := hc _ hA
  rw [← List.contains_iff_mem] at this
  rw [this] at he
  exact absurd he.2 (by simp)

theorem freshFor_pickle (A : List String) (dr : List String) (o : Obj G) (h : FreshFor A o) :
    FreshFor A (o.pickle dr) := by
  intro e he hA
  simp only [Obj.pickle, List.mem_filter] at he
  exact h e he.1 hA

theorem storeFresh_set (A : List String) (st : Store G) (i : Nat) (o : Obj G) (h : StoreFresh A st)
    (ho : FreshFor A o) : StoreFresh A (setAt st i o) := by
  intro o' ho'
  unfold setAt at ho'
  rcases List.mem_or_eq_of_mem_set ho' with h' | rfl
  · exact h _ h'
  · exact ho

theorem storeFresh_snoc (A : List String) (st : Store G) (o : Obj G) (h : StoreFresh A st)
    (ho : FreshFor A o) : StoreFresh A (st ++ [o]) := by
  intro o' ho'
  rcases List.mem_append.mp ho' with h' | h'
  · exact h _ h'
  · rw [List.mem_singleton.mp h']; exact ho

/-- the side conditions one operation has to meet for the invariant -/
def OpOK (s : Spec) (A : List String) : Op G → Prop
  | .query _ b _ => ∀ a, s.attrOf b = some a → a ∈ A
  | .mutate _ m _ => ∀ a ∈ A, a ∈ s.clearsOf m
  | .copy _ _ => True
  | .pickle _ => True

theorem step_spec (s : Spec) (A : List String) (st : Store G) (op : Op G) (h : StoreFresh A st)
    (hop : OpOK s A op) :
    StoreFresh A (step s st op).1 ∧ ∀ ans, (step s st op).2 = some ans → ans.used = ans.current := by
  -- only a query on an existing object reports an answer
  have noAns : ∀ ans : Answer G, (none : Option (Answer G)) = some ans → ans.used = ans.current := fun _ ha => nomatch ha
  cases op with
  | query i b r =>
    simp only [step]
    cases hi : st[i]? with
    | none => exact ⟨h, noAns⟩
    | some o =>
      simp only
      have ho : FreshFor A o := h o (List.mem_of_getElem? hi)
      cases hb : s.backend b with
      | none => exact ⟨h, by intro ans ha; cases ha; rfl⟩
      | some be =>
        simp only
        have hattr : ∀ a, be.attr = some a → a ∈ A := by
          intro a hba
          apply hop a
          simp [Spec.attrOf, hb, hba]
        obtain ⟨h1, h2⟩ := query_spec A be r o ho hattr
        exact ⟨storeFresh_set A st i _ h h1, by intro ans ha; cases ha; exact h2⟩
  | mutate i m f =>
    simp only [step]
    cases hi : st[i]? with
    | none => exact ⟨h, noAns⟩
    | some o => exact ⟨storeFresh_set A st i _ h (freshFor_mutate A _ f o hop), noAns⟩
  | copy i f =>
    simp only [step]
    cases hi : st[i]? with
    | none => exact ⟨h, noAns⟩
    | some o => exact ⟨storeFresh_snoc A st _ h (freshFor_fresh A _), noAns⟩
  | pickle i =>
    simp only [step]
    cases hi : st[i]? with
    | none => exact ⟨h, noAns⟩
    | some o => exact ⟨storeFresh_snoc A st _ h (freshFor_pickle A _ o (h o (List.mem_of_getElem? hi))), noAns⟩

theorem exec_spec (s : Spec) (A : List String) (ops : List (Op G)) (st : Store G) (h : StoreFresh A st)
    (hops : ∀ op ∈ ops, OpOK s A op) : ∀ ans ∈ (exec s st ops).2, ans.used = ans.current := by
  induction ops generalizing st with
  | nil => intro ans ha; cases ha
  | cons op ops ih =>
    obtain ⟨h1, h2⟩ := step_spec s A st op h (hops op (List.mem_cons_self ..))
    have ih' := ih (step s st op).1 h1 (fun o ho => hops o (List.mem_cons_of_mem _ ho))
    unfold exec
    cases ha : (step s st op).2 with
    | none => exact ih'
    | some a =>
      intro ans hm
      rcases List.mem_cons.mp hm with rfl | hm
      · exact h2 _ ha
      · exact ih' _ hm

theorem clearsOf_of_mem (s : Spec) (m : String) (hm : m ∈ s.mutatorNames) :
    ∃ mu ∈ s.mutators, s.clearsOf m = mu.clears := by
  unfold Spec.clearsOf
  cases hf : s.mutators.find? (fun mu => mu.name == m) with
  | some mu => exact ⟨mu, List.mem_of_find?_eq_some hf, rfl⟩
  | none =>
    exfalso
    obtain ⟨mu, hmu, rfl⟩ := List.mem_map.mp hm
    have := List.find?_eq_none.mp hf mu hmu
    simp at this

theorem coversB_spec (s : Spec) (bs : List String) (h : coversB s bs = true) (b : String) (hb : b ∈ bs)
    (a : String) (ha : s.attrOf b = some a) (m : String) (hm : m ∈ s.mutatorNames) : a ∈ s.clearsOf m := by
  unfold coversB at h
  have h1 := List.all_eq_true.mp h b hb
  rw [ha] at h1
  simp only at h1
  obtain ⟨mu, hmu, hcl⟩ := clearsOf_of_mem s m hm
  have := List.all_eq_true.mp h1 mu hmu
  rw [hcl]
  exact List.contains_iff_mem.mp this

theorem attrOf_mem_backend_attrs (s : Spec) (b a : String) (ha : s.attrOf b = some a) :
    a ∈ s.backends.filterMap (·.attr) := by
  unfold Spec.attrOf at ha
  cases hb : s.backend b with
  | none => rw [hb] at ha; cases ha
  | some be =>
    rw [hb] at ha
    exact List.mem_filterMap.mpr ⟨be, List.mem_of_find?_eq_some hb, ha⟩

theorem mem_clearingMutators (s : Spec) (m : String) (h : m ∈ clearingMutators s) (a : String)
    (ha : a ∈ s.backends.filterMap (·.attr)) : a ∈ s.clearsOf m := by
  unfold clearingMutators at h
  obtain ⟨_, hall⟩ := List.mem_filter.mp h
  obtain ⟨be, hbe, hattr⟩ := List.mem_filterMap.mp ha
  have := List.all_eq_true.mp hall be hbe
  rw [hattr] at this
  exact List.contains_iff_mem.mp this

end Navis.VolCache

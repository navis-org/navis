import NavisModel.Model.PruneExt
import NavisModel.Proofs.SegmentLemmas
/-!
The greedy criterion of `longest_neurite` (C12) as a proposition (`GreedyStep`, `Greedy`; the checker `greedyStepB`
decides a step), and: `segments` (the model of `_generate_segments`, C05) satisfies it on every well-formed forest
with positive edge lengths: segment `k` is the walk of an uncovered tip up to the cover of the earlier segments (or
its root), and no uncovered tip has a longer such walk.
-/
namespace Navis.PruneX
open Navis.Forest

/-- The greedy criterion as a proposition: one step (what `greedyStepB` decides, `greedyStepB_iff`) … -/
def GreedyStep (t : Table) (len : Int → Int → Nat) (cover : List Int) (s : List Int) : Prop :=
  ∃ h, s.head? = some h ∧ h ∈ tips t ∧ h ∉ cover ∧ s = tipWalk t cover h ∧
    ∀ m ∈ tips t, m ∉ cover → pathLen len (tipWalk t cover m) ≤ pathLen len s

/-- … and the list of segments (what `greedyOKB` decides, `Props.C12.greedy_checker_sound_complete`). -/
def Greedy (t : Table) (len : Int → Int → Nat) (segs : List (List Int)) : Prop :=
  ∀ k (hk : k < segs.length), GreedyStep t len (segs.take k).flatten segs[k]

theorem greedyStepB_iff (t : Table) (len : Int → Int → Nat) (cover s : List Int) :
    greedyStepB t len cover s = true ↔ GreedyStep t len cover s := by
  unfold greedyStepB GreedyStep
  cases hh : s.head? with
  | none => simp
  | some h =>
    simp only [Bool.and_eq_true, List.all_eq_true, Bool.or_eq_true, decide_eq_true_eq, Option.some.injEq,
      exists_eq_left', Bool.not_eq_true', beq_iff_eq, List.contains_eq_mem, decide_eq_false_iff_not, and_assoc,
      Decidable.or_iff_not_imp_left]

/-- Every edge has positive length (the property quantifies "away from exact ties"; with zero-length
edges the sort of `_generate_segments` may put a segment before the one it hangs on). -/
def PosLen (t : Table) (len : Int → Int → Nat) : Prop := ∀ n ∈ t, ¬ n.parent < 0 → 0 < len n.id n.parent

theorem dtr_anc_le {t : Table} (hw : WF t) (len : Int → Int → Nat) :
    ∀ x, ∀ a ∈ rootPath t x, distToRoot t len a ≤ distToRoot t len x := by
  intro x a ha
  obtain ⟨pre, hpre⟩ := rootPath_suffix hw ha
  rw [distToRoot_stretch len hpre.symm (anc_ids ha).1]
  exact Nat.le_add_left _ _

theorem dtr_anc_lt {t : Table} (hw : WF t) {len : Int → Int → Nat} (hpos : PosLen t len) {x a : Int}
    (ha : a ∈ (rootPath t x).tail) : distToRoot t len a < distToRoot t len x := by
  obtain ⟨n, hn, rfl⟩ := mem_ids.mp (anc_ids (List.mem_of_mem_tail ha)).2
  have hf := find?_of_mem hw.1 hn
  by_cases hp : n.parent < 0
  · rw [rootPath_of_root hf hp] at ha; simp at ha
  · rw [rootPath_of_nonroot hw hf hp] at ha
    rw [distToRoot_parent hw len hn hp]
    exact Nat.lt_of_le_of_lt (dtr_anc_le hw len n.parent a ha)
      (Nat.lt_add_of_pos_left (hpos n hn hp))

theorem rootPath_ne_nil {t : Table} {a : Int} (ha : a ∈ ids t) : rootPath t a ≠ [] := Forest.rootPath_ne_nil ha

theorem rootPath_tail_parent {t : Table} (hw : WF t) {a z : Int} {rest : List Int} (h : rootPath t a = a :: z :: rest) :
    ∃ n, find? t a = some n ∧ ¬ n.parent < 0 ∧ n.parent = z ∧ rootPath t z = z :: rest := by
  have hl := rootPath_linked t a
  rw [h] at hl
  obtain ⟨⟨n, hf, hp, hz⟩, _⟩ := hl
  exact ⟨n, hf, by omega, hp, rootPath_split hw (pre := [a]) h⟩

/-- On a stretch `l :: mid` of a root path that continues with the root path of `last` (the nodes a sequence
`l :: mid ++ [last]` *owns*, see `SegData`), `last` lies strictly above every node. -/
theorem own_above {t : Table} (hw : WF t) {last : Int} (hlast : last ∈ ids t) (mid : List Int) (l : Int)
    (h : rootPath t l = (l :: mid) ++ rootPath t last) : ∀ x ∈ l :: mid, last ∈ (rootPath t x).tail := by
  obtain ⟨rest, hr⟩ := rootPath_cons hlast
  exact fun x hx => below_of_before hw (hr ▸ h) hx

/-- … and its topmost node has the root path of `last` directly above it. -/
theorem own_last {t : Table} (hw : WF t) {last : Int} (mid : List Int) (l : Int)
    (h : rootPath t l = (l :: mid) ++ rootPath t last) : ∃ y ∈ l :: mid, rootPath t y = y :: rootPath t last := by
  obtain ⟨A, y, e⟩ := (List.eq_nil_or_concat (l :: mid)).resolve_left (List.cons_ne_nil _ _)
  rw [List.concat_eq_append] at e
  rw [e, List.append_assoc] at h
  exact ⟨y, e ▸ List.mem_append_right _ List.mem_cons_self, rootPath_split hw h⟩

/-- The converse of `walkToStop_gen`: a stretch of a root path on which `P` fails and that ends where `P` holds or at a
root is the walk. -/
theorem walkToStop_path {t : Table} (hw : WF t) (P : Int → Bool) {last : Int} (hlast : last ∈ ids t)
    (hstop : P last = true ∨ ∃ n, find? t last = some n ∧ n.parent < 0) :
    ∀ (mid : List Int) (a : Int) (fuel : Nat), rootPath t a = (a :: mid) ++ rootPath t last →
      mid.length < fuel → (∀ x ∈ mid, P x = false) → walkToStop t P fuel a = mid ++ [last] := by
  -- induction on the given stretch, not on the walk: `mid` says at each step which of the walk's branches is taken
  intro mid
  induction mid with
  | nil =>
    intro a fuel h hlen _
    obtain ⟨r2, hr2⟩ := rootPath_cons hlast
    obtain ⟨n, hf, hp, hz, _⟩ := rootPath_tail_parent hw (by rw [h, hr2]; rfl : rootPath t a = a :: last :: r2)
    obtain ⟨f, rfl⟩ : ∃ f, fuel = f + 1 := Nat.exists_eq_succ_of_ne_zero (Nat.ne_of_gt (Nat.zero_lt_of_lt hlen))
    rw [walkToStop_step P hf hp, hz]
    rcases hstop with hs | ⟨rn, hrf, hrp⟩
    · rw [if_pos hs]; rfl
    · rw [walkToStop_root P hrf hrp]
      cases P last <;> rfl
  | cons z mid ih =>
    intro a fuel h hlen hns
    obtain ⟨n, hf, hp, hz, hrz⟩ := rootPath_tail_parent hw (h : rootPath t a = a :: z :: (mid ++ rootPath t last))
    obtain ⟨f, rfl⟩ : ∃ f, fuel = f + 1 := Nat.exists_eq_succ_of_ne_zero (Nat.ne_of_gt (Nat.zero_lt_of_lt hlen))
    rw [walkToStop_step P hf hp, hz, if_neg (by rw [hns z List.mem_cons_self]; decide),
      ih z f hrz (Nat.lt_of_succ_lt_succ hlen) (fun x hx => hns x (List.mem_cons_of_mem _ hx))]
    rfl

theorem mem_tips {t : Table} {x : Int} : x ∈ tips t ↔ ∃ n ∈ t, n.id = x ∧ childCount t n.id = 0 := by
  unfold tips
  simp only [mem_map_id_filter, beq_iff_eq]

theorem tipWalk_root {t : Table} (C : List Int) {m : Int} {n : Node} (hf : find? t m = some n) (hp : n.parent < 0) :
    tipWalk t C m = [m] := by
  unfold tipWalk
  rw [walkToStop_root _ hf hp]

/-- Data of one sequence produced by the greedy fold: the walk of the leaf `l`; every node it owns (all but
the last) has `l` as a deepest leaf below it. -/
structure SegData (t : Table) (len : Int → Int → Nat) (s : List Int) (l : Int) (mid : List Int) (last : Int) : Prop where
  eq : s = l :: mid ++ [last]
  path : rootPath t l = (l :: mid) ++ rootPath t last
  hlast : last ∈ ids t
  leaf : childCount t l = 0
  nonroot : ∃ n, n ∈ t ∧ n.id = l ∧ ¬ n.parent < 0
  deepest : ∀ x ∈ l :: mid, ∀ m ∈ leafIds t, x ∈ rootPath t m → distToRoot t len m ≤ distToRoot t len l

namespace SegData
variable {t : Table} {len : Int → Int → Nat} {s : List Int} {l : Int} {mid : List Int} {last : Int}

theorem dropLast_eq (d : SegData t len s l mid last) : s.dropLast = l :: mid := by
  rw [d.eq]; exact List.dropLast_concat

theorem mem_cases (d : SegData t len s l mid last) {x : Int} (hx : x ∈ s) : x ∈ l :: mid ∨ x = last := by
  rw [d.eq] at hx
  rcases List.mem_append.mp hx with h | h
  · exact Or.inl h
  · exact Or.inr (by simpa using h)

theorem own_mem (d : SegData t len s l mid last) {x : Int} (hx : x ∈ l :: mid) : x ∈ s := by
  rw [d.eq]; exact List.mem_append_left _ hx

theorem last_pos (d : SegData t len s l mid last) : 0 < childCount t last := by
  have hl := rootPath_linked t l
  rw [d.path] at hl
  exact Linked_childCount_pos l (mid ++ rootPath t last) hl last (List.mem_append_right _ (rootPath_head_mem d.hlast))

theorem length_eq (d : SegData t len s l mid last) : distToRoot t len l = pathLen len s + distToRoot t len last := by
  rw [d.eq]; exact distToRoot_stretch len d.path d.hlast

theorem last_mem_rootPath (d : SegData t len s l mid last) : last ∈ rootPath t l := by
  rw [d.path]; exact List.mem_append_right _ (rootPath_head_mem d.hlast)

theorem own_mem_rootPath (d : SegData t len s l mid last) {x : Int} (hx : x ∈ l :: mid) : x ∈ rootPath t l := by
  rw [d.path]; exact List.mem_append_left _ hx

theorem mid_length_lt (d : SegData t len s l mid last) (hw : WF t) : mid.length < t.length + 1 := by
  have := rootPath_length_le hw l
  rw [d.path, List.length_append, List.length_cons] at this
  exact Nat.lt_succ_of_le (Nat.le_of_succ_le (Nat.le_trans (Nat.le_add_right _ _) this))

theorem leaf_mem (d : SegData t len s l mid last) : l ∈ leafIds t := by
  obtain ⟨n, hn, hid, hp⟩ := d.nonroot
  exact mem_leafIds.mpr ⟨n, hn, hid, hp, by rw [hid]; exact d.leaf⟩

theorem head?_eq (d : SegData t len s l mid last) : s.head? = some l := by rw [d.eq]; rfl

theorem last_lt (d : SegData t len s l mid last) (hw : WF t) (hpos : PosLen t len) {x : Int} (hx : x ∈ l :: mid) :
    distToRoot t len last < distToRoot t len x :=
  dtr_anc_lt hw hpos (own_above hw d.hlast mid l d.path x hx)

theorem leaf_le (d : SegData t len s l mid last) {x : Int} (hx : x ∈ l :: mid) {m : Int} (hm : m ∈ leafIds t)
    (hxm : x ∈ rootPath t m) : distToRoot t len m ≤ pathLen len s + distToRoot t len last :=
  d.length_eq ▸ d.deepest x hx m hm hxm

/-- A sequence that ends on a node another sequence owns hangs on it and is strictly shorter: the other one
continues from there to a leaf at least as deep. -/
theorem hang_lt (d : SegData t len s l mid last) {s' : List Int} {l' : Int} {mid' : List Int} {last' : Int}
    (d' : SegData t len s' l' mid' last') (hw : WF t) (hpos : PosLen t len) (h : last ∈ l' :: mid') :
    pathLen len s < pathLen len s' :=
  Nat.lt_of_add_lt_add_right (calc
    pathLen len s + distToRoot t len last = distToRoot t len l := d.length_eq.symm
    _ ≤ pathLen len s' + distToRoot t len last' := d'.leaf_le h d.leaf_mem d.last_mem_rootPath
    _ < pathLen len s' + distToRoot t len last := Nat.add_lt_add_left (d'.last_lt hw hpos h) _)

end SegData

/-- Second invariant of the greedy fold, beside `Forest.GInv` (SegmentLemmas): every sequence so far has its `SegData`. -/
def SegInv (t : Table) (len : Int → Int → Nat) (acc : List (List Int)) : Prop :=
  ∀ s ∈ acc, ∃ l mid last, SegData t len s l mid last

/-- The leafs `ls` still to be walked are non-root leaf rows, distinct from one another and from those `done`, together
with `done` they are all leafs, and they come by non-increasing root distance.  Then the walk of the next leaf `l` owns
only nodes below which no earlier leaf lies (such a node would have been seen, `GInv.owned_fresh`), so every leaf below
one of them comes later, hence is no deeper than `l`: that is `SegData.deepest`. -/
theorem SegInv.foldl {t : Table} (hw : WF t) (len : Int → Int → Nat) :
    ∀ (ls done : List Int) (acc : List (List Int)) (seen : List Int), GInv t done acc seen → SegInv t len acc →
      (∀ l ∈ ls, ∃ n ∈ t, n.id = l ∧ ¬ n.parent < 0 ∧ childCount t n.id = 0) → (done ++ ls).Nodup →
      (∀ m ∈ leafIds t, m ∈ done ++ ls) →
      ls.Pairwise (fun a b => distToRoot t len b ≤ distToRoot t len a) →
      SegInv t len (ls.foldl (greedyStep t) (acc, seen)).1 := by
  intro ls
  induction ls with
  | nil => intro done acc seen _ h _ _ _ _; simpa using h
  | cons l ls ih =>
    intro done acc seen h hsi hl hnd hall hpw
    obtain ⟨n, hn, hnid, hp, hcc⟩ := hl l List.mem_cons_self
    subst hnid
    have hnot : n.id ∉ done := fun hm => (List.nodup_append.mp hnd).2.2 _ hm _ List.mem_cons_self rfl
    have hf := find?_of_mem hw.1 hn
    obtain ⟨mid, last, h1, hs⟩ :=
      walkSeen_spec hw (t.length + 1) n.id n seen hf hp (Nat.le_succ_of_le (rootPath_length_le hw n.id))
    have hstep := h.step hw hn hp hcc hnot
    have e : done ++ n.id :: ls = (done ++ [n.id]) ++ ls := by simp
    rw [List.foldl_cons]
    refine ih (done ++ [n.id]) _ _ hstep ?_ (fun l' hl' => hl l' (List.mem_cons_of_mem _ hl')) (e ▸ hnd)
      (by intro m hm; rw [← e]; exact hall m hm) (List.Pairwise.of_cons hpw)
    intro s hs'
    have hs' : s ∈ acc ++ [n.id :: (walkSeen t (t.length + 1) n.id seen).1] := hs'
    rcases List.mem_append.mp hs' with h' | h'
    · exact hsi s h'
    · simp only [List.mem_singleton] at h'
      refine ⟨n.id, mid, last, ⟨by rw [h', h1]; rfl, hs.path, hs.hlast, hcc, ⟨n, hn, rfl, hp⟩, ?_⟩⟩
      intro x hx m hm hxm
      have hm' := hall m hm
      obtain ⟨mn, hmn, hmid, _, hmcc⟩ := mem_leafIds.mp hm
      rcases List.mem_append.mp hm' with hd | hd
      · -- an earlier leaf `m` below an owned node `x`: `x` would be `m` itself (done) or above it (seen)
        exfalso
        obtain ⟨hns, hnd'⟩ := h.owned_fresh hs hcc hnot x hx
        obtain ⟨rest, hr⟩ := rootPath_cons (mem_ids.mpr ⟨mn, hmn, hmid⟩)
        rw [hr] at hxm
        rcases List.mem_cons.mp hxm with e1 | e1
        · exact hnd' (e1 ▸ hd)
        · exact hns (h.anc m hd x (by rw [hr]; exact e1))
      · rcases List.mem_cons.mp hd with e1 | e1
        · rw [e1]; exact Nat.le_refl _
        · exact (List.pairwise_cons.mp hpw).1 m e1

/-- One step of the criterion, for any arrangement `A ++ s :: B` of the sequences in which those of `A` are at least as
long as `s` and those of `B` at most as long: `s` is a greedy step over the nodes `A` covers. -/
theorem greedy_core {t : Table} (hw : WF t) {len : Int → Int → Nat} (hpos : PosLen t len) (seqs : List (List Int))
    (hsi : SegInv t len seqs) (hnd : (seqs.flatMap fun s => s.dropLast).Nodup)
    (hcov : ∀ x, x ∈ (seqs.flatMap fun s => s.dropLast) ↔ ∃ n ∈ t, ¬ n.parent < 0 ∧ n.id = x)
    (A B : List (List Int)) (s : List Int) (hperm : (A ++ s :: B).Perm seqs)
    (hA : ∀ a ∈ A, pathLen len s ≤ pathLen len a) (hB : ∀ b ∈ B, pathLen len b ≤ pathLen len s) :
    GreedyStep t len A.flatten s := by
  have hmem : ∀ a, a ∈ seqs ↔ a ∈ A ∨ a = s ∨ a ∈ B := fun a => by
    rw [← hperm.mem_iff, List.mem_append, List.mem_cons]
  have hs : s ∈ seqs := (hmem s).mpr (Or.inr (Or.inl rfl))
  have hdis : ∀ x ∈ A.flatMap fun a => a.dropLast, x ∉ s.dropLast := by
    have := (hperm.flatMap_right fun a => a.dropLast).nodup_iff.mpr hnd
    rw [List.flatMap_append, List.flatMap_cons] at this
    exact fun x hxA hxs => (List.nodup_append.mp this).2.2 x hxA x (List.mem_append_left _ hxs) rfl
  obtain ⟨l, mid, last, d⟩ := hsi s hs
  -- a node that `s` owns is not covered: no other sequence owns it, and one that ends at it is shorter than `s`
  have hown : ∀ x ∈ l :: mid, x ∉ A.flatten := by
    intro x hx hxC
    obtain ⟨a, ha, hxa⟩ := List.mem_flatten.mp hxC
    have has : a ∈ seqs := (hmem a).mpr (Or.inl ha)
    obtain ⟨l', mid', last', d'⟩ := hsi a has
    rcases d'.mem_cases hxa with h | h
    · exact hdis x (List.mem_flatMap.mpr ⟨a, ha, by rw [d'.dropLast_eq]; exact h⟩) (by rw [d.dropLast_eq]; exact hx)
    · exact Nat.not_le.mpr (d'.hang_lt d hw hpos (h ▸ hx)) (hA a ha)
  obtain ⟨nl, hnl, hnlid, hnlp⟩ := d.nonroot
  refine ⟨l, d.head?_eq, mem_tips.mpr ⟨nl, hnl, hnlid, by rw [hnlid]; exact d.leaf⟩, hown l List.mem_cons_self, ?_, ?_⟩
  · -- the segment is the walk up to the cover: its end is a root, or owned by a strictly longer sequence
    have hstop : (fun i => A.flatten.contains i) last = true ∨ ∃ n, find? t last = some n ∧ n.parent < 0 := by
      obtain ⟨nlast, hnlast, hnlastid⟩ := mem_ids.mp d.hlast
      by_cases hp : nlast.parent < 0
      · exact Or.inr ⟨nlast, hnlastid ▸ find?_of_mem hw.1 hnlast, hp⟩
      · left
        obtain ⟨a, has, hxa⟩ := List.mem_flatMap.mp ((hcov last).mpr ⟨nlast, hnlast, hp, hnlastid⟩)
        obtain ⟨l', mid', last', d'⟩ := hsi a has
        have hown' : last ∈ l' :: mid' := by rw [← d'.dropLast_eq]; exact hxa
        have hlt := d.hang_lt d' hw hpos hown'
        have haA : a ∈ A := by
          rcases (hmem a).mp has with h | h | h
          · exact h
          · rw [h] at hlt; exact absurd hlt (Nat.lt_irrefl _)
          · exact absurd (hB a h) (Nat.not_le.mpr hlt)
        simp only [List.contains_eq_mem, decide_eq_true_eq, List.mem_flatten]
        exact ⟨a, haA, d'.own_mem hown'⟩
    have hmidC : ∀ x ∈ mid, (fun i => A.flatten.contains i) x = false := fun x hx => by
      simpa using hown x (List.mem_cons_of_mem _ hx)
    have := walkToStop_path hw (fun i => A.flatten.contains i) d.hlast hstop mid l (t.length + 1) d.path (d.mid_length_lt hw) hmidC
    unfold tipWalk
    rw [this, d.eq]; rfl
  · -- no uncovered tip has a longer walk: the node where its walk ends hangs on a sequence that is not in the cover
    intro m hm hmC
    obtain ⟨nm, hnm, rfl, hmcc⟩ := mem_tips.mp hm
    have hfm := find?_of_mem hw.1 hnm
    by_cases hp : nm.parent < 0
    · rw [tipWalk_root _ hfm hp, pathLen_single]; exact Nat.zero_le _
    · have hmleaf : nm.id ∈ leafIds t := mem_leafIds.mpr ⟨nm, hnm, rfl, hp, hmcc⟩
      obtain ⟨midW, w, hwk, hpathW, hwids, hns, _⟩ :=
        walkToStop_gen hw (fun i => A.flatten.contains i) (t.length + 1) nm.id nm hfm hp
          (Nat.le_succ_of_le (rootPath_length_le hw nm.id))
      have hW : tipWalk t A.flatten nm.id = nm.id :: midW ++ [w] := by unfold tipWalk; rw [hwk]; rfl
      obtain ⟨y, hy, hry⟩ := own_last hw midW nm.id hpathW
      have hyC : y ∉ A.flatten := by
        rcases List.mem_cons.mp hy with e | e
        · rw [e]; exact hmC
        · simpa using hns y e
      have hyr : y ∈ rootPath t nm.id := by rw [hpathW]; exact List.mem_append_left _ hy
      obtain ⟨r2, hr2⟩ := rootPath_cons hwids
      obtain ⟨ny, hfy, hnyp, _⟩ := rootPath_tail_parent hw (by rw [hry, hr2] : rootPath t y = y :: w :: r2)
      obtain ⟨a, has, hxa⟩ := List.mem_flatMap.mp ((hcov y).mpr ⟨ny, (find?_some hfy).1, hnyp, (find?_some hfy).2⟩)
      obtain ⟨l', mid', last', d'⟩ := hsi a has
      have hown' : y ∈ l' :: mid' := by rw [← d'.dropLast_eq]; exact hxa
      have hale : pathLen len a ≤ pathLen len s := by
        rcases (hmem a).mp has with h | h | h
        · exact absurd (List.mem_flatten.mpr ⟨a, h, d'.own_mem hown'⟩) hyC
        · rw [h]; exact Nat.le_refl _
        · exact hB a h
      have h2 : distToRoot t len last' ≤ distToRoot t len w := by
        have := own_above hw d'.hlast mid' l' d'.path y hown'
        rw [hry] at this
        exact dtr_anc_le hw len w last' this
      rw [hW]
      refine Nat.le_trans (Nat.le_of_add_le_add_right (calc
        pathLen len (nm.id :: midW ++ [w]) + distToRoot t len w = distToRoot t len nm.id := (distToRoot_stretch len hpathW hwids).symm
        _ ≤ pathLen len a + distToRoot t len last' := d'.leaf_le hown' hmleaf hyr
        _ ≤ pathLen len a + distToRoot t len w := Nat.add_le_add_left h2 _)) hale

theorem greedy_single {t : Table} (hw : WF t) {len : Int → Int → Nat} (seqs : List (List Int))
    (hcov : ∀ x, x ∈ (seqs.flatMap fun s => s.dropLast) ↔ ∃ n ∈ t, ¬ n.parent < 0 ∧ n.id = x)
    (C : List Int) (r : Int) (hr : r ∈ isolatedIds t) (hCs : ∀ s ∈ seqs, ∀ x ∈ s, x ∈ C) (hrC : r ∉ C) :
    GreedyStep t len C [r] := by
  obtain ⟨nr, hnr, rfl, hnrp, hnrcc⟩ := mem_isolatedIds.mp hr
  refine ⟨nr.id, rfl, mem_tips.mpr ⟨nr, hnr, rfl, hnrcc⟩, hrC, (tipWalk_root C (find?_of_mem hw.1 hnr) hnrp).symm, ?_⟩
  intro m hm hmC
  obtain ⟨nm, hnm, rfl, hmcc⟩ := mem_tips.mp hm
  by_cases hp : nm.parent < 0
  · rw [tipWalk_root _ (find?_of_mem hw.1 hnm) hp, pathLen_single]; exact Nat.zero_le _
  · exfalso
    obtain ⟨a, has, hxa⟩ := List.mem_flatMap.mp ((hcov _).mpr ⟨nm, hnm, hp, rfl⟩)
    exact hmC (hCs a has _ (List.dropLast_subset a hxa))

/-- **`segments` is greedy**: on a well-formed forest with positive edge lengths, every segment is the walk of an
uncovered tip up to the nodes covered by the earlier segments (or the root), and no uncovered tip has a longer one. -/
theorem segments_greedy {t : Table} (hw : WF t) {len : Int → Int → Nat} (hpos : PosLen t len) :
    Greedy t len (segments t len) := by
  have hpermL : (sortedLeafs t len).Perm (leafIds t) := sortBy_perm _ _
  have hndL : ([] ++ sortedLeafs t len).Nodup := by
    rw [List.nil_append]; exact hpermL.nodup_iff.mpr (leafIds_nodup hw.1)
  have hleaf : ∀ l ∈ sortedLeafs t len, ∃ n ∈ t, n.id = l ∧ ¬ n.parent < 0 ∧ childCount t n.id = 0 :=
    fun l hl => mem_leafIds.mp (hpermL.mem_iff.mp hl)
  have hpw : (sortedLeafs t len).Pairwise (fun a b => distToRoot t len b ≤ distToRoot t len a) :=
    sortBy_desc_pairwise (distToRoot t len) (leafIds t)
  have hsi : SegInv t len (greedySeqs t (sortedLeafs t len)) :=
    SegInv.foldl hw len (sortedLeafs t len) [] [] [] (GInv.init t) (fun _ h => absurd h List.not_mem_nil) hleaf hndL
      (fun m hm => hpermL.mem_iff.mpr hm) hpw
  obtain ⟨hpp, hperm⟩ := greedySeqs_spec hw (sortedLeafs t len) hpermL
  have hnd : ((greedySeqs t (sortedLeafs t len)).flatMap fun s => s.dropLast).Nodup :=
    hperm.nodup_iff.mpr (nonroot_ids_nodup hw.1)
  have hcov : ∀ x, x ∈ ((greedySeqs t (sortedLeafs t len)).flatMap fun s => s.dropLast) ↔ ∃ n ∈ t, ¬ n.parent < 0 ∧ n.id = x :=
    fun x => by rw [hperm.mem_iff]; exact mem_nonroot_ids
  rw [segments_eq]
  have hfil : ((greedySeqs t (sortedLeafs t len)).filter fun s => s.length > 1) = greedySeqs t (sortedLeafs t len) :=
    List.filter_eq_self.mpr (fun s hs => by simpa using (hpp s hs).2)
  rw [hfil]
  generalize hS : sortBy (segLt len) (greedySeqs t (sortedLeafs t len)) = S
  have hSperm : S.Perm (greedySeqs t (sortedLeafs t len)) := by rw [← hS]; exact sortBy_perm _ _
  have hSpw : S.Pairwise (fun a b => pathLen len b ≤ pathLen len a) := by rw [← hS]; exact sortBy_segLt_pairwise len _
  intro k hk
  by_cases hkS : k < S.length
  · -- a sequence of the length-sorted list `S`: `greedy_core` at the split `S.take k ++ S[k] :: S.drop (k + 1)`
    have h1 : (S ++ (isolatedIds t).map fun i => [i]).take k = S.take k :=
      List.take_append_of_le_length (Nat.le_of_lt hkS)
    have h2 : (S ++ (isolatedIds t).map fun i => [i])[k] = S[k] := List.getElem_append_left hkS
    rw [h1, h2]
    have hdec : S = S.take k ++ S[k] :: S.drop (k + 1) := by
      rw [List.getElem_cons_drop]; exact (List.take_append_drop k S).symm
    have hpw' := hSpw
    rw [hdec, List.pairwise_append] at hpw'
    obtain ⟨_, hp2, hp3⟩ := hpw'
    refine greedy_core hw hpos _ hsi hnd hcov (S.take k) (S.drop (k + 1)) S[k] (by rw [← hdec]; exact hSperm) ?_ ?_
    · intro a ha; exact hp3 a ha S[k] List.mem_cons_self
    · intro b hb; exact (List.pairwise_cons.mp hp2).1 b hb
  · -- the single-node segments of isolated nodes
    have hkS' : S.length ≤ k := Nat.le_of_not_lt hkS
    have hj : k - S.length < (isolatedIds t).length := by
      rw [List.length_append, List.length_map] at hk
      exact Nat.sub_lt_left_of_lt_add hkS' hk
    have h2 : (S ++ (isolatedIds t).map fun i => [i])[k] = [(isolatedIds t)[k - S.length]] := by
      rw [List.getElem_append_right hkS']; simp
    have h1 : ((S ++ (isolatedIds t).map fun i => [i]).take k).flatten = S.flatten ++ (isolatedIds t).take (k - S.length) := by
      rw [List.take_append, List.take_of_length_le hkS', List.flatten_append, ← List.map_take, flatten_map_singleton]
    rw [h1, h2]
    have hiso : (isolatedIds t).Nodup := hw.1.sublist (List.filter_sublist.map _)
    have hr : (isolatedIds t)[k - S.length] ∈ isolatedIds t := List.getElem_mem hj
    obtain ⟨nr, hnr, hnrid, hnrp, hnrcc⟩ := mem_isolatedIds.mp hr
    refine greedy_single hw _ hcov _ _ hr ?_ ?_
    · intro s hs x hx
      exact List.mem_append_left _ (List.mem_flatten.mpr ⟨s, hSperm.mem_iff.mpr hs, hx⟩)
    · intro hmem
      rcases List.mem_append.mp hmem with h | h
      · obtain ⟨a, ha, hxa⟩ := List.mem_flatten.mp h
        have has := hSperm.mem_iff.mp ha
        obtain ⟨l', mid', last', d'⟩ := hsi a has
        rcases d'.mem_cases hxa with e | e
        · -- an owned node has the end of its sequence above it, a root has nothing above it
          have := own_above hw d'.hlast mid' l' d'.path _ e
          rw [← hnrid, rootPath_of_root (find?_of_mem hw.1 hnr) hnrp] at this
          simp at this
        · have := d'.last_pos
          rw [← e, ← hnrid] at this
          exact absurd hnrcc (Nat.ne_of_gt this)
      · exact not_mem_prefix_of_nodup (r := (isolatedIds t).drop (k - S.length + 1))
          (by rw [List.getElem_cons_drop, List.take_append_drop]; exact hiso) h

/-- A prefix of a greedy list is greedy (the first `n` segments are "the `n` longest paths taken greedily"). -/
theorem Greedy.take {t : Table} {len : Int → Int → Nat} {segs : List (List Int)} (h : Greedy t len segs) (n : Nat) :
    Greedy t len (segs.take n) := by
  intro k hk
  obtain ⟨hkn, hk'⟩ := Nat.lt_min.mp (List.length_take ▸ hk)
  rw [List.getElem_take, List.take_take, Nat.min_eq_left (Nat.le_of_lt hkn)]
  exact h k hk'

end Navis.PruneX

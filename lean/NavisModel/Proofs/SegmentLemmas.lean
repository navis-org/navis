import NavisModel.Proofs.DistLemmas
/-!
Undirected distances, cable length and the two segment decompositions of `Model/Dist.lean` (C05).  Four devices carry the
file: a *stretch* `rootPath t a = pre ++ rootPath t b` (no repetition, additivity of `distToRoot`, value of `distUp`);
`Meet`, the two stretches below the lowest common ancestor, behind the value of `geo … false` where the two root paths meet; `SmallSeg` (a stretch
between a seed and the first branch point / root, only slabs inside) with `SlabUp.unique` (a node lies above at most one
seed through slabs), behind `smallSegments_cover`; `GreedySeg` (one walk of `walkSeen`) with the fold invariant `GInv`,
behind `greedySeqs_spec`.  The cable length is the sum of `upLen` (the edge to the parent) over the non-roots, and so is the
total length of any family of parent paths that covers each non-root once (`sum_pathLen_eq_cable`).
-/
namespace Navis.Forest

/-! ### undirected chains (`UChain`) -/

/-- Consecutive nodes are adjacent in one direction or the other. -/
def UChain (t : Table) : List Int → Prop
  | a :: b :: rest => (adjacent t a b = true ∨ adjacent t b a = true) ∧ UChain t (b :: rest)
  | _ => True

theorem UChain_append {t : Table} (xs : List Int) (m : Int) (ys : List Int)
    (h1 : UChain t (xs ++ [m])) (h2 : UChain t (m :: ys)) : UChain t (xs ++ m :: ys) := by
  induction xs with
  | nil => exact h2
  | cons x xs ih =>
    cases xs with
    | nil => exact ⟨h1.1, h2⟩
    | cons y xs' => exact ⟨h1.1, ih h1.2⟩

theorem UChain_reverse {t : Table} (l : List Int) (h : UChain t l) : UChain t l.reverse := by
  induction l with
  | nil => exact h
  | cons a l ih =>
    cases l with
    | nil => exact h
    | cons b l' =>
      rw [List.reverse_cons, List.reverse_cons, List.append_assoc]
      show UChain t (l'.reverse ++ b :: [a])
      apply UChain_append
      · rw [← List.reverse_cons]; exact ih h.2
      · exact ⟨h.1.symm, trivial⟩

theorem UChain_spec {t : Table} (l : List Int) (h : UChain t l) :
    ∀ k (h1 : k + 1 < l.length),
      adjacent t (l[k]'(by omega)) (l[k+1]) = true ∨ adjacent t (l[k+1]) (l[k]'(by omega)) = true :=
  consecutive_spec (R := fun a b => adjacent t a b = true ∨ adjacent t b a = true) (chk := UChain t)
    (fun _ _ _ h => h) l h

theorem Linked_UChain {t : Table} : ∀ (l : List Int), Linked t l → UChain t l
  | [], _ => trivial
  | [_], _ => trivial
  | a :: b :: rest, h => by
    obtain ⟨⟨n, h1, h2, h3⟩, h'⟩ := h
    exact ⟨Or.inl ((adjacent_iff t a b).mpr ⟨n, h1, by omega, h2⟩), Linked_UChain (b :: rest) h'⟩

theorem Linked_isParentPath {t : Table} : ∀ (l : List Int), l ≠ [] → Linked t l → isParentPath t l = true
  | [], h, _ => absurd rfl h
  | [_], _, _ => rfl
  | a :: b :: rest, _, h => by
    obtain ⟨⟨n, h1, h2, h3⟩, h'⟩ := h
    show (adjacent t a b && isParentPath t (b :: rest)) = true
    rw [(adjacent_iff t a b).mpr ⟨n, h1, by omega, h2⟩, Linked_isParentPath (b :: rest) (by simp) h']
    rfl

/-! ### a stretch of a root path: `rootPath t a = pre ++ rootPath t b` -/

theorem stretch_nodup {t : Table} (hw : WF t) {a b : Int} {pre : List Int} (h : rootPath t a = pre ++ rootPath t b) :
    pre.Nodup ∧ ∀ x ∈ pre, x ∉ rootPath t b := by
  have := List.nodup_append.mp (h ▸ rootPath_nodup hw a)
  exact ⟨this.1, fun x hx hx' => this.2.2 x hx x hx' rfl⟩

theorem distToRoot_stretch {t : Table} (len : Int → Int → Nat) {a b : Int} {pre : List Int}
    (h : rootPath t a = pre ++ rootPath t b) (hb : b ∈ ids t) :
    distToRoot t len a = pathLen len (pre ++ [b]) + distToRoot t len b := by
  obtain ⟨rest, hr⟩ := rootPath_cons hb
  unfold distToRoot
  rw [h, hr, pathLen_append]

theorem distUp_of_stretch {t : Table} (len : Int → Int → Nat) {a b : Int} {pre : List Int}
    (h : rootPath t a = pre ++ rootPath t b) (hb : b ∈ ids t) (hnot : b ∉ pre) :
    distUp t len a b = some (pathLen len (pre ++ [b])) := by
  obtain ⟨rest, hr⟩ := rootPath_cons hb
  unfold distUp
  rw [h, hr, uptoIncl_append rest hnot]
  rfl

theorem distUp_stretch {t : Table} (hw : WF t) (len : Int → Int → Nat) {a b : Int} {pre : List Int}
    (h : rootPath t a = pre ++ rootPath t b) (hb : b ∈ ids t) :
    distUp t len a b = some (pathLen len (pre ++ [b])) :=
  distUp_of_stretch len h hb fun hm => (stretch_nodup hw h).2 b hm (rootPath_head_mem hb)

/-! ### `Meet`: two root paths below their lowest common ancestor -/

/-- The root paths of `a` and `b` meet in `l`: they share the root path of `l`, and are disjoint
before it. -/
structure Meet (t : Table) (a b l : Int) (pa pb : List Int) : Prop where
  ha : rootPath t a = pa ++ rootPath t l
  hb : rootPath t b = pb ++ rootPath t l
  da : ∀ x ∈ pa, x ∉ rootPath t b
  db : ∀ x ∈ pb, x ∉ rootPath t a
  hl : l ∈ ids t

theorem Meet.symm {t : Table} {a b l : Int} {pa pb : List Int} (m : Meet t a b l pa pb) : Meet t b a l pb pa :=
  ⟨m.hb, m.ha, m.db, m.da, m.hl⟩

/-- The meeting point is `lca`: a common ancestor lies above it, hence on neither stretch below it. -/
theorem meet_or_disjoint {t : Table} (hw : WF t) (a b : Int) :
    (∀ x ∈ rootPath t a, x ∉ rootPath t b) ∨ ∃ l pa pb, Meet t a b l pa pb := by
  cases h : lca t a b with
  | none => exact Or.inl fun x hx hx' => by simpa [hx'] using List.find?_eq_none.mp h x hx
  | some l =>
    obtain ⟨la, lb, lmin⟩ := lca_spec hw h
    obtain ⟨pa, ha⟩ := rootPath_suffix hw la
    obtain ⟨pb, hb⟩ := rootPath_suffix hw lb
    exact Or.inr ⟨l, pa, pb, ha.symm, hb.symm,
      fun x hx hxb => (stretch_nodup hw ha.symm).2 x hx (lmin x (ha ▸ List.mem_append_left _ hx) hxb),
      fun x hx hxa => (stretch_nodup hw hb.symm).2 x hx (lmin x hxa (hb ▸ List.mem_append_left _ hx)),
      (anc_ids la).1⟩

namespace Meet
variable {t : Table} {a b l : Int} {pa pb : List Int}

theorem l_mem_b (m : Meet t a b l pa pb) : l ∈ rootPath t b := by
  rw [m.hb]; exact List.mem_append_right _ (rootPath_head_mem m.hl)

theorem l_mem_a (m : Meet t a b l pa pb) : l ∈ rootPath t a := m.symm.l_mem_b

theorem l_not_pa (m : Meet t a b l pa pb) : l ∉ pa := fun h => m.da l h m.l_mem_b

theorem head_pa (m : Meet t a b l pa pb) : (pa ++ [l]).head? = some a := by
  obtain ⟨ra, hra⟩ := rootPath_cons (anc_ids m.l_mem_a).2
  obtain ⟨rl, hrl⟩ := rootPath_cons m.hl
  have h := m.ha
  rw [hra, hrl] at h
  cases pa with
  | nil => rw [(List.cons.inj h).1]; rfl
  | cons x pa' => rw [(List.cons.inj h).1]; rfl

theorem lca_eq (m : Meet t a b l pa pb) : lca t a b = some l := by
  obtain ⟨rest, hr⟩ := rootPath_cons m.hl
  unfold lca
  simp only
  rw [m.ha, hr, List.find?_append]
  have h1 : List.find? (fun i => (rootPath t b).contains i) pa = none := by
    rw [List.find?_eq_none]
    intro x hx
    simpa using m.da x hx
  have h2 : (rootPath t b).contains l = true := by simpa using m.l_mem_b
  rw [h1, List.find?_cons, h2]; rfl

theorem distUp_eq (m : Meet t a b l pa pb) (len : Int → Int → Nat) :
    distUp t len a l = some (pathLen len (pa ++ [l])) :=
  distUp_of_stretch len m.ha m.hl m.l_not_pa

theorem geo_eq (m : Meet t a b l pa pb) (len : Int → Int → Nat) :
    geo t len false a b = some (pathLen len (pa ++ [l]) + pathLen len (pb ++ [l])) := by
  unfold geo
  simp only [Bool.false_eq_true, if_false, m.lca_eq, m.distUp_eq, m.symm.distUp_eq]

theorem rootOf_eq (m : Meet t a b l pa pb) : rootOf t a = rootOf t b := by
  obtain ⟨rest, hr⟩ := rootPath_cons m.hl
  unfold rootOf
  rw [m.ha, m.hb, List.getLast?_append, List.getLast?_append, hr]
  cases h : (l :: rest).getLast? with
  | none => simp at h
  | some r => rfl

end Meet

theorem geo_of_disjoint {t : Table} {a b : Int} (len : Int → Int → Nat)
    (h : ∀ x ∈ rootPath t a, x ∉ rootPath t b) : geo t len false a b = none := by
  unfold geo
  simp only [Bool.false_eq_true, if_false, lca_of_disjoint h]

/-- The distance is the length of an explicit undirected path: up to the lowest common ancestor and
down again. -/
theorem geo_path {t : Table} (hw : WF t) {len : Int → Int → Nat} (hs : ∀ a b, len a b = len b a) {a b : Int} {d : Nat}
    (h : geo t len false a b = some d) :
    ∃ p : List Int, p.head? = some a ∧ p.getLast? = some b ∧ p.Nodup ∧ UChain t p ∧ d = pathLen len p := by
  rcases meet_or_disjoint hw a b with hd | ⟨l, pa, pb, m⟩
  · rw [geo_of_disjoint len hd] at h; simp at h
  · rw [m.geo_eq] at h
    simp only [Option.some.injEq] at h
    have hha := m.head_pa
    have hhb := m.symm.head_pa
    have hla : Linked t (pa ++ [l]) := Linked_rootPath_prefix m.ha m.hl
    have hlb : Linked t (pb ++ [l]) := Linked_rootPath_prefix m.hb m.hl
    have hrev : (pb ++ [l]).reverse = l :: pb.reverse := by simp
    refine ⟨pa ++ l :: pb.reverse, ?_, ?_, ?_, ?_, ?_⟩
    · cases pa with
      | nil => simpa using hha
      | cons x pa' => simpa using hha
    · rw [← hrev, List.getLast?_append, List.getLast?_reverse, hhb]; rfl
    · rw [List.nodup_append]
      refine ⟨(stretch_nodup hw m.ha).1, ?_, ?_⟩
      · rw [List.nodup_cons]
        exact ⟨fun hm => m.db l (List.mem_reverse.mp hm) m.l_mem_a,
          List.pairwise_reverse.mpr ((stretch_nodup hw m.hb).1.imp fun h => h.symm)⟩
      · intro x hx y hy hxy
        rcases List.mem_cons.mp hy with h1 | h1
        · exact m.l_not_pa (h1 ▸ hxy ▸ hx)
        · apply m.db y (List.mem_reverse.mp h1)
          rw [m.ha, ← hxy]; exact List.mem_append_left _ hx
    · apply UChain_append
      · exact Linked_UChain _ hla
      · rw [← hrev]; exact UChain_reverse _ (Linked_UChain _ hlb)
    · rw [pathLen_append, ← hrev, pathLen_reverse hs, h]

/-! ### the cable length as a sum of `upLen` -/

/-- Length of the edge from `x` to its parent (0 for roots and absent nodes). -/
def upLen (t : Table) (len : Int → Int → Nat) (x : Int) : Nat :=
  match find? t x with
  | some n => if n.parent < 0 then 0 else len x n.parent
  | none => 0

theorem pathLen_parentPath {t : Table} (len : Int → Int → Nat) :
    ∀ (s : List Int), isParentPath t s = true → pathLen len s = (s.dropLast.map (upLen t len)).sum
  | [], h => by simp [isParentPath] at h
  | [_], _ => rfl
  | a :: b :: rest, h => by
    simp only [isParentPath, Bool.and_eq_true] at h
    obtain ⟨n, h1, h2, h3⟩ := (adjacent_iff t a b).mp h.1
    have hu : upLen t len a = len a b := by
      unfold upLen; rw [h1]; simp only; rw [if_neg (by omega), h3]
    rw [pathLen_cons_cons, pathLen_parentPath len (b :: rest) h.2, List.dropLast_cons_cons, List.map_cons,
      List.sum_cons, hu]

theorem sum_pathLen_segs {t : Table} (len : Int → Int → Nat) (segs : List (List Int))
    (hall : ∀ s ∈ segs, isParentPath t s = true) :
    (segs.map (pathLen len)).sum =
      (((segs.filter fun s => s.length > 1).flatMap fun s => s.dropLast).map (upLen t len)).sum := by
  induction segs with
  | nil => rfl
  | cons s segs ih =>
    have ih' := ih (fun s' hs' => hall s' (List.mem_cons_of_mem _ hs'))
    have hs := hall s List.mem_cons_self
    rw [List.map_cons, List.sum_cons, ih', pathLen_parentPath len s hs, List.filter_cons]
    by_cases hl : s.length > 1
    · simp only [hl, decide_true, if_true, List.flatMap_cons, List.map_append, List.sum_append]
    · simp only [hl, decide_false, Bool.false_eq_true, if_false]
      have : s.dropLast = [] := by
        cases s with
        | nil => rfl
        | cons a r =>
          cases r with
          | nil => rfl
          | cons b r' => simp at hl
      rw [this]; simp

theorem cable_eq_sum_upLen {t : Table} (hnd : (ids t).Nodup) (len : Int → Int → Nat) :
    cable t len = (((t.filter fun n => !isRootNode n).map (·.id)).map (upLen t len)).sum := by
  unfold cable
  rw [List.map_map]
  congr 1
  apply List.map_congr_left
  intro n hn
  have hn' := List.mem_filter.mp hn
  have hp : ¬ n.parent < 0 := by simpa [isRootNode] using hn'.2
  simp only [Function.comp, upLen, find?_of_mem hnd hn'.1, if_neg hp]

theorem sum_pathLen_eq_cable {t : Table} (hnd : (ids t).Nodup) (len : Int → Int → Nat) (segs : List (List Int))
    (hall : ∀ s ∈ segs, isParentPath t s = true)
    (hperm : ((segs.filter fun s => s.length > 1).flatMap fun s => s.dropLast).Perm
      ((t.filter fun n => !isRootNode n).map (·.id))) :
    (segs.map (pathLen len)).sum = cable t len := by
  rw [sum_pathLen_segs len segs hall, cable_eq_sum_upLen hnd len]
  exact (hperm.map _).sum_nat

/-! ### small segments: `SmallSeg`, `SlabUp` -/

theorem isBranchOrRoot_of_find {t : Table} {i : Int} {n : Node} (hf : find? t i = some n) :
    isBranchOrRoot t i = (decide (n.parent < 0) || decide (childCount t i > 1)) := by
  unfold isBranchOrRoot; rw [hf]

theorem not_stop {t : Table} {x : Int} (h : isBranchOrRoot t x = false) :
    ∃ n, find? t x = some n ∧ ¬ n.parent < 0 ∧ childCount t x ≤ 1 := by
  cases hf : find? t x with
  | none => unfold isBranchOrRoot at h; rw [hf] at h; simp at h
  | some n =>
    rw [isBranchOrRoot_of_find hf] at h
    simp only [Bool.or_eq_false_iff, decide_eq_false_iff_not] at h
    exact ⟨n, rfl, h.1, by omega⟩

theorem walkToStop_root {t : Table} (stop : Int → Bool) {i : Int} {n : Node} (hf : find? t i = some n)
    (hp : n.parent < 0) (fuel : Nat) : walkToStop t stop fuel i = [] := by
  cases fuel with
  | zero => rfl
  | succ f => rw [walkToStop]; simp only [hf, if_pos hp]

theorem walkToStop_step {t : Table} (stop : Int → Bool) {i : Int} {n : Node} (hf : find? t i = some n)
    (hp : ¬ n.parent < 0) (fuel : Nat) :
    walkToStop t stop (fuel + 1) i =
      if stop n.parent then [n.parent] else n.parent :: walkToStop t stop fuel n.parent := by
  rw [walkToStop]; simp only [hf, if_neg hp]

/-- `s :: mid ++ [last]` is a small segment starting at `s`. -/
structure SmallSeg (t : Table) (s : Int) (mid : List Int) (last : Int) : Prop where
  stop : isBranchOrRoot t last = true
  nostop : ∀ x ∈ mid, isBranchOrRoot t x = false
  path : rootPath t s = (s :: mid) ++ rootPath t last
  hlast : last ∈ ids t

/-- The walk from a non-root node follows its root path over a stretch `mid` on which `P` fails, up to a node `last`
where `P` holds or which is a root. -/
theorem walkToStop_gen {t : Table} (hw : WF t) (P : Int → Bool) :
    ∀ (fuel : Nat) (i : Int) (n : Node), find? t i = some n → ¬ n.parent < 0 → (rootPath t i).length ≤ fuel →
      ∃ mid last, walkToStop t P fuel i = mid ++ [last] ∧ rootPath t i = (i :: mid) ++ rootPath t last ∧
        last ∈ ids t ∧ (∀ x ∈ mid, P x = false) ∧ (P last = true ∨ ∃ r, find? t last = some r ∧ r.parent < 0) := by
  intro fuel i
  fun_induction walkToStop t P fuel i with
  | case1 i =>
    intro n hf _ hlen
    exact absurd (Nat.le_trans (dep_pos (mem_ids_of_find? hf)) hlen) (Nat.not_succ_le_zero _)
  | case2 _ i h => intro n hf; rw [h] at hf; cases hf
  | case3 _ i m h hm => intro n hf hp; cases h.symm.trans hf; exact absurd hm hp
  | case4 fuel i m h _ hst =>
    intro n hf hp _
    cases h.symm.trans hf
    exact ⟨[], m.parent, rfl, by rw [rootPath_of_nonroot hw hf hp]; rfl, WF_parent_mem hw (find?_some hf).1 hp, nofun,
      Or.inl hst⟩
  | case5 fuel i m h _ hst ih =>
    intro n hf hp hlen
    cases h.symm.trans hf
    have e := rootPath_of_nonroot hw hf hp
    have hpm := WF_parent_mem hw (find?_some hf).1 hp
    obtain ⟨pn, hfp⟩ := Option.isSome_iff_exists.mp (find?_isSome_iff.mpr hpm)
    by_cases hpp : pn.parent < 0
    · -- the parent is a root: `walkToStop` returns `[]` there, not `mid ++ [last]`, so this case is not the recursion's
      rw [walkToStop_root P hfp hpp]
      exact ⟨[], m.parent, rfl, by rw [e]; rfl, hpm, nofun, Or.inr ⟨pn, hfp, hpp⟩⟩
    · obtain ⟨mid, last, hw', hpath, hl, hns, hstop⟩ :=
        ih pn hfp hpp (by rw [e] at hlen; exact Nat.le_of_succ_le_succ hlen)
      exact ⟨m.parent :: mid, last, by rw [hw']; rfl, by rw [e, hpath]; rfl, hl,
        List.forall_mem_cons.mpr ⟨by simpa using hst, hns⟩, hstop⟩

/-- The small segment seeded at `i`. -/
def segOf (t : Table) (i : Int) : List Int := i :: walkToStop t (isBranchOrRoot t) (t.length + 1) i

theorem smallSegments_eq (t : Table) :
    smallSegments t = (t.filter fun n => !isRootNode n && childCount t n.id != 1).map fun n => segOf t n.id := rfl

theorem segOf_spec {t : Table} (hw : WF t) {n : Node} (hn : n ∈ t) (hp : ¬ n.parent < 0) :
    ∃ mid last, segOf t n.id = n.id :: mid ++ [last] ∧ SmallSeg t n.id mid last := by
  have hf := find?_of_mem hw.1 hn
  obtain ⟨mid, last, h1, hpath, hl, hns, hstop⟩ :=
    walkToStop_gen hw (isBranchOrRoot t) (t.length + 1) n.id n hf hp (Nat.le_succ_of_le (rootPath_length_le hw n.id))
  refine ⟨mid, last, by unfold segOf; rw [h1]; rfl, ?_, hns, hpath, hl⟩
  -- a root stops the walk as well
  rcases hstop with h | ⟨r, hr, hrp⟩
  · exact h
  · rw [isBranchOrRoot_of_find hr, decide_eq_true hrp]; rfl

namespace SmallSeg
variable {t : Table} {s : Int} {mid : List Int} {last : Int}

theorem linked (h : SmallSeg t s mid last) : Linked t (s :: mid ++ [last]) :=
  Linked_rootPath_prefix h.path h.hlast

theorem nodup (h : SmallSeg t s mid last) (hw : WF t) : (s :: mid).Nodup := (stretch_nodup hw h.path).1

theorem linked_init (h : SmallSeg t s mid last) : Linked t (s :: mid) :=
  Linked_prefix (s :: mid) [last] h.linked

theorem mid_slab (h : SmallSeg t s mid last) : ∀ x ∈ mid, childCount t x = 1 ∧ isBranchOrRoot t x = false := by
  intro x hx
  obtain ⟨_, _, _, hc⟩ := not_stop (h.nostop x hx)
  have := Linked_childCount_pos s mid h.linked_init x hx
  exact ⟨by omega, h.nostop x hx⟩

theorem parent_next (h : SmallSeg t s mid last) {c : Node} (hc : c ∈ t) (hnd : (ids t).Nodup) (hcm : c.id ∈ s :: mid) :
    c.parent ∈ mid ++ [last] := by
  obtain ⟨n, hf, _, hm⟩ := Linked_next_mem mid s last h.linked c.id hcm
  rw [find?_of_mem hnd hc] at hf
  exact Option.some.inj hf ▸ hm

/-- If the parent of a non-last node is a slab it is again non-last. -/
theorem parent_mem (h : SmallSeg t s mid last) {c : Node} (hc : c ∈ t) (hnd : (ids t).Nodup) (hcm : c.id ∈ s :: mid)
    (hns : isBranchOrRoot t c.parent = false) : c.parent ∈ s :: mid := by
  rcases List.mem_append.mp (h.parent_next hc hnd hcm) with h1 | h1
  · exact List.mem_cons_of_mem _ h1
  · rw [List.mem_singleton.mp h1, h.stop] at hns; cases hns

end SmallSeg

/-- `SlabUp t s x`: walking up from `s`, every node after `s` up to and including `x` is a slab. -/
inductive SlabUp (t : Table) (s : Int) : Int → Prop
  | refl : SlabUp t s s
  | step {y : Int} {n : Node} : SlabUp t s y → find? t y = some n → isBranchOrRoot t n.parent = false →
      SlabUp t s n.parent

theorem SlabUp.inv {t : Table} {s x : Int} (h : SlabUp t s x) :
    x = s ∨ ∃ y n, SlabUp t s y ∧ find? t y = some n ∧ isBranchOrRoot t n.parent = false ∧ x = n.parent := by
  cases h with
  | refl => exact Or.inl rfl
  | step h1 h2 h3 => exact Or.inr ⟨_, _, h1, h2, h3, rfl⟩

theorem slabUp_of_linked {t : Table} {s : Int} : ∀ (mid : List Int) (y : Int), SlabUp t s y → Linked t (y :: mid) →
    (∀ x ∈ mid, isBranchOrRoot t x = false) → ∀ x ∈ y :: mid, SlabUp t s x := by
  intro mid
  induction mid with
  | nil => intro y hy _ _; exact List.forall_mem_singleton.mpr hy
  | cons z mid ih =>
    intro y hy hl hns
    obtain ⟨⟨n, h1, h2, _⟩, hl'⟩ := hl
    have hz : SlabUp t s z := by
      rw [← h2]; exact SlabUp.step hy h1 (by rw [h2]; exact hns z List.mem_cons_self)
    exact List.forall_mem_cons.mpr ⟨hy, ih z hz hl' fun x hx => hns x (List.mem_cons_of_mem _ hx)⟩

theorem SmallSeg.slabUp {t : Table} {s : Int} {mid : List Int} {last : Int} (h : SmallSeg t s mid last) :
    ∀ x ∈ s :: mid, SlabUp t s x :=
  slabUp_of_linked mid s SlabUp.refl h.linked_init h.nostop

/-- A node lies above at most one seed through slabs only. -/
theorem SlabUp.unique {t : Table} {s1 s2 x : Int} (h1 : SlabUp t s1 x) (h2 : SlabUp t s2 x)
    (hs1 : childCount t s1 ≠ 1) (hs2 : childCount t s2 ≠ 1) : s1 = s2 := by
  induction h1 generalizing s2 with
  | refl =>
    rcases h2.inv with h | ⟨y, n, _, hf, hns, hx⟩
    · exact h
    · obtain ⟨_, _, _, hc⟩ := not_stop hns
      have := childCount_pos_of_child (find?_some hf).1
      rw [← hx] at hc this
      omega
  | @step y n h1' hf hns ih =>
    obtain ⟨_, _, _, hc⟩ := not_stop hns
    have hpos := childCount_pos_of_child (find?_some hf).1
    rcases h2.inv with h | ⟨y', n', h2', hf', _, hx⟩
    · rw [h] at hc hpos; omega
    · have hn := find?_some hf
      have hn' := find?_some hf'
      have : n = n' := child_unique hc hn.1 hn'.1 rfl hx.symm
      have hy : y' = y := by rw [← hn.2, ← hn'.2, this]
      rw [hy] at h2'
      exact ih h2' hs2

theorem mem_segOf_dropLast_self {t : Table} (hw : WF t) {n : Node} (hn : n ∈ t) (hp : ¬ n.parent < 0) :
    n.id ∈ (segOf t n.id).dropLast := by
  obtain ⟨mid, last, h1, _⟩ := segOf_spec hw hn hp
  rw [h1, List.dropLast_concat]; exact List.mem_cons_self

/-- Onto: a non-root with exactly one child lies on the segment of the seed below its child (`parent_mem`); any other
non-root is its own seed. -/
theorem exists_seed_below {t : Table} (hw : WF t) :
    ∀ x ∈ t, ¬ x.parent < 0 →
      ∃ n ∈ t, ¬ n.parent < 0 ∧ childCount t n.id ≠ 1 ∧ x.id ∈ (segOf t n.id).dropLast := by
  refine WF_induct_down hw _ ?_
  intro x hx ih hp
  by_cases hcc : childCount t x.id = 1
  · obtain ⟨c, hc, hcp⟩ := exists_child_of_pos (t := t) (i := x.id) (by omega)
    have hcnr := WF_nonroot_of_parent_eq hw hx hcp
    obtain ⟨n, hn, hnp, hncc, hmem⟩ := ih c hc hcp hcnr
    refine ⟨n, hn, hnp, hncc, ?_⟩
    obtain ⟨mid, last, h1, hs⟩ := segOf_spec hw hn hnp
    rw [h1, List.dropLast_concat] at hmem ⊢
    have hns : isBranchOrRoot t c.parent = false := by
      rw [hcp, isBranchOrRoot_of_find (find?_of_mem hw.1 hx)]
      simp [hp, hcc]
    have := hs.parent_mem hc hw.1 hmem hns
    rw [hcp] at this; exact this
  · exact ⟨x, hx, hp, hcc, mem_segOf_dropLast_self hw hx hp⟩

theorem nonroot_ids_nodup {t : Table} (hnd : (ids t).Nodup) : ((t.filter fun n => !isRootNode n).map (·.id)).Nodup :=
  nodup_map_id_filter hnd _

theorem mem_nonroot_ids {t : Table} {x : Int} :
    x ∈ (t.filter fun n => !isRootNode n).map (·.id) ↔ ∃ n ∈ t, ¬ n.parent < 0 ∧ n.id = x := by
  simp only [mem_map_id_filter, isRootNode, Bool.not_eq_true', decide_eq_false_iff_not, and_comm]

theorem mem_seeds {t : Table} {n : Node} :
    n ∈ (t.filter fun n => !isRootNode n && childCount t n.id != 1) ↔ n ∈ t ∧ ¬ n.parent < 0 ∧ childCount t n.id ≠ 1 := by
  simp [List.mem_filter, isRootNode]

theorem mem_smallSegments_iff {t : Table} {s : List Int} :
    s ∈ smallSegments t ↔ ∃ n ∈ t, ¬ n.parent < 0 ∧ childCount t n.id ≠ 1 ∧ segOf t n.id = s := by
  simp only [smallSegments_eq, List.mem_map, mem_seeds, and_assoc]

theorem mem_smallSegments {t : Table} (hw : WF t) {s : List Int} (hs : s ∈ smallSegments t) :
    ∃ n ∈ t, ¬ n.parent < 0 ∧ childCount t n.id ≠ 1 ∧
      ∃ mid last, s = n.id :: mid ++ [last] ∧ SmallSeg t n.id mid last := by
  obtain ⟨n, hn, hp, hcc, rfl⟩ := mem_smallSegments_iff.mp hs
  exact ⟨n, hn, hp, hcc, segOf_spec hw hn hp⟩

/-- What `smallSegmentsOKB` demands of one segment: a child→parent path of at least two nodes from a non-root
leaf/branch point to a branch point or root, with only slabs in between. -/
structure SmallSegShape (t : Table) (s : List Int) : Prop where
  path : isParentPath t s = true
  long : s.length > 1
  head : ∃ hd n, s.head? = some hd ∧ find? t hd = some n ∧ ¬ n.parent < 0 ∧ childCount t hd ≠ 1
  last : ∃ l, s.getLast? = some l ∧ isBranchOrRoot t l = true
  inner : ∀ i ∈ (s.drop 1).dropLast, childCount t i = 1 ∧ isBranchOrRoot t i = false

theorem smallSegments_shape {t : Table} (hw : WF t) : ∀ s ∈ smallSegments t, SmallSegShape t s := by
  intro s hs
  obtain ⟨n, hn, hp, hcc, mid, last, rfl, hseg⟩ := mem_smallSegments hw hs
  refine ⟨Linked_isParentPath _ (by simp) hseg.linked, by simp, ⟨n.id, n, rfl, find?_of_mem hw.1 hn, hp, hcc⟩,
    ⟨last, List.getLast?_concat, hseg.stop⟩, ?_⟩
  show ∀ i ∈ (mid ++ [last]).dropLast, _
  rw [List.dropLast_concat]
  exact hseg.mid_slab

theorem smallSegments_isParentPath {t : Table} (hw : WF t) : ∀ s ∈ smallSegments t, isParentPath t s = true :=
  fun s hs => (smallSegments_shape hw s hs).path

theorem smallSegments_filter_long {t : Table} (hw : WF t) :
    ((smallSegments t).filter fun s => s.length > 1) = smallSegments t :=
  List.filter_eq_self.mpr fun s hs => decide_eq_true (smallSegments_shape hw s hs).long

/-- **Edge partition by small segments**: the non-last nodes of the small segments are the non-root
nodes, each exactly once. -/
theorem smallSegments_cover {t : Table} (hw : WF t) :
    (((smallSegments t).filter fun s => s.length > 1).flatMap fun s => s.dropLast).Perm
      ((t.filter fun n => !isRootNode n).map (·.id)) := by
  rw [smallSegments_filter_long hw]
  apply (List.perm_ext_iff_of_nodup ?_ (nonroot_ids_nodup hw.1)).mpr
  · intro x
    rw [mem_nonroot_ids, List.mem_flatMap]
    constructor
    · rintro ⟨s, hs, hx⟩
      obtain ⟨n, hn, hp, _, mid, last, rfl, hseg⟩ := mem_smallSegments hw hs
      rw [List.dropLast_concat] at hx
      rcases List.mem_cons.mp hx with h | h
      · exact ⟨n, hn, hp, h.symm⟩
      · obtain ⟨nx, hf, hnp, _⟩ := not_stop (hseg.nostop x h)
        exact ⟨nx, (find?_some hf).1, hnp, (find?_some hf).2⟩
    · rintro ⟨nx, h1, h2, rfl⟩
      obtain ⟨n, hn, hnp, hncc, hmem⟩ := exists_seed_below hw nx h1 h2
      exact ⟨_, mem_smallSegments_iff.mpr ⟨n, hn, hnp, hncc, rfl⟩, hmem⟩
  · rw [smallSegments_eq, List.flatMap_map]
    show List.Pairwise (· ≠ ·) _
    rw [List.pairwise_flatMap]
    constructor
    · intro n hn
      obtain ⟨h1, h2, _⟩ := mem_seeds.mp hn
      obtain ⟨mid, last, e, hs⟩ := segOf_spec hw h1 h2
      rw [e, List.dropLast_concat]
      exact hs.nodup hw
    · have hp : t.Pairwise fun a b => a.id ≠ b.id := List.pairwise_map.mp hw.1
      refine List.Pairwise.imp_of_mem ?_ (hp.filter _)
      intro n1 n2 hn1 hn2 hne x hx1 y hx2 hxy
      obtain ⟨h1, h2, h3⟩ := mem_seeds.mp hn1
      obtain ⟨h1', h2', h3'⟩ := mem_seeds.mp hn2
      obtain ⟨mid, last, e, hs⟩ := segOf_spec hw h1 h2
      obtain ⟨mid', last', e', hs'⟩ := segOf_spec hw h1' h2'
      rw [e, List.dropLast_concat] at hx1
      rw [e', List.dropLast_concat] at hx2
      rw [← hxy] at hx2
      exact hne ((hs.slabUp x hx1).unique (hs'.slabUp x hx2) h3 h3')

theorem smallSegmentsOKB_iff (t : Table) (segs : List (List Int)) :
    smallSegmentsOKB t segs = true ↔ (∀ s ∈ segs, SmallSegShape t s) ∧
      ((segs.filter fun s => s.length > 1).flatMap fun s => s.dropLast).Perm ((t.filter fun n => !isRootNode n).map (·.id)) := by
  unfold smallSegmentsOKB
  rw [Bool.and_eq_true, List.all_eq_true, coversEdgesOnce_iff]
  refine and_congr_left' (forall₂_congr fun s _ => ?_)
  rw [Bool.and_eq_true, Bool.and_eq_true, Bool.and_eq_true, Bool.and_eq_true, decide_eq_true_eq, List.all_eq_true]
  constructor
  · rintro ⟨⟨⟨⟨a, b⟩, c⟩, d⟩, e⟩
    refine ⟨a, b, ?_, ?_, fun i hi => ?_⟩
    · cases hh : s.head? with
      | none => rw [hh] at c; cases c
      | some h =>
        rw [hh] at c
        cases hf : find? t h with
        | none => simp only [hf] at c; cases c
        | some n =>
          simp only [hf, Bool.and_eq_true, Bool.not_eq_true', decide_eq_false_iff_not, bne_iff_ne, ne_eq] at c
          exact ⟨h, n, rfl, hf, c⟩
    · cases hl : s.getLast? with
      | none => rw [hl] at d; cases d
      | some l => rw [hl] at d; exact ⟨l, rfl, d⟩
    · simpa using e i hi
  · intro h
    obtain ⟨hd, n, e1, e2, e3, e4⟩ := h.head
    obtain ⟨l, e5, e6⟩ := h.last
    refine ⟨⟨⟨⟨h.path, h.long⟩, ?_⟩, ?_⟩, fun i hi => ?_⟩
    · rw [e1]; simp only [e2]; simpa using ⟨Int.not_lt.mp e3, e4⟩
    · rw [e5]; exact e6
    · simpa using h.inner i hi

theorem smallSegments_ok {t : Table} (hw : WF t) : smallSegmentsOKB t (smallSegments t) = true :=
  (smallSegmentsOKB_iff t _).mpr ⟨smallSegments_shape hw, smallSegments_cover hw⟩

/-! ### greedy segments: `GreedySeg`, `GInv` -/

/-- The non-root leafs; `Model/Flow.lean` spells the same list as `Flow.leafIds` (equal by `rfl`). -/
def leafIds (t : Table) : List Int := (t.filter fun n => !isRootNode n && childCount t n.id == 0).map (·.id)

theorem mem_leafIds {t : Table} {x : Int} :
    x ∈ leafIds t ↔ ∃ n ∈ t, n.id = x ∧ ¬ n.parent < 0 ∧ childCount t n.id = 0 := by
  unfold leafIds
  simp only [mem_map_id_filter, isRootNode, Bool.and_eq_true, Bool.not_eq_true', decide_eq_false_iff_not, beq_iff_eq]

theorem leafIds_nodup {t : Table} (hnd : (ids t).Nodup) : (leafIds t).Nodup := nodup_map_id_filter hnd _

def isolatedIds (t : Table) : List Int := (t.filter fun n => isRootNode n && childCount t n.id == 0).map (·.id)

theorem mem_isolatedIds {t : Table} {x : Int} :
    x ∈ isolatedIds t ↔ ∃ n ∈ t, n.id = x ∧ n.parent < 0 ∧ childCount t n.id = 0 := by
  unfold isolatedIds
  simp only [mem_map_id_filter, isRootNode, Bool.and_eq_true, decide_eq_true_eq, beq_iff_eq]

def greedyStep (t : Table) (acc : List (List Int) × List Int) (l : Int) : List (List Int) × List Int :=
  ((acc.1 ++ [l :: (walkSeen t (t.length + 1) l acc.2).1]), (walkSeen t (t.length + 1) l acc.2).2)

/-- The leafs in the order in which `segments` processes them. -/
def sortedLeafs (t : Table) (len : Int → Int → Nat) : List Int :=
  sortBy (fun y x => decide (distToRoot t len x ≤ distToRoot t len y)) (leafIds t)

def greedySeqs (t : Table) (leafs : List Int) : List (List Int) := (leafs.foldl (greedyStep t) ([], [])).1

def segLt (len : Int → Int → Nat) (y x : List Int) : Bool :=
  decide (pathLen len x < pathLen len y) || (pathLen len x == pathLen len y && !lexLt y x)

theorem segments_eq (t : Table) (len : Int → Int → Nat) :
    segments t len =
      sortBy (segLt len) ((greedySeqs t (sortedLeafs t len)).filter fun s => s.length > 1) ++
        (isolatedIds t).map fun i => [i] := by
  unfold isolatedIds
  rw [List.map_map]
  rfl

theorem walkSeen_root {t : Table} {i : Int} {n : Node} (hf : find? t i = some n) (hp : n.parent < 0) (fuel : Nat)
    (seen : List Int) : walkSeen t fuel i seen = ([], seen) := by
  cases fuel with
  | zero => rfl
  | succ fuel => unfold walkSeen; rw [hf]; simp [hp]

/-- One greedy walk from `i` with `seen` already visited: it emits `mid ++ [last]` and returns `seen'`. -/
structure GreedySeg (t : Table) (seen : List Int) (i : Int) (mid : List Int) (last : Int) (seen' : List Int) : Prop where
  path : rootPath t i = (i :: mid) ++ rootPath t last
  hlast : last ∈ ids t
  fresh : ∀ x ∈ mid, x ∉ seen
  stop : last ∈ seen ∨ ∃ n, find? t last = some n ∧ n.parent < 0
  seen_iff : ∀ x, x ∈ seen' ↔ x ∈ mid ∨ x = last ∨ x ∈ seen

theorem walkSeen_spec {t : Table} (hw : WF t) (fuel : Nat) (i : Int) (n : Node) (seen : List Int)
    (hf : find? t i = some n) (hp : ¬ n.parent < 0) (hlen : dep t i ≤ fuel) :
      ∃ mid last, (walkSeen t fuel i seen).1 = mid ++ [last] ∧
        GreedySeg t seen i mid last (walkSeen t fuel i seen).2 := by
  fun_induction walkSeen t fuel i seen generalizing n with
  | case1 i seen => exact absurd (Nat.le_trans (dep_pos (mem_ids_of_find? hf)) hlen) (Nat.not_succ_le_zero _)
  | case2 _ i seen h => rw [h] at hf; cases hf
  | case3 _ i seen m h hm => cases h.symm.trans hf; exact absurd hm hp
  | case4 fuel i seen m h _ hseen =>
    cases h.symm.trans hf
    have hseen : m.parent ∈ seen := by simpa using hseen
    exact ⟨[], m.parent, rfl, by rw [rootPath_of_nonroot hw hf hp]; rfl, WF_parent_mem hw (find?_some hf).1 hp, nofun,
      Or.inl hseen, fun x => ⟨fun h => Or.inr (Or.inr h), fun h => h.elim nofun fun h => h.elim (· ▸ hseen) id⟩⟩
  | case5 fuel i seen m h _ hseen r ih =>
    cases h.symm.trans hf
    have hseen : m.parent ∉ seen := by simpa using hseen
    have e := rootPath_of_nonroot hw hf hp
    have hpm := WF_parent_mem hw (find?_some hf).1 hp
    obtain ⟨pn, hfp⟩ := Option.isSome_iff_exists.mp (find?_isSome_iff.mpr hpm)
    by_cases hpp : pn.parent < 0
    · -- the parent is a root that had not been seen: the walk ends there (`walkSeen` returns `[]` at a root, so not by `ih`)
      simp only [r, walkSeen_root hfp hpp]
      exact ⟨[], m.parent, rfl, by rw [e]; rfl, hpm, nofun, Or.inr ⟨pn, hfp, hpp⟩, by intro x; simp⟩
    · obtain ⟨mid, last, h1, hs⟩ := ih pn hfp hpp (by rw [dep, e] at hlen; exact Nat.le_of_succ_le_succ hlen)
      have hne : last ≠ m.parent := fun he =>
        (stretch_nodup hw hs.path).2 _ List.mem_cons_self (he ▸ rootPath_head_mem hs.hlast)
      refine ⟨m.parent :: mid, last, by simp only [r, h1]; rfl, ?_, hs.hlast, ?_, ?_, ?_⟩
      · rw [e, hs.path]; rfl
      · exact List.forall_mem_cons.mpr ⟨hseen, fun x h hx' => hs.fresh x h (List.mem_cons_of_mem _ hx')⟩
      · rcases hs.stop with h | h
        · rcases List.mem_cons.mp h with h' | h'
          · exact absurd h' hne
          · exact Or.inl h'
        · exact Or.inr h
      · intro x
        rw [hs.seen_iff x]
        simp only [List.mem_cons, or_assoc, or_left_comm]

namespace GreedySeg
variable {t : Table} {seen : List Int} {i : Int} {mid : List Int} {last : Int} {seen' : List Int}

theorem linked (h : GreedySeg t seen i mid last seen') : Linked t (i :: mid ++ [last]) :=
  Linked_rootPath_prefix h.path h.hlast

theorem nodup (h : GreedySeg t seen i mid last seen') (hw : WF t) : (i :: mid).Nodup :=
  (stretch_nodup hw h.path).1

end GreedySeg

/-- State of the greedy fold after the leafs `done`: `acc` are the segments so far, `seen` the visited inner nodes.
`anc`: every proper ancestor of a processed leaf has been visited; `closed`: the visited set is closed under taking
parents, so a walk that reaches it may stop; `inner`: visited nodes have a child, so no later leaf is among them. -/
structure GInv (t : Table) (done : List Int) (acc : List (List Int)) (seen : List Int) : Prop where
  pp : ∀ s ∈ acc, isParentPath t s = true ∧ s.length > 1
  nodup : (acc.flatMap fun s => s.dropLast).Nodup
  mem : ∀ x, x ∈ (acc.flatMap fun s => s.dropLast) ↔
    x ∈ done ∨ (x ∈ seen ∧ ∃ n, find? t x = some n ∧ ¬ n.parent < 0)
  closed : ∀ n ∈ t, n.id ∈ seen → ¬ n.parent < 0 → n.parent ∈ seen
  inner : ∀ x ∈ seen, 0 < childCount t x ∧ x ∈ ids t
  anc : ∀ l ∈ done, ∀ x ∈ (rootPath t l).tail, x ∈ seen
  leaf : ∀ l ∈ done, childCount t l = 0

theorem GInv.init (t : Table) : GInv t [] [] [] :=
  ⟨by simp, by simp, by simp, by simp, by simp, by simp, by simp⟩

/-- The nodes a new walk owns are new: its leaf is neither done nor seen (seen nodes have a child), the nodes it
passes are not seen (the walk stops at the first seen node) and not done (they have a child, done nodes are leafs). -/
theorem GInv.owned_fresh {t : Table} {done : List Int} {acc : List (List Int)} {seen : List Int}
    (h : GInv t done acc seen) {l : Int} {mid : List Int} {last : Int} {seen' : List Int}
    (hs : GreedySeg t seen l mid last seen') (hcc : childCount t l = 0) (hnd : l ∉ done) :
    ∀ x ∈ l :: mid, x ∉ seen ∧ x ∉ done := by
  refine List.forall_mem_cons.mpr ⟨⟨fun hx => ?_, hnd⟩, fun x hx => ⟨hs.fresh x hx, fun hd => ?_⟩⟩
  · have := (h.inner l hx).1
    omega
  · have := Linked_childCount_pos l (mid ++ [last]) hs.linked x (List.mem_append_left _ hx)
    have := h.leaf x hd
    omega

theorem GInv.step {t : Table} (hw : WF t) {done : List Int} {acc : List (List Int)} {seen : List Int}
    (h : GInv t done acc seen) {nl : Node} (hnl : nl ∈ t) (hp : ¬ nl.parent < 0) (hcc : childCount t nl.id = 0)
    (hnd : nl.id ∉ done) :
    GInv t (done ++ [nl.id]) (greedyStep t (acc, seen) nl.id).1 (greedyStep t (acc, seen) nl.id).2 := by
  have hf := find?_of_mem hw.1 hnl
  obtain ⟨mid, last, h1, hs⟩ :=
    walkSeen_spec hw (t.length + 1) nl.id nl seen hf hp (Nat.le_succ_of_le (rootPath_length_le hw nl.id))
  unfold greedyStep
  simp only []
  rw [h1]
  generalize (walkSeen t (t.length + 1) nl.id seen).2 = seen' at hs ⊢
  have hnext := Linked_next_mem mid nl.id last hs.linked
  have hpos := Linked_childCount_pos nl.id (mid ++ [last]) hs.linked
  have hids : ∀ x ∈ mid ++ [last], x ∈ ids t :=
    List.forall_mem_append.mpr ⟨fun x h' => rootPath_sub (i := nl.id) (by
      rw [hs.path]; exact List.mem_append_left _ (List.mem_cons_of_mem _ h')), List.forall_mem_singleton.mpr hs.hlast⟩
  have hseen : ∀ x, x ∈ seen' ↔ x ∈ mid ++ [last] ∨ x ∈ seen := fun x => by
    rw [hs.seen_iff, List.mem_append, List.mem_singleton, or_assoc]
  have hflat : ((acc ++ [nl.id :: (mid ++ [last])]).flatMap fun s => s.dropLast) =
      (acc.flatMap fun s => s.dropLast) ++ (nl.id :: mid) := by
    rw [List.flatMap_append]
    simp only [List.flatMap_cons, List.flatMap_nil, List.append_nil]
    rw [show nl.id :: (mid ++ [last]) = nl.id :: mid ++ [last] from rfl, List.dropLast_concat]
  have hlast_nr : (∃ n, find? t last = some n ∧ ¬ n.parent < 0) → last ∈ seen := by
    rintro ⟨n, hn1, hn2⟩
    rcases hs.stop with h' | ⟨n', hn1', hn2'⟩
    · exact h'
    · rw [hn1] at hn1'; simp only [Option.some.injEq] at hn1'; exact absurd (hn1' ▸ hn2') hn2
  refine ⟨?_, ?_, ?_, ?_, ?_, ?_, ?_⟩
  · exact List.forall_mem_append.mpr ⟨h.pp, List.forall_mem_singleton.mpr
      ⟨Linked_isParentPath _ (by simp) hs.linked, by simp⟩⟩
  · rw [hflat, List.nodup_append]
    refine ⟨h.nodup, hs.nodup hw, ?_⟩
    intro x hx y hy hxy
    rw [hxy] at hx
    obtain ⟨hns, hnd'⟩ := h.owned_fresh hs hcc hnd y hy
    exact ((h.mem y).mp hx).elim hnd' fun h' => hns h'.1
  · intro x
    rw [hflat, List.mem_append, h.mem x, hs.seen_iff x]
    constructor
    · rintro ((h' | ⟨h', hn⟩) | h')
      · exact Or.inl (List.mem_append_left _ h')
      · exact Or.inr ⟨Or.inr (Or.inr h'), hn⟩
      · rcases List.mem_cons.mp h' with e | e
        · exact Or.inl (List.mem_append_right _ (by simp [e]))
        · obtain ⟨n, hn1, hn2, _⟩ := hnext x h'
          exact Or.inr ⟨Or.inl e, n, hn1, hn2⟩
    · rintro (h' | ⟨h' | h' | h', hn⟩)
      · rcases List.mem_append.mp h' with e | e
        · exact Or.inl (Or.inl e)
        · simp at e; exact Or.inr (by simp [e])
      · exact Or.inr (List.mem_cons_of_mem _ h')
      · left; right
        subst h'
        exact ⟨hlast_nr hn, hn⟩
      · exact Or.inl (Or.inr ⟨h', hn⟩)
  · intro n hn hns hnp
    have hfn := find?_of_mem hw.1 hn
    rw [hseen]
    rcases (hs.seen_iff _).mp hns with h' | h' | h'
    · obtain ⟨n', hn1, _, hn3⟩ := hnext n.id (List.mem_cons_of_mem _ h')
      rw [hfn] at hn1
      exact Or.inl (Option.some.inj hn1 ▸ hn3)
    · exact Or.inr (h.closed n hn (h' ▸ hlast_nr ⟨n, h' ▸ hfn, hnp⟩) hnp)
    · exact Or.inr (h.closed n hn h' hnp)
  · intro x hx
    rcases (hseen x).mp hx with h' | h'
    · exact ⟨hpos x h', hids x h'⟩
    · exact h.inner x h'
  · refine List.forall_mem_append.mpr ⟨fun l e x hx => (hs.seen_iff x).mpr (Or.inr (Or.inr (h.anc l e x hx))),
      List.forall_mem_singleton.mpr fun x hx => (hs.seen_iff x).mpr ?_⟩
    rw [hs.path] at hx
    rcases List.mem_append.mp hx with h' | h'
    · exact Or.inl h'
    · -- an ancestor-or-self of the stop node
      rcases hs.stop with hst | ⟨n, hn1, hn2⟩
      · exact Or.inr (Or.inr (closed_rootPath hw seen h.closed last hs.hlast hst x h'))
      · rw [rootPath_of_root hn1 hn2] at h'
        exact Or.inr (Or.inl (List.mem_singleton.mp h'))
  · exact List.forall_mem_append.mpr ⟨h.leaf, List.forall_mem_singleton.mpr hcc⟩

theorem GInv.foldl {t : Table} (hw : WF t) :
    ∀ (ls done : List Int) (acc : List (List Int)) (seen : List Int), GInv t done acc seen →
      (∀ l ∈ ls, ∃ n ∈ t, n.id = l ∧ ¬ n.parent < 0 ∧ childCount t n.id = 0) → (done ++ ls).Nodup →
      GInv t (done ++ ls) (ls.foldl (greedyStep t) (acc, seen)).1 (ls.foldl (greedyStep t) (acc, seen)).2 := by
  intro ls
  induction ls with
  | nil => intro done acc seen h _ _; simpa using h
  | cons l ls ih =>
    intro done acc seen h hl hnd
    obtain ⟨n, hn, rfl, hp, hcc⟩ := hl l List.mem_cons_self
    have hnot : n.id ∉ done := by
      intro hm
      rw [List.nodup_append] at hnd
      exact hnd.2.2 n.id hm n.id List.mem_cons_self rfl
    have hstep := h.step hw hn hp hcc hnot
    have e : done ++ n.id :: ls = (done ++ [n.id]) ++ ls := by simp
    rw [List.foldl_cons, e]
    exact ih (done ++ [n.id]) _ _ hstep (fun l' hl' => hl l' (List.mem_cons_of_mem _ hl')) (e ▸ hnd)

/-- Whatever the order `ls` of the leafs, the greedy walks are parent paths that cover every non-root exactly once:
a non-root is a leaf, or lies above one (`exists_leaf_below`) and has then been visited (`GInv.anc`), which is what
`GInv.mem` says the covered nodes are. -/
theorem greedySeqs_spec {t : Table} (hw : WF t) (ls : List Int) (hperm : ls.Perm (leafIds t)) :
    (∀ s ∈ greedySeqs t ls, isParentPath t s = true ∧ s.length > 1) ∧
    ((greedySeqs t ls).flatMap fun s => s.dropLast).Perm ((t.filter fun n => !isRootNode n).map (·.id)) := by
  have hnd : ([] ++ ls).Nodup := by
    rw [List.nil_append]; exact hperm.nodup_iff.mpr (leafIds_nodup hw.1)
  have hleaf : ∀ l ∈ ls, ∃ n ∈ t, n.id = l ∧ ¬ n.parent < 0 ∧ childCount t n.id = 0 :=
    fun l hl => mem_leafIds.mp (hperm.mem_iff.mp hl)
  have hinv := GInv.foldl hw ls [] [] [] (GInv.init t) hleaf hnd
  rw [List.nil_append] at hinv
  refine ⟨hinv.pp, ?_⟩
  apply (List.perm_ext_iff_of_nodup hinv.nodup (nonroot_ids_nodup hw.1)).mpr
  intro x
  show x ∈ ((ls.foldl (greedyStep t) ([], [])).1.flatMap fun s => s.dropLast) ↔ _
  rw [hinv.mem x, mem_nonroot_ids]
  constructor
  · rintro (h | ⟨_, n, hn1, hn2⟩)
    · obtain ⟨n, hn, h1, h2, _⟩ := hleaf x h
      exact ⟨n, hn, h2, h1⟩
    · exact ⟨n, (find?_some hn1).1, hn2, (find?_some hn1).2⟩
  · rintro ⟨nx, hnx, hp, rfl⟩
    by_cases hcc : childCount t nx.id = 0
    · left
      exact hperm.mem_iff.mpr (mem_leafIds.mpr ⟨nx, hnx, rfl, hp, hcc⟩)
    · right
      refine ⟨?_, nx, find?_of_mem hw.1 hnx, hp⟩
      obtain ⟨l, hl, hlp, hlcc, hmem⟩ := exists_leaf_below hw nx hnx hp
      have hl' : l.id ∈ ls := hperm.mem_iff.mpr (mem_leafIds.mpr ⟨l, hl, rfl, hlp, hlcc⟩)
      apply hinv.anc l.id hl'
      obtain ⟨rest, hr⟩ := rootPath_cons (mem_ids_of_mem hl)
      rw [hr] at hmem ⊢
      rcases List.mem_cons.mp hmem with e | e
      · rw [e] at hcc; exact absurd hlcc hcc
      · exact e

theorem sortBy_segLt_pairwise (len : Int → Int → Nat) (l : List (List Int)) :
    (sortBy (segLt len) l).Pairwise (fun a b => pathLen len b ≤ pathLen len a) := by
  apply sortBy_pairwise
  · intro a b c h1 h2; omega
  · intro y x h
    unfold segLt at h
    simp only [Bool.or_eq_true, decide_eq_true_eq, Bool.and_eq_true, beq_iff_eq] at h
    rcases h with h | h
    · omega
    · omega
  · intro y x h
    unfold segLt at h
    simp only [Bool.or_eq_false_iff, decide_eq_false_iff_not] at h
    omega

theorem flatten_map_singleton (l : List Int) : (l.map fun i => [i]).flatten = l := by
  rw [← List.flatMap_def, List.flatMap_singleton']

/-! ### multi-node sequences followed by single nodes: what the two length filters and the sort keep -/

theorem filter_long_singletons {X : List (List Int)} (hX : ∀ s ∈ X, s.length > 1) (iso : List Int) :
    ((X ++ iso.map fun i => [i]).filter fun s => s.length > 1) = X := by
  rw [List.filter_append, List.filter_eq_self.mpr fun s hs => decide_eq_true (hX s hs),
    List.filter_eq_nil_iff.mpr fun s hs => by obtain ⟨i, _, rfl⟩ := List.mem_map.mp hs; simp, List.append_nil]

theorem filter_single_singletons {X : List (List Int)} (hX : ∀ s ∈ X, s.length > 1) (iso : List Int) :
    ((X ++ iso.map fun i => [i]).filter fun s => s.length == 1).flatten = iso := by
  rw [List.filter_append, List.filter_eq_nil_iff.mpr fun s hs => by have := hX s hs; simp; omega,
    List.filter_eq_self.mpr fun s hs => by obtain ⟨i, _, rfl⟩ := List.mem_map.mp hs; rfl, List.nil_append,
    flatten_map_singleton]

/-- Sorted by decreasing length, then the single nodes of length 0. -/
theorem nonIncreasing_sorted_singletons (len : Int → Int → Nat) (X : List (List Int)) (iso : List Int) :
    nonIncreasing ((sortBy (segLt len) X ++ iso.map fun i => [i]).map (pathLen len)) = true := by
  apply nonIncreasing_of_pairwise
  rw [List.map_append, List.pairwise_append]
  have hzero : ∀ b ∈ (iso.map fun i => [i]).map (pathLen len), b = 0 := fun b hb => by
    obtain ⟨s, hs, rfl⟩ := List.mem_map.mp hb
    obtain ⟨i, _, rfl⟩ := List.mem_map.mp hs
    exact pathLen_single len i
  refine ⟨List.pairwise_map.mpr (sortBy_segLt_pairwise len _), ?_, fun a _ b hb => hzero b hb ▸ Nat.zero_le a⟩
  exact (List.pairwise_of_forall fun _ _ => True.intro).imp_of_mem fun _ hb _ => hzero _ hb ▸ Nat.zero_le _

/-- **`segments` is sorted longest first** (the single-node segments of isolated nodes, of length 0, last). -/
theorem segments_nonIncreasing (t : Table) (len : Int → Int → Nat) :
    nonIncreasing ((segments t len).map (pathLen len)) = true :=
  segments_eq t len ▸ nonIncreasing_sorted_singletons len _ _

theorem segments_long_mem (t : Table) (len : Int → Int → Nat) :
    ∀ s ∈ sortBy (segLt len) ((greedySeqs t (sortedLeafs t len)).filter fun s => s.length > 1), s.length > 1 :=
  fun s hs => by simpa using (List.mem_filter.mp ((mem_sortBy _ _ _).mp hs)).2

/-- Parent paths that partition the edges, sorted longest first, then the isolated nodes, pass the C05 checker. -/
theorem segs_ok_of {t : Table} (len : Int → Int → Nat) (X : List (List Int))
    (hpp : ∀ s ∈ X, isParentPath t s = true ∧ s.length > 1)
    (hperm : (X.flatMap fun s => s.dropLast).Perm ((t.filter fun n => !isRootNode n).map (·.id))) :
    segmentsOKB t len (sortBy (segLt len) X ++ (isolatedIds t).map fun i => [i]) = true := by
  have hX : ∀ s ∈ sortBy (segLt len) X, isParentPath t s = true ∧ s.length > 1 :=
    fun s hs => hpp s ((mem_sortBy _ _ _).mp hs)
  unfold segmentsOKB
  simp only [Bool.and_eq_true, List.all_eq_true, beq_iff_eq]
  refine ⟨⟨⟨?_, ?_⟩, nonIncreasing_sorted_singletons len X _⟩, ?_⟩
  · intro s hs
    rcases List.mem_append.mp hs with h | h
    · exact (hX s h).1
    · obtain ⟨i, _, rfl⟩ := List.mem_map.mp h
      rfl
  · apply coversEdgesOnce_iff.mpr
    rw [filter_long_singletons fun s hs => (hX s hs).2]
    exact ((sortBy_perm _ _).flatMap_right _).trans hperm
  · rw [filter_single_singletons fun s hs => (hX s hs).2]; rfl

theorem segments_ok {t : Table} (hw : WF t) (len : Int → Int → Nat) : segmentsOKB t len (segments t len) = true := by
  obtain ⟨hpp, hperm⟩ := greedySeqs_spec hw (sortedLeafs t len) (sortBy_perm _ _)
  rw [segments_eq, List.filter_eq_self.mpr fun s hs => by simpa using (hpp s hs).2]
  exact segs_ok_of len _ hpp hperm

end Navis.Forest

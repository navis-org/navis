import NavisModel.Model.TreeEdit
import NavisModel.Proofs.SubsetAlgebra
/-!
C10 (core Lean only): the front end of `cut_skeleton` and the loops of the prune methods, as
written, refine the table-level `cutMany` / successive single prunes; every fragment carries exactly the
connectors, tags and soma that sit on its nodes.
-/
namespace Navis.TreeEdit
open Navis.Forest

@[simp] theorem subsetNeuron_nodes (x : Neuron) (keep : Int → Bool) (kd : Bool) :
    (subsetNeuron x keep kd).nodes = subset x.nodes keep := rfl

theorem cutPieces_ok {x : Neuron} {c : Int} {ret : Ret} {ps : List Neuron} (h : cutPieces x c ret = .ok ps) :
    ∃ nc, find? x.nodes c = some nc ∧ ¬ nc.parent < 0 ∧
      ps = (match ret with
        | .both => [subsetNeuron x (fun i => (distalSet x.nodes c).contains i),
                    subsetNeuron x (fun i => !(distalSet x.nodes c).contains i || i == c)]
        | .distal => [subsetNeuron x (fun i => (distalSet x.nodes c).contains i)]
        | .proximal => [subsetNeuron x (fun i => !(distalSet x.nodes c).contains i || i == c)]) := by
  unfold cutPieces at h
  split at h
  · cases h
  · rename_i nc hf
    split at h
    · cases h
    · rename_i hp
      cases ret <;> exact ⟨nc, hf, hp, (Except.ok.inj h).symm⟩

theorem cutLoop_cons_ok {ret : Ret} {res : List Neuron} {cn : Int} {rest : List Int} {out : List Neuron}
    (h : cutLoop ret res (cn :: rest) = .ok out) :
    ∃ k f ps, res.findIdx? (fun f => (ids f.nodes).contains cn) = some k ∧ res[k]? = some f ∧
      cutPieces f cn ret = .ok ps ∧ cutLoop ret (res.take k ++ ps ++ res.drop (k + 1)) rest = .ok out := by
  unfold cutLoop at h
  split at h
  · cases h
  · rename_i k h1
    split at h
    · cases h
    · rename_i f h2
      split at h
      · cases h
      · rename_i ps h3
        exact ⟨k, f, ps, h1, h2, h3, h⟩

theorem cutLoop_both_nodes {cs : List Int} : ∀ {res out : List Neuron}, cutLoop .both res cs = .ok out →
    out.map (·.nodes) = cs.foldl cutStep (res.map (·.nodes)) := by
  induction cs with
  | nil =>
    intro res out h
    simp only [cutLoop, Except.ok.injEq] at h
    subst h; rfl
  | cons cn rest ih =>
    intro res out h
    obtain ⟨k, f, ps, h1, h2, h3, h⟩ := cutLoop_cons_ok h
    obtain ⟨nc, hf, hp, hps⟩ := cutPieces_ok h3
    simp only at hps
    rw [List.foldl_cons, ih h]
    congr 1
    unfold cutStep
    rw [List.findIdx?_map]
    have hcomp : ((fun f => (ids f).contains cn) ∘ fun (x : Neuron) => x.nodes) = fun f => (ids f.nodes).contains cn := rfl
    rw [hcomp, h1]
    simp only [List.getElem?_map, h2, Option.map_some]
    rw [cut_of_find hf hp, hps]
    simp [List.map_take, List.map_drop]

theorem resolveCut_ids {x : Neuron} {cs l : List Int} (h : resolveCut x (cs.map Where.id) = .ok l) :
    l = cs ∧ ∀ c ∈ cs, c ∈ ids x.nodes ∧ c ∉ roots x.nodes := by
  induction cs generalizing l with
  | nil => simp only [List.map_nil, resolveCut, Except.ok.injEq] at h; exact ⟨h.symm, by simp⟩
  | cons c cs ih =>
    simp only [List.map_cons, resolveCut] at h
    split at h
    · cases h
    · rename_i h1
      split at h
      · cases h
      · rename_i h2
        cases h3 : resolveCut x (cs.map Where.id) with
        | error e => rw [h3] at h; cases h
        | ok r =>
          rw [h3] at h
          obtain ⟨e, hall⟩ := ih h3
          refine ⟨by rw [← Except.ok.inj h, e], fun c' hc' => ?_⟩
          rcases List.mem_cons.mp hc' with rfl | hc'
          · exact ⟨by simpa using h1, by simpa using h2⟩
          · exact hall c' hc'

theorem cutSkeleton_ok {x : Neuron} {wh : List Where} {ret : Ret} {out : List Neuron}
    (h : cutSkeleton x wh ret = .ok out) : ∃ l, resolveCut x wh = .ok l ∧ cutLoop ret [x] (dedup l) = .ok out := by
  unfold cutSkeleton at h
  split at h
  · cases h
  · split at h
    · cases h
    · rename_i l h1
      exact ⟨l, h1, h⟩

/-- `f` carries exactly the connectors / tags / soma of `x` that sit on `f`'s nodes. -/
def Attached (x f : Neuron) : Prop :=
  f.conns = filterConns f.nodes x.conns ∧ f.tags = x.tags.map (filterTags f.nodes) ∧ f.soma = filterSoma f.nodes x.soma

theorem filter_ids_filter_ids {α : Type} {t' t'' : Table} (hsub : ∀ i ∈ ids t'', i ∈ ids t') (f : α → Int) (l : List α) :
    (l.filter fun a => (ids t').contains (f a)).filter (fun a => (ids t'').contains (f a)) =
      l.filter fun a => (ids t'').contains (f a) := by
  rw [List.filter_filter]
  apply List.filter_congr
  intro a _
  rw [Bool.eq_iff_iff]
  simp only [Bool.and_eq_true, List.contains_eq_mem, decide_eq_true_eq]
  exact ⟨fun h => h.1, fun h => ⟨h, hsub _ h⟩⟩

theorem filterConns_filterConns {t' t'' : Table} (hsub : ∀ i ∈ ids t'', i ∈ ids t') (cs : List Conn) :
    filterConns t'' (filterConns t' cs) = filterConns t'' cs :=
  filter_ids_filter_ids hsub Conn.node cs

theorem filterTags_filterTags {t' t'' : Table} (hsub : ∀ i ∈ ids t'', i ∈ ids t') (tg : Tags) :
    filterTags t'' (filterTags t' tg) = filterTags t'' tg := by
  have hl := filter_ids_filter_ids hsub (fun i : Int => i)
  induction tg with
  | nil => rfl
  | cons e tg ih =>
    unfold filterTags at ih ⊢
    simp only [List.map_cons, List.filter_cons]
    by_cases h1 : (e.2.filter fun i => (ids t').contains i).isEmpty = true
    · have h2 : (e.2.filter fun i => (ids t'').contains i).isEmpty = true := by
        rw [← hl e.2]
        simp only [List.isEmpty_iff] at h1 ⊢
        rw [h1]; rfl
      simp only [h1, h2, Bool.not_true, Bool.false_eq_true, if_false]
      exact ih
    · simp only [h1, Bool.not_false, if_true, List.map_cons, List.filter_cons, hl]
      split
      · rw [ih]
      · exact ih

theorem filterSoma_filterSoma {t' t'' : Table} (hsub : ∀ i ∈ ids t'', i ∈ ids t') (s : Option Int) :
    filterSoma t'' (filterSoma t' s) = filterSoma t'' s := by
  cases s with
  | none => rfl
  | some i =>
    unfold filterSoma
    by_cases h : i ∈ ids t''
    · have := hsub _ h
      simp [h, this]
    · by_cases h' : i ∈ ids t' <;> simp [h, h']

theorem attached_subsetNeuron_self (x : Neuron) (keep : Int → Bool) : Attached x (subsetNeuron x keep) :=
  ⟨by simp [subsetNeuron], rfl, rfl⟩

theorem attached_subsetNeuron {x f : Neuron} (h : Attached x f) (keep : Int → Bool) : Attached x (subsetNeuron f keep) := by
  obtain ⟨h1, h2, h3⟩ := h
  have hsub := ids_subset_sub f.nodes keep
  refine ⟨?_, ?_, ?_⟩
  · simp only [subsetNeuron, Bool.false_eq_true, if_false]
    rw [h1, filterConns_filterConns hsub]
  · simp only [subsetNeuron]
    rw [h2]
    cases x.tags with
    | none => rfl
    | some tg => simp only [Option.map_some]; rw [filterTags_filterTags hsub]
  · simp only [subsetNeuron]
    rw [h3, filterSoma_filterSoma hsub]

theorem cutPieces_attached {x f : Neuron} (hf : f = x ∨ Attached x f) {c : Int} {ret : Ret} {ps : List Neuron}
    (h : cutPieces f c ret = .ok ps) : ∀ g ∈ ps, Attached x g := by
  obtain ⟨nc, _, _, hps⟩ := cutPieces_ok h
  have key : ∀ keep, Attached x (subsetNeuron f keep) := by
    intro keep
    rcases hf with rfl | hf
    · exact attached_subsetNeuron_self _ keep
    · exact attached_subsetNeuron hf keep
  intro g hg
  rw [hps] at hg
  cases ret <;> simp only [List.mem_cons, List.not_mem_nil, or_false] at hg
  · rcases hg with rfl | rfl <;> exact key _
  · subst hg; exact key _
  · subst hg; exact key _

theorem cutLoop_attached {x : Neuron} {ret : Ret} {cs : List Int} : ∀ {res out : List Neuron},
    (∀ f ∈ res, f = x ∨ Attached x f) → cutLoop ret res cs = .ok out → ∀ f ∈ out, f = x ∨ Attached x f := by
  induction cs with
  | nil =>
    intro res out hres h
    simp only [cutLoop, Except.ok.injEq] at h
    subst h; exact hres
  | cons cn rest ih =>
    intro res out hres h
    obtain ⟨k, f, ps, _, h2, h3, h⟩ := cutLoop_cons_ok h
    apply ih ?_ h
    intro g hg
    simp only [List.mem_append] at hg
    rcases hg with (hg | hg) | hg
    · exact hres g (List.mem_of_mem_take hg)
    · exact Or.inr (cutPieces_attached (hres f (List.mem_of_getElem? h2)) h3 g hg)
    · exact hres g (List.mem_of_mem_drop hg)

theorem cutLoop_single {x : Neuron} {c : Int} {ret : Ret} (hc : (ids x.nodes).contains c = true) :
    cutLoop ret [x] [c] = cutPieces x c ret := by
  unfold cutLoop
  simp only [List.findIdx?_cons, hc, if_true, List.getElem?_cons_zero]
  cases cutPieces x c ret with
  | error e => rfl
  | ok ps => simp [cutLoop]

/-- On a single tree and with one id as target, `cut_skeleton` raises exactly where the table-level `cut` is undefined
(absent node, root) and otherwise returns the requested piece(s) of that cut. -/
theorem cutSkeleton_single {x : Neuron} (hw : WF x.nodes) (h1 : (roots x.nodes).length = 1) (c : Int) (ret : Ret) :
    (cut x.nodes c = none ∧ ∃ e, cutSkeleton x [Where.id c] ret = .error e) ∨
    (∃ nc, find? x.nodes c = some nc ∧ ¬ nc.parent < 0 ∧ cutSkeleton x [Where.id c] ret = cutPieces x c ret) := by
  unfold cutSkeleton
  simp only [h1, bne_self_eq_false, Bool.false_eq_true, if_false]
  cases hf : find? x.nodes c with
  | none =>
    have hc : (ids x.nodes).contains c = false := by simpa using find?_none hf
    exact Or.inl ⟨cut_none_of_absent hf, .notFound, by simp only [resolveCut, hc, Bool.not_false, if_true]⟩
  | some nc =>
    have hnc := find?_some hf
    have hc : (ids x.nodes).contains c = true := by simpa using mem_ids_of_find? hf
    by_cases hp : nc.parent < 0
    · have hr : (roots x.nodes).contains c = true := by simpa using mem_roots.mpr ⟨nc, hnc.1, hnc.2, hp⟩
      exact Or.inl ⟨cut_none_of_root hf hp, .isRoot,
        by simp only [resolveCut, hc, hr, Bool.not_true, Bool.false_eq_true, if_false, if_true]⟩
    · have hr : (roots x.nodes).contains c = false := by
        rw [Bool.eq_false_iff]
        intro hh
        obtain ⟨n, hn, hid, hneg⟩ := mem_roots.mp (by simpa using hh)
        have e := find?_of_mem hw.1 hn
        rw [hid, hf] at e
        exact hp (Option.some.inj e ▸ hneg)
      refine Or.inr ⟨nc, rfl, hp, ?_⟩
      simp only [resolveCut, hc, hr, Bool.not_true, Bool.false_eq_true, if_false, dedup, List.filter_nil]
      exact cutLoop_single hc

/-- Node table of the result of a prune method (`none` where it raises). -/
def okNodes (r : Except Err Neuron) : Option Table :=
  match r with
  | .ok y => some y.nodes
  | .error _ => none

/-- The table-level prune one iteration performs when piece `[0]` is taken: `ret='proximal'` keeps the proximal piece, the other
two literals the distal one (`cut_skeleton` lists it first). -/
def pruneStep (ret : Ret) (t : Table) (c : Int) : Option Table :=
  (cut t c).map fun dp => match ret with
    | .proximal => dp.2
    | _ => dp.1

theorem pruneStep_proximal : pruneStep .proximal = pruneDistal1 := rfl

theorem pruneStep_distal : pruneStep .distal = pruneProximal1 := rfl

/-- **A prune method's loop is the successive single prunes**, for every `ret=` literal, provided the loop cuts its working
copy and takes piece `[0]`. -/
theorem pruneLoop_ids {spec : PruneSpec} {ret : Ret} (hwc : spec.cutsWorkingCopy = true) (hret : spec.ret = ret)
    (hix : spec.index = 0) {cs : List Int} : ∀ {self x : Neuron}, WF x.nodes → (roots x.nodes).length = 1 →
    okNodes (pruneLoop spec self x (cs.map Where.id)) = pruneMany (pruneStep ret) x.nodes cs := by
  induction cs with
  | nil => intro self x _ _; rfl
  | cons c cs ih =>
    intro self x hw h1
    simp only [List.map_cons]
    unfold pruneLoop pruneMany pruneStep
    simp only [hwc, hret, hix, if_true]
    rcases cutSkeleton_single hw h1 c ret with ⟨hcut, e, he⟩ | ⟨nc, hf, hp, he⟩
    · rw [he, hcut]; rfl
    · rw [he, cut_of_find hf hp]
      unfold cutPieces
      simp only [hf, hp, if_false]
      -- the kept piece is a subset of `x`, again a single tree; stated on tables so that the unifier is not asked to see
      -- `(subsetNeuron x _).nodes = subset x.nodes _`
      have key : ∀ keep, (roots (subset x.nodes keep)).length = 1 →
          okNodes (pruneLoop spec self (subsetNeuron x keep) (cs.map Where.id)) =
            pruneMany (pruneStep ret) (subset x.nodes keep) cs :=
        fun keep hl => ih (self := self) (x := subsetNeuron x keep) (WF_subset hw _) hl
      cases ret
      · exact key _ (roots_distal_perm hw hf hp).length_eq
      · exact key _ ((roots_proximal_perm hw c).length_eq.trans h1)
      · exact key _ (roots_distal_perm hw hf hp).length_eq

end Navis.TreeEdit

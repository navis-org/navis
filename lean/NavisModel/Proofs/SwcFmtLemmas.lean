import NavisModel.Model.Swc
/-!
File-name patterns (`BaseReader.parse_filename`, model `matchSegs` / `searchSegs` / `matchFmt`): the backtracking matcher is
sound (what it returns is a decomposition of the file name along the pattern) and complete (it finds a decomposition whenever
one exists): `searchSegs_sound` / `searchSegs_complete`.  What this means for `matchFmt` and the checker `fmtConsistentB` is drawn in
`Props/C07.lean` (`matchFmt_sound`, `fmt_checker_iff`).  Core Lean only.
-/
namespace Navis.Swc

theorem isPrefix_eq_isPrefixOf : ∀ (s cs : List Char), isPrefix s cs = s.isPrefixOf cs
  | [], _ => rfl
  | _ :: _, [] => rfl
  | a :: s, b :: cs => by rw [isPrefix, isPrefix_eq_isPrefixOf s cs]; rfl

theorem isPrefix_iff (s cs : List Char) : isPrefix s cs = true ↔ s <+: cs := by
  rw [isPrefix_eq_isPrefixOf, List.isPrefixOf_iff_prefix]

theorem groupCount_lit (s : List Char) (rest : List Seg) : groupCount (.lit s :: rest) = groupCount rest := by
  simp [groupCount]

theorem groupCount_grp (fs : List (String × Option String)) (rest : List Seg) :
    groupCount (.grp fs :: rest) = groupCount rest + 1 := by
  simp [groupCount]

theorem matchSegs_sound (f : Nat) (segs : List Seg) (cs : List Char) (gs : List (List Char))
    (h : matchSegs f segs cs = some gs) : gs.length = groupCount segs ∧ ∃ rest, cs = instSegs segs gs ++ rest := by
  fun_induction matchSegs f segs cs generalizing gs with
  | case1 => cases h
  | case2 f cs => cases h; exact ⟨rfl, cs, rfl⟩
  | case3 f s rest cs hp ih =>
    obtain ⟨t, rfl⟩ := (isPrefix_iff s _).mp hp
    rw [List.drop_left] at ih h
    obtain ⟨h1, r, rfl⟩ := ih gs h
    exact ⟨by rw [groupCount_lit]; exact h1, r, by simp [instSegs]⟩
  | case4 => cases h
  | case5 f fs rest cs ih =>
    obtain ⟨k, _, hk⟩ := List.exists_of_findSome?_eq_some h
    obtain ⟨gs', hg, rfl⟩ := Option.map_eq_some_iff.mp hk
    obtain ⟨h1, r, h2⟩ := ih k gs' hg
    refine ⟨by rw [groupCount_grp]; simp [h1], r, ?_⟩
    rw [instSegs, List.append_assoc, ← h2, List.take_append_drop]

theorem matchSegs_complete : ∀ (segs : List Seg) (f : Nat) (cs : List Char), segs.length < f →
    (∃ gs rest, gs.length = groupCount segs ∧ cs = instSegs segs gs ++ rest) → (matchSegs f segs cs).isSome = true := by
  -- `induction segs`, not `fun_induction`: the hypothesis cuts `cs` along `segs`, so the branches where the matcher fails need no case
  intro segs
  induction segs with
  | nil =>
    intro f cs hf _
    cases f with
    | zero => omega
    | succ f => rfl
  | cons sg rest ih =>
    rintro f cs hf ⟨gs, r, hl, rfl⟩
    cases f with
    | zero => omega
    | succ f =>
      have hf' : rest.length < f := by simp at hf; omega
      cases sg with
      | lit s =>
        rw [groupCount_lit] at hl
        simp only [instSegs, List.append_assoc, matchSegs]
        rw [(isPrefix_iff _ _).mpr (List.prefix_append _ _), if_pos rfl, List.drop_left]
        exact ih f _ hf' ⟨gs, r, hl, rfl⟩
      | grp fs =>
        rw [groupCount_grp] at hl
        cases gs with
        | nil => simp at hl
        | cons g gs' =>
          simp only [instSegs, List.append_assoc, matchSegs]
          rw [List.findSome?_isSome_iff]
          refine ⟨g.length, ?_, ?_⟩
          · rw [List.mem_reverse, List.mem_range]; simp; omega
          · rw [Option.isSome_map, List.drop_left]
            exact ih f _ hf' ⟨gs', r, by simpa using hl, rfl⟩

theorem searchSegs_sound (segs : List Seg) (cs : List Char) (gs : List (List Char)) (h : searchSegs segs cs = some gs) :
    gs.length = groupCount segs ∧ ∃ pre rest, cs = pre ++ instSegs segs gs ++ rest := by
  unfold searchSegs at h
  obtain ⟨k, _, hk⟩ := List.exists_of_findSome?_eq_some h
  obtain ⟨h1, r, h2⟩ := matchSegs_sound _ _ _ _ hk
  refine ⟨h1, cs.take k, r, ?_⟩
  rw [List.append_assoc, ← h2, List.take_append_drop]

theorem searchSegs_complete (segs : List Seg) (cs : List Char)
    (h : ∃ gs pre rest, gs.length = groupCount segs ∧ cs = pre ++ instSegs segs gs ++ rest) :
    (searchSegs segs cs).isSome = true := by
  obtain ⟨gs, pre, r, hl, rfl⟩ := h
  unfold searchSegs
  rw [List.findSome?_isSome_iff]
  refine ⟨pre.length, ?_, ?_⟩
  · rw [List.mem_range]; simp; omega
  · rw [List.append_assoc, List.drop_left]
    exact matchSegs_complete segs _ _ (by omega) ⟨gs, r, hl, rfl⟩

end Navis.Swc

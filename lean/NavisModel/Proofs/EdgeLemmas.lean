import NavisModel.Proofs.PathLemmas
/-!
Directed and undirected edges of a node table: the normal form `uedge` of an undirected edge and its case
lemmas (`uedge_comm`, `uedge_cases`, `uedge_ends`), each edge occurs once in a well-formed forest; the node sets of the two
pieces of a cut (`mem_ids_cut_*`), and how the cut distributes the edges over them.
-/
namespace Navis.Forest

theorem uedge_comm (a b : Int) : uedge a b = uedge b a := by
  unfold uedge
  split <;> split
  · rw [Int.le_antisymm ‹a ≤ b› ‹b ≤ a›]
  · rfl
  · rfl
  · omega

theorem uedge_cases (a b : Int) : uedge a b = (a, b) ∨ uedge a b = (b, a) := by
  unfold uedge
  split
  · exact Or.inl rfl
  · exact Or.inr rfl

/-- A pair, read in either orientation, is the undirected edge of `x` and `y` iff its ends are `x` and `y`. -/
theorem uedge_ends {x y a b : Int} :
    (a, b) = uedge x y ∨ (b, a) = uedge x y ↔ (a = x ∧ b = y) ∨ (a = y ∧ b = x) := by
  unfold uedge
  split
  · simp only [Prod.mk.injEq]
    exact or_congr_right and_comm
  · simp only [Prod.mk.injEq]
    exact or_comm.trans (or_congr_left and_comm)

theorem uedge_eq_iff {a b c d : Int} : uedge a b = uedge c d ↔ (a = c ∧ b = d) ∨ (a = d ∧ b = c) := by
  refine ⟨fun h => uedge_ends.mp ((uedge_cases a b).imp (fun e => e.symm.trans h) fun e => e.symm.trans h), ?_⟩
  rintro (⟨rfl, rfl⟩ | ⟨rfl, rfl⟩)
  · rfl
  · exact uedge_comm a b

theorem uedge_idem (a b : Int) : uedge (uedge a b).1 (uedge a b).2 = uedge a b := by
  rcases uedge_cases a b with h | h <;> rw [h]
  · exact h
  · exact (uedge_comm b a).trans h

theorem uedge_both {P : Int → Prop} {a b : Int} (ha : P a) (hb : P b) : P (uedge a b).1 ∧ P (uedge a b).2 := by
  unfold uedge
  split
  · exact ⟨ha, hb⟩
  · exact ⟨hb, ha⟩

/-- Two non-root rows with the same undirected edge have the same id, or are each other's parent, which the rank forbids. -/
theorem Nodup_uedges {t : Table} (hw : WF t) : (uedges t).Nodup := by
  refine nodup_map_of_inj (Nodup_edges hw.1) fun e he e' he' heq => ?_
  obtain ⟨n, hn, _, rfl⟩ := mem_edges.mp he
  obtain ⟨m, hm, _, rfl⟩ := mem_edges.mp he'
  rcases uedge_eq_iff.mp heq with ⟨e1, _⟩ | ⟨e1, e2⟩
  · rw [node_eq_of_id hw.1 hn hm e1]
  · exact (no_two_cycle hw hn hm e2 e1.symm).elim

theorem uedges_sub_ids {t : Table} (hw : WF t) {e : Int × Int} (he : e ∈ uedges t) : e.1 ∈ ids t ∧ e.2 ∈ ids t := by
  obtain ⟨n, hn, hp, rfl⟩ := mem_uedges.mp he
  exact uedge_both (P := (· ∈ ids t)) (mem_ids_of_mem hn) (WF_parent_mem hw hn hp)

theorem uedges_norm {t : Table} {e : Int × Int} (he : e ∈ uedges t) : uedge e.1 e.2 = e := by
  obtain ⟨n, _, _, rfl⟩ := mem_uedges.mp he
  exact uedge_idem _ _

theorem roots_add_uedges (t : Table) : (roots t).length + (uedges t).length = t.length := by
  unfold roots uedges edges
  rw [List.length_map, List.length_map, List.length_map, ← List.countP_eq_length_filter, ← List.countP_eq_length_filter]
  rw [List.length_eq_countP_add_countP isRootNode]
  exact congrArg _ (List.countP_congr fun n _ => by simp)

theorem mem_distalSet {t : Table} {c i : Int} : i ∈ distalSet t c ↔ i ∈ ids t ∧ c ∈ rootPath t i := by
  unfold distalSet isAncestorOrSelf
  simp [List.mem_filter]

theorem distalSet_contains {t : Table} {i : Int} (hi : i ∈ ids t) (c : Int) :
    (distalSet t c).contains i = (rootPath t i).contains c := by
  rw [Bool.eq_iff_iff, List.contains_iff_mem, List.contains_iff_mem, mem_distalSet]
  exact ⟨fun h => h.2, fun h => ⟨hi, h⟩⟩

theorem mem_ids_cut_distal {t : Table} {c : Int} {d p : Table} (h : cut t c = some (d, p)) (i : Int) :
    i ∈ ids d ↔ i ∈ ids t ∧ c ∈ rootPath t i := by
  obtain ⟨rfl, _, _⟩ := cut_some h
  rw [ids_subset, List.mem_filter]
  exact and_congr_right fun hi => by rw [distalSet_contains hi, List.contains_iff_mem]

theorem mem_ids_cut_proximal {t : Table} {c : Int} {d p : Table} (h : cut t c = some (d, p)) (i : Int) :
    i ∈ ids p ↔ i ∈ ids t ∧ (c ∉ rootPath t i ∨ i = c) := by
  obtain ⟨_, rfl, _⟩ := cut_some h
  rw [ids_subset, List.mem_filter]
  refine and_congr_right fun hi => ?_
  rw [distalSet_contains hi]
  simp only [Bool.or_eq_true, Bool.not_eq_true', List.contains_eq_mem, decide_eq_false_iff_not, beq_iff_eq]

theorem mem_ids_cut_cover {t : Table} {c : Int} {d p : Table} (h : cut t c = some (d, p)) (i : Int) :
    i ∈ ids t ↔ i ∈ ids d ∨ i ∈ ids p := by
  rw [mem_ids_cut_distal h, mem_ids_cut_proximal h]
  constructor
  · intro hi
    by_cases hc : c ∈ rootPath t i
    · exact Or.inl ⟨hi, hc⟩
    · exact Or.inr ⟨hi, Or.inl hc⟩
  · rintro (hh | hh) <;> exact hh.1

/-- **Every original edge lies in exactly one piece of a cut**: both pieces are filters of the edge list
(`edges_subset`), and on the edges the two tests are complementary. -/
theorem edges_cut_perm {t : Table} (hw : WF t) {c : Int} {d p : Table} (h : cut t c = some (d, p)) :
    (edges d ++ edges p).Perm (edges t) := by
  obtain ⟨rfl, rfl, _⟩ := cut_some h
  rw [edges_subset, edges_subset]
  refine List.Perm.trans (List.Perm.of_eq (congrArg _ (List.filter_congr fun e he => ?_))) (List.filter_append_perm _ _)
  -- the two ends of an edge are on the same side of the cut, but for the edge from `c` to its parent, which is proximal
  obtain ⟨n, hn, hp, rfl⟩ := mem_edges.mp he
  have hpm := WF_parent_mem hw hn hp
  rw [contains_filter_of_mem hpm, contains_filter_of_mem hpm, distalSet_contains (mem_ids_of_mem hn),
    distalSet_contains hpm]
  by_cases hc : n.id = c
  · rw [List.contains_iff_mem.mpr (hc ▸ rootPath_head_mem (mem_ids_of_mem hn)),
      Bool.eq_false_iff.mpr fun h => parent_not_distal hw hn hp (hc ▸ List.contains_iff_mem.mp h), hc, beq_self_eq_true]
    rfl
  · have : (rootPath t n.id).contains c = (rootPath t n.parent).contains c := by
      rw [Bool.eq_iff_iff, List.contains_iff_mem, List.contains_iff_mem]; exact distal_iff_parent hw hn hp hc
    rw [this, beq_false_of_ne hc]
    cases (rootPath t n.parent).contains c <;> rfl

end Navis.Forest

import NavisModel.Model.Cache
import NavisModel.Proofs.ListLemmas
/-!
The cache protocol of `Model/Cache.lean`, for a variable `Spec`.  The freshness results hang on `SoundFacts sp`, the reading of
the source-level checker `soundB` (every cache attribute is registered, no `exclude` literal names one, `is_stale` / clear /
wrapper have their shapes): under it an effective clear with an `exclude` literal of the source keeps no registered entry, so on
an unlocked neuron the validation step shared by the wrapper, the entry of `lock_neuron` and the in-place operators makes the
stamp current, and under `J` or `K` nothing stale stays cached.  From that: the invariant `J` for histories in which every
change brings fresh content (events, locked calls, catalogue operations, reads), then the `type` column, the invariant `K` for
lock-free user histories in which content may return, reads under the lock.  The `type` column under primitive events, the lock
counter and, at the end, what reaches the hash function need no obligation on the spec.
-/
namespace Navis.Cache

variable {sp : Spec} {s : St}

/-! ### What the state functions compute -/

theorem run_cons (sp : Spec) (s : St) (e : Ev) (es : List Ev) : run sp s (e :: es) = run sp (step sp s e) es := rfl

theorem run_append (sp : Spec) (s : St) (es fs : List Ev) : run sp s (es ++ fs) = run sp (run sp s es) fs :=
  List.foldl_append

theorem isStaleS_eq : isStaleS sp s = { s with stale := (isStaleS sp s).stale } := by
  unfold isStaleS
  cases (sp.isStaleSticky && s.stale) <;> cases sp.isStaleRecomputes <;> rfl

theorem has_isStaleS (sp : Spec) (s : St) (a : Attr) : has (isStaleS sp s) a = has s a := by
  rw [isStaleS_eq]; rfl

theorem tagOf_isStaleS (sp : Spec) (s : St) (a : Attr) : tagOf (isStaleS sp s) a = tagOf s a := by
  rw [isStaleS_eq]; rfl

theorem stamp_of_not_stale (hr : sp.isStaleRecomputes = true)
    (h : (isStaleS sp s).stale = false) : s.md5 = s.ver := by
  unfold isStaleS at h
  rw [if_pos hr] at h
  cases hc : (sp.isStaleSticky && s.stale) <;> rw [hc] at h
  · exact bne_eq_false_iff_eq.mp h
  · -- the sticky branch returns the flag as it is, and it is set
    exact nomatch (Bool.and_eq_true_iff.mp hc).2.symm.trans h

theorem isStaleS_current (hst : s.stale = false) (hm : s.md5 = s.ver) : isStaleS sp s = s := by
  cases s
  simp only at hst hm
  subst hst hm
  simp [isStaleS]

theorem clearBase_eq {excl : List String} :
    clearBase sp excl s = { s with md5 := (clearBase sp excl s).md5, stale := (clearBase sp excl s).stale,
                                   cache := (clearBase sp excl s).cache } := by
  unfold clearBase
  cases (sp.clearGuardsLock && decide (0 < s.lock)) <;> rfl

theorem clearS_eq {excl : List String} :
    clearS sp excl s = { s with md5 := (clearS sp excl s).md5, stale := (clearS sp excl s).stale,
                                cache := (clearS sp excl s).cache, typeVer := (clearS sp excl s).typeVer } := by
  unfold clearS
  rw [clearBase_eq]
  cases excl.contains "classify_nodes" <;> rfl

theorem clearS_unlocked (hr : sp.clearRestamps = true) (hl : s.lock = 0) (excl : List String) :
    clearS sp excl s = { s with md5 := s.ver, stale := false,
                                cache := if sp.clearDeletes then retained sp excl s.cache else s.cache,
                                typeVer := if excl.contains "classify_nodes" then s.typeVer else s.tver } := by
  unfold clearS clearBase
  rw [hl, hr, decide_eq_false (Nat.lt_irrefl 0), Bool.and_false]
  cases excl.contains "classify_nodes" <;> rfl

theorem clearS_lock {excl : List String} : (clearS sp excl s).lock = s.lock := by
  rw [clearS_eq]

/-- Compute-if-absent: nothing if the entry is there, otherwise it is written (a compute body that calls `copy`
evaluates `is_stale` on the way, which only touches the flag). -/
theorem run_fillPrims (sp : Spec) (s : St) (v : View) :
    ∃ b, run sp s (fillPrims s v) = if has s v.attr then s else put { s with stale := b } v.attr := by
  unfold fillPrims
  cases has s v.attr
  · cases v.selfCopy
    · exact ⟨s.stale, rfl⟩
    · exact ⟨(isStaleS sp s).stale, congrArg (put · v.attr) isStaleS_eq⟩
  · exact ⟨s.stale, rfl⟩

theorem copyS_cases (sp : Spec) (s : St) : copyS sp s = unlocked sp s ∨ copyS sp s = clearS sp [] (unlocked sp s) := by
  unfold copyS
  cases (isStaleS sp s).stale
  · exact Or.inl rfl
  · cases sp.copyClearsIfStale
    · exact Or.inl rfl
    · exact Or.inr rfl

theorem retype_cases (sp : Spec) (s : St) (t0 : Nat) :
    step sp s (.retype t0) = s ∨ step sp s (.retype t0) = classifyS s :=
  (ite_cases _ _ _).symm

theorem unlocked_lock (hl : s.lock = 0) : (unlocked sp s).lock = 0 := by
  unfold unlocked; rw [hl, ite_self]

theorem has_pickleS_drop {a : Attr} (ha : a ∈ sp.getstateDrops) : has (pickleS sp s) a = false := by
  unfold has pickleS
  rw [List.any_eq_false]
  intro p hp hpa
  have hq := (List.mem_filter.mp hp).2
  rw [eq_of_beq hpa, List.contains_iff_mem.mpr ha] at hq
  cases hq

theorem unlocked_eq (hn : "_lock" ∈ sp.copyNoCopy) : unlocked sp s = { s with lock := 0 } := by
  unfold unlocked; rw [if_pos (List.contains_iff_mem.mpr hn)]

theorem copyS_not_stale (h : (isStaleS sp s).stale = false) : copyS sp s = unlocked sp s := by
  unfold copyS; rw [h]; rfl

theorem forall_mem_put {a : Attr} {P : Attr × Nat → Prop} (h0 : P (a, s.ver)) (h : ∀ p ∈ s.cache, P p) :
    ∀ p ∈ (put s a).cache, P p :=
  List.forall_mem_cons.mpr ⟨h0, fun p hp => h p (List.mem_filter.mp hp).1⟩

theorem forall_mem_pickleS {P : Attr × Nat → Prop} (h : ∀ p ∈ s.cache, P p) :
    ∀ p ∈ (pickleS sp s).cache, P p :=
  fun p hp => h p (List.mem_filter.mp hp).1

/-! ### The source-level obligations and the validation step -/

def Sound (sp : Spec) : Prop := soundB sp = true

structure SoundFacts (sp : Spec) : Prop where
  restamps : sp.clearRestamps = true
  deletes : sp.clearDeletes = true
  recomputes : sp.isStaleRecomputes = true
  wrapper : sp.wrapperChecks = true
  registered : ∀ v ∈ sp.views, v.attr ∈ sp.tempAttr
  exclFree : ∀ c ∈ sp.clearSites, ∀ v ∈ sp.views, exclMatches sp c.excl v.attr = false

theorem soundB_iff_soundFacts (sp : Spec) : soundB sp = true ↔ SoundFacts sp := by
  unfold soundB
  simp only [Bool.and_eq_true, List.all_eq_true, List.contains_iff_mem, Bool.not_eq_eq_eq_not, Bool.not_true]
  exact ⟨fun ⟨⟨⟨⟨⟨h1, h2⟩, h3⟩, h4⟩, h5⟩, h6⟩ => ⟨h1, h2, h3, h4, h5, h6⟩,
    fun h => ⟨⟨⟨⟨⟨h.restamps, h.deletes⟩, h.recomputes⟩, h.wrapper⟩, h.registered⟩, h.exclFree⟩⟩

theorem Sound.facts (h : Sound sp) : SoundFacts sp := (soundB_iff_soundFacts sp).mp h

theorem mem_cachedAttrs {a : Attr} : a ∈ cachedAttrs sp ↔ ∃ v ∈ sp.views, v.attr = a :=
  List.mem_map

theorem knownExcl_nil : knownExcl sp [] = true := rfl

theorem knownExcl_site {c : ClearSite} (hc : c ∈ sp.clearSites) : knownExcl sp c.excl = true := by
  unfold knownExcl
  rw [Bool.or_eq_true, List.any_eq_true]
  exact Or.inr ⟨c, hc, beq_self_eq_true _⟩

/-- Under the source-level obligations an effective clear with an `exclude` literal of the source
keeps no cache entry. -/
theorem retained_nil (h : SoundFacts sp) {excl : List String} (hk : knownExcl sp excl = true)
    {c : List (Attr × Nat)} (hc : ∀ p ∈ c, p.1 ∈ cachedAttrs sp) : retained sp excl c = [] := by
  unfold retained
  rw [List.filter_eq_nil_iff]
  intro p hp
  obtain ⟨v, hv, hva⟩ := mem_cachedAttrs.mp (hc p hp)
  have hreg : p.1 ∈ sp.tempAttr := hva ▸ h.registered v hv
  have hex : exclMatches sp excl p.1 = false := by
    unfold knownExcl at hk
    simp only [Bool.or_eq_true, beq_iff_eq, List.any_eq_true] at hk
    rcases hk with hk | ⟨cs, hcs, hce⟩
    · subst hk; simp [exclMatches]
    · have := h.exclFree cs hcs v hv
      rw [hce, hva] at this; exact this
  simp [hreg, hex]

/-- The validation step shared by the `temp_property` wrapper, the entry of `lock_neuron` and the in-place
operators: `is_stale`, and a full clear if stale. -/
def checkPrims (sp : Spec) (s : St) : List Ev :=
  if (isStaleS sp s).stale then [.isStale, .clear []] else [.isStale]

theorem check_unlocked (hs : SoundFacts sp) (hl : s.lock = 0) :
    run sp s (checkPrims sp s) =
        { s with md5 := s.ver, stale := false, cache := retained sp [] s.cache, typeVer := s.tver } ∨
      (s.md5 = s.ver ∧ run sp s (checkPrims sp s) = { s with stale := false }) := by
  unfold checkPrims
  cases hst : (isStaleS sp s).stale with
  | true =>
    left
    show clearS sp [] (isStaleS sp s) = _
    have hl' : (isStaleS sp s).lock = 0 := by rw [isStaleS_eq]; exact hl
    rw [clearS_unlocked hs.restamps hl', if_pos hs.deletes, isStaleS_eq]
    rfl
  | false =>
    right
    refine ⟨stamp_of_not_stale hs.recomputes hst, ?_⟩
    show isStaleS sp s = _
    rw [isStaleS_eq, hst]

theorem check_current (hst : s.stale = false) (hm : s.md5 = s.ver) :
    run sp s (checkPrims sp s) = s := by
  unfold checkPrims
  rw [isStaleS_current hst hm, hst]
  exact isStaleS_current hst hm

/-- The three guards (wrapper, `lock_neuron` entry, in-place operators) have one shape: nothing when the source has
no such step or the lock is held, otherwise the validation step. -/
theorem guard_unlocked {b : Bool} (hb : b = true) (hl : s.lock = 0) {l : List Ev} :
    (if !b || decide (0 < s.lock) then [] else l) = l := by
  rw [hb, hl]; rfl

theorem guard_locked {b : Bool} (hl : 0 < s.lock) {l : List Ev} :
    (if !b || decide (0 < s.lock) then [] else l) = [] := by
  rw [decide_eq_true hl, Bool.or_true]; rfl

theorem wrapperPrims_cases (sp : Spec) (s : St) : wrapperPrims sp s = [] ∨ wrapperPrims sp s = checkPrims sp s :=
  ite_cases _ _ _

theorem lockEntryPrims_cases (sp : Spec) (s : St) :
    lockEntryPrims sp s = [] ∨ lockEntryPrims sp s = checkPrims sp s :=
  ite_cases _ _ _

theorem validatePrims_cases (sp : Spec) (s : St) :
    validatePrims sp s = [] ∨ validatePrims sp s = checkPrims sp s :=
  ite_cases _ _ _

theorem wrapperPrims_check (hw : sp.wrapperChecks = true) (hl : s.lock = 0) :
    wrapperPrims sp s = checkPrims sp s :=
  guard_unlocked hw hl

theorem lockEntryPrims_check (hf : sp.lockChecksStale = true) (hl : s.lock = 0) :
    lockEntryPrims sp s = checkPrims sp s :=
  guard_unlocked hf hl

theorem validatePrims_check (hv : sp.iopValidates = true) (hl : s.lock = 0) :
    validatePrims sp s = checkPrims sp s :=
  guard_unlocked hv hl

theorem lockEntryPrims_locked (hl : 0 < s.lock) : lockEntryPrims sp s = [] :=
  guard_locked hl

theorem forall_mem_lockEntryPrims {P : Ev → Prop} (h1 : P .isStale) (h2 : P (.clear [])) :
    ∀ e ∈ lockEntryPrims sp s, P e := by
  rcases lockEntryPrims_cases sp s with h | h <;> rw [h]
  · exact List.forall_mem_nil _
  · unfold checkPrims
    cases (isStaleS sp s).stale
    · exact List.forall_mem_singleton.mpr h1
    · exact List.forall_mem_cons.mpr ⟨h1, List.forall_mem_singleton.mpr h2⟩

theorem run_lockedCall {body : List Ev} {raises : Bool} :
    run sp s (lockedCall sp s body raises) =
      if raises && !sp.lockFinally then run sp (step sp (run sp s (lockEntryPrims sp s)) .lock) body
      else step sp (run sp (step sp (run sp s (lockEntryPrims sp s)) .lock) body) .unlock := by
  unfold lockedCall
  rw [run_append, run_append, run_append]
  cases (raises && !sp.lockFinally) <;> rfl

/-- a locked call that returns, or raises through the `finally:`, releases the lock -/
theorem run_lockedCall_released {body : List Ev} {raises : Bool}
    (h : raises = false ∨ sp.lockFinally = true) :
    run sp s (lockedCall sp s body raises) =
      step sp (run sp (step sp (run sp s (lockEntryPrims sp s)) .lock) body) .unlock := by
  rw [run_lockedCall]
  rcases h with h | h <;> rw [h]
  · rfl
  · rw [Bool.not_true, Bool.and_false]; rfl

theorem run_lockedClassify :
    run sp s (lockedCall sp s [.classify] false) =
      { run sp s (lockEntryPrims sp s) with typeVer := (run sp s (lockEntryPrims sp s)).tver } := by
  rw [run_lockedCall_released (.inl rfl)]
  generalize run sp s (lockEntryPrims sp s) = s0
  rfl

/-! ### The invariant `J`: events, locked calls, catalogue operations -/

/-- "If the stamp equals the current content, every entry was computed from the current content",
plus bookkeeping (content ids seen so far are below `hi`; only registered attributes are cached). -/
structure J (sp : Spec) (s : St) : Prop where
  md5_lt : s.md5 < s.hi
  ver_lt : s.ver < s.hi
  attrs : ∀ p ∈ s.cache, p.1 ∈ cachedAttrs sp
  fresh : s.md5 = s.ver → ∀ p ∈ s.cache, p.2 = s.ver

/-- The premise is `stampCurrent s = true` (`Model/Cache.lean`, what the examples of `Props/C02` evaluate) as a `Prop`. -/
def Inv (s : St) : Prop :=
  (s.lock = 0 ∧ s.stale = false ∧ s.md5 = s.ver) → ∀ p ∈ s.cache, p.2 = s.ver

theorem J.inv (h : J sp s) : Inv s := fun hp => h.fresh hp.2.2

theorem J_of_nil (h1 : s.md5 < s.hi) (h2 : s.ver < s.hi) (hc : s.cache = []) : J sp s :=
  ⟨h1, h2, hc ▸ List.forall_mem_nil _, fun _ => hc ▸ List.forall_mem_nil _⟩

theorem J_init : J sp init := J_of_nil Nat.zero_lt_one Nat.zero_lt_one rfl

theorem J.frame (h : J sp s) {b : Bool} {n t : Nat} :
    J sp { s with stale := b, lock := n, typeVer := t } := ⟨h.md5_lt, h.ver_lt, h.attrs, h.fresh⟩

theorem J_clear (hs : SoundFacts sp) (h : J sp s) {excl : List String}
    (hk : knownExcl sp excl = true) : J sp (clearS sp excl s) := by
  have hb : J sp (clearBase sp excl s) := by
    unfold clearBase
    cases (sp.clearGuardsLock && decide (0 < s.lock))
    · rw [if_neg Bool.false_ne_true, if_pos hs.restamps, if_pos hs.restamps, if_pos hs.deletes]
      exact J_of_nil h.ver_lt h.ver_lt (retained_nil hs hk h.attrs)
    · exact h
  unfold clearS
  cases excl.contains "classify_nodes"
  · exact hb.frame
  · exact hb

theorem J_put (h : J sp s) {a : Attr} (ha : a ∈ cachedAttrs sp) : J sp (put s a) :=
  ⟨h.md5_lt, h.ver_lt, forall_mem_put ha h.attrs, fun hm => forall_mem_put rfl (h.fresh hm)⟩

/-- Events that need no condition on the state and leave the content alone: everything but a `change`, with
`exclude` literals of the source and registered cache attributes only. -/
def quiet (sp : Spec) : Ev → Bool
  | .change _ _ => false
  | .clear excl => knownExcl sp excl
  | .write a => (cachedAttrs sp).contains a
  | _ => true

theorem J_quiet (hs : SoundFacts sp) (h : J sp s) (e : Ev) (hq : quiet sp e = true) :
    J sp (step sp s e) ∧ (step sp s e).hi = s.hi := by
  cases e with
  | isStale | copyOut =>
    show J sp (isStaleS sp s) ∧ (isStaleS sp s).hi = s.hi
    rw [isStaleS_eq]; exact ⟨h.frame, rfl⟩
  | clear excl => exact ⟨J_clear hs h hq, by show (clearS sp excl s).hi = _; rw [clearS_eq]⟩
  | write a => exact ⟨J_put h (List.contains_iff_mem.mp hq), rfl⟩
  | change v t => cases hq
  | classify | lock | unlock => exact ⟨h.frame, rfl⟩
  | retype t0 =>
    rcases retype_cases sp s t0 with e | e <;> rw [e]
    · exact ⟨h, rfl⟩
    · exact ⟨h.frame, rfl⟩
  | copy =>
    have hu : J sp (unlocked sp s) := h.frame
    show J sp (copyS sp s) ∧ (copyS sp s).hi = s.hi
    rcases copyS_cases sp s with e | e <;> rw [e]
    · exact ⟨hu, rfl⟩
    · exact ⟨J_clear hs hu knownExcl_nil, by rw [clearS_eq]; rfl⟩
  | pickle =>
    exact ⟨⟨h.md5_lt, h.ver_lt, forall_mem_pickleS h.attrs, fun hm => forall_mem_pickleS (h.fresh hm)⟩, rfl⟩
  | enter _ | exit _ => exact ⟨h, rfl⟩

theorem J_run_quiet (hs : SoundFacts sp) {es : List Ev} (h : J sp s)
    (hq : ∀ e ∈ es, quiet sp e = true) : J sp (run sp s es) ∧ (run sp s es).hi = s.hi :=
  List.foldlRecOn (motive := fun s' => J sp s' ∧ s'.hi = s.hi) es (step sp) ⟨h, rfl⟩
    fun _ ⟨j, hi⟩ e he => (J_quiet hs j e (hq e he)).imp_right (·.trans hi)

theorem J_step (hs : SoundFacts sp) (h : J sp s) (e : Ev) (ha : admB sp s e = true) :
    J sp (step sp s e) := by
  cases e with
  | change v t =>
    -- the new content is above everything seen so far, so the stamp cannot equal it
    have hv : s.hi ≤ v := of_decide_eq_true ha
    exact ⟨Nat.lt_of_lt_of_le h.md5_lt (Nat.le_max_left _ _), Nat.lt_of_lt_of_le (Nat.lt_succ_self v) (Nat.le_max_right _ _),
      h.attrs, fun (hmd : s.md5 = v) => absurd (hmd ▸ h.md5_lt) (Nat.not_lt.mpr hv)⟩
  | clear excl => exact (J_quiet hs h (.clear excl) ha).1
  | write a => exact (J_quiet hs h (.write a) ha).1
  | _ => exact (J_quiet hs h _ rfl).1

theorem J_run (hs : SoundFacts sp) {es : List Ev} (h : J sp s) (ha : admAll sp s es = true) :
    J sp (run sp s es) := by
  induction es generalizing s with
  | nil => exact h
  | cons e es ih =>
    simp only [admAll, Bool.and_eq_true] at ha
    exact ih (J_step hs h e ha.1) ha.2

theorem admAll_append (sp : Spec) (s : St) (es fs : List Ev) :
    admAll sp s (es ++ fs) = (admAll sp s es && admAll sp (run sp s es) fs) := by
  induction es generalizing s with
  | nil => simp [admAll, run]
  | cons e es ih => simp [admAll, run, ih, Bool.and_assoc]

theorem lockEntryPrims_quiet (sp : Spec) (s : St) : ∀ e ∈ lockEntryPrims sp s, quiet sp e = true :=
  forall_mem_lockEntryPrims rfl rfl

/-- A locked call whose body consists of admissible events preserves the invariant: the entry check is quiet,
lock and unlock are not read by `J`. -/
theorem J_lockedCall (hs : SoundFacts sp) (h : J sp s) {body : List Ev} {raises : Bool}
    (hb : admAll sp (run sp s (lockEntryPrims sp s ++ [Ev.lock])) body = true) :
    J sp (run sp s (lockedCall sp s body raises)) := by
  have j0 : J sp (run sp s (lockEntryPrims sp s ++ [Ev.lock])) := by
    rw [run_append]
    exact (J_run_quiet hs h (lockEntryPrims_quiet sp s)).1.frame
  have j1 := J_run hs j0 hb
  rw [run_append] at j1
  rw [run_lockedCall]
  cases (raises && !sp.lockFinally)
  · exact j1.frame
  · exact j1

theorem writes_quiet {vs : List View} (h : ∀ v ∈ vs, v ∈ sp.views) :
    ∀ e ∈ vs.map (fun w => Ev.write w.attr), quiet sp e = true :=
  List.forall_mem_map.mpr fun w hw => List.contains_iff_mem.mpr (mem_cachedAttrs.mpr ⟨w, h w hw, rfl⟩)

/-- Every operation of the catalogue preserves the invariant, with or without its trailing clear: everything
before and after the change of the table is quiet, and the change produces fresh content. -/
theorem J_opPrims (hs : SoundFacts sp) {c : ClearSite} (hc : c ∈ sp.clearSites) (h : J sp s)
    {pre post : List View} (hpre : ∀ v ∈ pre, v ∈ sp.views) (hpost : ∀ v ∈ post, v ∈ sp.views)
    {v t : Nat} (hv : s.hi ≤ v) {withClear : Bool} :
    J sp (run sp s (opPrims sp s c pre post v t withClear)) := by
  unfold opPrims
  simp only [List.append_assoc]
  rw [← List.append_assoc, run_append, run_append]
  -- up to the change: entry check and lock (if the function is locked), cache writes
  obtain ⟨j1, h1⟩ := J_run_quiet hs h (List.forall_mem_append.mpr
    ⟨forall_mem_ite_nil (List.forall_mem_append.mpr
      ⟨lockEntryPrims_quiet sp s, (List.forall_mem_singleton (a := Ev.lock)).mpr rfl⟩), writes_quiet hpre⟩)
  refine (J_run_quiet hs (J_step hs j1 (.change v t) (decide_eq_true (h1 ▸ hv))) ?_).1
  -- after it: cache writes, the trailing clear (if kept), unlock (if locked)
  exact List.forall_mem_append.mpr ⟨writes_quiet hpost, List.forall_mem_append.mpr
    ⟨forall_mem_ite_nil (List.forall_mem_singleton.mpr (knownExcl_site hc)),
     forall_mem_ite_nil (List.forall_mem_singleton.mpr rfl)⟩⟩

/-- one call of a catalogue operation: its clear site, the views read under the lock / written from the changed
table, the new content, whether the trailing clear is still there -/
structure OpCall where
  c : ClearSite
  pre : List View
  post : List View
  v : Nat
  t : Nat
  withClear : Bool

def opsRun (sp : Spec) : St → List OpCall → St
  | s, [] => s
  | s, o :: os => opsRun sp (run sp s (opPrims sp s o.c o.pre o.post o.v o.t o.withClear)) os

/-- admissible sequence: every call site is one of the source, reads / writes concern cached views of the spec,
every operation produces content not seen before -/
def opsAdm (sp : Spec) : St → List OpCall → Prop
  | _, [] => True
  | s, o :: os => (o.c ∈ sp.clearSites ∧ (∀ v ∈ o.pre, v ∈ sp.views) ∧ (∀ v ∈ o.post, v ∈ sp.views) ∧ s.hi ≤ o.v) ∧
      opsAdm sp (run sp s (opPrims sp s o.c o.pre o.post o.v o.t o.withClear)) os

theorem J_opsRun (hs : SoundFacts sp) {os : List OpCall} (h : J sp s) (ha : opsAdm sp s os) :
    J sp (opsRun sp s os) := by
  induction os generalizing s with
  | nil => exact h
  | cons o os ih =>
    obtain ⟨⟨hc, hpre, hpost, hv⟩, hrest⟩ := ha
    exact ih (J_opPrims hs hc h hpre hpost hv) hrest

theorem copyS_stale (hs : SoundFacts sp) (hc : sp.copyClearsIfStale = true) (hn : "_lock" ∈ sp.copyNoCopy)
    (h : J sp s) (hst : (isStaleS sp s).stale = true) :
    copyS sp s = { s with lock := 0, md5 := s.ver, stale := false, cache := [], typeVer := s.tver } := by
  unfold copyS
  rw [if_pos hst, if_pos hc, unlocked_eq hn, clearS_unlocked hs.restamps rfl, if_pos hs.deletes]
  show ({ s with lock := 0, md5 := s.ver, stale := false, cache := retained sp [] s.cache, typeVer := s.tver } : St) = _
  rw [retained_nil hs knownExcl_nil h.attrs]

/-! ### Reads -/

theorem tagOf_put {a : Attr} : tagOf (put s a) a = some s.ver := by
  simp [tagOf, put]

theorem has_put {a : Attr} : has (put s a) a = true := by simp [has, put]

theorem tagOf_of_has {a : Attr} (h : has s a = true) : ∃ p ∈ s.cache, tagOf s a = some p.2 := by
  obtain ⟨p, hp, hpa⟩ := List.any_eq_true.mp h
  unfold tagOf
  cases hf : s.cache.find? (fun p => p.1 == a) with
  | none => exact absurd hpa (List.find?_eq_none.mp hf p hp)
  | some q => exact ⟨q, List.mem_of_find?_eq_some hf, rfl⟩

theorem has_of_tagOf {a : Attr} {t : Nat} (h : tagOf s a = some t) : has s a = true := by
  obtain ⟨q, hq, _⟩ := Option.map_eq_some_iff.mp h
  exact List.any_eq_true.mpr ⟨q, List.mem_of_find?_eq_some hq, List.find?_some (p := fun p : Attr × Nat => p.1 == a) hq⟩

theorem fill_current (sp : Spec) (s : St) (v : View) (hf : ∀ p ∈ s.cache, p.2 = s.ver) :
    tagOf (run sp s (fillPrims s v)) v.attr = some s.ver ∧ ∀ p ∈ (run sp s (fillPrims s v)).cache, p.2 = s.ver := by
  obtain ⟨b, hb⟩ := run_fillPrims sp s v
  rw [hb]
  cases hh : has s v.attr
  · exact ⟨tagOf_put, forall_mem_put rfl hf⟩
  · obtain ⟨p, hp, ht⟩ := tagOf_of_has hh
    exact ⟨by rw [if_pos rfl, ht, hf p hp], hf⟩

theorem fill_eq {v : View} :
    run sp s (fillPrims s v) = { s with stale := (run sp s (fillPrims s v)).stale,
                                        cache := (run sp s (fillPrims s v)).cache } := by
  obtain ⟨b, hb⟩ := run_fillPrims sp s v
  rw [hb]
  cases has s v.attr <;> rfl

theorem J_fill (h : J sp s) {v : View} (hv : v ∈ sp.views) : J sp (run sp s (fillPrims s v)) := by
  obtain ⟨b, hb⟩ := run_fillPrims sp s v
  rw [hb]
  cases has s v.attr
  · exact J_put h.frame (mem_cachedAttrs.mpr ⟨v, hv, rfl⟩)
  · exact h

theorem J_check (hs : SoundFacts sp) (h : J sp s) (hl : s.lock = 0) :
    (run sp s (checkPrims sp s)).ver = s.ver ∧ (run sp s (checkPrims sp s)).lock = 0 ∧
    (∀ p ∈ (run sp s (checkPrims sp s)).cache, p.2 = s.ver) ∧ J sp (run sp s (checkPrims sp s)) := by
  rcases check_unlocked hs hl with e | ⟨hm, e⟩ <;> rw [e]
  · rw [retained_nil hs knownExcl_nil h.attrs]
    exact ⟨rfl, hl, List.forall_mem_nil _, J_of_nil h.ver_lt h.ver_lt rfl⟩
  · exact ⟨rfl, hl, h.fresh hm, h.frame⟩

theorem readS_eq {v : View} :
    readS sp s v = run sp (run sp s (viewPrefix sp s v)) (fillPrims (run sp s (viewPrefix sp s v)) v) := by
  unfold readS readPrims
  rw [run_append, run_append, run_append]
  rfl

theorem viewPrefix_wrapped {v : View} (hw : v.wrapped = true) :
    viewPrefix sp s v = wrapperPrims sp s := if_pos hw

theorem viewPrefix_unwrapped {v : View} (hw : v.wrapped = false) : viewPrefix sp s v = [] := by
  unfold viewPrefix; rw [hw]; rfl

theorem viewPrefix_locked (hl : 0 < s.lock) {v : View} : viewPrefix sp s v = [] := by
  unfold viewPrefix
  rw [show wrapperPrims sp s = [] from guard_locked hl, ite_self]

theorem readS_of_prefix_nil {v : View} (h : viewPrefix sp s v = []) :
    ∃ b, readS sp s v = if has s v.attr then s else put { s with stale := b } v.attr := by
  rw [readS_eq, h]; exact run_fillPrims sp s v

theorem read_current (hs : SoundFacts sp) (h : J sp s) (hl : s.lock = 0)
    {v : View} (hv : v ∈ sp.views) (hw : v.wrapped = true) :
    readTag sp s v = some s.ver ∧ (readS sp s v).ver = s.ver ∧ (readS sp s v).lock = 0 ∧ J sp (readS sp s v) := by
  unfold readTag
  rw [readS_eq, viewPrefix_wrapped hw, wrapperPrims_check hs.wrapper hl]
  obtain ⟨e1, e2, e3, hJ⟩ := J_check hs h hl
  obtain ⟨t1, _⟩ := fill_current sp _ v (by rw [e1]; exact e3)
  exact ⟨by rw [t1, e1], by rw [fill_eq]; exact e1, by rw [fill_eq]; exact e2, J_fill hJ hv⟩

def readsS (sp : Spec) (s : St) (vs : List View) : St := vs.foldl (readS sp) s

theorem J_readsS (hs : SoundFacts sp) {vs : List View} (h : J sp s) (hl : s.lock = 0)
    (hv : ∀ v ∈ vs, v ∈ sp.views ∧ v.wrapped = true) :
    J sp (readsS sp s vs) ∧ (readsS sp s vs).lock = 0 ∧ (readsS sp s vs).ver = s.ver :=
  List.foldlRecOn (motive := fun s' => J sp s' ∧ s'.lock = 0 ∧ s'.ver = s.ver) vs (readS sp) ⟨h, hl, rfl⟩
    fun _ ⟨j, l, e⟩ v hm =>
      let ⟨_, e', l', j'⟩ := read_current hs j l (hv v hm).1 (hv v hm).2
      ⟨j', l', e'.trans e⟩

/-- A read that no validation step precedes returns the entry that is cached, whatever it was computed from. -/
theorem read_cached {v : View} (hp : viewPrefix sp s v = []) {t : Nat} (ht : tagOf s v.attr = some t) :
    readTag sp s v = some t := by
  obtain ⟨_, e⟩ := readS_of_prefix_nil hp
  unfold readTag
  rw [e, if_pos (has_of_tagOf ht)]
  exact ht

theorem unwrapped_stale {v : View} (hw : v.wrapped = false)
    (habs : has s v.attr = false) (v' t : Nat) :
    readTag sp (step sp (readS sp s v) (.change v' t)) v = some s.ver ∧
    (step sp (readS sp s v) (.change v' t)).ver = v' := by
  refine ⟨read_cached (viewPrefix_unwrapped hw) ?_, rfl⟩
  -- the first read found nothing and computed the entry from `s.ver`
  obtain ⟨b, e⟩ := readS_of_prefix_nil (viewPrefix_unwrapped hw)
  rw [e, habs]
  exact tagOf_put

/-! ### The `type` column under primitive events and reads -/

theorem clearS_type_kept {excl : List String} (h : s.typeVer = s.tver) :
    (clearS sp excl s).typeVer = (clearS sp excl s).tver := by
  unfold clearS
  cases excl.contains "classify_nodes"
  · rfl
  · rw [if_pos rfl, clearBase_eq]; exact h

theorem type_kept {e : Ev} (h : s.typeVer = s.tver)
    (he : ∀ v t, e = .change v t → t = s.tver) : (step sp s e).typeVer = (step sp s e).tver := by
  cases e with
  | isStale | copyOut => show (isStaleS sp s).typeVer = (isStaleS sp s).tver; rw [isStaleS_eq]; exact h
  | clear excl => exact clearS_type_kept h
  | change v t => show s.typeVer = t; rw [he v t rfl]; exact h
  | classify => rfl
  | retype t0 =>
    rcases retype_cases sp s t0 with e | e <;> rw [e]
    · exact h
    · rfl
  | copy =>
    show (copyS sp s).typeVer = (copyS sp s).tver
    rcases copyS_cases sp s with e | e <;> rw [e]
    · exact h
    · exact clearS_type_kept h
  | _ => exact h

theorem read_reclassifies (hs : SoundFacts sp) (hl : s.lock = 0) (hne : s.md5 ≠ s.ver)
    {v : View} (hw : v.wrapped = true) : (readS sp s v).typeVer = (readS sp s v).tver := by
  rw [readS_eq, viewPrefix_wrapped hw, wrapperPrims_check hs.wrapper hl, fill_eq]
  rcases check_unlocked hs hl with e | ⟨hm, _⟩
  · rw [e]
  · exact absurd hm hne

theorem read_keeps_type (hst : s.stale = false) (hm : s.md5 = s.ver) (v : View) :
    (readS sp s v).typeVer = s.typeVer ∧ (readS sp s v).tver = s.tver ∧
    (readS sp s v).md5 = (readS sp s v).ver := by
  have hp : run sp s (viewPrefix sp s v) = s := by
    unfold viewPrefix
    cases v.wrapped
    · rfl
    · rcases wrapperPrims_cases sp s with e | e <;> rw [if_pos rfl, e]
      · rfl
      · exact check_current hst hm
  rw [readS_eq, hp, fill_eq]
  exact ⟨rfl, rfl, hm⟩

/-! ### Edit / undo without locks: content may return to an earlier value -/

/-- User-level events on a neuron whose lock is free between events (`setNodes` takes and releases it inside). -/
inductive UEv where
  | read (v : View)                                  -- read of a cached view (`UAdm` admits the wrapped ones)
  | edit (v t : Nat)                                 -- in-place edit of `x.nodes` to *any* content
  | setNodes (v t : Nat)                             -- `x.nodes = df`
  | arith (v t : Nat) (excl : List String)           -- in-place arithmetic: validation, change, the trailing clear
  | isStale | copy | copyOut | pickle

def uprims (sp : Spec) (s : St) : UEv → List Ev
  | .read v => readPrims sp s v
  | .edit v t => [.change v t]
  -- the setter validates the table and calls `classify_nodes`, a `@lock_neuron` function
  | .setNodes v t => [.change v t] ++ lockedCall sp (step sp s (.change v t)) [.classify] false
  -- in-place arithmetic: validation of the caches (if the source has it), the coordinates change, the trailing
  -- clear; an operation that excludes the re-classification does not touch `node_id,parent_id`
  | .arith v t excl =>
    validatePrims sp s ++
      [.change v (if excl.contains "classify_nodes" then (run sp s (validatePrims sp s)).tver else t), .clear excl]
  | .isStale => [.isStale]
  | .copy => [.copy]
  | .copyOut => [.copyOut]
  | .pickle => [.pickle]

def ustep (sp : Spec) (s : St) (u : UEv) : St := run sp s (uprims sp s u)
def urun (sp : Spec) (s : St) (us : List UEv) : St := us.foldl (ustep sp) s

def UAdm (sp : Spec) : UEv → Prop
  | .read v => v ∈ sp.views ∧ v.wrapped = true
  | .arith _ _ excl => knownExcl sp excl = true
  | _ => True

theorem ustep_setNodes {v t : Nat} :
    ustep sp s (.setNodes v t) =
      run sp (step sp s (.change v t)) (lockedCall sp (step sp s (.change v t)) [.classify] false) :=
  run_append sp s [.change v t] _

theorem ustep_arith {v t : Nat} {excl : List String} :
    ustep sp s (.arith v t excl) =
      clearS sp excl (step sp (run sp s (validatePrims sp s))
        (.change v (if excl.contains "classify_nodes" then (run sp s (validatePrims sp s)).tver else t))) :=
  run_append sp s (validatePrims sp s) _

/-- invariant of lock-free histories: every entry was computed from the stamped content -/
structure K (sp : Spec) (s : St) : Prop where
  unlocked : s.lock = 0
  attrs : ∀ p ∈ s.cache, p.1 ∈ cachedAttrs sp
  tags : ∀ p ∈ s.cache, p.2 = s.md5

theorem K.inv (h : K sp s) : Inv s := by
  intro hp p hq; rw [h.tags p hq]; exact hp.2.2

theorem K_of_nil (hl : s.lock = 0) (hc : s.cache = []) : K sp s :=
  ⟨hl, hc ▸ List.forall_mem_nil _, hc ▸ List.forall_mem_nil _⟩

theorem K_init : K sp init := K_of_nil rfl rfl

theorem K_clear (hs : SoundFacts sp) (h : K sp s) {excl : List String}
    (hk : knownExcl sp excl = true) : K sp (clearS sp excl s) := by
  rw [clearS_unlocked hs.restamps h.unlocked, if_pos hs.deletes]
  exact K_of_nil h.unlocked (retained_nil hs hk h.attrs)

theorem K_check (hs : SoundFacts sp) (h : K sp s) :
    K sp (run sp s (checkPrims sp s)) ∧ (run sp s (checkPrims sp s)).md5 = (run sp s (checkPrims sp s)).ver := by
  rcases check_unlocked hs h.unlocked with e | ⟨hm, e⟩ <;> rw [e]
  · exact ⟨K_of_nil h.unlocked (retained_nil hs knownExcl_nil h.attrs), rfl⟩
  · exact ⟨⟨h.unlocked, h.attrs, h.tags⟩, hm⟩

/-- each of the three guards keeps `K`, present or not -/
theorem K_guard (hs : SoundFacts sp) (h : K sp s) {es : List Ev}
    (he : es = [] ∨ es = checkPrims sp s) : K sp (run sp s es) := by
  rcases he with e | e <;> rw [e]
  · exact h
  · exact (K_check hs h).1

theorem K_read (hs : SoundFacts sp) (h : K sp s) {v : View} (hv : v ∈ sp.views)
    (hw : v.wrapped = true) : K sp (readS sp s v) := by
  rw [readS_eq, viewPrefix_wrapped hw, wrapperPrims_check hs.wrapper h.unlocked]
  obtain ⟨k, hm⟩ := K_check hs h
  generalize run sp s (checkPrims sp s) = s1 at k hm ⊢
  -- the stamp is current, so an entry computed from the content carries the stamp
  obtain ⟨b, hb⟩ := run_fillPrims sp s1 v
  rw [hb]
  cases has s1 v.attr
  · exact ⟨k.unlocked, forall_mem_put (mem_cachedAttrs.mpr ⟨v, hv, rfl⟩) k.attrs, forall_mem_put hm.symm k.tags⟩
  · exact k

theorem K_ustep (hs : SoundFacts sp) (h : K sp s) (u : UEv) (hu : UAdm sp u) :
    K sp (ustep sp s u) := by
  cases u with
  | read v => exact K_read hs h hu.1 hu.2
  | edit v t => exact ⟨h.unlocked, h.attrs, h.tags⟩
  | setNodes v t =>
    have k0 := K_guard hs (s := step sp s (.change v t)) ⟨h.unlocked, h.attrs, h.tags⟩ (lockEntryPrims_cases sp _)
    rw [ustep_setNodes, run_lockedClassify]
    exact ⟨k0.unlocked, k0.attrs, k0.tags⟩
  | arith v t excl =>
    have kv := K_guard hs h (validatePrims_cases sp s)
    rw [ustep_arith]
    generalize run sp s (validatePrims sp s) = s1 at kv
    exact K_clear hs (s := step sp s1 (.change v _)) ⟨kv.unlocked, kv.attrs, kv.tags⟩ hu
  | isStale | copyOut => show K sp (isStaleS sp s); rw [isStaleS_eq]; exact ⟨h.unlocked, h.attrs, h.tags⟩
  | copy =>
    have ku : K sp (unlocked sp s) := ⟨unlocked_lock h.unlocked, h.attrs, h.tags⟩
    show K sp (copyS sp s)
    rcases copyS_cases sp s with e | e <;> rw [e]
    · exact ku
    · exact K_clear hs ku knownExcl_nil
  | pickle =>
    exact ⟨h.unlocked, forall_mem_pickleS h.attrs, forall_mem_pickleS h.tags⟩

theorem K_urun (hs : SoundFacts sp) {us : List UEv} (h : K sp s) (hu : ∀ u ∈ us, UAdm sp u) :
    K sp (urun sp s us) :=
  List.foldlRecOn (motive := K sp) us (ustep sp) h fun _ h u hm => K_ustep hs h u (hu u hm)

/-! ### The lock counter -/

/-- events that happen inside a locked call and do not touch the lock counter -/
def lockNeutral : Ev → Bool
  | .lock => false
  | .unlock => false
  | .copy => false
  | _ => true

theorem step_lock_neutral {e : Ev} (h : lockNeutral e = true) : (step sp s e).lock = s.lock := by
  cases e with
  | isStale | copyOut => show (isStaleS sp s).lock = _; rw [isStaleS_eq]
  | clear excl => exact clearS_lock
  | retype t0 => rcases retype_cases sp s t0 with e | e <;> rw [e] <;> rfl
  | lock | unlock | copy => cases h
  | _ => rfl

/-- event lists that leave the lock counter where it was, from whatever state they are run -/
def LockKept (sp : Spec) (es : List Ev) : Prop := ∀ s, (run sp s es).lock = s.lock

theorem LockKept.neutral {es : List Ev} (h : ∀ e ∈ es, lockNeutral e = true) : LockKept sp es := fun s =>
  List.foldlRecOn (motive := fun s' => s'.lock = s.lock) es (step sp) rfl
    fun _ hl e he => (step_lock_neutral (h e he)).trans hl

theorem LockKept.append {es fs : List Ev} (h1 : LockKept sp es) (h2 : LockKept sp fs) : LockKept sp (es ++ fs) :=
  fun s => by rw [run_append, h2, h1]

/-- With the `finally:` in `lock_neuron`, a locked call leaves the lock counter where it was — whether the body
returns or raises — provided the body does; the body may contain locked calls in turn (the entry check of the
wrapper does not touch the counter). -/
theorem LockKept.call (hf : sp.lockFinally = true) {body : List Ev} (hb : LockKept sp body)
    {raises : Bool} : LockKept sp (lockedCall sp s body raises) := fun s0 => by
  have he : LockKept sp (lockEntryPrims sp s) := .neutral (forall_mem_lockEntryPrims rfl rfl)
  unfold lockedCall
  rw [hf, Bool.not_true, Bool.and_false, run_append, run_append, run_append]
  show (run sp (step sp (run sp s0 (lockEntryPrims sp s)) .lock) body).lock - 1 = s0.lock
  rw [hb]
  show (run sp s0 (lockEntryPrims sp s)).lock + 1 - 1 = s0.lock
  rw [he]
  rfl

/-! ### The entry check of `lock_neuron` (fix 4ae1633) and reads under the lock -/

/-- **What the entry check of `lock_neuron` establishes**: when a `@lock_neuron` function is entered on an unlocked
neuron, at the moment the lock is taken the content is unchanged and every cache entry was computed from it. -/
theorem lockEntry_establishes (hs : SoundFacts sp) (hf : sp.lockChecksStale = true)
    (h : J sp s) (hl : s.lock = 0) :
    let s1 := run sp s (lockEntryPrims sp s ++ [Ev.lock])
    s1.ver = s.ver ∧ s1.lock = 1 ∧ (∀ p ∈ s1.cache, p.2 = s.ver) ∧ J sp s1 := by
  intro s1
  obtain ⟨e1, e2, e3, hJ⟩ := J_check hs h hl
  have e : s1 = step sp (run sp s (checkPrims sp s)) .lock := by
    show run sp s (lockEntryPrims sp s ++ [Ev.lock]) = _
    rw [run_append, lockEntryPrims_check hf hl]; rfl
  rw [e]
  generalize run sp s (checkPrims sp s) = s2 at e1 e2 e3 hJ ⊢
  exact ⟨e1, congrArg (· + 1) e2, e3, hJ.frame⟩

/-- all entries current and the lock held: the situation inside a locked function before its first change -/
structure AllCur (s : St) (v0 : Nat) : Prop where
  ver : s.ver = v0
  locked : 0 < s.lock
  cur : ∀ p ∈ s.cache, p.2 = v0

/-- a read of any cached view (wrapped or not) while the lock is held and all entries are current returns a
value computed from the current content and keeps that situation -/
theorem locked_read {v0 : Nat} (h : AllCur s v0) {v : View} :
    readTag sp s v = some v0 ∧ AllCur (readS sp s v) v0 := by
  unfold readTag
  rw [readS_eq, viewPrefix_locked h.locked]
  show tagOf (run sp s (fillPrims s v)) v.attr = some v0 ∧ AllCur (run sp s (fillPrims s v)) v0
  obtain ⟨t1, t3⟩ := fill_current sp s v (by rw [h.ver]; exact h.cur)
  rw [h.ver] at t1 t3
  exact ⟨t1, by rw [fill_eq]; exact h.ver, by rw [fill_eq]; exact h.locked, t3⟩

theorem locked_reads {vs : List View} {v0 : Nat} (h : AllCur s v0) : AllCur (readsS sp s vs) v0 :=
  List.foldlRecOn (motive := (AllCur · v0)) vs (readS sp) h fun _ h _ _ => (locked_read h).2

theorem AllCur_entry (hs : SoundFacts sp) (hf : sp.lockChecksStale = true) (h : J sp s)
    (hl : s.lock = 0) : AllCur (run sp s (lockEntryPrims sp s ++ [Ev.lock])) s.ver := by
  obtain ⟨a, b, c, _⟩ := lockEntry_establishes hs hf h hl
  exact ⟨a, by rw [b]; exact Nat.one_pos, c⟩

/-- a call nested inside the locked function skips the entry check and takes the lock again -/
theorem AllCur_nested {v0 : Nat} (h : AllCur s v0) :
    AllCur (run sp s (lockEntryPrims sp s ++ [Ev.lock])) v0 := by
  rw [lockEntryPrims_locked h.locked]
  exact ⟨h.ver, Nat.succ_pos _, h.cur⟩

/-! ### What reaches the hash function -/

/-- The value an integer cell `n` has after conversion to a binary floating type with `p` significand bits
(round to nearest, ties to even): integers up to `2^p` in absolute value are exact, larger ones lose their low
bits.  A cell is a node id or the 53-bit significand of a float64 coordinate. -/
def roundBits (p : Nat) (n : Int) : Int :=
  let m := n.natAbs
  if m ≤ 2 ^ p then n
  else
    let e := Nat.log2 m + 1 - p
    let q := m / 2 ^ e
    let r := m % 2 ^ e
    let half := 2 ^ (e - 1)
    let q' := if r > half || (r == half && q % 2 == 1) then q + 1 else q
    (if n < 0 then -1 else 1) * ((q' * 2 ^ e : Nat) : Int)

/-- what reaches the hash function for a row of cells: the cells themselves when every column is hashed in its
own dtype, otherwise their images in the common floating type of the table -/
def hashInput (sp : Spec) (row : List Int) : List Int :=
  if sp.hashNative then row else row.map (roundBits sp.hashBits)

theorem roundBits_exact {p : Nat} {n : Int} (h : n.natAbs ≤ 2 ^ p) : roundBits p n = n :=
  if_pos h

theorem hashInput_exact {a : List Int} (h : sp.hashNative = true ∨ ∀ n ∈ a, n.natAbs ≤ 2 ^ sp.hashBits) :
    hashInput sp a = a := by
  rcases h with h | h
  · exact if_pos h
  · unfold hashInput
    cases sp.hashNative
    · rw [if_neg Bool.false_ne_true, List.map_congr_left (fun n hn => roundBits_exact (h n hn)), List.map_id']
    · rfl

theorem hashInput_injective {a b : List Int} (ha : sp.hashNative = true ∨ ∀ n ∈ a, n.natAbs ≤ 2 ^ sp.hashBits)
    (hb : sp.hashNative = true ∨ ∀ n ∈ b, n.natAbs ≤ 2 ^ sp.hashBits) (h : hashInput sp a = hashInput sp b) :
    a = b := by
  rw [← hashInput_exact ha, ← hashInput_exact hb]; exact h

end Navis.Cache

import NavisModel.Model.Swc
import NavisModel.Proofs.PathLemmas
import NavisModel.Proofs.SortLemmas
/-! Behind C07: `finish` (new ids, parent remap) of an order `o` gives a valid SWC table iff every present parent sits earlier in `o`;
what is written parses back; which nodes `autoLabel` gives the soma / synapse codes.  Core Lean only.

The file opens with the insertion sort of the model (a sorted permutation that commutes with a map keeping the key order,
`isortBy_map`): the depth sort as written sorts pairs `(key, row)` and is brought to a sort of the rows through it
(`sortByDepth_eq_key`, and `sortByDepthW_eq` in `SwcDepthLemmas`). -/
namespace Navis.Swc
open Navis.Forest

/-- The branches are the other way round: `Forest.insertBy` asks whether `b` stays before `a`. -/
theorem insertBy_eq {α : Type} (key : α → Int) (a : α) (l : List α) :
    insertBy key a l = Forest.insertBy (fun y x => decide (key y < key x)) a l := by
  induction l with
  | nil => rfl
  | cons b l ih => simp only [insertBy, Forest.insertBy, decide_eq_true_eq, ← Int.not_le, ite_not, ih]

theorem isortBy_eq {α : Type} (key : α → Int) (l : List α) :
    isortBy key l = Forest.sortBy (fun y x => decide (key y < key x)) l :=
  congrArg (fun f => l.foldr f []) (funext fun a => funext (insertBy_eq key a))

theorem isortBy_perm {α : Type} (key : α → Int) (l : List α) : (isortBy key l).Perm l := by
  rw [isortBy_eq]; exact Forest.sortBy_perm _ l

theorem isortBy_pairwise {α : Type} (key : α → Int) (l : List α) :
    (isortBy key l).Pairwise (fun x y => key x ≤ key y) := by
  rw [isortBy_eq]
  exact Forest.sortBy_pairwise (R := fun x y => key x ≤ key y) _ (fun _ _ _ => Int.le_trans)
    (fun _ _ h => Int.le_of_lt (of_decide_eq_true h)) (fun _ _ h => Int.not_lt.mp (of_decide_eq_false h)) l

theorem insertBy_map {α β : Type} (key : α → Int) (key' : β → Int) (g : α → β)
    (h : ∀ x y, key' (g x) ≤ key' (g y) ↔ key x ≤ key y) (a : α) (l : List α) :
    insertBy key' (g a) (l.map g) = (insertBy key a l).map g := by
  induction l with
  | nil => rfl
  | cons b l ih =>
    simp only [List.map_cons, insertBy, h a b]
    split
    · rfl
    · rw [ih]; rfl

theorem isortBy_map {α β : Type} (key : α → Int) (key' : β → Int) (g : α → β)
    (h : ∀ x y, key' (g x) ≤ key' (g y) ↔ key x ≤ key y) (l : List α) :
    isortBy key' (l.map g) = (isortBy key l).map g := by
  induction l with
  | nil => rfl
  | cons a l ih =>
    simp only [isortBy, List.map_cons, List.foldr_cons] at ih ⊢
    rw [ih, insertBy_map key key' g h]

/-- The ids above row `k` are listed newest first, as the checker collects them: its step is then an equation between lists. -/
theorem validFrom_iff (s : List SwcRow) : ∀ (seen : List Int) (k0 : Int), validFrom seen k0 s = true ↔
    ∀ k (h : k < s.length), s[k].id = k0 + (k : Int) ∧ (s[k].parent = -1 ∨
      (s[k].parent < s[k].id ∧ s[k].parent ∈ ((s.take k).map (·.id)).reverse ++ seen)) := by
  induction s with
  | nil => intro seen k0; simp [validFrom]
  | cons r rs ih =>
    intro seen k0
    -- row 0 is what the checker tests first; for row `k + 1` the induction hypothesis with `r.id :: seen` is the claim itself,
    -- since `r.id` is the last of the reversed ids above
    refine Iff.trans ?_ Nat.forall_lt_succ_left'.symm
    simp only [validFrom, Bool.and_eq_true, Bool.or_eq_true, beq_iff_eq, decide_eq_true_eq, List.contains_eq_mem,
      ih (r.id :: seen) (k0 + 1), List.getElem_cons_zero, List.getElem_cons_succ, List.take_zero, List.take_succ_cons,
      List.map_nil, List.map_cons, List.reverse_nil, List.reverse_cons, List.nil_append, List.append_assoc, List.singleton_append,
      Int.natCast_succ, Int.natCast_zero, Int.add_zero, Int.add_assoc, Int.add_comm 1]

@[simp] theorem nodeIds_length (o : List SNode) : (nodeIds o).length = o.length := by simp [nodeIds]

theorem mem_nodeIds {o : List SNode} {i : Int} : i ∈ nodeIds o ↔ ∃ n ∈ o, n.id = i := by simp [nodeIds]

theorem mem_nodeIds_of_mem {o : List SNode} {n : SNode} (h : n ∈ o) : n.id ∈ nodeIds o := mem_nodeIds.mpr ⟨n, h, rfl⟩

theorem newId_of_mem {o : List SNode} {i : Int} (h : i ∈ nodeIds o) :
    newId o i = ((nodeIds o).idxOf i : Int) + 1 := by simp [newId, h, firstId, Gen.Swc.firstId]

theorem newId_of_not_mem {o : List SNode} {i : Int} (h : i ∉ nodeIds o) : newId o i = -1 := by
  simp [newId, h, missingParent, Gen.Swc.missingParent]

theorem newId_getElem {o : List SNode} (hnd : (nodeIds o).Nodup) (k : Nat) (h : k < o.length) :
    newId o o[k].id = (k : Int) + 1 := by
  have : (nodeIds o).idxOf o[k].id = k := by simpa [nodeIds] using hnd.idxOf_getElem k (by simpa using h)
  rw [newId_of_mem (mem_nodeIds_of_mem (List.getElem_mem h)), this]

@[simp] theorem finish_length (lab : SNode → Option Int) (o : List SNode) : (finish lab o).length = o.length := by
  simp [finish]

theorem finish_getElem (lab : SNode → Option Int) (o : List SNode) (k : Nat) (h : k < (finish lab o).length) :
    (finish lab o)[k] = rowOf lab o (o[k]'(by simpa using h)) := by simp [finish]

theorem map_newId {o : List SNode} (hnd : (nodeIds o).Nodup) :
    o.map (fun n => newId o n.id) = (List.range o.length).map (fun (j : Nat) => ((j : Nat) : Int) + 1) := by
  apply List.ext_getElem
  · simp
  · intro j h1 _
    simp only [List.getElem_map, List.getElem_range]
    exact newId_getElem hnd j (by simpa using h1)

theorem finish_ids (lab : SNode → Option Int) {o : List SNode} (hnd : (nodeIds o).Nodup) :
    (finish lab o).map (·.id) = (List.range o.length).map (fun (j : Nat) => ((j : Nat) : Int) + 1) := by
  rw [← map_newId hnd, finish, List.map_map]; rfl

theorem nodeMapOf_fst (o : List SNode) : (nodeMapOf o).map (·.1) = nodeIds o := by
  simp [nodeMapOf, nodeIds, Function.comp_def]

theorem nodeMapOf_snd {o : List SNode} (hnd : (nodeIds o).Nodup) :
    (nodeMapOf o).map (·.2) = (List.range o.length).map (fun (j : Nat) => ((j : Nat) : Int) + 1) := by
  rw [← map_newId hnd, nodeMapOf, List.map_map]; rfl

theorem newId_inj {o : List SNode} (hnd : (nodeIds o).Nodup) {a b : SNode} (ha : a ∈ o) (hb : b ∈ o)
    (h : newId o a.id = newId o b.id) : a = b := by
  obtain ⟨i, hi, rfl⟩ := List.getElem_of_mem ha
  obtain ⟨j, hj, rfl⟩ := List.getElem_of_mem hb
  rw [newId_getElem hnd i hi, newId_getElem hnd j hj] at h
  have : i = j := by omega
  subst this; rfl

theorem newId_range {o : List SNode} (hnd : (nodeIds o).Nodup) {a : SNode} (ha : a ∈ o) :
    1 ≤ newId o a.id ∧ newId o a.id ≤ o.length := by
  obtain ⟨i, hi, rfl⟩ := List.getElem_of_mem ha
  rw [newId_getElem hnd i hi]; omega

/-- **Key lemma**: every validity statement of C07 goes through it. -/
theorem finish_valid_iff (lab : SNode → Option Int) {o : List SNode} (hnd : (nodeIds o).Nodup) :
    SwcValid (finish lab o) ↔ ∀ i j (hi : i < o.length) (hj : j < o.length), o[j].parent = o[i].id → i < j := by
  -- the specification read on `o`: row `k` has id `newId o o[k].id` and parent `newId o o[k].parent`
  simp only [SwcValid, finish_length, finish_getElem, rowOf]
  constructor
  · rintro ⟨_, hp⟩ i j hi hj hpar
    have := hp j hj
    rw [hpar, newId_getElem hnd i hi, newId_getElem hnd j hj] at this
    rcases this with h | ⟨h, _⟩ <;> omega
  · intro h
    refine ⟨newId_getElem hnd, fun k hk => ?_⟩
    by_cases hpar : o[k].parent ∈ nodeIds o
    · obtain ⟨p, hp, hpe⟩ := mem_nodeIds.mp hpar
      obtain ⟨i, hi, rfl⟩ := List.getElem_of_mem hp
      have hlt := h i k hi hk hpe.symm
      rw [← hpe, newId_getElem hnd i hi, newId_getElem hnd k hk, List.map_take, finish_ids lab hnd, ← List.map_take,
        List.take_range, Nat.min_eq_left (Nat.le_of_lt hk)]
      exact Or.inr ⟨by omega, List.mem_map.mpr ⟨i, List.mem_range.mpr hlt, rfl⟩⟩
    · exact Or.inl (newId_of_not_mem hpar)

theorem pos_lt_of_key_lt {o : List SNode} (key : SNode → Int) (hs : o.Pairwise (fun a b => key a ≤ key b)) {i j : Nat}
    (hi : i < o.length) (hj : j < o.length) (h : key o[i] < key o[j]) : i < j := by
  rcases Nat.lt_trichotomy i j with hlt | heq | hgt
  · exact hlt
  · subst heq; omega
  · have := (List.pairwise_iff_getElem.mp hs) j i hj hi hgt
    omega

theorem keySort_valid (lab : SNode → Option Int) {o : List SNode} (hnd : (nodeIds o).Nodup) (key : SNode → Int)
    (hs : o.Pairwise (fun a b => key a ≤ key b)) (hk : ∀ p ∈ o, ∀ n ∈ o, n.parent = p.id → key p < key n) :
    SwcValid (finish lab o) :=
  (finish_valid_iff lab hnd).mpr fun _ _ hi hj hpar =>
    pos_lt_of_key_lt key hs hi hj (hk _ (List.getElem_mem hi) _ (List.getElem_mem hj) hpar)

@[simp] theorem ids_forest (t : List SNode) : ids (forest t) = nodeIds t := by
  simp [ids, forest, nodeIds, Function.comp_def]

theorem mem_forest {t : List SNode} {n : SNode} (h : n ∈ t) : ({ id := n.id, parent := n.parent } : Node) ∈ forest t :=
  List.mem_map.mpr ⟨n, h, rfl⟩

theorem WF_nodup {t : List SNode} (hw : WF (forest t)) : (nodeIds t).Nodup := by
  have := hw.1; rwa [ids_forest] at this

theorem WF_id_nonneg {t : List SNode} (hw : WF (forest t)) {n : SNode} (h : n ∈ t) : 0 ≤ n.id :=
  hw.2.1 _ (mem_forest h)

theorem WF_parent_mem_iff {t : List SNode} (hw : WF (forest t)) {n : SNode} (h : n ∈ t) :
    n.parent ∈ nodeIds t ↔ ¬ n.parent < 0 := by
  constructor
  · intro hm hneg
    obtain ⟨p, hp, he⟩ := mem_nodeIds.mp hm
    have := WF_id_nonneg hw hp
    omega
  · intro hn
    have := WF_parents hw _ (mem_forest h)
    rw [ids_forest] at this
    exact this.resolve_left hn

theorem depth_absent {t : List SNode} {i : Int} (h : i ∉ nodeIds t) : depth t i = 0 := by
  unfold depth
  rw [rootPath_of_not_mem (by rw [ids_forest]; exact h)]; rfl

theorem depth_le {t : List SNode} (hw : WF (forest t)) (i : Int) : depth t i ≤ t.length := by
  have := pathToRoot_length_le hw ((forest t).length + 1) i
  simpa [depth, rootPath, forest] using this

/-- In a well-formed forest every row sits one step below its parent (a root's parent is not a row: depth 0). -/
theorem depth_step {t : List SNode} (hw : WF (forest t)) {n : SNode} (hn : n ∈ t) : depth t n.id = depth t n.parent + 1 := by
  have hf : find? (forest t) n.id = some ({ id := n.id, parent := n.parent } : Node) := find?_of_mem hw.1 (mem_forest hn)
  by_cases hp : n.parent < 0
  · have h1 : depth t n.id = 1 := by
      unfold depth; rw [rootPath_of_root hf hp]; rfl
    have h0 : depth t n.parent = 0 := depth_absent fun hm => (WF_parent_mem_iff hw hn).mp hm hp
    omega
  · unfold depth
    rw [rootPath_of_nonroot hw hf hp]
    simp

theorem nodup_of_perm {t o : List SNode} (hp : o.Perm t) (hnd : (nodeIds t).Nodup) : (nodeIds o).Nodup := by
  unfold nodeIds at *
  exact ((hp.map (fun n : SNode => n.id)).nodup_iff).mpr hnd

theorem mem_nodeIds_perm {t o : List SNode} (hp : o.Perm t) (i : Int) : i ∈ nodeIds o ↔ i ∈ nodeIds t := by
  unfold nodeIds
  exact (hp.map (fun n : SNode => n.id)).mem_iff

theorem sortByParent_isParentSort (t : List SNode) : IsParentSort t (sortByParent t) :=
  ⟨isortBy_perm _ t, isortBy_pairwise _ t⟩

theorem sortByDepth_eq_key (t : List SNode) :
    sortByDepth t = isortBy (fun n => ((depth t n.id : Nat) : Int)) t := by
  unfold sortByDepth
  rw [isortBy_map (fun n => ((depth t n.id : Nat) : Int)), List.map_map]
  · exact List.map_id' _
  · exact fun _ _ => Iff.rfl

theorem sortByDepth_perm (t : List SNode) : (sortByDepth t).Perm t := by
  rw [sortByDepth_eq_key]; exact isortBy_perm _ t

theorem sortByDepth_sorted (t : List SNode) :
    (sortByDepth t).Pairwise (fun a b => ((depth t a.id : Nat) : Int) ≤ ((depth t b.id : Nat) : Int)) := by
  rw [sortByDepth_eq_key]; exact isortBy_pairwise _ t

theorem depthSort_valid (lab : SNode → Option Int) {t o : List SNode} (hw : WF (forest t)) (hperm : o.Perm t)
    (hsort : o.Pairwise (fun a b => ((depth t a.id : Nat) : Int) ≤ ((depth t b.id : Nat) : Int))) :
    SwcValid (finish lab o) := by
  refine keySort_valid lab (nodup_of_perm hperm (WF_nodup hw)) _ hsort fun p _ n hn hpid => ?_
  show ((depth t p.id : Nat) : Int) < ((depth t n.id : Nat) : Int)
  rw [depth_step hw (hperm.mem_iff.mp hn), hpid]
  omega

theorem tokInt?_optIntTok (l : Option Int) : tokInt? (optIntTok l) = l := by cases l <;> rfl

theorem tokNum?_optNumTok (r : Option Rat) : tokNum? (optNumTok r) = r := by cases r <;> rfl

/-- The token list of `renderRow` without the `.row` constructor, which is what `filterMap rowLine?` returns. -/
def rowToks (r : SwcRow) : List Tok :=
  [.int r.id, optIntTok r.label, numTok r.x, numTok r.y, numTok r.z, optNumTok r.radius, .int r.parent]

theorem renderRow_eq (r : SwcRow) : renderRow r = .row (rowToks r) := rfl

theorem parseRow_rowToks (r : SwcRow) : parseRow (rowToks r) = some r := by
  -- the seven tokens parse back field by field, label and radius by the two lemmas above
  show some (_ : SwcRow) = _
  rw [tokInt?_optIntTok, tokNum?_optNumTok]

theorem sanitiseRows_map_some (l : List SwcRow) : sanitiseRows (l.map some) = l := by
  have h : keptRows (l.map some) = l := by simp [keptRows, List.filterMap_map]
  simp [sanitiseRows, h]

theorem sanitiseRows_ids (rs : List (Option SwcRow)) :
    (sanitiseRows rs).map (·.id) = (keptRows rs).map (·.id) := by
  unfold sanitiseRows
  split
  · rfl
  · rw [List.map_map]
    exact List.map_congr_left (fun r _ => by simp only [Function.comp, reRoot]; split <;> rfl)

theorem filterMap_rowLine_render (rs : List SwcRow) : (rs.map renderRow).filterMap rowLine? = rs.map rowToks := by
  induction rs with
  | nil => rfl
  | cons r rs ih => simp only [List.map_cons, List.filterMap_cons, renderRow_eq, rowLine?, ih]

theorem columnsOK_rowToks (rs : List SwcRow) : columnsOK (rs.map rowToks) = true := by
  cases rs with
  | nil => rfl
  | cons r rs => simp [columnsOK, rowToks]

theorem dataRows_eq_filterMap (ls : List Line) : dataRows ls = ls.filterMap rowLine? := by
  unfold dataRows
  induction ls with
  | nil => rfl
  | cons a ls ih =>
    -- a leading `#` line is dropped by one side and mapped to nothing by the other; any other line ends the header
    cases a with
    | comment _ => exact ih
    | props _ => exact ih
    | row _ => rfl
    | blank => rfl

theorem filterMap_rowLine_noRows (hl : List Line) (h : noRows hl = true) : hl.filterMap rowLine? = [] := by
  rw [List.filterMap_eq_nil_iff]
  intro l hl'
  have := List.all_eq_true.mp h l hl'
  simpa using this

theorem headerOf_append_rows (hl : List Line) (rs : List SwcRow) : headerOf (hl ++ rs.map renderRow) = headerOf hl :=
  takeWhile_append_of_nil _ _ _ (by cases rs <;> rfl)

theorem parseSwc_append_rows (hl : List Line) (rs : List SwcRow) (h : noRows hl = true) :
    parseSwc (hl ++ rs.map renderRow) = some { props := metaOf hl, rows := rs } := by
  unfold parseSwc metaOf
  rw [dataRows_eq_filterMap, List.filterMap_append, filterMap_rowLine_noRows hl h, filterMap_rowLine_render, List.nil_append,
    headerOf_append_rows, columnsOK_rowToks, if_pos rfl, List.map_map]
  have : (parseRow ∘ rowToks) = some := by funext r; exact parseRow_rowToks r
  rw [this, sanitiseRows_map_some]

theorem noRows_headerLines (wm : WriteMeta) (op : Opts) (sk : Skel) : noRows (headerLines wm op sk) = true := by
  unfold noRows headerLines
  cases metaProps wm sk <;> cases op.exportConn <;> rfl

theorem metaOf_headerLines (wm : WriteMeta) (op : Opts) (sk : Skel) : metaOf (headerLines wm op sk) = metaProps wm sk := by
  unfold metaOf headerOf headerLines
  cases metaProps wm sk <;> cases op.exportConn <;> rfl

theorem readBack_writeH (cfg : ReadCfg) (hd : Header) (op : Opts) (sk : Skel) (o : List SNode)
    (h : noRows (headerFor hd op sk) = true) :
    readBack cfg (writeH hd op sk o) =
      some (ofFile cfg { props := metaOf (headerFor hd op sk), rows := finish (labelOf op sk) o }) := by
  unfold readBack writeH
  rw [parseSwc_append_rows _ _ h]
  rfl

theorem readBack_writeWith (cfg : ReadCfg) (wm : WriteMeta) (op : Opts) (sk : Skel) (o : List SNode) :
    readBack cfg (writeWith wm op sk o) =
      some (ofFile cfg { props := metaProps wm sk, rows := finish (labelOf op sk) o }) := by
  rw [← metaOf_headerLines wm op sk]
  exact readBack_writeH cfg (.generated wm) op sk o (noRows_headerLines wm op sk)

theorem somaOf_finish (lab : SNode → Option Int) (o : List SNode) (sl : Int) (cfg : ReadCfg) (hc : cfg.somaLabel = some sl) :
    somaOf cfg (finish lab o) = (o.find? (fun n => lab n == some sl)).map (fun n => newId o n.id) := by
  unfold somaOf finish
  rw [hc]
  simp only [List.find?_map, Option.map_map]
  rfl

theorem mem_connsOf_finish (lab : SNode → Option Int) (o : List SNode) (cfg : ReadCfg) (nm : String) (j : Int) :
    (nm, j) ∈ connsOf cfg (finish lab o) ↔
      ∃ v, (nm, v) ∈ cfg.connLabels ∧ ∃ n ∈ o, lab n = some v ∧ j = newId o n.id := by
  unfold connsOf finish
  simp only [List.mem_flatMap, List.mem_map, List.mem_filter, beq_iff_eq]
  constructor
  · rintro ⟨⟨nm', v⟩, hm, r, ⟨⟨n, hn, rfl⟩, hl⟩, he⟩
    simp only [Prod.mk.injEq] at he
    obtain ⟨rfl, rfl⟩ := he
    exact ⟨v, hm, n, hn, hl, rfl⟩
  · rintro ⟨v, hm, n, hn, hl, rfl⟩
    exact ⟨(nm, v), hm, rowOf lab o n, ⟨⟨n, hn, rfl⟩, hl⟩, rfl⟩

theorem ite_eq_iff {α : Type} {p : Prop} [Decidable p] {a b c : α} : (if p then a else b) = c ↔ p ∧ a = c ∨ ¬p ∧ b = c := by
  by_cases h : p <;> simp [h]

section autoLabel
attribute [local simp] lblUndefined lblSoma lblBranch lblEnd lblPre lblPost Gen.Swc.lblUndefined Gen.Swc.lblSoma Gen.Swc.lblBranch
  Gen.Swc.lblEnd Gen.Swc.lblPre Gen.Swc.lblPost

/-! `labels=True`: which nodes get which of the soma / synapse codes.  The codes are distinct numerals, so going through the branches of
`autoLabel` (`ite_eq_iff`) leaves only the conditions of the branch that yields the code asked for. -/

theorem autoLabel_eq_post (sk : Skel) (n : SNode) :
    autoLabel sk true n = lblPost ↔ n.id ∈ sk.post := by
  simp [autoLabel, ite_eq_iff]

theorem autoLabel_eq_pre (sk : Skel) (n : SNode) :
    autoLabel sk true n = lblPre ↔ n.id ∈ sk.pre ∧ n.id ∉ sk.post := by
  simp [autoLabel, ite_eq_iff, and_comm]

theorem autoLabel_eq_soma (sk : Skel) (ex : Bool) (n : SNode) :
    autoLabel sk ex n = lblSoma ↔ n.id ∈ sk.soma ∧ (ex = true → n.id ∉ sk.post ∧ n.id ∉ sk.pre) := by
  cases ex
  · simp [autoLabel, ite_eq_iff]
  · simp [autoLabel, ite_eq_iff, and_assoc, and_comm]

end autoLabel

end Navis.Swc

import NavisModel.Model.Partition
import NavisModel.Proofs.ListLemmas
/-! Lemmas about the job grid of the NBLAST front ends (C09; core Lean only): `np.array_split` chunks, placement of
result blocks into the score matrix, the `scores='both'` interleaving and the partition functions. -/
namespace Navis.Partition

theorem chunkStart_succ (n k i : Nat) : chunkStart n k (i+1) = chunkStart n k i + chunkSize n k i := by
  have hmin : min (i + 1) (n % k) = min i (n % k) + if i < n % k then 1 else 0 := by
    split
    · rename_i h; rw [Nat.min_eq_left h, Nat.min_eq_left (Nat.le_of_lt h)]
    · rename_i h
      rw [Nat.min_eq_right (Nat.le_of_not_lt h), Nat.min_eq_right (Nat.le_succ_of_le (Nat.le_of_not_lt h)),
        Nat.add_zero]
  unfold chunkStart chunkSize
  rw [hmin, Nat.succ_mul]
  exact Nat.add_add_add_comm _ _ _ _

theorem chunkStart_k (n k : Nat) (hk : 0 < k) : chunkStart n k k = n := by
  unfold chunkStart
  have h1 : n % k < k := Nat.mod_lt _ hk
  rw [Nat.min_eq_right (by omega)]
  have := Nat.div_add_mod n k
  omega

theorem flatten_prefix (n k m : Nat) :
    ((List.range m).map (chunk n k)).flatten = List.range (chunkStart n k m) := by
  induction m with
  | zero => simp [chunkStart]
  | succ m ih =>
    rw [List.range_succ, List.map_append, List.flatten_append, ih, chunkStart_succ]
    simp only [List.map_cons, List.map_nil, List.flatten_cons, List.flatten_nil, List.append_nil, chunk]
    rw [List.range_eq_range', List.range_eq_range']
    have := List.range'_append_1 (s := 0) (m := chunkStart n k m) (n := chunkSize n k m)
    simpa using this

theorem arraySplit_flatten (n k : Nat) (hk : 0 < k) : (arraySplit n k).flatten = List.range n := by
  unfold arraySplit; rw [flatten_prefix, chunkStart_k n k hk]

theorem arraySplit_length (n k : Nat) : (arraySplit n k).length = k := by simp [arraySplit]

theorem chunk_length (n k i : Nat) : (chunk n k i).length = chunkSize n k i := by simp [chunk]

theorem chunk_nodup (n k i : Nat) : (chunk n k i).Nodup := by
  unfold chunk; exact List.nodup_range'

theorem mem_chunk {n k i x : Nat} : x ∈ chunk n k i ↔ chunkStart n k i ≤ x ∧ x < chunkStart n k (i+1) := by
  unfold chunk; rw [chunkStart_succ]; simp [List.mem_range'_1]

theorem chunkStart_mono (n k : Nat) {i j : Nat} (h : i ≤ j) : chunkStart n k i ≤ chunkStart n k j := by
  induction h with
  | refl => exact Nat.le_refl _
  | step _ ih => rw [chunkStart_succ]; omega

theorem exists_chunk (n k : Nat) (hk : 0 < k) {x : Nat} (hx : x < n) : ∃ i, i < k ∧ x ∈ chunk n k i := by
  have hx' : x ∈ (arraySplit n k).flatten := arraySplit_flatten n k hk ▸ List.mem_range.mpr hx
  obtain ⟨l, hl, hxl⟩ := List.mem_flatten.mp hx'
  obtain ⟨i, hi, rfl⟩ := List.mem_map.mp hl
  exact ⟨i, List.mem_range.mp hi, hxl⟩

theorem chunk_disjoint (n k : Nat) {i j x : Nat} (hi : x ∈ chunk n k i) (hj : x ∈ chunk n k j) : i = j := by
  -- a chunk to the left of another ends before the other starts
  have key : ∀ {i j}, x ∈ chunk n k i → x ∈ chunk n k j → ¬ i < j := fun hi hj h =>
    Nat.lt_irrefl x (Nat.lt_of_lt_of_le (mem_chunk.mp hi).2
      (Nat.le_trans (chunkStart_mono n k h) (mem_chunk.mp hj).1))
  exact Nat.le_antisymm (Nat.le_of_not_lt (key hj hi)) (Nat.le_of_not_lt (key hi hj))

theorem chunk_end_le (n k i : Nat) (hi : i < k) : chunkStart n k i + chunkSize n k i ≤ n := by
  rw [← chunkStart_succ]
  exact Nat.le_trans (chunkStart_mono n k (Nat.succ_le_of_lt hi)) (Nat.le_of_eq (chunkStart_k n k (Nat.zero_lt_of_lt hi)))

theorem chunk_lt (n k : Nat) {i x : Nat} (hi : i < k) (hx : x ∈ chunk n k i) : x < n :=
  Nat.lt_of_lt_of_le (chunkStart_succ n k i ▸ (mem_chunk.mp hx).2) (chunk_end_le n k i hi)

/-- With no more chunks than elements no chunk is empty. -/
theorem chunkSize_pos (n k i : Nat) (hk : 0 < k) (hkn : k ≤ n) : 0 < chunkSize n k i :=
  Nat.lt_of_lt_of_le (Nat.div_pos hkn hk) (Nat.le_add_right _ _)

/-- The block `res` holds `f` at the positions of job `j`: `res[a][b] = f qix[a] tix[b]`. -/
def BlockHolds {α} (f : Nat → Nat → α) (j : Job) (res : List (List α)) : Prop :=
  ∀ a b (ha : a < j.qix.length) (hb : b < j.tix.length),
    (res[a]?).bind (·[b]?) = some (f j.qix[a] j.tix[b])

theorem blockHolds_map {α} (f : Nat → Nat → α) (j : Job) : BlockHolds f j (j.qix.map fun q => j.tix.map (f q)) := by
  intro a b ha hb
  rw [List.getElem?_map, List.getElem?_eq_getElem ha, Option.map_some, Option.bind_some, List.getElem?_map,
    List.getElem?_eq_getElem hb, Option.map_some]

theorem map_range_getD {β} (l : List Nat) (G : Nat → β) :
    (List.range l.length).map (fun a => G (l.getD a 0)) = l.map G :=
  range_map_eq l _ G fun _ _ => congrArg G (List.getElem_eq_getD _).symm

/-- The job-local indices of `nblast` address the job's own queries and targets. -/
theorem jobResult_eq {α} (f : Nat → Nat → α) (j : Job) : jobResult f j = j.qix.map fun q => j.tix.map (f q) := by
  unfold jobResult localQueries localTargets localList
  rw [← map_range_getD j.qix]
  refine List.map_congr_left fun a ha => ?_
  rw [← map_range_getD j.tix, List.map_map]
  refine List.map_congr_left fun b _ => ?_
  show f ((j.qix ++ j.tix).getD a 0) ((j.qix ++ j.tix).getD (b + j.qix.length) 0) = _
  rw [List.getD_eq_getElem?_getD, List.getD_eq_getElem?_getD, List.getElem?_append_left (List.mem_range.mp ha),
    List.getElem?_append_right (Nat.le_add_left _ _), Nat.add_sub_cancel, ← List.getD_eq_getElem?_getD,
    ← List.getD_eq_getElem?_getD]

theorem getD_idxOf_of_mem {l : List Nat} {x : Nat} (h : x ∈ l) : l.getD (l.idxOf x) 0 = x :=
  (List.getElem_eq_getD (h := List.idxOf_lt_length_of_mem h) 0).symm.trans (List.getElem_idxOf _)

/-- So does `ixmap` of `nblast_allbyall`, whatever the enumeration `e`, as long as it lists the job's indices. -/
theorem jobResultAll_eq {α} (f : Nat → Nat → α) (e : List Nat) (j : Job)
    (hq : ∀ x ∈ j.qix, x ∈ e) (ht : ∀ x ∈ j.tix, x ∈ e) :
    jobResultAll f e j = j.qix.map fun q => j.tix.map (f q) := by
  unfold jobResultAll
  rw [List.map_map]
  refine List.map_congr_left fun q hq' => ?_
  show (j.tix.map fun g => e.idxOf g).map _ = _
  rw [List.map_map]
  refine List.map_congr_left fun t ht' => ?_
  show f (e.getD (e.idxOf q) 0) (e.getD (e.idxOf t) 0) = f q t
  rw [getD_idxOf_of_mem (hq q hq'), getD_idxOf_of_mem (ht t ht')]

theorem place_spec {α} (f : Nat → Nat → α) (m : Mat α) (j : Job) (res : List (List α))
    (hres : BlockHolds f j res) (r c : Nat) :
    place m j res r c = if r ∈ j.qix ∧ c ∈ j.tix then some (f r c) else m r c := by
  unfold place
  split
  · rename_i h
    have ha := List.idxOf_lt_length_of_mem h.1
    have hb := List.idxOf_lt_length_of_mem h.2
    have := hres _ _ ha hb
    rw [List.getElem_idxOf ha, List.getElem_idxOf hb] at this
    obtain ⟨row, hrow, hcell⟩ := Option.bind_eq_some_iff.mp this
    simp only [hrow, hcell]
  · rfl

/-- Steps that each overwrite the cells selected by `P x` with `v`, run in any order with any
repetition or overlap, leave `v` on the union of the selections and nothing else changed. -/
theorem foldl_overwrite {α β} (P : β → Nat → Nat → Prop) [∀ x r c, Decidable (P x r c)] (v : Nat → Nat → α)
    (step : Mat α → β → Mat α) (done : List β)
    (hstep : ∀ x ∈ done, ∀ m r c, step m x r c = if P x r c then some (v r c) else m r c)
    (m : Mat α) (r c : Nat) :
    done.foldl step m r c = if ∃ x ∈ done, P x r c then some (v r c) else m r c := by
  induction done generalizing m with
  | nil => simp
  | cons d ds ih =>
    rw [List.foldl_cons, ih (fun x hx => hstep x (List.mem_cons_of_mem d hx)), hstep d List.mem_cons_self]
    by_cases h1 : ∃ x ∈ ds, P x r c <;> by_cases h2 : P d r c <;> simp [h1, h2]

/-- Placement of any family of blocks: `dest x` is where block `blk x` goes. -/
theorem foldl_place {α β} (f : Nat → Nat → α) (dest : β → Job) (blk : β → List (List α)) (done : List β)
    (hblk : ∀ x ∈ done, BlockHolds f (dest x) (blk x)) (m : Mat α) (r c : Nat) :
    (done.foldl (fun m x => place m (dest x) (blk x)) m) r c =
      if ∃ x ∈ done, r ∈ (dest x).qix ∧ c ∈ (dest x).tix then some (f r c) else m r c :=
  foldl_overwrite (fun x r c => r ∈ (dest x).qix ∧ c ∈ (dest x).tix) f _ done
    (fun x hx m r c => place_spec f m (dest x) (blk x) (hblk x hx) r c) m r c

theorem mem_jobs {nq nt rows cols : Nat} {j : Job} :
    j ∈ jobs nq nt rows cols ↔ ∃ a < rows, ∃ b < cols, j = ⟨chunk nq rows a, chunk nt cols b⟩ := by
  unfold jobs arraySplit
  simp only [List.mem_flatMap, List.mem_map, List.mem_range]
  constructor
  · rintro ⟨q, ⟨a, ha, rfl⟩, t, ⟨b, hb, rfl⟩, rfl⟩; exact ⟨a, ha, b, hb, rfl⟩
  · rintro ⟨a, ha, b, hb, rfl⟩; exact ⟨_, ⟨a, ha, rfl⟩, _, ⟨b, hb, rfl⟩, rfl⟩

/-- The jobs of the grid cover exactly the cells of the matrix.  Only which jobs have completed matters,
not how often or in which order. -/
theorem covered_iff {nq nt rows cols : Nat} (hr : 0 < rows) (hc : 0 < cols) {done : List Job}
    (hdone : ∀ j, j ∈ done ↔ j ∈ jobs nq nt rows cols) {r c : Nat} :
    (∃ j ∈ done, r ∈ j.qix ∧ c ∈ j.tix) ↔ r < nq ∧ c < nt := by
  constructor
  · rintro ⟨j, hj, hrj, hcj⟩
    obtain ⟨a, ha, b, hb, rfl⟩ := mem_jobs.mp ((hdone j).mp hj)
    exact ⟨chunk_lt nq rows ha hrj, chunk_lt nt cols hb hcj⟩
  · rintro ⟨hrq, hct⟩
    obtain ⟨a, ha, hra⟩ := exists_chunk nq rows hr hrq
    obtain ⟨b, hb, hcb⟩ := exists_chunk nt cols hc hct
    exact ⟨⟨chunk nq rows a, chunk nt cols b⟩, (hdone _).mpr (mem_jobs.mpr ⟨a, ha, b, hb, rfl⟩), hra, hcb⟩

/-- Behind every "any partition, any completion order" statement: one block that holds `f` for each job of the
grid, placed in any order, puts `f` on the `nq × nt` matrix and leaves the rest alone. -/
theorem foldl_place_grid {α} (f : Nat → Nat → α) {nq nt rows cols : Nat} (hr : 0 < rows) (hc : 0 < cols)
    (blk : Job → List (List α)) {done : List Job} (hdone : ∀ j, j ∈ done ↔ j ∈ jobs nq nt rows cols)
    (hblk : ∀ j ∈ done, BlockHolds f j (blk j)) (m : Mat α) (r c : Nat) :
    done.foldl (fun m j => place m j (blk j)) m r c = if r < nq ∧ c < nt then some (f r c) else m r c := by
  rw [foldl_place f (fun j => j) blk done hblk]
  simp only [covered_iff hr hc hdone]

theorem argminFirst_mem {α} (lt : α → α → Bool) (xs : List α) (x : α) (h : argminFirst lt xs = some x) : x ∈ xs := by
  cases xs with
  | nil => simp [argminFirst] at h
  | cons y ys =>
    simp only [argminFirst, Option.some.injEq] at h
    rw [← h]
    exact foldl_mem_of_sel _ (fun best y => by split <;> simp) ys y

theorem mem_optCandidates {N nq nt r c : Nat} (h : (r, c) ∈ optCandidates N nq nt) :
    1 ≤ r ∧ r ≤ N ∧ N % r = 0 ∧ r ≤ nq ∧ c = min (N / r) nt := by
  unfold optCandidates at h
  obtain ⟨_, hx, h⟩ := List.mem_filterMap.mp h
  obtain ⟨y, hy, rfl⟩ := List.mem_map.mp hx
  split at h
  · cases h
  · split at h
    · cases h
    · rename_i hdiv hle
      cases h
      exact ⟨Nat.le_add_left 1 y, List.mem_range.mp hy, Decidable.of_not_not hdiv, Nat.le_of_not_gt hle, rfl⟩

theorem findOptimalPartition_range (N nq nt r c : Nat) (hnt : 0 < nt)
    (h : findOptimalPartition N nq nt = some (r, c)) : 1 ≤ r ∧ r ≤ nq ∧ 1 ≤ c ∧ c ≤ nt := by
  obtain ⟨h1, h2, _, h4, rfl⟩ := mem_optCandidates (argminFirst_mem _ _ _ h)
  exact ⟨h1, h4, Nat.le_min.mpr ⟨Nat.div_pos h2 h1, hnt⟩, Nat.min_le_right _ _⟩

theorem findOptimalPartition_isSome (N nq nt : Nat) (hN : 0 < N) (hq : 0 < nq) :
    (findOptimalPartition N nq nt).isSome := by
  -- one row is always a candidate
  have hmem : (1, min (N / 1) nt) ∈ optCandidates N nq nt := by
    unfold optCandidates
    refine List.mem_filterMap.mpr ⟨1, List.mem_map.mpr ⟨0, List.mem_range.mpr hN, rfl⟩, ?_⟩
    rw [if_neg (not_not_intro (Nat.mod_one N)), if_neg (Nat.not_lt.mpr hq)]
  unfold findOptimalPartition
  cases hc : optCandidates N nq nt with
  | nil => rw [hc] at hmem; cases hmem
  | cons x xs => rfl

/-- The front end obtains a partition it can use: `1 ≤ rows ≤ |q|`, `1 ≤ cols ≤ |t|`. -/
def Usable (nq nt : Nat) (o : Option (Nat × Nat)) : Prop :=
  ∃ r c, o = some (r, c) ∧ 1 ≤ r ∧ r ≤ nq ∧ 1 ≤ c ∧ c ≤ nt

theorem usable_some {nq nt : Nat} {rc : Nat × Nat} (h : 1 ≤ rc.1 ∧ rc.1 ≤ nq ∧ 1 ≤ rc.2 ∧ rc.2 ≤ nt) :
    Usable nq nt (some rc) :=
  ⟨rc.1, rc.2, rfl, h⟩

theorem findOptimalPartition_usable (N nq nt : Nat) (hN : 0 < N) (hq : 0 < nq) (ht : 0 < nt) :
    Usable nq nt (findOptimalPartition N nq nt) := by
  obtain ⟨rc, h⟩ := Option.isSome_iff_exists.mp (findOptimalPartition_isSome N nq nt hN hq)
  rw [h]
  exact usable_some (findOptimalPartition_range N nq nt rc.1 rc.2 ht h)

theorem addOdd_cons_cons (v w : Nat) (rest : List Nat) :
    addOdd (v :: w :: rest) = v :: (w + 1) :: addOdd rest := by
  have h : ∀ i, (i + 1 + 1) % 2 = i % 2 := fun i => Nat.add_mod_right i 2
  unfold addOdd
  rw [List.mapIdx_cons, List.mapIdx_cons]
  simp only [h]
  rfl

/-- `np.repeat(qix*2, 2)` with `[1::2] += 1` lists `2q, 2q+1` for every query `q` of the block. -/
theorem bothRows_eq (qix : List Nat) : bothRows qix = qix.flatMap fun q => [2 * q, 2 * q + 1] := by
  unfold bothRows repeat2
  induction qix with
  | nil => rfl
  | cons q qs ih =>
    simp only [List.map_cons, List.flatMap_cons, List.cons_append, List.nil_append]
    rw [addOdd_cons_cons, ih, Nat.mul_comm]

theorem mem_bothRows {qix : List Nat} {R : Nat} : R ∈ bothRows qix ↔ R / 2 ∈ qix := by
  have h : ∀ q, (R = 2 * q ∨ R = 2 * q + 1) ↔ R / 2 = q := fun q => by
    constructor
    · rintro (rfl | rfl)
      · exact Nat.mul_div_cancel_left q (by decide)
      · rw [Nat.mul_add_div (by decide)]; rfl
    · rintro rfl
      have := Nat.div_add_mod R 2
      rcases Nat.mod_two_eq_zero_or_one R with h | h <;> rw [h] at this
      · exact .inl this.symm
      · exact .inr this.symm
  simp only [bothRows_eq, List.mem_flatMap, List.mem_cons, List.not_mem_nil, or_false, h, exists_eq_right']

/-- C-order `reshape` peels off the first row. -/
theorem reshape_succ_append {α} (k m : Nat) (l rest : List α) (hl : l.length = m) :
    reshape (k + 1) m (l ++ rest) = l :: reshape k m rest := by
  unfold reshape
  rw [List.range_succ_eq_map, List.map_cons, List.map_map, Nat.zero_mul, List.drop_zero, List.take_left' hl]
  refine congrArg (l :: ·) (List.map_congr_left fun i _ => ?_)
  show ((l ++ rest).drop ((i + 1) * m)).take m = (rest.drop (i * m)).take m
  rw [Nat.succ_mul, Nat.add_comm, ← hl, List.drop_length_add_append]

/-- After `hstack` + `reshape` the rows of the forward and the reverse matrix alternate. -/
theorem bothBlock_eq {α} (res : List (List (α × α))) (nq nt : Nat) (hlen : res.length = nq)
    (hrow : ∀ row ∈ res, row.length = nt) :
    bothBlock res nq nt = res.flatMap fun row => [row.map Prod.fst, row.map Prod.snd] := by
  subst hlen
  unfold bothBlock hstack
  induction res with
  | nil => rfl
  | cons row res ih =>
    have h : ∀ g : α × α → α, (row.map g).length = nt := fun g =>
      (List.length_map g).trans (hrow row List.mem_cons_self)
    -- one row of `hstack` is a forward row followed by a reverse row: two rows of the reshaped block
    rw [List.map_cons, List.map_cons, List.zipWith_cons_cons, List.flatten_cons, List.append_assoc, List.length_cons,
      Nat.mul_succ, reshape_succ_append _ _ _ _ (h _), reshape_succ_append _ _ _ _ (h _),
      ih fun r hr => hrow r (List.mem_cons_of_mem _ hr)]
    rfl

/-- Row `R` of the block a `both` job returns, for `R` in the job's destination rows, is the forward (`R` even) or
reverse (`R` odd) row of query `R / 2`. -/
theorem jobResultBoth_eq {α} (f : Nat → Nat → α × α) (j : Job) :
    jobResultBoth f j = (bothJob j).qix.map fun R => j.tix.map fun c =>
      if R % 2 = 0 then (f (R / 2) c).1 else (f (R / 2) c).2 := by
  unfold jobResultBoth bothJob
  rw [jobResult_eq, bothBlock_eq _ _ _ (List.length_map _)
    (List.forall_mem_map.mpr fun _ _ => List.length_map _),
    List.flatMap_map, bothRows_eq, List.map_flatMap]
  refine flatMap_congr' fun q _ => ?_
  rw [List.map_map, List.map_map, List.map_cons, List.map_cons, List.map_nil, Nat.mul_mod_right,
    Nat.mul_div_cancel_left q (by decide), Nat.mul_add_mod, Nat.mul_add_div (by decide)]
  rfl

theorem findBatchPartition_none (npb nq nt : Nat) :
    findBatchPartition npb nq nt none = (max 1 (nq / npb), max 1 (nt / npb)) := rfl

theorem batchRowsLoop_spec (cols n : Nat) (fuel rows : Nat) :
    rows ≤ batchRowsLoop cols n fuel rows ∧
    (∀ r, rows ≤ r → r < batchRowsLoop cols n fuel rows → (r * cols) % n ≠ 0) ∧
    ((batchRowsLoop cols n fuel rows * cols) % n = 0 ∨ batchRowsLoop cols n fuel rows = rows + fuel) := by
  fun_induction batchRowsLoop cols n fuel rows with
  | case1 rows => exact ⟨Nat.le_refl _, fun r h1 h2 => absurd h2 (Nat.not_lt.mpr h1), Or.inr rfl⟩
  | case2 fuel rows hne ih =>
    obtain ⟨h1, h3, h4⟩ := ih
    have e : rows + 1 + fuel = rows + (fuel + 1) := by rw [Nat.add_assoc, Nat.add_comm 1 fuel]
    refine ⟨Nat.le_of_succ_le h1, fun r hr hlt => ?_, h4.imp id (e ▸ ·)⟩
    by_cases hrr : r = rows
    · rw [hrr]; exact hne
    · exact h3 r (Nat.lt_of_le_of_ne hr (Ne.symm hrr)) hlt
  | case3 fuel rows hz =>
    exact ⟨Nat.le_refl _, fun r hr hlt => absurd hlt (Nat.not_lt.mpr hr), Or.inl (Decidable.of_not_not hz)⟩

end Navis.Partition

import NavisModel.Proofs.StrahlerSweepLemmas
/-! Second stage of the Python Strahler code: "fix branches that were ignored" (`fixIgnored`) turns the
raw dictionary into the model's final index `strahler t g ign` (ignored twigs take the index of the branch
they hang on).  At the end, `min_twig_size`: the list the Python code adds to `to_ignore` holds end nodes only and is the
model's `shortTwigs`. -/
namespace Navis.Sweep
open Navis.Forest Navis.Flow

variable {t : Table}

theorem find_seg_of_end (hl : labelsOKB t = true) {tn : Int} (htn : tn ∈ endNodes t) :
    (smallSegments t).find? (fun s => s.head? == some tn) = some (segOf t tn) := by
  obtain ⟨n, hn, hid, hp, hc⟩ := (mem_endNodes hl).mp htn
  have hmem : segOf t tn ∈ smallSegments t :=
    mem_smallSegments_iff.mpr ⟨n, hn, hp, by rw [hid, hc]; decide, by rw [hid]⟩
  cases hfind : (smallSegments t).find? (fun s => s.head? == some tn) with
  | none =>
    exfalso
    have := List.find?_eq_none.mp hfind _ hmem
    simp [segOf] at this
  | some s =>
    have hs := List.mem_of_find?_eq_some hfind
    have hp' := List.find?_some hfind
    obtain ⟨n', _, _, _, rfl⟩ := mem_smallSegments_iff.mp hs
    have : n'.id = tn := by simpa [segOf] using hp'
    rw [this]

theorem siGetD_update (si : List (Int × Nat)) (seg : List Int) (v : Nat) (i : Int) :
    siGetD (siUpdate si seg v) i = if i ∈ seg then v else siGetD si i := by
  unfold siGetD
  rw [siGet?_update, apply_ite (Option.getD · 1)]
  rfl

def lastOf (t : Table) (tn : Int) : Int := (segOf t tn).getLast?.getD tn

theorem seg_of_end (hw : WF t) (hl : labelsOKB t = true) {tn : Int} (htn : tn ∈ endNodes t) :
    ∃ mid last, segOf t tn = tn :: mid ++ [last] ∧ SmallSeg t tn mid last ∧ children t tn = [] ∧
      lastOf t tn = last ∧ (segOf t tn).dropLast = tn :: mid ∧ stopAbove t tn = some last := by
  obtain ⟨n, hn, hid, hp, hc⟩ := (mem_endNodes hl).mp htn
  obtain ⟨mid, last, h1, h2⟩ := segOf_spec hw hn hp
  rw [hid] at h1 h2
  refine ⟨mid, last, h1, h2, children_nil_iff.mpr hc, ?_, ?_, ?_⟩
  · unfold lastOf
    rw [h1, show tn :: mid ++ [last] = (tn :: mid) ++ [last] from rfl, List.getLast?_concat]
    rfl
  · rw [h1, List.dropLast_concat]
  · exact segOf_stopAbove h1

theorem dropLast_nostop (hw : WF t) (hl : labelsOKB t = true) {tn : Int} (htn : tn ∈ endNodes t) :
    ∀ x ∈ (segOf t tn).dropLast, isBranchOrRoot t x = false := by
  obtain ⟨mid, last, _, hs, _, _, hd, _⟩ := seg_of_end hw hl htn
  obtain ⟨n, hn, hid, hp, hc⟩ := (mem_endNodes hl).mp htn
  intro x hx
  rw [hd] at hx
  rcases List.mem_cons.mp hx with e | e
  · rw [e, ← hid, isBranchOrRoot_of_find (find?_of_mem hw.1 hn), hid, hc]
    simp [hp]
  · exact hs.nostop x e

/-- State of the dictionary after the fix-up rounds for the end nodes `done`. -/
structure FixInv (t : Table) (raw : Int → Nat) (done : List Int) (si : List (Int × Nat)) : Prop where
  hit : ∀ tn ∈ done, ∀ i ∈ (segOf t tn).dropLast, siGetD si i = raw (lastOf t tn)
  miss : ∀ i ∈ ids t, (∀ tn ∈ done, i ∉ (segOf t tn).dropLast) → siGetD si i = raw i

theorem fix_fold (hw : WF t) (hl : labelsOKB t = true) (raw : Int → Nat) :
    ∀ (L done : List Int) (si : List (Int × Nat)), (∀ tn ∈ L, tn ∈ endNodes t) → (∀ tn ∈ done, tn ∈ endNodes t) →
      FixInv t raw done si → ∃ si', L.foldlM (fixStep t) si = some si' ∧ FixInv t raw (done ++ L) si' := by
  intro L
  induction L with
  | nil => intro done si _ _ hI; exact ⟨si, rfl, by simpa using hI⟩
  | cons tn L ih =>
    intro done si hL hdone hI
    have htn := hL tn List.mem_cons_self
    obtain ⟨mid, last, hseg, hs, hleaf, hlast, hdrop, _⟩ := seg_of_end hw hl htn
    have hstep : fixStep t si tn = some (siUpdate si (segOf t tn) (siGetD si last)) := by
      unfold fixStep; rw [find_seg_of_end hl htn]
      show some (siUpdate si (segOf t tn) (siGetD si (lastOf t tn))) = _
      rw [hlast]
    -- the last node is a stop: no fix-up round has touched it
    have hlast_miss : ∀ tn' ∈ endNodes t, last ∉ (segOf t tn').dropLast := by
      intro tn' htn' hm
      have := dropLast_nostop hw hl htn' last hm
      rw [hs.stop] at this; exact absurd this (by decide)
    have hv : siGetD si last = raw last := hI.miss last hs.hlast (fun tn' h' => hlast_miss tn' (hdone tn' h'))
    have hmemseg : ∀ i, i ∈ segOf t tn ↔ i ∈ tn :: mid ∨ i = last := by
      intro i; rw [hseg]; simp [List.mem_append, or_assoc]
    have hI' : FixInv t raw (done ++ [tn]) (siUpdate si (segOf t tn) (siGetD si last)) := by
      constructor
      · intro tn' htn' i hi
        rcases List.mem_append.mp htn' with h' | h'
        · by_cases hseg' : i ∈ segOf t tn
          · rw [siGetD_update, if_pos hseg', hv]
            rcases (hmemseg i).mp hseg' with h1 | h1
            · -- same node on two segments: same seed
              obtain ⟨mid', last', _, hs', hleaf', _, hdrop', _⟩ := seg_of_end hw hl (hdone tn' h')
              have c1 := chainLeaf_of_mem_seg hw hs hleaf i h1
              have c2 := chainLeaf_of_mem_seg hw hs' hleaf' i (hdrop' ▸ hi)
              rw [c1] at c2
              have : tn = tn' := Option.some.inj c2
              rw [← this, hlast]
            · exact absurd (h1 ▸ hi) (hlast_miss tn' (hdone tn' h'))
          · rw [siGetD_update, if_neg hseg']; exact hI.hit tn' h' i hi
        · rw [List.mem_singleton.mp h'] at hi ⊢
          rw [siGetD_update, if_pos ((List.dropLast_sublist _).subset hi), hv, hlast]
      · intro i hi hmiss
        by_cases hseg' : i ∈ segOf t tn
        · rcases (hmemseg i).mp hseg' with h1 | h1
          · exact absurd (hdrop ▸ h1) (hmiss tn (by simp))
          · rw [siGetD_update, if_pos hseg', hv, h1]
        · rw [siGetD_update, if_neg hseg']
          exact hI.miss i hi (fun tn' h' => hmiss tn' (List.mem_append_left _ h'))
    obtain ⟨si', h1, h2⟩ := ih (done ++ [tn]) _ (List.forall_mem_cons.mp hL).2
      (List.forall_mem_append.mpr ⟨hdone, List.forall_mem_singleton.mpr htn⟩) hI'
    refine ⟨si', ?_, by simpa using h2⟩
    rw [List.foldlM_cons, hstep]; exact h1

theorem sweep_eq (hw : WF t) (hl : labelsOKB t = true) (g : Bool) (ign : List Int)
    (hign : ∀ l ∈ ign, l ∈ ids t → l ∈ endNodes t) (pick : St → Nat) :
    ∃ col, sweep t g ign pick = some col ∧ ∀ i ∈ ids t, col i = strahler t g ign i := by
  obtain ⟨si, hsi, hraw⟩ := sweepRaw_eq hw hl g ign hign pick
  have hE : ∀ tn ∈ (endNodes t).filter (fun e => ign.contains e), tn ∈ endNodes t :=
    fun tn h => (List.mem_filter.mp h).1
  obtain ⟨si', hfix, hI⟩ := fix_fold hw hl (strahlerRaw t g ign (t.length + 1)) _ [] si hE (by simp)
    ⟨by simp, fun i hi _ => hraw i hi⟩
  refine ⟨siGetD si', by unfold sweep; rw [hsi]; show (fixIgnored t ign si).map siGetD = _; unfold fixIgnored; rw [hfix]; rfl, ?_⟩
  simp only [List.nil_append] at hI
  intro i hi
  -- is `i` on the twig of an ignored end node?
  by_cases hon : ∃ tn ∈ (endNodes t).filter (fun e => ign.contains e), i ∈ (segOf t tn).dropLast
  · obtain ⟨tn, htn, hid⟩ := hon
    obtain ⟨mid, last, _, hs, hleaf, hlast, hdrop, hstop⟩ := seg_of_end hw hl (hE tn htn)
    rw [hI.hit tn htn i hid, hlast]
    have hc := chainLeaf_of_mem_seg hw hs hleaf i (hdrop ▸ hid)
    exact (strahler_of_ignored t g ign hc (List.mem_filter.mp htn).2 hstop).symm
  · have hmiss : ∀ tn ∈ (endNodes t).filter (fun e => ign.contains e), i ∉ (segOf t tn).dropLast :=
      fun tn htn hm => hon ⟨tn, htn, hm⟩
    rw [hI.miss i hi hmiss]
    cases hc : chainLeaf t (t.length + 1) i with
    | none => exact (strahler_of_not_ignored t g ign (fun l h => by rw [hc] at h; simp at h)).symm
    | some l =>
      by_cases hil : ign.contains l = true
      · -- `l` is an ignored end node, `i` lies on its segment but not before the last node: `i` is the stop
        have hlm : l ∈ ign := by simpa using hil
        obtain ⟨hli, _⟩ := chainLeaf_mem_ids hw _ i l hi hc
        have hle : l ∈ (endNodes t).filter (fun e => ign.contains e) :=
          List.mem_filter.mpr ⟨hign l hlm hli, hil⟩
        obtain ⟨mid, last, _, hs, _, _, hdrop, hstop⟩ := seg_of_end hw hl (hE l hle)
        rcases mem_seg_of_chainLeaf hw hs _ i hi hc with h1 | h1
        · exact absurd (hdrop ▸ h1) (hmiss l hle)
        · rw [strahler_of_ignored t g ign hc hil hstop, h1]
      · refine (strahler_of_not_ignored t g ign (fun l' h => ?_)).symm
        rw [hc] at h
        rw [← Option.some.inj h]; simpa using hil

theorem ignoreList_ends (ign : List Int) (k : Nat)
    (hign : ∀ l ∈ ign, l ∈ ids t → l ∈ endNodes t) : ∀ l ∈ ignoreList t ign k, l ∈ ids t → l ∈ endNodes t := by
  intro l hlm hli
  unfold ignoreList at hlm
  split at hlm
  · exact hign l hlm hli
  · rcases List.mem_append.mp hlm with h | h
    · exact hign l h hli
    · obtain ⟨s, _, hs⟩ := List.mem_filterMap.mp h
      cases hh : s.head? with
      | none => rw [hh] at hs; simp at hs
      | some x =>
        rw [hh] at hs
        simp only at hs
        split at hs
        · rename_i hc
          simp only [Option.some.injEq] at hs
          rw [← hs]
          simp only [Bool.and_eq_true, List.contains_eq_mem, decide_eq_true_eq] at hc
          exact hc.1
        · simp at hs

/-- The Python `min_twig_size` list is the model's `shortTwigs` (C12/C17): for the seed of a small segment
"typed `end`" and "has no children" are the same thing. -/
theorem ignoreList_eq_shortTwigs (hl : labelsOKB t = true) (ign : List Int) (k : Nat) :
    ignoreList t ign k = if k = 0 then ign else ign ++ shortTwigs t k := by
  unfold ignoreList shortTwigs
  by_cases hk : k = 0
  · simp [hk]
  · simp only [hk, if_false]
    congr 1
    apply List.filterMap_congr
    intro s hs
    obtain ⟨n, hnt, hp, _, rfl⟩ := mem_smallSegments_iff.mp hs
    have hh : (segOf t n.id).head? = some n.id := rfl
    rw [hh]
    simp only
    have : (endNodes t).contains n.id = (childCount t n.id == 0) := by
      rw [Bool.eq_iff_iff, List.contains_iff_mem, beq_iff_eq, mem_endNodes hl]
      exact ⟨fun ⟨_, _, hid, _, hc⟩ => hid ▸ hc, fun hc => ⟨n, hnt, rfl, hp, hc⟩⟩
    rw [this]

end Navis.Sweep

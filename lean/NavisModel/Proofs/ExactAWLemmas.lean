import NavisModel.Model.PruneExt
import NavisModel.Proofs.ExactPruneLemmas
import NavisModel.Proofs.SegmentLemmas
/-!
The height of a node (`heightOf`, the quantity `exactPrune` tests) is the largest distance to a leaf below it:
every leaf of `leavesBelow t k` is within `heightOf … k` of `k`, and one is exactly that far
(`height_is_max_leaf_dist`).  `Props/C12.lean` (`exact_in_range_as_written`) derives from it that the in-range test of
`_prune_twigs_precise` as written ("every leaf distal to the node is within `size`", `inRangeAW`) is the height test.
-/
namespace Navis.PruneX
open Navis.Forest Navis.ExactPrune

theorem mem_leavesBelow {t : Table} {k l : Int} :
    l ∈ leavesBelow t k ↔ childCount t l = 0 ∧ k ∈ rootPath t l := by
  unfold leavesBelow isAncestorOrSelf
  simp only [List.mem_map, List.mem_filter, Bool.and_eq_true, beq_iff_eq, List.contains_eq_mem, decide_eq_true_eq]
  constructor
  · rintro ⟨n, ⟨_, h2, h3⟩, rfl⟩; exact ⟨h2, h3⟩
  · rintro ⟨h2, h3⟩
    obtain ⟨n, hn, rfl⟩ := mem_ids.mp (anc_ids h3).2
    exact ⟨n, ⟨hn, h2, h3⟩, rfl⟩

theorem distUp_step {t : Table} (hw : WF t) (len : Int → Int → Nat) {l : Int} {nc : Node} (hnc : nc ∈ t)
    (hp : ¬ nc.parent < 0) (hc : nc.id ∈ rootPath t l) :
    nc.parent ∈ rootPath t l ∧
      ∃ d, distUp t len l nc.id = some d ∧ distUp t len l nc.parent = some (d + len nc.id nc.parent) := by
  obtain ⟨pre, hpre⟩ := rootPath_suffix hw hc
  have hpm := WF_parent_mem hw hnc hp
  have e : rootPath t l = (pre ++ [nc.id]) ++ rootPath t nc.parent := by
    rw [← hpre, rootPath_of_nonroot hw (find?_of_mem hw.1 hnc) hp, List.append_assoc]; rfl
  refine ⟨e ▸ List.mem_append_right _ (rootPath_head_mem hpm), _,
    distUp_stretch hw len hpre.symm (mem_ids_of_mem hnc), ?_⟩
  rw [distUp_stretch hw len e hpm, List.append_assoc]
  exact congrArg some (pathLen_append len pre nc.id [nc.parent])

theorem leavesBelow_leaf {t : Table} (hw : WF t) {k : Int} (hk : k ∈ ids t) (hch : children t k = []) :
    k ∈ leavesBelow t k ∧ ∀ l ∈ leavesBelow t k, l = k := by
  have hcc : childCount t k = 0 := by rw [← children_length, hch]; rfl
  refine ⟨mem_leavesBelow.mpr ⟨hcc, rootPath_head_mem hk⟩, fun l hl => ?_⟩
  have hkl := (mem_leavesBelow.mp hl).2
  by_cases hne : l = k
  · exact hne
  · obtain ⟨c, hc, _⟩ := child_on_path hw hkl hne
    rw [hch] at hc; cases hc

/-- A leaf below a child `c` of `k` is a leaf below `k`, one edge farther away. -/
theorem leavesBelow_child {t : Table} (hw : WF t) (len : Int → Int → Nat) {k c l : Int} (hk : k ∈ ids t)
    (hc : c ∈ children t k) (hl : l ∈ leavesBelow t c) :
    l ∈ leavesBelow t k ∧ ∃ d, distUp t len l c = some d ∧ distUp t len l k = some (d + len c k) := by
  obtain ⟨nc, hnc, rfl, rfl⟩ := mem_children.mp hc
  obtain ⟨hlcc, hcl⟩ := mem_leavesBelow.mp hl
  obtain ⟨hkl, h⟩ := distUp_step hw len hnc (Int.not_lt.mpr (ids_nonneg hw.2.1 hk)) hcl
  exact ⟨mem_leavesBelow.mpr ⟨hlcc, hkl⟩, h⟩

/-- A leaf below `k` other than `k` itself lies below one of the children of `k`. -/
theorem leavesBelow_enter {t : Table} (hw : WF t) {k l : Int} (hch : children t k ≠ []) (hl : l ∈ leavesBelow t k) :
    ∃ c ∈ children t k, l ∈ leavesBelow t c := by
  obtain ⟨hlcc, hkl⟩ := mem_leavesBelow.mp hl
  have hne : l ≠ k := by
    rintro rfl
    rw [← children_length] at hlcc
    exact hch (List.eq_nil_of_length_eq_zero hlcc)
  obtain ⟨c, hcm, hcl⟩ := child_on_path hw hkl hne
  exact ⟨c, hcm, mem_leavesBelow.mpr ⟨hlcc, hcl⟩⟩

/-- Every leaf distal to `k` is within the height of `k`, and some leaf is exactly that far: the leaf distances obey
the recurrence of `heightOf` (`leavesBelow_enter`, `leavesBelow_child`). -/
theorem height_is_max_leaf_dist {t : Table} (hw : WF t) (len : Int → Int → Nat) :
    ∀ k ∈ ids t,
      (∀ l ∈ leavesBelow t k, ∃ d, distUp t len l k = some d ∧ d ≤ heightOf t len (t.length + 1) k) ∧
      (∃ l ∈ leavesBelow t k, distUp t len l k = some (heightOf t len (t.length + 1) k)) := by
  refine children_induct hw _ fun k hk ih => ?_
  by_cases hch : children t k = []
  · obtain ⟨hself, honly⟩ := leavesBelow_leaf hw hk hch
    rw [heightOf_leaf _ _ _ _ hch]
    refine ⟨fun l hl => ?_, k, hself, distUp_self len hk⟩
    rw [honly l hl]; exact ⟨0, distUp_self len hk, Nat.le_refl _⟩
  · obtain ⟨hub, hatt⟩ := height_bounds hw len k
    constructor
    · intro l hl
      obtain ⟨c, hcm, hlc⟩ := leavesBelow_enter hw hch hl
      obtain ⟨_, d, h1, h2⟩ := leavesBelow_child hw len hk hcm hlc
      obtain ⟨d', h3, h4⟩ := (ih c hcm).1 l hlc
      obtain rfl : d = d' := Option.some.inj (h1.symm.trans h3)
      exact ⟨_, h2, Nat.le_trans (by rw [Nat.add_comm]; exact Nat.add_le_add_left h4 _) (hub c hcm)⟩
    · -- a farthest leaf below the child that attains the maximum
      obtain ⟨c, hcm, hatt'⟩ := hatt hch
      obtain ⟨l, hl, hdl⟩ := (ih c hcm).2
      obtain ⟨hlk, d, h1, h2⟩ := leavesBelow_child hw len hk hcm hl
      obtain rfl := Option.some.inj (hdl.symm.trans h1)
      exact ⟨l, hlk, by rw [h2, hatt', Nat.add_comm]⟩

end Navis.PruneX

import NavisModel.Model.Heal
import NavisModel.Proofs.ForestConnLemmas
import NavisModel.Proofs.HealKruskalLemmas
/-!
The fragment label `fragOf` names the component of a node in `uedges`: a node is connected to the root of its tree, whose id
is its label (`Conn_fragOf`), and connected nodes carry the same label.  So `fragOf` is the quotient map from the nodes onto
the fragment quotient graph: with bridging edges `A` that record their end nodes' fragments (`Valid`), two nodes are connected
through old and bridging edges iff their fragments are connected in `qE A` (`lift_down`, `lift_up`), and bridging edges that
are acyclic on the fragments are, with the old edges, acyclic on the nodes (`Acyc.lift`).
-/
namespace Navis.Heal
open Navis.Forest

theorem Conn_fragOf {t : Table} (hw : WF t) {i : Int} (hi : i ∈ ids t) :
    rootOf t i = some (fragOf t i) ∧ fragOf t i ∈ roots t ∧ Conn (uedges t) i (fragOf t i) := by
  obtain ⟨r, h1, h2, h3⟩ := Conn_rootOf hw hi
  have hf : fragOf t i = r := by unfold fragOf; rw [h1]; rfl
  rw [hf]
  exact ⟨h1, h2, h3⟩

theorem fragOf_mem_roots {t : Table} (hw : WF t) {i : Int} (hi : i ∈ ids t) : fragOf t i ∈ roots t :=
  (Conn_fragOf hw hi).2.1

theorem fragOf_eq_iff {t : Table} (hw : WF t) {i j : Int} (hi : i ∈ ids t) (hj : j ∈ ids t) :
    fragOf t i = fragOf t j ↔ rootOf t i = rootOf t j := by
  rw [(Conn_fragOf hw hi).1, (Conn_fragOf hw hj).1, Option.some.injEq]

theorem fragOf_eq_of_Conn {t : Table} (hw : WF t) {a b : Int} (h : Conn (uedges t) a b) : fragOf t a = fragOf t b := by
  unfold fragOf; rw [rootOf_eq_of_Conn hw h]

theorem fragOf_root {t : Table} (hw : WF t) {r : Int} (hr : r ∈ roots t) : fragOf t r = r := by
  obtain ⟨n, hn, rfl, hp⟩ := mem_roots.mp hr
  unfold fragOf; rw [rootOf_of_root hw hn hp]; rfl

theorem fragOf_parent {t : Table} (hw : WF t) {n : Node} (hn : n ∈ t) (hp : ¬ n.parent < 0) :
    fragOf t n.parent = fragOf t n.id := by
  unfold fragOf; rw [rootOf_parent hw hn hp]

def Valid (t : Table) (e : CEdge) : Prop :=
  e.a ∈ ids t ∧ e.b ∈ ids t ∧ fragOf t e.a = e.fa ∧ fragOf t e.b = e.fb

theorem adj_addedU {A : List CEdge} {x y : Int} : Adj (addedU A) x y ↔
    ∃ e ∈ A, (x = e.a ∧ y = e.b) ∨ (x = e.b ∧ y = e.a) := by
  simp only [Adj, addedU, List.mem_map, @eq_comm _ (uedge _ _), ← exists_or, ← and_or_left, uedge_ends]

theorem lift_down {t : Table} (hw : WF t) {A : List CEdge} (hv : ∀ e ∈ A, Valid t e) {i j : Int}
    (h : Conn (addedU A ++ uedges t) i j) : Conn (qE A) (fragOf t i) (fragOf t j) := by
  induction h with
  | refl => exact .refl _
  | @step b c _ hadj ih =>
    rcases adj_append.mp hadj with h | h
    · obtain ⟨e, he, hc⟩ := adj_addedU.mp h
      obtain ⟨_, _, h3, h4⟩ := hv e he
      have hq := adj_qE_of_mem he
      rcases hc with ⟨rfl, rfl⟩ | ⟨rfl, rfl⟩
      · rw [h4]; rw [h3] at ih; exact .step ih hq
      · rw [h3]; rw [h4] at ih; exact .step ih hq.symm
    · rw [← fragOf_eq_of_Conn hw (Conn.single h)]; exact ih

/-- Every node is joined to its fragment's root by old edges, and an accepted edge joins the roots of its two
fragments through its end nodes. -/
theorem lift_up {t : Table} (hw : WF t) {A : List CEdge} (hv : ∀ e ∈ A, Valid t e) {i j : Int}
    (hi : i ∈ ids t) (hj : j ∈ ids t) (h : Conn (qE A) (fragOf t i) (fragOf t j)) :
    Conn (addedU A ++ uedges t) i j := by
  have hroot : ∀ {k}, k ∈ ids t → Conn (addedU A ++ uedges t) k (fragOf t k) :=
    fun hk => (Conn_fragOf hw hk).2.2.of_subset fun z hz => List.mem_append_right _ hz
  refine ((hroot hi).trans (h.through fun e he => ?_)).trans (hroot hj).symm
  obtain ⟨va, vb, h3, h4⟩ := hv e he
  have hnew : Adj (addedU A ++ uedges t) e.a e.b :=
    adj_append.mpr (Or.inl (adj_addedU.mpr ⟨e, he, Or.inl ⟨rfl, rfl⟩⟩))
  exact (h3 ▸ (hroot va).symm).trans ((Conn.single hnew).trans (h4 ▸ hroot vb))

/-- **Acyclicity lifts from the fragments to the nodes**: bridging edges that are acyclic on the quotient graph
are, together with the old edges, acyclic on the nodes (whatever chose them). -/
theorem Acyc.lift {t : Table} (hw : WF t) : ∀ {A : List CEdge}, (∀ e ∈ A, Valid t e) → Acyc (qE A) →
    Acyc (addedU A ++ uedges t)
  | [], _, _ => Acyc_uedges hw
  | e :: A, hv, hac => by
    obtain ⟨hacA, hn⟩ := Acyc.of_cons (E := qE A) (x := (e.fa, e.fb)) hac
    have hvA : ∀ x ∈ A, Valid t x := fun x hx => hv x (List.mem_cons_of_mem _ hx)
    obtain ⟨_, _, h3, h4⟩ := hv e List.mem_cons_self
    -- a path between the ends of `e` would project to a path between its fragments
    have hnc : ¬ Conn (addedU A ++ uedges t) e.a e.b := fun hc => by
      have := lift_down hw hvA hc
      rw [h3, h4] at this
      exact hn this
    show Acyc (uedge e.a e.b :: (addedU A ++ uedges t))
    rcases uedge_cases e.a e.b with h | h <;> rw [h]
    · exact (Acyc.lift hw hvA hacA).cons hnc
    · exact (Acyc.lift hw hvA hacA).cons fun hc => hnc hc.symm

end Navis.Heal

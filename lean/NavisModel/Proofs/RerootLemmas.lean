import NavisModel.Proofs.PathLemmas
/-!
`reroot` row by row: `predOnPath` (the new parent of a node on the reversed path), the path reversal `rrow`, then the
incremental relabel `relabelRow` (`reroot_cases`); which rows stay, and well-formedness of the result in rank form.  A
sequence of reroots preserves what each reroot preserves (`rerootMany_induct`).
-/
namespace Navis.Forest

theorem predOnPath_some {path : List Int} {i a : Int} (h : predOnPath path i = some a) :
    a ∈ path ∧ i ∈ path.tail ∧ (path.Nodup → path.idxOf a + 1 = path.idxOf i) := by
  fun_induction predOnPath path i with
  | case1 x rest y =>
    obtain rfl := Option.some.inj h
    refine ⟨List.mem_cons_self, List.mem_cons_self, fun hnd => ?_⟩
    have hne : x ≠ y := fun he => (List.nodup_cons.mp hnd).1 (he ▸ List.mem_cons_self)
    rw [List.idxOf_cons_self, idxOf_cons_of_ne _ hne, List.idxOf_cons_self]
  | case2 x y rest i hy ih =>
    obtain ⟨h1, h2, h3⟩ := ih h
    have h2 := List.mem_of_mem_tail h2
    refine ⟨List.mem_cons_of_mem _ h1, h2, fun hnd => ?_⟩
    rw [List.nodup_cons] at hnd
    have hxa : x ≠ a := fun he => hnd.1 (he ▸ h1)
    have hxi : x ≠ i := fun he => hnd.1 (he ▸ h2)
    rw [idxOf_cons_of_ne _ hxa, idxOf_cons_of_ne _ hxi, h3 hnd.2]
  | case3 => cases h

theorem predOnPath_none {path : List Int} {i : Int} (h : predOnPath path i = none) : i ∉ path.tail := by
  fun_induction predOnPath path i with
  | case1 => cases h
  | case2 x y rest i hy ih => exact fun hm => (List.mem_cons.mp hm).elim (fun e => hy e.symm) (ih h)
  | case3 l i hl =>
    -- a path that is not `_ :: _ :: _` has an empty tail
    match l, hl with
    | [], _ => exact List.not_mem_nil
    | [_], _ => exact List.not_mem_nil
    | a :: b :: r, hl => exact (hl a b r rfl).elim

theorem predOnPath_of_mem_tail {path : List Int} {i : Int} (h : i ∈ path.tail) : ∃ a, predOnPath path i = some a := by
  cases hn : predOnPath path i with
  | none => exact absurd h (predOnPath_none hn)
  | some a => exact ⟨a, rfl⟩

/-- What `rerootParents` does to one row. -/
def rrow (r : Int) (path : List Int) (n : Node) : Node :=
  if n.id = r then { n with parent := -1 }
  else match predOnPath path n.id with
    | some p => { n with parent := p }
    | none => n

theorem rerootParents_eq_map (t : Table) (r : Int) (path : List Int) :
    rerootParents t r path = t.map (rrow r path) := rfl

/-- Odd-shaped on purpose (as `relabelRow_eq` below): every "the other fields are unchanged" is then one `rw`. -/
theorem rrow_eq (r : Int) (path : List Int) (n : Node) : rrow r path n = { n with parent := (rrow r path n).parent } := by
  unfold rrow; split
  · rfl
  · split <;> rfl

@[simp] theorem rrow_id (r : Int) (path : List Int) (n : Node) : (rrow r path n).id = n.id := by
  rw [rrow_eq]

@[simp] theorem rrow_label (r : Int) (path : List Int) (n : Node) : (rrow r path n).label = n.label := by
  rw [rrow_eq]

theorem rrow_parent_self {r : Int} {path : List Int} {n : Node} (h : n.id = r) : (rrow r path n).parent = -1 := by
  unfold rrow; rw [if_pos h]

theorem rrow_off_path {r : Int} {path : List Int} {n : Node} (hr : r ∈ path) (hn : n.id ∉ path) :
    rrow r path n = n := by
  unfold rrow
  have h1 : n.id ≠ r := fun h => hn (h ▸ hr)
  rw [if_neg h1]
  cases hp : predOnPath path n.id with
  | none => rfl
  | some a => exact absurd (List.mem_of_mem_tail ((predOnPath_some hp).2.1)) hn

/-- The incremental relabel of `reroot` on one row. -/
def relabelRow (r oldRoot : Int) (c : Nat) (n : Node) : Node :=
  if n.id = r then { n with label := .root }
  else if n.id = oldRoot then { n with label := labelOf c false }
  else n

theorem relabelRow_eq (r o : Int) (c : Nat) (n : Node) :
    relabelRow r o c n = { n with label := (relabelRow r o c n).label } := by
  unfold relabelRow; split
  · rfl
  · split <;> rfl

@[simp] theorem relabelRow_id (r o : Int) (c : Nat) (n : Node) : (relabelRow r o c n).id = n.id := by
  rw [relabelRow_eq]

@[simp] theorem relabelRow_parent (r o : Int) (c : Nat) (n : Node) : (relabelRow r o c n).parent = n.parent := by
  rw [relabelRow_eq]

theorem reroot_absent {t : Table} {r : Int} (hf : find? t r = none) : reroot t r = t := by
  unfold reroot; rw [hf]

theorem reroot_of_root {t : Table} {r : Int} {nr : Node} (hf : find? t r = some nr) (hp : nr.parent < 0) :
    reroot t r = t := by
  unfold reroot; rw [hf]; exact if_pos hp

theorem reroot_of_nonroot {t : Table} {r : Int} {nr : Node} (hf : find? t r = some nr) (hp : ¬ nr.parent < 0) :
    reroot t r = (rerootParents t r (rootPath t r)).map
      (relabelRow r ((rootPath t r).getLast?.getD r)
        (childCount (rerootParents t r (rootPath t r)) ((rootPath t r).getLast?.getD r))) := by
  unfold reroot; rw [hf]; exact if_neg hp

theorem reroot_cases (t : Table) (r : Int) :
    reroot t r = t ∨
    ∃ nr, find? t r = some nr ∧ ¬ nr.parent < 0 ∧
      reroot t r = (rerootParents t r (rootPath t r)).map
        (relabelRow r ((rootPath t r).getLast?.getD r)
          (childCount (rerootParents t r (rootPath t r)) ((rootPath t r).getLast?.getD r))) := by
  cases hf : find? t r with
  | none => exact Or.inl (reroot_absent hf)
  | some nr =>
    by_cases hp : nr.parent < 0
    · exact Or.inl (reroot_of_root hf hp)
    · exact Or.inr ⟨nr, rfl, hp, reroot_of_nonroot hf hp⟩

@[simp] theorem ids_rerootParents (t : Table) (r : Int) (path : List Int) : ids (rerootParents t r path) = ids t :=
  ids_map_of_id (rrow_id r path) t

/-- Reversing the links along any duplicate-free list of ids that starts at `r` (in place of `rootPath t r`) leaves a
forest: the new rank is the position on the reversed path, and behind the path the old rank shifted by its length. -/
theorem WF_rerootParents_gen {t : Table} (hw : WF t) (r : Int) (path : List Int)
    (hnodup : path.Nodup) (hsub : ∀ a ∈ path, a ∈ ids t) (hhead : path.head? = some r) :
    WF (rerootParents t r path) := by
  obtain ⟨hnd, hpos, rk, hrk⟩ := hw
  refine ⟨by rw [ids_rerootParents]; exact hnd, ?_,
    (fun i => if i ∈ path then path.idxOf i else rk i + path.length), ?_⟩
  · intro m hm
    rw [rerootParents_eq_map] at hm
    obtain ⟨n, hn, rfl⟩ := List.mem_map.mp hm
    rw [rrow_id]; exact hpos n hn
  · intro m hm
    rw [rerootParents_eq_map] at hm
    obtain ⟨n, hn, rfl⟩ := List.mem_map.mp hm
    rw [ids_rerootParents, rrow_id]
    unfold rrow
    split
    · exact Or.inl (show (-1 : Int) < 0 by decide)
    · rename_i hne
      split
      · rename_i p hp
        obtain ⟨h1, h2, h3⟩ := predOnPath_some hp
        have h3' := h3 hnodup
        refine Or.inr ⟨hsub p h1, ?_⟩
        simp only
        rw [if_pos h1, if_pos (List.mem_of_mem_tail h2)]
        omega
      · rename_i hp
        -- untouched row: it is not on the path
        have hnot : n.id ∉ path := by
          intro hmem
          cases path with
          | nil => simp at hmem
          | cons x rest =>
            rcases List.mem_cons.mp hmem with h | h
            · exact hne (h.trans (Option.some.inj hhead))
            · exact predOnPath_none hp h
        refine (hrk n hn).imp_right fun ⟨hpin, hlt⟩ => ⟨hpin, ?_⟩
        simp only
        rw [if_neg hnot]
        by_cases hpp : n.parent ∈ path
        · rw [if_pos hpp]
          have := List.idxOf_lt_length_of_mem hpp
          omega
        · rw [if_neg hpp]; omega

theorem WF_rerootParents {t : Table} (hw : WF t) (r : Int) (hr : r ∈ ids t) :
    WF (rerootParents t r (rootPath t r)) :=
  WF_rerootParents_gen hw r _ (pathToRoot_nodup hw _ r) (pathToRoot_subset t _ r) (pathToRoot_head t t.length r hr)

theorem links_map_relabelRow (t : Table) (r o : Int) (c : Nat) : links (t.map (relabelRow r o c)) = links t := by
  unfold links
  rw [List.map_map]
  apply List.map_congr_left
  intro n _
  simp

theorem reroot_new_root (t : Table) (r : Int) (hr : r ∈ ids t) : ∃ n ∈ reroot t r, n.id = r ∧ n.parent < 0 := by
  cases hf : find? t r with
  | none => exact absurd hr (find?_none hf)
  | some nr =>
    obtain ⟨hn, hid⟩ := find?_some hf
    by_cases hp : nr.parent < 0
    · rw [reroot_of_root hf hp]; exact ⟨nr, hn, hid, hp⟩
    · rw [reroot_of_nonroot hf hp, rerootParents_eq_map]
      refine ⟨_, List.mem_map.mpr ⟨_, List.mem_map.mpr ⟨nr, hn, rfl⟩, rfl⟩, ?_, ?_⟩
      · rw [relabelRow_id, rrow_id, hid]
      · rw [relabelRow_parent, rrow_parent_self hid]; decide

theorem reroot_coords (t : Table) (r : Int) :
    (reroot t r).map (fun n => (n.id, n.x, n.y, n.z)) = t.map (fun n => (n.id, n.x, n.y, n.z)) := by
  rcases reroot_cases t r with h | ⟨nr, _, _, h3⟩
  · rw [h]
  · rw [h3, rerootParents_eq_map, List.map_map, List.map_map]
    apply List.map_congr_left
    intro n _
    simp only [Function.comp]
    rw [relabelRow_eq, rrow_eq]

theorem reroot_off_path (t : Table) (r : Int) (n : Node) (hn : n ∈ t) (hoff : n.id ∉ rootPath t r) :
    n ∈ reroot t r := by
  rcases reroot_cases t r with h | ⟨nr, h1, _, h3⟩
  · rw [h]; exact hn
  · have hr : r ∈ ids t := mem_ids_of_find? h1
    have hrp := rootPath_head_mem hr
    rw [h3, rerootParents_eq_map]
    refine List.mem_map.mpr ⟨n, List.mem_map.mpr ⟨n, hn, rrow_off_path hrp hoff⟩, ?_⟩
    unfold relabelRow
    have h1 : n.id ≠ r := fun h => hoff (h ▸ hrp)
    rw [if_neg h1]
    have h2 : n.id ≠ (rootPath t r).getLast?.getD r := by
      intro h
      apply hoff
      cases hl : (rootPath t r).getLast? with
      | none => rw [hl] at h; exact absurd h h1
      | some o => rw [hl] at h; simp at h; rw [h]; exact List.mem_of_getLast? hl
    rw [if_neg h2]

@[simp] theorem ids_reroot (t : Table) (r : Int) : ids (reroot t r) = ids t := by
  rcases reroot_cases t r with h | ⟨_, _, _, h⟩
  · rw [h]
  · rw [h, ids_map_of_id (relabelRow_id _ _ _), ids_rerootParents]

theorem WF_reroot {t : Table} (hw : WF t) (r : Int) : WF (reroot t r) := by
  rcases reroot_cases t r with h | ⟨nr, hf, _, h⟩
  · rw [h]; exact hw
  · rw [h]
    exact WF_of_same_links (links_map_relabelRow _ _ _ _) (WF_rerootParents hw r (mem_ids_of_find? hf))

theorem rerootMany_induct (P : Table → Prop) (hstep : ∀ u r, P u → P (reroot u r)) {t : Table} (h0 : P t)
    (rs : List Int) : P (rerootMany t rs) :=
  List.foldlRecOn rs reroot (motive := P) h0 fun u h r _ => hstep u r h

theorem rerootMany_of_roots (T : Table) (rs : List Int)
    (h : ∀ a ∈ rs, ∃ m, find? T a = some m ∧ m.parent < 0) : rerootMany T rs = T :=
  List.foldlRecOn rs reroot (motive := fun u => u = T) rfl fun u hu a ha => by
    obtain ⟨m, hf, hp⟩ := h a ha
    rw [hu]; exact reroot_of_root hf hp

theorem WF_rerootMany {t : Table} (hw : WF t) (rs : List Int) : WF (rerootMany t rs) :=
  rerootMany_induct WF (fun _ r h => WF_reroot h r) hw rs

end Navis.Forest

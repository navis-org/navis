import NavisModel.Model.Flow
import NavisModel.Proofs.PathLemmas
import NavisModel.Proofs.ResampleEuclidLemmas
/-! Tortuosity (C17): chord ≤ arc along a chain of integer points, read off the metric of Euclidean 3-space through
the cast of C13 (`ResampleR.toE`); straight chains, where chord = arc; the executable edge test `exactEdgesB`. -/
namespace Navis.Flow
open Navis.Forest Navis.Resample Navis.ResampleR

theorem sqd_self (p : P3) : sqd p p = 0 := by simp [sqd]

theorem sqd_comm (p q : P3) : sqd p q = sqd q p := by unfold sqd; ring

/-- An integer point of the tortuosity model as a point of the resampling model (C13), whose cast `toE` into Euclidean
3-space carries the metric. -/
def toPt (p : P3) : Pt := ⟨p.1, p.2.1, p.2.2, 0⟩

theorem sqd_toPt (p q : P3) : Resample.sqd (toPt p) (toPt q) = ((Flow.sqd p q : Int) : Rat) := by
  unfold Resample.sqd Flow.sqd toPt
  push_cast
  rfl

/-- `ResampleR.dist_le_iff_sqd_le` for integer points and a natural bound. -/
theorem dist_toPt_le_iff (p q : P3) (c : Nat) :
    dist (toE (toPt p)) (toE (toPt q)) ≤ (c : ℝ) ↔ Flow.sqd p q ≤ (c : Int) * c := by
  rw [← Rat.cast_natCast, dist_le_iff_sqd_le (Nat.cast_nonneg c), sqd_toPt, ← Int.cast_natCast, ← Int.cast_mul,
    Int.cast_le]

/-- Chord ≤ arc is the triangle inequality of the Euclidean metric, read in squared form. -/
theorem chord_le_arc (pos : Int → P3) (len : Int → Int → Nat) :
    ∀ (rest : List Int) (a z : Int), edgesWithin pos len (a :: rest) → (a :: rest).getLast? = some z →
      sqd (pos a) (pos z) ≤ ((pathLen len (a :: rest) : Nat) : Int) * (pathLen len (a :: rest) : Nat) := by
  intro rest
  induction rest with
  | nil =>
    intro a z _ hz
    obtain rfl : a = z := Option.some.inj hz
    exact (dist_toPt_le_iff _ _ _).mp (by rw [dist_self]; exact Nat.cast_nonneg _)
  | cons b rest ih =>
    intro a z he hz
    have h1 := (dist_toPt_le_iff _ _ _).mpr he.1
    have h2 := (dist_toPt_le_iff _ _ _).mpr (ih b z he.2 ((List.getLast?_cons_cons).symm.trans hz))
    refine (dist_toPt_le_iff _ _ _).mp ((dist_triangle _ (toE (toPt (pos b))) _).trans ?_)
    rw [show pathLen len (a :: b :: rest) = len a b + pathLen len (b :: rest) from rfl, Nat.cast_add]
    exact add_le_add h1 h2

theorem straight_sum (pos : Int → P3) (len : Int → Int → Nat) (d : P3) (m : Nat) :
    ∀ (rest : List Int) (a z : Int), straight pos len d m (a :: rest) → (a :: rest).getLast? = some z →
      ∃ C : Nat, (pos z).1 - (pos a).1 = C * d.1 ∧ (pos z).2.1 - (pos a).2.1 = C * d.2.1 ∧
        (pos z).2.2 - (pos a).2.2 = C * d.2.2 ∧ pathLen len (a :: rest) = C * m := by
  -- one coordinate: two consecutive advances along `e` add up
  have step : ∀ {u v w e : Int} {c C : Nat}, v - u = c * e → w - v = C * e → w - u = ((c + C : Nat) : Int) * e := by
    intro u v w e c C h g
    rw [Nat.cast_add, add_mul, ← h, ← g, sub_add_sub_cancel']
  intro rest
  induction rest with
  | nil =>
    intro a z _ hz
    obtain rfl : a = z := Option.some.inj hz
    have stay : ∀ {u e : Int}, u - u = ((0 : Nat) : Int) * e := by
      intro u e
      rw [sub_self, Nat.cast_zero, zero_mul]
    exact ⟨0, stay, stay, stay, (Nat.zero_mul m).symm⟩
  | cons b rest ih =>
    intro a z hs hz
    obtain ⟨⟨c, h1, h2, h3, h4⟩, hs2⟩ := hs
    obtain ⟨C, g1, g2, g3, g4⟩ := ih b z hs2 ((List.getLast?_cons_cons).symm.trans hz)
    refine ⟨c + C, step h1 g1, step h2 g2, step h3 g3, ?_⟩
    show len a b + pathLen len (b :: rest) = (c + C) * m
    rw [h4, g4, Nat.add_mul]

theorem edgesWithin_of_exact {t : Table} (h : exactEdgesB t = true) :
    ∀ s : List Int, Linked t s → edgesWithin (posOf t) (coordLen t) s
  | [], _ => trivial
  | [_], _ => trivial
  | a :: b :: rest, hl => by
    obtain ⟨⟨n, hf, hp, hb⟩, hl2⟩ := hl
    refine ⟨?_, edgesWithin_of_exact h (b :: rest) hl2⟩
    unfold exactEdgesB at h
    rw [List.all_eq_true] at h
    have hn := find?_some hf
    have hnr : n ∈ t.filter fun n => !isRootNode n := by
      rw [List.mem_filter]
      refine ⟨hn.1, ?_⟩
      have : ¬ n.parent < 0 := by omega
      simp [isRootNode, this]
    have := h n hnr
    simp only [beq_iff_eq] at this
    rw [hn.2, hp] at this
    rw [this]

theorem chordSq_le_arcSq {t : Table} (h : exactEdgesB t = true) (s : List Int) (hl : Linked t s) :
    chordSq t s ≤ ((arcLen t s : Nat) : Int) * (arcLen t s : Nat) := by
  cases s with
  | nil => simp [chordSq, arcLen, pathLen]
  | cons a rest =>
    have hz := List.getLast?_eq_some_getLast (List.cons_ne_nil a rest)
    have := chord_le_arc (posOf t) (coordLen t) rest a _ (edgesWithin_of_exact h _ hl) hz
    unfold chordSq arcLen
    rw [hz]
    exact this

end Navis.Flow

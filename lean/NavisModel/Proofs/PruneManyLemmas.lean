import NavisModel.Model.TreeEdit
import NavisModel.Proofs.SubsetAlgebra
/-!
C10: `prune_distal_to` / `prune_proximal_to` with several nodes.  Each single prune is a `subset`, `subset_subset`
collapses the sequence into one subset of the original table, and a kept node keeps its root path, so the later tests
read as they would in the original.  Then one round of `cutMany` (`cutStep_cases`) and what it preserves (`FragsOK`,
`fragsOK_step`: every fragment well formed, every original edge in exactly one fragment, every node in some fragment);
the fold over the cut nodes is taken in `Props.C10.cuts_edges_partition`.  Core Lean only.
-/
namespace Navis.TreeEdit
open Navis.Forest

theorem pruneDistal1_eq {t t' : Table} {c : Int} (h : pruneDistal1 t c = some t') :
    t' = subset t (keepDistalMany t [c]) := by
  obtain ⟨⟨d, p⟩, hc, rfl⟩ := Option.map_eq_some_iff.mp h
  refine (cut_some hc).2.1.trans (subset_congr fun i hi => ?_)
  unfold keepDistalMany
  rw [distalSet_contains hi, List.all_cons, List.all_nil, Bool.and_true]

theorem pruneProximal1_eq {t t' : Table} {c : Int} (h : pruneProximal1 t c = some t') :
    t' = subset t (fun i => (rootPath t i).contains c) ∧ ∃ nc, find? t c = some nc ∧ ¬ nc.parent < 0 := by
  obtain ⟨⟨d, p⟩, hc, rfl⟩ := Option.map_eq_some_iff.mp h
  obtain ⟨hd, _, hnc⟩ := cut_some hc
  exact ⟨hd.trans (subset_congr fun i hi => distalSet_contains hi c), hnc⟩

theorem pruneMany_cons_some {step : Table → Int → Option Table} {t t' : Table} {c : Int} {cs : List Int}
    (h : pruneMany step t (c :: cs) = some t') : ∃ t1, step t c = some t1 ∧ pruneMany step t1 cs = some t' := by
  unfold pruneMany at h
  cases h1 : step t c with
  | none => rw [h1] at h; cases h
  | some t1 => rw [h1] at h; exact ⟨t1, rfl, h⟩

theorem keepDistalMany_iff {t : Table} {cs : List Int} {i : Int} :
    keepDistalMany t cs i = true ↔ ∀ c ∈ cs, c ∈ rootPath t i → i = c := by
  unfold keepDistalMany
  simp only [List.all_eq_true, Bool.or_eq_true, Bool.not_eq_true', List.contains_eq_mem, decide_eq_false_iff_not,
    beq_iff_eq]
  exact forall₂_congr fun c _ => Decidable.imp_iff_not_or.symm

theorem keepDistal1_upclosed {t : Table} (hw : WF t) {c i a : Int} (hk : keepDistalMany t [c] i = true)
    (ha : a ∈ rootPath t i) : keepDistalMany t [c] a = true := by
  rw [keepDistalMany_iff] at hk ⊢
  intro x hx hxa
  have hix := hk x hx (anc_trans hw hxa ha)
  rw [← hix] at hxa ⊢
  exact anc_antisymm hw ha hxa

theorem rootPath_pruneDistal {t : Table} (hw : WF t) {c i : Int} (hi : i ∈ ids t) (hk : keepDistalMany t [c] i = true) :
    rootPath (subset t (keepDistalMany t [c])) i = rootPath t i := by
  rw [rootPath_subset hw _ i hi hk]
  exact takeWhile_all fun a ha => keepDistal1_upclosed hw hk ha

theorem keepDistalMany_cons (t : Table) (c : Int) (cs : List Int) (i : Int) :
    keepDistalMany t (c :: cs) i = (keepDistalMany t [c] i && keepDistalMany t cs i) := by
  unfold keepDistalMany
  simp [List.all_cons]

theorem pruneMany_distal_eq {cs : List Int} : ∀ {t t' : Table}, WF t → ∀ {c : Int},
    pruneMany pruneDistal1 t (c :: cs) = some t' → t' = subset t (keepDistalMany t (c :: cs)) := by
  induction cs with
  | nil =>
    intro t t' _ c h
    obtain ⟨t1, h1, h⟩ := pruneMany_cons_some h
    exact Option.some.inj h ▸ pruneDistal1_eq h1
  | cons c' cs ih =>
    intro t t' hw c h
    obtain ⟨t1, h1, h⟩ := pruneMany_cons_some h
    have hs1 := pruneDistal1_eq h1
    rw [ih (hs1 ▸ WF_subset hw _) h, hs1, subset_subset]
    apply subset_congr
    intro i hi
    rw [keepDistalMany_cons t c (c' :: cs) i]
    by_cases hk : keepDistalMany t [c] i = true
    · -- a kept node has the root path it had, so the later prunes test what they would test in `t`
      rw [hk, Bool.true_and, Bool.true_and]
      exact congrArg (fun p : List Int => (c' :: cs).all fun x => !p.contains x || i == x) (rootPath_pruneDistal hw hi hk)
    · simp only [Bool.not_eq_true] at hk
      rw [hk, Bool.false_and, Bool.false_and]

theorem keepDistalMany_perm {t : Table} {cs cs' : List Int} (hp : cs'.Perm cs) (i : Int) :
    keepDistalMany t cs' i = keepDistalMany t cs i := by
  rw [Bool.eq_iff_iff, keepDistalMany_iff, keepDistalMany_iff]
  exact ⟨fun h x hx => h x (hp.mem_iff.mpr hx), fun h x hx => h x (hp.mem_iff.mp hx)⟩

theorem pruneMany_proximal_eq {cs : List Int} : ∀ {t t' : Table} {c last : Int}, WF t →
    pruneMany pruneProximal1 t (c :: cs) = some t' → (c :: cs).getLast? = some last →
    t' = subset t (fun i => (rootPath t i).contains last) ∧ c ∈ rootPath t last := by
  induction cs with
  | nil =>
    intro t t' c last hw h hl
    simp only [List.getLast?_singleton, Option.some.injEq] at hl
    subst hl
    obtain ⟨t1, h1, h⟩ := pruneMany_cons_some h
    obtain ⟨e, nc, hf, _⟩ := pruneProximal1_eq h1
    exact ⟨Option.some.inj h ▸ e, rootPath_head_mem (mem_ids_of_find? hf)⟩
  | cons c' cs ih =>
    intro t t' c last hw h hl
    rw [List.getLast?_cons_cons] at hl
    obtain ⟨d, h1, h⟩ := pruneMany_cons_some h
    obtain ⟨hd, _⟩ := pruneProximal1_eq h1
    have hwd : WF d := hd ▸ WF_subset hw _
    obtain ⟨e, hc'⟩ := ih hwd h hl
    rw [hd] at hc'
    obtain ⟨a1, a2, _, _⟩ := anc_of_anc_subset hw _ hc'
    simp only [List.contains_eq_mem, decide_eq_true_eq] at a2
    have hcl : c ∈ rootPath t last := anc_trans hw a2 a1
    refine ⟨?_, hcl⟩
    rw [e, hd, subset_subset]
    apply subset_congr
    intro i hi
    by_cases hk : (rootPath t i).contains c = true
    · rw [hk, Bool.true_and, Bool.eq_iff_iff, List.contains_iff_mem, List.contains_iff_mem]
      have hconv : ∀ x ∈ rootPath t i, last ∈ rootPath t x → (fun j => (rootPath t j).contains c) x = true := by
        intro x _ hx
        exact List.contains_iff_mem.mpr (anc_trans hw hcl hx)
      rw [anc_subset_iff hw (fun j => (rootPath t j).contains c) hi hk hconv]
      exact ⟨fun hh => hh.1, fun hh => ⟨hh, List.contains_iff_mem.mpr hcl⟩⟩
    · -- `c` is not above `i`, so neither is `last`, which lies below `c`
      have hci : c ∉ rootPath t i := by simpa using hk
      rw [Bool.not_eq_true] at hk
      rw [hk, Bool.false_and, eq_comm, List.contains_eq_mem, decide_eq_false_iff_not]
      exact fun hli => hci (anc_trans hw hcl hli)

theorem cutMany_eq_foldl (t : Table) (cs : List Int) : cutMany t cs = cs.foldl cutStep [t] := rfl

theorem cutStep_cases (frags : List Table) (c : Int) :
    cutStep frags c = frags ∨
    ∃ l1 l2 f d p, frags = l1 ++ f :: l2 ∧ cut f c = some (d, p) ∧ cutStep frags c = l1 ++ d :: p :: l2 := by
  unfold cutStep
  cases h1 : frags.findIdx? (fun f => (ids f).contains c) with
  | none => exact Or.inl rfl
  | some k =>
    simp only
    cases h2 : frags[k]? with
    | none => exact Or.inl rfl
    | some f =>
      simp only
      cases h3 : cut f c with
      | none => exact Or.inl rfl
      | some dp =>
        obtain ⟨d, p⟩ := dp
        right
        refine ⟨frags.take k, frags.drop (k + 1), f, d, p, split_at_getElem? h2, h3, ?_⟩
        simp

/-- What every `subset` preserves holds of every fragment after a round, if it held of every fragment before. -/
theorem cutStep_inv {P : Table → Prop} (hsub : ∀ f keep, P f → P (subset f keep)) {frags : List Table}
    (h : ∀ f ∈ frags, P f) (c : Int) : ∀ f ∈ cutStep frags c, P f := by
  rcases cutStep_cases frags c with e | ⟨l1, l2, f, d, p, rfl, hcut, e⟩
  · rw [e]; exact h
  · obtain ⟨hd, hp, _⟩ := cut_some hcut
    have hf := h f (by simp)
    rw [e]
    intro g hg
    simp only [List.mem_append, List.mem_cons] at hg
    rcases hg with hg | hg | hg | hg
    · exact h g (by simp [hg])
    · rw [hg, hd]; exact hsub _ _ hf
    · rw [hg, hp]; exact hsub _ _ hf
    · exact h g (by simp [hg])

/-- Invariant of a multi-cut: every fragment is a well-formed, correctly labelled forest, the fragments' edges
are exactly the original edges (each once), and the fragments' nodes are exactly the original nodes. -/
structure FragsOK (t : Table) (frags : List Table) : Prop where
  wf : ∀ f ∈ frags, WF f ∧ labelsOKB f = true
  edges : (frags.flatMap edges).Perm (edges t)
  nodes : ∀ i, i ∈ ids t ↔ ∃ f ∈ frags, i ∈ ids f

theorem fragsOK_step {t : Table} {frags : List Table} (h : FragsOK t frags) (c : Int) : FragsOK t (cutStep frags c) := by
  have hwf' := cutStep_inv (P := fun f => WF f ∧ labelsOKB f = true)
    (fun f keep hf => ⟨WF_subset hf.1 keep, labelsOKB_subset f keep⟩) h.wf c
  rcases cutStep_cases frags c with e | ⟨l1, l2, f, d, p, hsplit, hcut, e⟩
  · rw [e]; exact h
  · rw [e] at hwf' ⊢
    have hwf : WF f := (h.wf f (by rw [hsplit]; simp)).1
    refine ⟨hwf', ?_, ?_⟩
    · have e1 := h.edges
      rw [hsplit] at e1
      simp only [List.flatMap_append, List.flatMap_cons] at e1 ⊢
      refine List.Perm.trans ?_ e1
      apply List.Perm.append_left
      rw [← List.append_assoc]
      exact List.Perm.append_right _ (edges_cut_perm hwf hcut)
    · intro i
      rw [h.nodes i, hsplit]
      simp only [List.mem_append, List.mem_cons, or_and_right, exists_or, exists_eq_left, mem_ids_cut_cover hcut i,
        or_assoc]

end Navis.TreeEdit

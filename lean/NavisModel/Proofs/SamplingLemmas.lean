import NavisModel.Model.Sampling
import NavisModel.Proofs.ResamplePlanLemmas
/-! C13: the parametrised as-written downsampling (`Model/Sampling.lean`) instantiated with `walkRule0` (the rule the
translator extracts from the navis source under test) *is* `Forest.downsample` (the model every downsampling theorem is
about) — including the glue around it: `preserve_nodes=None`, the soma ids appended to the fix points, rational
(float) factors, the sentinel `list_of_parents[-1] = -1`, the early return.  Likewise the parametrised segment loop of
resampling at `resRule0` *is* `Resample.resampleStruct`: its Python slices and indices (`pySlice_*`, `pyIndex_*`) are
`dropLast` / `tail` / first / last, so one segment's rows are `segRows` of the plan entry.  Core Lean only. -/
namespace Navis.Sampling
open Navis.Forest Navis.Resample

theorem mem_appendSoma (fix soma : List Int) (s : Int) : s ∈ appendSoma fix soma ↔ s ∈ fix ∨ s ∈ soma := by
  unfold appendSoma
  induction soma generalizing fix with
  | nil => simp
  | cons a rest ih =>
    rw [List.foldl_cons, ih, List.mem_cons]
    by_cases h : fix.contains a = true
    · -- `a` is among the fix points already
      rw [if_pos h]
      have ha : a ∈ fix := by simpa using h
      exact ⟨Or.imp_right Or.inr, fun h' => h'.elim Or.inl fun h'' => h''.elim (fun e => Or.inl (e ▸ ha)) Or.inr⟩
    · rw [if_neg h, List.mem_append, List.mem_singleton, or_assoc]

theorem parentsG_rule0 {t : Table} (hpos : ∀ n ∈ t, 0 ≤ n.id) (i : Int) :
    parentsG walkRule0 t i = (parentOf t i).getD (-1) := by
  unfold parentsG
  by_cases h : i = -1
  · subst h
    have : parentOf t (-1) = none := by
      unfold parentOf
      cases hf : find? t (-1) with
      | none => rfl
      | some n =>
        obtain ⟨hn, hid⟩ := find?_some hf
        have := hpos n hn
        omega
    simp [walkRule0, this]
  · have : (i == walkRule0.sentinelKey) = false := by simpa [walkRule0] using h
    rw [this]; rfl

/-- `i < q` for an integer counter is `i < ⌈q⌉`: a float factor acts as its ceiling. -/
theorem loopTest_rule0 (q : Option Rat) (i : Nat) :
    (!(loopTest walkRule0 q ((i : Nat) : Int))) = dsLimit (q.map ceilNat) i := by
  cases q with
  | none => rfl
  | some f =>
    simp only [loopTest, walkRule0, Cmp.evalRat, dsLimit, Option.map_some, ceilNat]
    rw [Bool.eq_iff_iff, Bool.not_eq_true', decide_eq_false_iff_not, decide_eq_true_iff, Int.toNat_le,
      ← Rat.lt_ceil_iff, Int.not_lt]

theorem scanG_rule0 {t : Table} (hpos : ∀ n ∈ t, 0 ≤ n.id) (fixB : Int → Bool) (q : Option Rat) (fuel : Nat)
    (p : Int) (i : Nat) :
    scanG walkRule0 t fixB q fuel p ((i : Nat) : Int) = dsScan t fixB (q.map ceilNat) fuel p i := by
  -- at `walkRule0` the branches of `scanG` are those of `dsScan`, so the cases of the one serve both loops
  fun_induction dsScan t fixB (q.map ceilNat) fuel p i with
  | case1 => rfl
  | case2 fuel p i h1 => rw [scanG, loopTest_rule0]; exact if_pos h1
  | case3 fuel p i h1 h2 =>
    rw [scanG, loopTest_rule0]
    exact (if_neg h1).trans (if_pos (by simpa [walkRule0, Cmp.evalInt, Bool.or_comm] using h2))
  | case4 fuel p i h1 h2 ih =>
    rw [scanG, loopTest_rule0, ← ih, ← parentsG_rule0 hpos]
    exact (if_neg h1).trans ((if_neg (by simpa [walkRule0, Cmp.evalInt, Bool.or_comm] using h2)).trans (by simp [walkRule0]))

theorem recG_rule0 {t : Table} (hpos : ∀ n ∈ t, 0 ≤ n.id) (fixB : Int → Bool) (q : Option Rat) (this : Int) :
    recG walkRule0 t fixB q this =
      if 0 ≤ (parentOf t this).getD (-1) then dsScan t fixB (q.map ceilNat) (t.length + 1) ((parentOf t this).getD (-1)) 0
      else (-1, true) := by
  unfold recG
  rw [parentsG_rule0 hpos]
  have e : walkRule0.contCmp.evalInt ((parentOf t this).getD (-1)) walkRule0.contK = decide (0 ≤ (parentOf t this).getD (-1)) := by
    simp [walkRule0, Cmp.evalInt]
  rw [e]
  by_cases h : 0 ≤ (parentOf t this).getD (-1)
  · rw [if_pos h]
    simp only [h, decide_true, if_true]
    have := scanG_rule0 hpos fixB q (t.length + 1) ((parentOf t this).getD (-1)) 0
    simpa [walkRule0] using this
  · rw [if_neg h]
    simp [h, walkRule0]

theorem walkG_succ (r : WalkRule) (t : Table) (stopB : Int → Bool) (q : Option Rat) (fuel : Nat) (this : Int) :
    walkG r t stopB q (fuel + 1) this =
      if (recG r t stopB q this).2 then [(this, (recG r t stopB q this).1)]
      else (this, (recG r t stopB q this).1) :: walkG r t stopB q fuel (recG r t stopB q this).1 := rfl

/-- The filter is what the two loops differ by: from an id outside the table (the `-1` a scan can hand on, through the
sentinel entry) `walkG` records `(this, -1)` where `dsWalk` records nothing; such pairs have no row to act on
(`table_of_pairs_congr`). -/
theorem walkG_filter_rule0 {t : Table} (hpos : ∀ n ∈ t, 0 ≤ n.id) (fixB : Int → Bool) (q : Option Rat) (fuel : Nat)
    (this : Int) :
    (walkG walkRule0 t fixB q fuel this).filter (fun e => (ids t).contains e.1) =
      dsWalk t fixB (q.map ceilNat) fuel this := by
  induction fuel generalizing this with
  | zero => rfl
  | succ g ih =>
    rw [dsWalk_succ, walkG_succ, recG_rule0 hpos]
    cases hp : parentOf t this with
    | none =>
      have hnot : this ∉ ids t := by
        intro hm
        obtain ⟨p, hp'⟩ := parentOf_isSome_of_mem hm
        rw [hp] at hp'; cases hp'
      simp [hnot]
    | some p =>
      have hin : this ∈ ids t := by
        obtain ⟨n, _, hn, hid, _⟩ := parentOf_some hp
        exact mem_ids.mpr ⟨n, hn, hid⟩
      simp only [Option.getD_some]
      by_cases hneg : p < 0
      · rw [if_neg (show ¬ 0 ≤ p by omega)]
        simp [hin, hneg]
      · rw [if_pos (show 0 ≤ p by omega)]
        simp only [hneg, if_false]
        by_cases hs : (dsScan t fixB (q.map ceilNat) (t.length + 1) p 0).2 = true
        · rw [if_pos hs, if_pos hs]
          simp [hin]
        · rw [if_neg hs, if_neg hs, List.filter_cons]
          simp only [List.contains_eq_mem, hin, decide_true, if_true]
          rw [← ih]
          simp

theorem walkG_functional (r : WalkRule) (t : Table) (stopB : Int → Bool) (q : Option Rat) (fuel : Nat) (this : Int) :
    ∀ e ∈ walkG r t stopB q fuel this, e.2 = (recG r t stopB q e.1).1 := by
  fun_induction walkG r t stopB q fuel this with
  | case1 => nofun
  | case2 => exact List.forall_mem_singleton.mpr rfl
  | case3 fuel this h ih => exact List.forall_mem_cons.mpr ⟨rfl, ih⟩

theorem fix_contains_rule0 {t : Table} (hw : WF t) (pres : Option (List Int)) (soma : List Int)
    (hs : ∀ s ∈ soma, s ∈ ids t) (i : Int) :
    (appendSoma ((t.filter (selG walkRule0 pres)).map (·.id)) soma).contains i = dsFix t (pres.getD [] ++ soma) i := by
  rw [Bool.eq_iff_iff, List.contains_iff_mem, mem_appendSoma]
  unfold dsFix
  cases hf : find? t i with
  | none =>
    have hnot := find?_none hf
    constructor
    · rintro (h | h)
      · obtain ⟨n, hn, rfl⟩ := List.mem_map.mp h
        exact absurd (mem_ids_of_mem (List.mem_filter.mp hn).1) hnot
      · exact absurd (hs i h) hnot
    · intro h; simp at h
  | some n =>
    obtain ⟨hn, hid⟩ := find?_some hf
    have hsel : selG walkRule0 pres n = (n.label != .slab || (pres.getD []).contains i) := by
      unfold selG
      cases pres with
      | none => simp [walkRule0]
      | some P => simp [walkRule0, hid]
    have hmem : i ∈ (t.filter (selG walkRule0 pres)).map (·.id) ↔ selG walkRule0 pres n = true := by
      constructor
      · intro h
        obtain ⟨m, hm, hmid⟩ := List.mem_map.mp h
        obtain ⟨hmt, hmsel⟩ := List.mem_filter.mp hm
        have h1 := find?_of_mem hw.1 hmt
        rw [hmid, hf] at h1
        exact Option.some.inj h1 ▸ hmsel
      · exact fun h => List.mem_map.mpr ⟨n, List.mem_filter.mpr ⟨hn, h⟩, hid⟩
    rw [hmem, hsel]
    simp only [Bool.or_eq_true, List.contains_eq_mem, List.mem_append, decide_eq_true_eq, or_assoc]

theorem mem_starts_rule0 {t : Table} (hw : WF t) (pres : Option (List Int)) (soma : List Int)
    (hs : ∀ s ∈ soma, s ∈ ids t) (i : Int) :
    i ∈ appendSoma ((t.filter (selG walkRule0 pres)).map (·.id)) soma ↔
      i ∈ (ids t).filter (dsFix t (pres.getD [] ++ soma)) := by
  have h := fix_contains_rule0 hw pres soma hs i
  rw [List.mem_filter, ← h, List.contains_iff_mem]
  exact ⟨fun hi => ⟨dsFix_mem (h.symm.trans (List.contains_iff_mem.mpr hi)), hi⟩, fun h => h.2⟩

theorem map_lookupD_functional {t : Table} {A : List (Int × Int)} {F : Int → Int} (hA : ∀ e ∈ A, e.2 = F e.1) :
    ((t.filter fun n => A.any fun e => e.1 == n.id).map fun n => { n with parent := lookupD A.reverse n.id n.parent }) =
    ((t.filter fun n => A.any fun e => e.1 == n.id).map fun n => { n with parent := F n.id }) := by
  apply List.map_congr_left
  intro n hn
  obtain ⟨e, he, hk⟩ := mem_any_fst.mp (List.mem_filter.mp hn).2
  rw [lookupD_functional (fun e he => hA e (List.mem_reverse.mp he)) n.parent ⟨e, List.mem_reverse.mpr he, hk⟩]

/-- The final table only depends on the pair list through its entries with a key in the table, provided the
list is functional. -/
theorem table_of_pairs_congr {t : Table} {A B : List (Int × Int)} {F : Int → Int}
    (hA : ∀ e ∈ A, e.2 = F e.1) (hmem : ∀ e, (e ∈ A ∧ e.1 ∈ ids t) ↔ e ∈ B) :
    ((t.filter fun n => A.any fun e => e.1 == n.id).map fun n => { n with parent := lookupD A.reverse n.id n.parent }) =
    ((t.filter fun n => B.any fun e => e.1 == n.id).map fun n => { n with parent := lookupD B.reverse n.id n.parent }) := by
  have hfilt : (t.filter fun n => A.any fun e => e.1 == n.id) = t.filter fun n => B.any fun e => e.1 == n.id := by
    apply List.filter_congr
    intro n hn
    rw [Bool.eq_iff_iff, mem_any_fst, mem_any_fst]
    exact ⟨fun ⟨e, he, hk⟩ => ⟨e, (hmem e).mp ⟨he, hk ▸ mem_ids_of_mem hn⟩, hk⟩,
      fun ⟨e, he, hk⟩ => ⟨e, ((hmem e).mpr he).1, hk⟩⟩
  rw [map_lookupD_functional hA, map_lookupD_functional fun e he => hA e ((hmem e).mpr he).1, hfilt]

/-- A floored factor compared with an integer counter: `⌈(⌊q⌋ : Rat)⌉ = ⌊q⌋`. -/
theorem effFactor_rule0 (q : Option Rat) : (effFactor walkRule0 q).map ceilNat = q.map floorNat := by
  cases q with
  | none => rfl
  | some f => simp [effFactor, walkRule0, ceilNat, floorNat]

/-- **The as-written code at `walkRule0` is the hand-written model** (`⌊q⌋` for a float factor: it is rounded down
before the walk; `pres = none` for `preserve_nodes=None`; the soma ids, which navis appends to the fix points, act as
preserved nodes). -/
theorem downsampleG_rule0 {t : Table} (hw : WF t) (q : Option Rat) (pres : Option (List Int)) (soma : List Int)
    (hs : ∀ s ∈ soma, s ∈ ids t) :
    downsampleG walkRule0 t q pres soma = downsample t (q.map floorNat) (pres.getD [] ++ soma) := by
  have hpos := hw.2.1
  rw [← effFactor_rule0, downsample_eq]
  unfold downsampleG
  have e0 : walkRule0.smallCmp.evalInt (t.length : Int) walkRule0.smallK = decide (t.length ≤ 1) := by
    simp only [walkRule0, Cmp.evalInt]
    rw [Bool.eq_iff_iff, decide_eq_true_iff, decide_eq_true_iff]
    omega
  rw [e0]
  by_cases hlen : t.length ≤ 1
  · simp [hlen]
  · simp only [hlen, decide_false, Bool.false_eq_true, if_false]
    simp only [show walkRule0.stopSetHasSoma = true from rfl, show walkRule0.startsHaveSoma = true from rfl, if_true]
    have hstop : (fun i => (appendSoma ((t.filter (selG walkRule0 pres)).map (·.id)) soma).contains i) =
        dsFix t (pres.getD [] ++ soma) := funext (fix_contains_rule0 hw pres soma hs)
    rw [hstop]
    congr 1
    apply table_of_pairs_congr (F := fun k => (recG walkRule0 t (dsFix t (pres.getD [] ++ soma)) (effFactor walkRule0 q) k).1)
    · intro e he
      obtain ⟨s, _, hes⟩ := List.mem_flatMap.mp he
      exact walkG_functional _ _ _ _ _ _ e hes
    · intro e
      unfold dsPairs
      constructor
      · rintro ⟨he, hk⟩
        obtain ⟨s, hs', hes⟩ := List.mem_flatMap.mp he
        refine List.mem_flatMap.mpr ⟨s, (mem_starts_rule0 hw pres soma hs s).mp hs', ?_⟩
        rw [← walkG_filter_rule0 hpos]
        exact List.mem_filter.mpr ⟨hes, by simpa using hk⟩
      · intro he
        obtain ⟨s, hs', hes⟩ := List.mem_flatMap.mp he
        rw [← walkG_filter_rule0 hpos] at hes
        obtain ⟨h1, h2⟩ := List.mem_filter.mp hes
        exact ⟨List.mem_flatMap.mpr ⟨s, (mem_starts_rule0 hw pres soma hs s).mpr hs', h1⟩, by simpa using h2⟩

/-! ### resampling: the parametrised segment loop for `resRule0` is `Resample.plan` -/

theorem sampleCountG_rule0 (total res : Rat) : sampleCountG resRule0 total res = sampleCount total res := by
  unfold sampleCountG sampleCount
  simp only [resRule0, Cmp.evalRat, CountFn.eval]
  by_cases h : total < res
  · simp [h]
  · simp [h]

theorem cntG_rule0 (len : Int → Int → Nat) (res : Rat) : cntG resRule0 len res = cntOf len res := by
  funext s
  unfold cntG cntOf
  exact sampleCountG_rule0 _ _

theorem baseG_rule0 (t : Table) : baseG resRule0 t = maxId t + 1 := rfl

theorem pySlice_dropLast (l : List Int) : pySlice l none (some (-1)) = l.dropLast := by
  show (l.take (l.length - min 1 l.length)).drop 0 = l.dropLast
  rw [List.drop_zero, List.dropLast_eq_take]
  congr 1
  omega

theorem pySlice_tail (l : List Int) : pySlice l (some 1) none = l.tail := by
  show (l.take l.length).drop (min 1 l.length) = l.tail
  rw [List.take_length]
  cases l <;> rfl

theorem pySlice_head (a : Int) (rest : List Int) : pySlice (a :: rest) none (some 1) = [a] := by
  show ((a :: rest).take (min 1 (rest.length + 1))).drop 0 = [a]
  rw [show min 1 (rest.length + 1) = 1 by omega]
  rfl

theorem pySlice_last (a : Int) (rest : List Int) : pySlice (a :: rest) (some (-1)) none = [(a :: rest).getLastD (-1)] := by
  show ((a :: rest).take (rest.length + 1)).drop (rest.length + 1 - min 1 (rest.length + 1)) = _
  rw [show rest.length + 1 - min 1 (rest.length + 1) = (a :: rest).length - 1 by simp, ← List.length_cons (a := a),
    List.take_length]
  exact drop_pred_length (-1) (a :: rest) (by simp)

theorem pyIndex_zero (l : List Int) : (pyIndex l 0).getD (-1) = segFirst l :=
  (congrArg (·.getD (-1)) (List.head?_eq_getElem? (l := l)).symm).trans (List.headD_eq_head?_getD ..).symm

theorem pyIndex_neg_one (l : List Int) : (pyIndex l (-1)).getD (-1) = segLast l :=
  (congrArg (·.getD (-1)) (getElem?_pred_length l)).trans (List.getLastD_eq_getLast? ..).symm

theorem segRowsG_rule0 (s : List Int) (hs : s ≠ []) (base : Int) (c : Option Nat) :
    segRowsG resRule0 s base c =
      match c with
      | none => (segRows ⟨segFirst s, segLast s, base, 0⟩, base)
      | some n => (segRows ⟨segFirst s, segLast s, base, n - 2⟩, base + ((n - 2 : Nat) : Int) + 2) := by
  cases c with
  | none =>
    simp only [segRowsG, resRule0, pyIndex_zero, pyIndex_neg_one]
    rfl
  | some n =>
    obtain ⟨a, rest, rfl⟩ := List.exists_cons_of_ne_nil hs
    simp only [segRowsG, resRule0, pySlice_head, pySlice_last, pySlice_dropLast, pySlice_tail]
    have hf : segFirst (a :: rest) = a := rfl
    have hl : segLast (a :: rest) = (a :: rest).getLastD (-1) := rfl
    rw [hf, hl]
    have hids : [a] ++ fresh base (n - 2) ++ [(a :: rest).getLastD (-1)] =
        newIds a ((a :: rest).getLastD (-1)) base (n - 2) := by simp [newIds]
    rw [hids]
    refine Prod.ext ?_ ?_
    · simp only [segRows, segChain]
      rw [linkPairs_eq_zip]
    · simp only [newIds, List.length_cons, List.length_append, List.length_nil, fresh, List.length_map, List.length_range]
      omega

theorem planG_rule0 (cnt : List Int → Option Nat) (segs : List (List Int)) (hne : ∀ s ∈ segs, s ≠ []) (base : Int) :
    planG resRule0 cnt segs base = (plan cnt segs base).flatMap segRows := by
  induction segs generalizing base with
  | nil => rfl
  | cons s rest ih =>
    have hs := hne s List.mem_cons_self
    have hr : ∀ s' ∈ rest, s' ≠ [] := fun s' h => hne s' (List.mem_cons_of_mem _ h)
    rw [planG, segRowsG_rule0 s hs, plan]
    cases hc : cnt s with
    | none => simp only [List.flatMap_cons]; rw [ih hr]
    | some n => simp only [List.flatMap_cons]; rw [ih hr]

theorem smallSegments_ne_nil (t : Table) : ∀ s ∈ smallSegments t, s ≠ [] := by
  intro s hs
  unfold smallSegments at hs
  obtain ⟨n, _, rfl⟩ := List.mem_map.mp hs
  simp

theorem resampleStructG_rule0 (t : Table) (cnt : List Int → Option Nat) :
    resampleStructG resRule0 t cnt = resampleStruct t cnt := by
  unfold resampleStructG resampleStruct allLinks planOf
  rw [baseG_rule0, planG_rule0 cnt _ (smallSegments_ne_nil t)]
  rfl

end Navis.Sampling

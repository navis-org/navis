import NavisModel.Model.Dotprops
import NavisModel.Proofs.VoxelLemmas
import NavisModel.Proofs.SortLemmas
import Mathlib.Algebra.Order.Ring.Abs
import Mathlib.Algebra.BigOperators.Group.List.Basic
import Mathlib.Algebra.Order.BigOperators.Group.List
/-! Lemmas about `Model/Dotprops.lean` for C19: nearest-neighbour selection by an insertion sort, the scatter matrix (quadratic form,
trace, invariance under order and translation), its characteristic polynomial, Sylvester's criterion in both directions, the
kernel of a semi-definite form, and what the mesh checkers compute. -/
namespace Navis.Voxel

/-- The branches are the other way round: `Forest.insertBy` asks whether `b` stays before `a`. -/
theorem insertBy_eq (key : P3 → Rat) (a : P3) (l : List P3) :
    insertBy key a l = Forest.insertBy (fun y x => decide (key y < key x)) a l := by
  induction l with
  | nil => rfl
  | cons b l ih => simp only [insertBy, Forest.insertBy, decide_eq_true_eq, ← not_le, ite_not, ih]

theorem sortBy_eq (key : P3 → Rat) (l : List P3) : sortBy key l = Forest.sortBy (fun y x => decide (key y < key x)) l := by
  induction l with
  | nil => rfl
  | cons a l ih => rw [sortBy, ih, insertBy_eq]; rfl

theorem sortBy_perm (key : P3 → Rat) (l : List P3) : (sortBy key l).Perm l := by
  rw [sortBy_eq]; exact Forest.sortBy_perm _ l

theorem sortBy_sorted (key : P3 → Rat) (l : List P3) : (sortBy key l).Pairwise fun x y => key x ≤ key y := by
  rw [sortBy_eq]
  exact Forest.sortBy_pairwise (R := fun x y => key x ≤ key y) _ (fun _ _ _ => le_trans)
    (fun _ _ h => (of_decide_eq_true h).le) (fun _ _ h => not_lt.mp (of_decide_eq_false h)) l

theorem knn_length (pts : List P3) (p : P3) (k : Nat) : (knn pts p k).length = min k pts.length := by
  unfold knn
  rw [List.length_take, (sortBy_perm _ pts).length_eq]

theorem knn_mem (pts : List P3) (p : P3) (k : Nat) (q : P3) (h : q ∈ knn pts p k) : q ∈ pts :=
  (sortBy_perm _ pts).mem_iff.mp (List.mem_of_mem_take h)

theorem dist2_eq_zero_iff (p q : P3) : dist2 p q = 0 ↔ q = p := by
  unfold dist2
  rw [norm2_eq_zero_iff, sub_eq_zero_iff]

theorem mulVec_add (A B : Sym3) (v : P3) : (A.add B).mulVec v = add (A.mulVec v) (B.mulVec v) := by
  unfold Sym3.add Sym3.mulVec add
  congr 1 <;> ring

theorem mulVec_outer (c v : P3) : (Sym3.outer c).mulVec v = scale (dot c v) c := by
  unfold Sym3.outer Sym3.mulVec scale dot
  congr 1 <;> ring

theorem mulVec_zero (v : P3) : Sym3.zero.mulVec v = ⟨0, 0, 0⟩ := by
  unfold Sym3.zero Sym3.mulVec
  congr 1 <;> ring

theorem trace_inertiaMat (cs : List P3) : (inertiaMat cs).trace = (cs.map norm2).sum := by
  induction cs with
  | nil => simp [inertiaMat, Sym3.zero, Sym3.trace]
  | cons c cs ih =>
    unfold inertiaMat at *
    rw [List.foldr_cons, List.map_cons, List.sum_cons, ← ih]
    unfold Sym3.add Sym3.outer Sym3.trace norm2 dot
    ring

theorem quad_inertiaMat (cs : List P3) (w : P3) :
    (inertiaMat cs).quad w = (cs.map fun c => dot c w * dot c w).sum := by
  induction cs with
  | nil => simp [inertiaMat, Sym3.zero, Sym3.quad, Sym3.mulVec, dot]
  | cons c cs ih =>
    unfold inertiaMat at *
    rw [List.foldr_cons, List.map_cons, List.sum_cons, ← ih]
    unfold Sym3.quad
    rw [mulVec_add, mulVec_outer]
    unfold add scale dot
    ring

theorem Sym3.add_comm (A B : Sym3) : A.add B = B.add A := by
  unfold Sym3.add; congr 1 <;> ring

theorem Sym3.add_assoc (A B C : Sym3) : (A.add B).add C = A.add (B.add C) := by
  unfold Sym3.add; congr 1 <;> ring

theorem inertiaMat_perm {cs cs' : List P3} (h : cs.Perm cs') : inertiaMat cs = inertiaMat cs' := by
  unfold inertiaMat
  induction h with
  | nil => rfl
  | cons a _ ih => simp only [List.foldr_cons, ih]
  | swap a b l =>
    simp only [List.foldr_cons]
    rw [← Sym3.add_assoc, ← Sym3.add_assoc, Sym3.add_comm (Sym3.outer b) (Sym3.outer a)]
  | trans _ _ ih1 ih2 => exact ih1.trans ih2

theorem trace_inertiaMat_eq_zero_iff (cs : List P3) : (inertiaMat cs).trace = 0 ↔ ∀ c ∈ cs, c = ⟨0, 0, 0⟩ := by
  rw [trace_inertiaMat]
  constructor
  · intro h c hc
    exact (norm2_eq_zero_iff c).mp (List.all_zero_of_le_zero_le_of_sum_eq_zero
      (List.forall_mem_map.mpr fun c _ => norm2_nonneg c) h (List.mem_map_of_mem hc))
  · intro h
    refine List.sum_eq_zero fun x hx => ?_
    obtain ⟨c, hc, rfl⟩ := List.mem_map.mp hx
    rw [h c hc, norm2_zero]

theorem trace_nbInertia_eq_zero_iff (nb : List P3) :
    (nbInertia nb).trace = 0 ↔ ∀ q ∈ nb, q = centre nb := by
  unfold nbInertia centred
  rw [trace_inertiaMat_eq_zero_iff]
  constructor
  · intro h q hq
    exact (sub_eq_zero_iff q (centre nb)).mp (h _ (List.mem_map.mpr ⟨q, hq, rfl⟩))
  · intro h c hc
    obtain ⟨q, hq, rfl⟩ := List.mem_map.mp hc
    exact (sub_eq_zero_iff q (centre nb)).mpr (h q hq)

theorem centre_perm {nb nb' : List P3} (h : nb.Perm nb') : centre nb = centre nb' := by
  unfold centre
  simp only [h.length_eq, (h.map (·.x)).sum_eq, (h.map (·.y)).sum_eq, (h.map (·.z)).sum_eq]

theorem mean_add_const (l : List P3) (f : P3 → Rat) (c : Rat) (hn : (l.length : Rat) ≠ 0) :
    (l.map fun q => c + f q).sum / l.length = c + (l.map f).sum / l.length := by
  rw [List.sum_map_add, List.map_const', List.sum_replicate, nsmul_eq_mul, add_div, mul_div_cancel_left₀ _ hn]

theorem centre_translate (t : P3) (nb : List P3) (hne : nb ≠ []) : centre (nb.map (add t)) = add t (centre nb) := by
  have hn : (nb.length : Rat) ≠ 0 := Nat.cast_ne_zero.mpr (List.length_pos_iff.mpr hne).ne'
  unfold centre add
  simp only [List.length_map, List.map_map, V3.mk.injEq]
  exact ⟨mean_add_const nb (·.x) t.x hn, mean_add_const nb (·.y) t.y hn, mean_add_const nb (·.z) t.z hn⟩

theorem charpoly_expand (A : Sym3) (t : Rat) :
    A.charpoly t = t * t * t - A.trace * (t * t) + A.minors2 * t - A.det := by
  unfold Sym3.charpoly Sym3.shift Sym3.det Sym3.trace Sym3.minors2
  ring

theorem cubic_expand (x1 x2 x3 t : Rat) :
    (t - x1) * (t - x2) * (t - x3) =
      t * t * t - (x1 + x2 + x3) * (t * t) + (x1 * x2 + x1 * x3 + x2 * x3) * t - x1 * x2 * x3 := by ring

theorem cubic_coeff_eq (a b c a' b' c' : Rat)
    (h : ∀ t : Rat, t * t * t - a * (t * t) + b * t - c = t * t * t - a' * (t * t) + b' * t - c') :
    a = a' ∧ b = b' ∧ c = c' := by
  have h0 := h 0
  have h1 := h 1
  have hm := h (-1)
  simp only [mul_zero, sub_zero, zero_sub, add_zero, neg_inj] at h0
  exact ⟨by linarith, by linarith, h0⟩

theorem abs_cubic_sub_le (t a b c b' c' B C : Rat) (hb : |b' - b| ≤ B) (hc : |c' - c| ≤ C) :
    |t * t * t - a * (t * t) + b * t - c - (t * t * t - a * (t * t) + b' * t - c')| ≤ B * |t| + C := by
  rw [show t * t * t - a * (t * t) + b * t - c - (t * t * t - a * (t * t) + b' * t - c') = -(b' - b) * t + (c' - c) by ring]
  calc |-(b' - b) * t + (c' - c)| ≤ |-(b' - b) * t| + |c' - c| := abs_add_le _ _
    _ = |b' - b| * |t| + |c' - c| := by rw [abs_mul, abs_neg]
    _ ≤ B * |t| + C := add_le_add (mul_le_mul_of_nonneg_right hb (abs_nonneg t)) hc

theorem adj_mulVec (A : Sym3) (v : P3) : A.adj.mulVec (A.mulVec v) = scale A.det v := by
  unfold Sym3.adj Sym3.mulVec Sym3.det scale
  congr 1 <;> ring

theorem mulVec_shift (μ : Rat) (A : Sym3) (v : P3) : (Sym3.shift μ A).mulVec v = sub (scale μ v) (A.mulVec v) := by
  unfold Sym3.shift Sym3.mulVec sub scale
  congr 1 <;> ring

theorem quad_shift (μ : Rat) (A : Sym3) (w : P3) : (Sym3.shift μ A).quad w = μ * norm2 w - A.quad w := by
  unfold Sym3.quad
  rw [mulVec_shift]
  unfold sub scale norm2 dot
  ring

theorem eigen_root (A : Sym3) (v : P3) (lam : Rat) (hv : v ≠ ⟨0, 0, 0⟩) (h : A.mulVec v = scale lam v) :
    A.charpoly lam = 0 := by
  unfold Sym3.charpoly
  -- `(lam·I − A) v = 0`, so `det (lam·I − A) · v = adj (lam·I − A) · 0 = 0` with `v ≠ 0`
  have h1 := adj_mulVec (Sym3.shift lam A) v
  rw [mulVec_shift, h, (sub_eq_zero_iff _ _).mpr rfl,
    show (Sym3.shift lam A).adj.mulVec ⟨0, 0, 0⟩ = ⟨0, 0, 0⟩ by unfold Sym3.mulVec; congr 1 <;> ring] at h1
  by_contra hne
  refine hv ?_
  obtain ⟨x, y, z⟩ := v
  simp only [scale, V3.mk.injEq] at h1
  rw [V3.mk.injEq]
  exact ⟨(mul_eq_zero.mp h1.1.symm).resolve_left hne, (mul_eq_zero.mp h1.2.1.symm).resolve_left hne,
    (mul_eq_zero.mp h1.2.2.symm).resolve_left hne⟩

/-- Completing the squares: `a · m₂ · (wᵀ A w) = m₂ (a x + b y + c z)² + (m₂ y + (a e − b c) z)² + a · det · z²`. -/
theorem sylvester_identity (A : Sym3) (w : P3) :
    A.a * (A.a * A.d - A.b * A.b) * A.quad w =
      (A.a * A.d - A.b * A.b) * ((A.a * w.x + A.b * w.y + A.c * w.z) * (A.a * w.x + A.b * w.y + A.c * w.z)) +
      ((A.a * A.d - A.b * A.b) * w.y + (A.a * A.e - A.b * A.c) * w.z) *
        ((A.a * A.d - A.b * A.b) * w.y + (A.a * A.e - A.b * A.c) * w.z) +
      A.a * A.det * (w.z * w.z) := by
  unfold Sym3.quad Sym3.mulVec Sym3.det dot
  ring

theorem quad_zero (A : Sym3) : A.quad ⟨0, 0, 0⟩ = 0 := by
  unfold Sym3.quad Sym3.mulVec dot; ring

/-- Sylvester's criterion (the direction used): positive leading minors make the quadratic form positive off the origin.
By `sylvester_identity` a positive multiple of `wᵀ A w` is a sum of three squares with positive weights; if it vanishes, the
squares force `z`, then `y`, then `x` to vanish. -/
theorem posDefB_quad_pos (A : Sym3) (h : A.posDefB = true) (w : P3) (hw : w ≠ ⟨0, 0, 0⟩) : 0 < A.quad w := by
  unfold Sym3.posDefB at h
  simp only [Bool.and_eq_true, decide_eq_true_eq] at h
  obtain ⟨⟨ha, hm⟩, hd⟩ := h
  have t1 := mul_nonneg hm.le (mul_self_nonneg (A.a * w.x + A.b * w.y + A.c * w.z))
  have t2 := mul_self_nonneg ((A.a * A.d - A.b * A.b) * w.y + (A.a * A.e - A.b * A.c) * w.z)
  have t3 := mul_nonneg (mul_pos ha hd).le (mul_self_nonneg w.z)
  have hid := sylvester_identity A w
  have hQ : 0 ≤ A.quad w := by
    have := add_nonneg (add_nonneg t1 t2) t3
    rw [← hid] at this
    exact nonneg_of_mul_nonneg_right this (mul_pos ha hm)
  refine lt_of_le_of_ne hQ fun h0 => hw ?_
  rw [← h0, mul_zero, eq_comm, add_eq_zero_iff_of_nonneg (add_nonneg t1 t2) t3, add_eq_zero_iff_of_nonneg t1 t2] at hid
  obtain ⟨⟨e1, e2⟩, e3⟩ := hid
  have hz : w.z = 0 := mul_self_eq_zero.mp ((mul_eq_zero.mp e3).resolve_left (mul_pos ha hd).ne')
  have hy : w.y = 0 := by
    have := mul_self_eq_zero.mp e2
    rw [hz, mul_zero, add_zero] at this
    exact (mul_eq_zero.mp this).resolve_left hm.ne'
  have hx : w.x = 0 := by
    have := mul_self_eq_zero.mp ((mul_eq_zero.mp e1).resolve_left hm.ne')
    rw [hz, hy, mul_zero, mul_zero, add_zero, add_zero] at this
    exact (mul_eq_zero.mp this).resolve_left ha.ne'
  cases w
  simp only [V3.mk.injEq]
  exact ⟨hx, hy, hz⟩

theorem posDefB_quad_nonneg (A : Sym3) (h : A.posDefB = true) (w : P3) : 0 ≤ A.quad w := by
  by_cases hw : w = ⟨0, 0, 0⟩
  · rw [hw, quad_zero]
  · exact (posDefB_quad_pos A h w hw).le

/-- The converse, on three test vectors: a form that is positive off the origin has positive leading minors. -/
theorem posDefB_of_quad_pos (B : Sym3) (hq : ∀ w : P3, w ≠ ⟨0, 0, 0⟩ → 0 < B.quad w) : B.posDefB = true := by
  have ha : 0 < B.a := by
    have := hq ⟨1, 0, 0⟩ fun e => one_ne_zero (congrArg V3.x e)
    rwa [show B.quad ⟨1, 0, 0⟩ = B.a by unfold Sym3.quad Sym3.mulVec dot; ring] at this
  have hm : 0 < B.a * B.d - B.b * B.b := by
    have := hq ⟨-B.b, B.a, 0⟩ fun e => ha.ne' (congrArg V3.y e)
    rw [show B.quad ⟨-B.b, B.a, 0⟩ = B.a * (B.a * B.d - B.b * B.b) by unfold Sym3.quad Sym3.mulVec dot; ring] at this
    exact pos_of_mul_pos_right this ha.le
  have hd : 0 < B.det := by
    have := hq ⟨B.adj.c, B.adj.e, B.adj.f⟩ fun e => hm.ne' (congrArg V3.z e)
    rw [show B.quad ⟨B.adj.c, B.adj.e, B.adj.f⟩ = B.det * (B.a * B.d - B.b * B.b) by
      unfold Sym3.quad Sym3.mulVec Sym3.adj Sym3.det dot; ring] at this
    exact pos_of_mul_pos_left this hm.le
  unfold Sym3.posDefB
  simp only [Bool.and_eq_true, decide_eq_true_eq]
  exact ⟨⟨ha, hm⟩, hd⟩

theorem quad_eq_rayleigh (A : Sym3) (v : P3) (hv : norm2 v ≠ 0) : A.quad v = rayleigh A v * norm2 v := by
  unfold rayleigh
  rw [div_mul_cancel₀ _ hv]

theorem quad_comb (B : Sym3) (v u : P3) (s t : Rat) :
    B.quad (add (scale s v) (scale t u)) = s * s * B.quad v + 2 * (s * t) * dot u (B.mulVec v) + t * t * B.quad u := by
  unfold Sym3.quad Sym3.mulVec add scale dot
  ring

/-- A positive semi-definite form that vanishes on `v` annihilates `v`: with `u = B v`, `N = |u|²`, `q = uᵀ B u ≥ 0` the form
takes the value `−N²·(q + 2)` on `(q + 1)·v − N·u`, so `N = 0`. -/
theorem psd_kernel (B : Sym3) (v : P3) (hpsd : ∀ w, 0 ≤ B.quad w) (hv : B.quad v = 0) : B.mulVec v = ⟨0, 0, 0⟩ := by
  have hq := hpsd (B.mulVec v)
  have key := hpsd (add (scale (B.quad (B.mulVec v) + 1) v) (scale (-norm2 (B.mulVec v)) (B.mulVec v)))
  rw [quad_comb, hv, show dot (B.mulVec v) (B.mulVec v) = norm2 (B.mulVec v) from rfl] at key
  generalize B.quad (B.mulVec v) = q at hq key
  generalize hN : norm2 (B.mulVec v) = N at key
  have e : (q + 1) * (q + 1) * 0 + 2 * ((q + 1) * -N) * N + -N * -N * q = -((q + 2) * (N * N)) := by ring
  rw [e, neg_nonneg] at key
  have hNN : N * N ≤ 0 := nonpos_of_mul_nonpos_right key (add_pos_of_nonneg_of_pos hq two_pos)
  rw [← norm2_eq_zero_iff, hN]
  exact mul_self_eq_zero.mp (le_antisymm hNN (mul_self_nonneg N))

theorem rayleigh_max_eigen (A : Sym3) (v : P3) (lam : Rat) (hq : A.quad v = lam * norm2 v)
    (htop : ∀ w, A.quad w ≤ lam * norm2 w) : A.mulVec v = scale lam v := by
  have h := psd_kernel (Sym3.shift lam A) v (fun w => by rw [quad_shift]; exact sub_nonneg.mpr (htop w))
    (by rw [quad_shift, hq, sub_self])
  rw [mulVec_shift] at h
  exact ((sub_eq_zero_iff _ _).mp h).symm

theorem implied_sum (A : Sym3) (lam a : Rat) : lam + impliedL2 A lam a + impliedL3 A lam a = A.trace := by
  unfold impliedL3 impliedL2; ring

theorem alphaOKB_sound (A : Sym3) (lam a ε : Rat) (h : alphaOKB A lam a ε = true) :
    (∀ t, |A.charpoly t - (t - lam) * (t - impliedL2 A lam a) * (t - impliedL3 A lam a)| ≤
        ε * A.trace * A.trace * |t| + ε * A.trace * A.trace * A.trace) ∧
    impliedL2 A lam a ≤ lam + ε * A.trace ∧ impliedL3 A lam a ≤ impliedL2 A lam a + ε * A.trace ∧
    -(ε * A.trace) ≤ impliedL3 A lam a := by
  unfold alphaOKB at h
  simp only [Bool.and_eq_true, decide_eq_true_eq, absLe_iff] at h
  obtain ⟨⟨⟨⟨h2, h3⟩, o1⟩, o2⟩, o3⟩ := h
  refine ⟨fun t => ?_, o1, o2, o3⟩
  rw [charpoly_expand, cubic_expand, implied_sum]
  exact abs_cubic_sub_le t _ _ _ _ _ _ _ (abs_le.mpr ⟨h2.2, h2.1⟩) (abs_le.mpr ⟨h3.2, h3.1⟩)

/-- `minOf` / `maxOf` are the library's `List.min?` / `List.max?` of the list with the default in front. -/
theorem minOf_eq (l : List Rat) (d : Rat) : (d :: l).min? = some (minOf l d) := List.min?_cons'

theorem maxOf_eq (l : List Rat) (d : Rat) : (d :: l).max? = some (maxOf l d) := List.max?_cons'

/-- On each axis `f` the corners of the bounding box are the least and the greatest coordinate, and both are attained. -/
theorem bboxOf_spec (V : List P3) (lo hi : P3) (h : bboxOf V = some (lo, hi)) (f : P3 → Rat)
    (hf : f = V3.x ∨ f = V3.y ∨ f = V3.z) :
    (∀ q ∈ V, f lo ≤ f q ∧ f q ≤ f hi) ∧ (∃ q ∈ V, f q = f lo) ∧ (∃ q ∈ V, f q = f hi) := by
  cases V with
  | nil => simp [bboxOf] at h
  | cons p l =>
    simp only [bboxOf, Option.some.injEq, Prod.mk.injEq] at h
    obtain ⟨rfl, rfl⟩ := h
    -- whatever the coordinate `g`, the two folds are the least and the greatest element of `(p :: l).map g`
    have key : ∀ g : P3 → Rat,
        (∀ q ∈ p :: l, minOf (l.map g) (g p) ≤ g q ∧ g q ≤ maxOf (l.map g) (g p)) ∧
        (∃ q ∈ p :: l, g q = minOf (l.map g) (g p)) ∧ ∃ q ∈ p :: l, g q = maxOf (l.map g) (g p) := fun g =>
      have ⟨m1, m2⟩ := List.min?_eq_some_iff.mp (minOf_eq (l.map g) (g p))
      have ⟨M1, M2⟩ := List.max?_eq_some_iff.mp (maxOf_eq (l.map g) (g p))
      ⟨fun q hq => ⟨m2 _ (List.mem_map_of_mem (l := p :: l) hq), M2 _ (List.mem_map_of_mem (l := p :: l) hq)⟩,
        (List.mem_map (l := p :: l)).mp m1, (List.mem_map (l := p :: l)).mp M1⟩
    rcases hf with rfl | rfl | rfl <;> exact key _

theorem inBoxB_iff (lo hi : P3) (tol : Rat) (p : P3) : inBoxB lo hi tol p = true ↔
    (lo.x - tol ≤ p.x ∧ p.x ≤ hi.x + tol) ∧ (lo.y - tol ≤ p.y ∧ p.y ≤ hi.y + tol) ∧ (lo.z - tol ≤ p.z ∧ p.z ≤ hi.z + tol) := by
  simp only [inBoxB, Bool.and_eq_true, decide_eq_true_eq, and_assoc]

theorem hug_extent1 (off un tol q : Rat) (v sh : Int) (hun : 0 < un) (h0 : 0 ≤ v) (h1 : v < sh)
    (h : absLe (q - (off + (v : Rat) * un)) ((1 / 2 + tol) * un) = true) :
    off - (1 / 2 + tol) * un ≤ q ∧ q ≤ off + ((sh : Rat) - 1) * un + (1 / 2 + tol) * un := by
  obtain ⟨ha, hb⟩ := (absLe_iff _ _).mp h
  have v0 : ((0 : Int) : Rat) ≤ (v : Rat) := Int.cast_le.mpr h0
  have v1 : (v : Rat) ≤ ((sh - 1 : Int) : Rat) := Int.cast_le.mpr (Int.le_sub_one_of_lt h1)
  rw [Int.cast_zero] at v0
  rw [Int.cast_sub, Int.cast_one] at v1
  have m0 : 0 ≤ (v : Rat) * un := mul_nonneg v0 hun.le
  have m1 : (v : Rat) * un ≤ ((sh : Rat) - 1) * un := mul_le_mul_of_nonneg_right v1 hun.le
  exact ⟨sub_le_iff_le_add.mpr ((le_add_of_nonneg_right m0).trans (neg_le_sub_iff_le_add.mp hb)),
    (sub_le_iff_le_add'.mp ha).trans (add_le_add (add_le_add le_rfl m1) le_rfl)⟩

theorem nearAtB_model (g : Grid) (p : P3) (v : I3) : nearAtB (gridOffset g) (gridUnits g) g.u p v = nearB g p v := by
  unfold nearAtB nearB coord coord1 gridOffset gridUnits
  rfl

end Navis.Voxel

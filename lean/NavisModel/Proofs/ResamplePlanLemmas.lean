import NavisModel.Model.Resample
import NavisModel.Proofs.SegmentLemmas
import NavisModel.Proofs.OpsWF
/-! The segment loop of `resample_skeleton`, basic facts shared by the two- and the three-outcome model (C13, C01):
chains of fresh ids and their rows, the plan (one slot per segment, threading the id counter), ids of the rows,
de-duplication on tables with unique ids, and the rank that makes the new table a forest.  Core Lean only. -/

namespace Navis.Resample
open Navis.Forest

theorem mem_fresh {base : Int} {k : Nat} {i : Int} : i ∈ fresh base k ↔ base ≤ i ∧ i < base + k := by
  unfold fresh
  simp only [List.mem_map, List.mem_range]
  constructor
  · rintro ⟨j, hj, rfl⟩; omega
  · rintro ⟨h1, h2⟩; exact ⟨(i - base).toNat, by omega, by omega⟩

theorem fresh_length (base : Int) (k : Nat) : (fresh base k).length = k := by simp [fresh]

theorem fresh_nodup (base : Int) (k : Nat) : (fresh base k).Nodup := by
  unfold fresh
  exact List.Pairwise.map _ (fun a b (h : a ≠ b) => by omega) List.nodup_range

theorem fresh_succ (base : Int) (k : Nat) : fresh base (k + 1) = base :: fresh (base + 1) k := by
  unfold fresh
  rw [List.range_succ_eq_map]
  simp only [List.map_cons, List.map_map]
  congr 1
  · simp
  · apply List.map_congr_left
    intro a _
    simp only [Function.comp]
    omega

theorem linkPairs_chain (first last base : Int) (k : Nat) :
    linkPairs (newIds first last base k) =
      match k with
      | 0 => [(first, last)]
      | k + 1 => (first, base) :: linkPairs (newIds base last (base + 1) k) := by
  cases k with
  | zero => simp [newIds, fresh, linkPairs]
  | succ k =>
    simp only
    unfold newIds
    rw [fresh_succ]
    simp [linkPairs]

theorem linkPairs_eq_zip : ∀ l : List Int, linkPairs l = l.dropLast.zip l.tail
  | [] => rfl
  | [_] => rfl
  | a :: b :: rest => by
    rw [linkPairs, linkPairs_eq_zip (b :: rest)]
    simp [List.dropLast]

theorem linkPairs_map_fst (first last base : Int) (k : Nat) :
    (linkPairs (newIds first last base k)).map Prod.fst = first :: fresh base k := by
  rw [linkPairs_eq_zip, List.map_fst_zip (by simp [newIds])]
  exact List.dropLast_concat (l₁ := first :: fresh base k)

theorem linkPairs_map_snd (first last base : Int) (k : Nat) :
    (linkPairs (newIds first last base k)).map Prod.snd = fresh base k ++ [last] := by
  rw [linkPairs_eq_zip, List.map_snd_zip (by simp [newIds])]
  rfl

/-- The rows of the chain `first → base → … → base+k-1 → last`: the row of `first` and one row per fresh id. -/
theorem mem_linkPairs {first last base : Int} {k : Nat} {e : Int × Int} :
    e ∈ linkPairs (newIds first last base k) ↔
      e = (first, if k = 0 then last else base) ∨
      ∃ j : Nat, j < k ∧ e = (base + (j : Int), if j + 1 = k then last else base + (j : Int) + 1) := by
  induction k generalizing first base with
  | zero => rw [linkPairs_chain]; simp
  | succ k ih =>
    -- the rows after the first are the chain from `base` on, whose fresh ids start one later
    have shift : ∀ j : Nat, (base + 1 + (j : Int), if j + 1 = k then last else base + 1 + (j : Int) + 1) =
        (base + ((j + 1 : Nat) : Int), if j + 1 + 1 = k + 1 then last else base + ((j + 1 : Nat) : Int) + 1) := by
      intro j
      have e : base + ((j + 1 : Nat) : Int) = base + 1 + (j : Int) := by push_cast; omega
      rw [e]
      simp only [Nat.add_right_cancel_iff]
    rw [linkPairs_chain, List.mem_cons, ih, if_neg (Nat.succ_ne_zero k)]
    refine or_congr_right ⟨?_, ?_⟩
    · rintro (h | ⟨j, hj, h⟩)
      · exact ⟨0, Nat.succ_pos k, by simpa using h⟩
      · exact ⟨j + 1, Nat.succ_lt_succ hj, h.trans (shift j)⟩
    · rintro ⟨j, hj, h⟩
      cases j with
      | zero => exact Or.inl (by simpa using h)
      | succ j => exact Or.inr ⟨j, Nat.lt_of_succ_lt_succ hj, h.trans (shift j).symm⟩

theorem linkPairs_first_mem (first last base : Int) (k : Nat) :
    (first, if k = 0 then last else base) ∈ linkPairs (newIds first last base k) :=
  mem_linkPairs.mpr (Or.inl rfl)

theorem linkPairs_fresh_mem (first last base : Int) (k j : Nat) (hj : j < k) :
    (base + (j : Int), if j + 1 = k then last else base + (j : Int) + 1) ∈ linkPairs (newIds first last base k) :=
  mem_linkPairs.mpr (Or.inr ⟨j, hj, rfl⟩)

/-- The id counter of a segment loop: every segment paired with the value of `max_tn_id` when the loop reaches it;
`next s b` is the counter after segment `s`.  `plan` is a `map` over it (`plan_eq_slots`), `planX` a `flatMap`
(`planX_eq_slots`). -/
def slots (next : List Int → Int → Int) : List (List Int) → Int → List (List Int × Int)
  | [], _ => []
  | s :: rest, b => (s, b) :: slots next rest (next s b)

theorem slots_fst (next : List Int → Int → Int) : ∀ (segs : List (List Int)) (b : Int),
    (slots next segs b).map Prod.fst = segs
  | [], _ => rfl
  | s :: rest, _ => congrArg (s :: ·) (slots_fst next rest _)

theorem mem_slots_of_mem {next : List Int → Int → Int} {segs : List (List Int)} (b : Int) {s : List Int} (h : s ∈ segs) :
    ∃ c, (s, c) ∈ slots next segs b := by
  rw [← slots_fst next segs b] at h
  obtain ⟨p, hp, rfl⟩ := List.mem_map.mp h
  exact ⟨p.2, hp⟩

theorem fst_mem_of_mem_slots {next : List Int → Int → Int} {segs : List (List Int)} {b : Int} {p : List Int × Int}
    (h : p ∈ slots next segs b) : p.1 ∈ segs :=
  slots_fst next segs b ▸ List.mem_map_of_mem h

/-- A loop whose segments `s` advance the counter by at least `k s` hands out pairwise disjoint id ranges
`[c, c + k s)`, none below the initial counter. -/
theorem slots_ranges {next : List Int → Int → Int} (k : List Int → Nat) (hn : ∀ s b, b + (k s : Int) ≤ next s b) :
    ∀ (segs : List (List Int)) (b : Int),
      (∀ p ∈ slots next segs b, b ≤ p.2) ∧ (slots next segs b).Pairwise (fun p q => p.2 + (k p.1 : Int) ≤ q.2)
  | [], _ => ⟨nofun, List.Pairwise.nil⟩
  | s :: rest, b => by
    obtain ⟨h1, h2⟩ := slots_ranges k hn rest (next s b)
    have := hn s b
    refine ⟨?_, List.pairwise_cons.mpr ⟨fun q hq => Int.le_trans (hn s b) (h1 q hq), h2⟩⟩
    intro p hp
    rcases List.mem_cons.mp hp with rfl | hp
    · exact Int.le_refl _
    · have := h1 p hp; omega

def nextCnt (cnt : List Int → Option Nat) (s : List Int) (b : Int) : Int :=
  match cnt s with
  | none => b
  | some n => b + ((n - 2 : Nat) : Int) + 2

def outCnt (cnt : List Int → Option Nat) (p : List Int × Int) : SegOut :=
  ⟨segFirst p.1, segLast p.1, p.2, interior (cnt p.1)⟩

theorem plan_eq_slots (cnt : List Int → Option Nat) : ∀ (segs : List (List Int)) (base : Int),
    plan cnt segs base = (slots (nextCnt cnt) segs base).map (outCnt cnt)
  | [], _ => rfl
  | s :: rest, base => by
    rw [plan, slots, List.map_cons, ← plan_eq_slots cnt rest]
    unfold nextCnt outCnt
    cases cnt s <;> rfl

theorem nextCnt_ge (cnt : List Int → Option Nat) (s : List Int) (b : Int) :
    b + (interior (cnt s) : Int) ≤ nextCnt cnt s b := by
  unfold nextCnt
  cases cnt s with
  | none => simp [interior]
  | some n => simp only [interior]; omega

theorem plan_map_first (cnt : List Int → Option Nat) (segs : List (List Int)) (base : Int) :
    (plan cnt segs base).map (·.first) = segs.map segFirst := by
  rw [plan_eq_slots, List.map_map]
  exact (List.map_map (f := Prod.fst) (g := segFirst)).symm.trans (congrArg _ (slots_fst _ segs base))

theorem plan_map_last (cnt : List Int → Option Nat) (segs : List (List Int)) (base : Int) :
    (plan cnt segs base).map (·.last) = segs.map segLast := by
  rw [plan_eq_slots, List.map_map]
  exact (List.map_map (f := Prod.fst) (g := segLast)).symm.trans (congrArg _ (slots_fst _ segs base))

theorem plan_length (cnt : List Int → Option Nat) (segs : List (List Int)) (base : Int) :
    (plan cnt segs base).length = segs.length := by
  have := congrArg List.length (plan_map_first cnt segs base)
  simpa using this

theorem mem_plan {cnt : List Int → Option Nat} {segs : List (List Int)} {base : Int} {o : SegOut}
    (h : o ∈ plan cnt segs base) :
    ∃ s ∈ segs, o.first = segFirst s ∧ o.last = segLast s ∧ o.k = interior (cnt s) ∧ base ≤ o.base := by
  rw [plan_eq_slots] at h
  obtain ⟨p, hp, rfl⟩ := List.mem_map.mp h
  exact ⟨p.1, fst_mem_of_mem_slots hp, rfl, rfl, rfl, (slots_ranges _ (nextCnt_ge cnt) segs base).1 p hp⟩

theorem fresh_gt_maxId {t : Table} {cnt : List Int → Option Nat} {o : SegOut} (ho : o ∈ planOf t cnt) {i : Int}
    (hi : i ∈ fresh o.base o.k) : maxId t < i := by
  obtain ⟨_, _, _, _, _, hb⟩ := mem_plan ho
  have := (mem_fresh.mp hi).1
  omega

theorem plan_of_mem {cnt : List Int → Option Nat} {segs : List (List Int)} {base : Int} {s : List Int}
    (h : s ∈ segs) : ∃ o ∈ plan cnt segs base, o.first = segFirst s ∧ o.last = segLast s ∧ o.k = interior (cnt s) := by
  obtain ⟨c, hc⟩ := mem_slots_of_mem (next := nextCnt cnt) base h
  exact ⟨_, plan_eq_slots cnt segs base ▸ List.mem_map_of_mem hc, rfl, rfl, rfl⟩

/-- The id ranges handed out by the loop are pairwise disjoint (the counter only grows). -/
theorem plan_pairwise (cnt : List Int → Option Nat) (segs : List (List Int)) (base : Int) :
    (plan cnt segs base).Pairwise (fun o o' => o.base + (o.k : Int) ≤ o'.base) := by
  rw [plan_eq_slots, List.pairwise_map]
  exact (slots_ranges _ (nextCnt_ge cnt) segs base).2

theorem mkNode_id (t : Table) (e : Int × Int) : (mkNode t e).id = e.1 := by
  unfold mkNode
  cases hf : find? t e.1 with
  | none => rfl
  | some n => exact (find?_some hf).2

theorem mkNode_parent (t : Table) (e : Int × Int) : (mkNode t e).parent = e.2 := by
  unfold mkNode
  cases find? t e.1 <;> rfl

theorem ids_map_mkNode (t : Table) (rows : List (Int × Int)) : ids (rows.map (mkNode t)) = rows.map Prod.fst := by
  unfold ids
  rw [List.map_map]
  exact List.map_congr_left fun e _ => mkNode_id t e

theorem parents_map_mkNode (t : Table) (rows : List (Int × Int)) :
    parents (rows.map (mkNode t)) = rows.map Prod.snd := by
  unfold parents
  rw [List.map_map]
  exact List.map_congr_left fun e _ => mkNode_parent t e

/-- ids handed out by a plan: per segment the first anchor and its fresh ids. -/
def planIds (P : List SegOut) : List Int := P.flatMap fun o => o.first :: fresh o.base o.k

theorem map_fst_flatMap_segRows (P : List SegOut) : (P.flatMap segRows).map Prod.fst = planIds P := by
  rw [List.map_flatMap]
  exact congrArg (P.flatMap ·) (funext fun o => linkPairs_map_fst _ _ _ _)

theorem mem_planIds {P : List SegOut} {i : Int} :
    i ∈ planIds P ↔ ∃ o ∈ P, i = o.first ∨ (o.base ≤ i ∧ i < o.base + o.k) := by
  unfold planIds
  simp only [List.mem_flatMap, List.mem_cons, mem_fresh]

theorem planIds_length (P : List SegOut) : (planIds P).length = P.length + (P.map (·.k)).sum := by
  induction P with
  | nil => rfl
  | cons o rest ih =>
    have e : planIds (o :: rest) = (o.first :: fresh o.base o.k) ++ planIds rest := by simp [planIds]
    rw [e, List.length_append, ih]
    simp only [List.length_cons, fresh_length, List.map_cons, List.sum_cons]
    omega

theorem dedupAux_of_nodup (seen : List Int) (l : Table) (hnd : (ids l).Nodup) (hdis : ∀ i ∈ ids l, i ∉ seen) :
    dedupAux seen l = l := by
  induction l generalizing seen with
  | nil => rfl
  | cons n rest ih =>
    have hn : n.id ∉ seen := hdis n.id (by simp [ids])
    simp only [ids, List.map_cons, List.nodup_cons] at hnd
    rw [dedupAux, if_neg (by simpa using hn)]
    congr 1
    apply ih _ hnd.2
    intro i hi hs
    rcases List.mem_cons.mp hs with h | h
    · exact hnd.1 (h ▸ hi)
    · exact hdis i (by simp only [ids, List.map_cons]; exact List.mem_cons_of_mem _ hi) h

theorem dedupById_of_nodup (l : Table) (hnd : (ids l).Nodup) : dedupById l = l :=
  dedupAux_of_nodup [] l hnd (fun _ _ h => by cases h)

/-- Rank of a fresh id: `M · rk(last) + (number of chain steps up to last)`. -/
def rkFresh (rk : Int → Nat) (M : Nat) : List SegOut → Int → Nat
  | [], _ => 0
  | o :: rest, i =>
    if o.base ≤ i ∧ i < o.base + (o.k : Int) then M * rk o.last + (o.base + (o.k : Int) - i).toNat
    else rkFresh rk M rest i

def rkNew (t : Table) (rk : Int → Nat) (M : Nat) (P : List SegOut) (i : Int) : Nat :=
  if i ≤ maxId t then M * rk i else rkFresh rk M P i

theorem rkFresh_of_mem (rk : Int → Nat) (M : Nat) {P : List SegOut}
    (hd : P.Pairwise (fun o o' => o.base + (o.k : Int) ≤ o'.base)) {o : SegOut} (ho : o ∈ P) {i : Int}
    (h1 : o.base ≤ i) (h2 : i < o.base + (o.k : Int)) :
    rkFresh rk M P i = M * rk o.last + (o.base + (o.k : Int) - i).toNat := by
  induction P with
  | nil => simp at ho
  | cons o0 rest ih =>
    rw [List.pairwise_cons] at hd
    rw [rkFresh]
    rcases List.mem_cons.mp ho with rfl | ho
    · rw [if_pos ⟨h1, h2⟩]
    · have := hd.1 o ho
      rw [if_neg (by omega)]
      exact ih hd.2 ho

theorem rank_fresh_lt {M a b k : Nat} (h : a < b) (hk : k < M) (j : Nat) : M * a + (k - j) < M * b := by
  have h' : M * (a + 1) ≤ M * b := Nat.mul_le_mul_left _ h
  rw [Nat.mul_add, Nat.mul_one] at h'
  omega

/-- **The rank drops along every row of a planned chain**, and the row points into the id set `I` as soon as `I`
holds the last anchor and the fresh ids of the slot: `first` has rank `M · rk first`, the `j`-th fresh id
`M · rk last + (k − j)`, `last` has `M · rk last`, and `k < M`. -/
theorem chain_row_rank {t : Table} {rk : Int → Nat} {M : Nat} {P : List SegOut}
    (hdis : P.Pairwise (fun o o' => o.base + (o.k : Int) ≤ o'.base)) {o : SegOut} (ho : o ∈ P)
    (hbg : maxId t < o.base) (hfl : o.first ≤ maxId t) (hll : o.last ≤ maxId t) (hrank : rk o.last < rk o.first)
    (hMk : o.k < M) {I : List Int} (hlast_in : o.last ∈ I) (hfresh_in : ∀ j : Nat, j < o.k → o.base + (j : Int) ∈ I)
    {e : Int × Int} (he : e ∈ linkPairs (newIds o.first o.last o.base o.k)) :
    e.2 ∈ I ∧ rkNew t rk M P e.2 < rkNew t rk M P e.1 := by
  have hrk_fresh : ∀ j : Nat, j < o.k → rkNew t rk M P (o.base + (j : Int)) = M * rk o.last + (o.k - j) := by
    intro j hj
    unfold rkNew
    rw [if_neg (by omega), rkFresh_of_mem rk M hdis ho (by omega) (by omega)]
    congr 1
    omega
  have hrk_first : rkNew t rk M P o.first = M * rk o.first := by unfold rkNew; rw [if_pos hfl]
  have hrk_last : rkNew t rk M P o.last = M * rk o.last := by unfold rkNew; rw [if_pos hll]
  rcases mem_linkPairs.mp he with rfl | ⟨j, hj, rfl⟩
  · dsimp only
    rw [hrk_first]
    by_cases hk0 : o.k = 0
    · rw [if_pos hk0, hrk_last]
      have := rank_fresh_lt hrank hMk o.k
      rw [Nat.sub_self, Nat.add_zero] at this
      exact ⟨hlast_in, this⟩
    · rw [if_neg hk0]
      have hpos := Nat.pos_of_ne_zero hk0
      have := hrk_fresh 0 hpos
      simp only [Int.natCast_zero, Int.add_zero] at this
      rw [this]
      exact ⟨by simpa using hfresh_in 0 hpos, rank_fresh_lt hrank hMk 0⟩
  · dsimp only
    rw [hrk_fresh j hj]
    by_cases hk : j + 1 = o.k
    · rw [if_pos hk, hrk_last]
      exact ⟨hlast_in, Nat.lt_add_of_pos_right (Nat.sub_pos_of_lt hj)⟩
    · rw [if_neg hk]
      have hlt : j + 1 < o.k := by omega
      have e : o.base + (j : Int) + 1 = o.base + ((j + 1 : Nat) : Int) := by push_cast; omega
      rw [e, hrk_fresh (j + 1) hlt]
      exact ⟨hfresh_in (j + 1) hlt, Nat.add_lt_add_left (Nat.sub_lt_sub_left hj (Nat.lt_succ_self j)) _⟩

end Navis.Resample

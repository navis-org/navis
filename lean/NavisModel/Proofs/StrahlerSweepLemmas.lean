import NavisModel.Model.StrahlerSweep
import NavisModel.Proofs.FlowLemmas
/-! The Python Strahler sweep (`Model/StrahlerSweep.lean`) computes the structural recurrence
(`strahlerRaw`) for every well-formed, correctly labelled forest and **every** pop order of the work
set: invariant of the outer loop + termination measure (number of unseen nodes). -/
namespace Navis.Sweep
open Navis.Forest Navis.Flow

variable {t : Table}

theorem siGet?_update (si : List (Int × Nat)) (seg : List Int) (idx : Nat) (i : Int) :
    siGet? (siUpdate si seg idx) i = if i ∈ seg then some idx else siGet? si i :=
  lookup_map_append seg (fun _ => idx) si i

theorem branchIndex_eq (g : Bool) (ign : List Int) (u : Int) (prev : List Nat) :
    branchIndex g ign u prev = if ign.contains u then 0 else strahlerRule g prev := by
  unfold branchIndex
  by_cases h : ign.contains u = true
  · rw [if_pos h, if_pos h]
  · rw [if_neg h, if_neg h]
    match prev with
    | [] => rfl
    | [_] => rfl
    | _ :: _ :: _ => rfl

theorem mem_branchNodes (hl : labelsOKB t = true) {i : Int} :
    i ∈ branchNodes t ↔ i ∈ ids t ∧ 2 ≤ childCount t i := by
  unfold branchNodes
  simp only [List.mem_map, List.mem_filter, Bool.or_eq_true, Bool.and_eq_true, beq_iff_eq, decide_eq_true_eq,
    children_length]
  constructor
  · rintro ⟨n, ⟨hn, hc⟩, rfl⟩
    refine ⟨mem_ids_of_mem hn, ?_⟩
    rcases hc with hc | ⟨_, hc⟩
    · exact ((label_branch_iff hl hn).mp hc).2
    · omega
  · rintro ⟨hi, hc⟩
    obtain ⟨n, hn, rfl⟩ := mem_ids.mp hi
    refine ⟨n, ⟨hn, ?_⟩, rfl⟩
    by_cases hr : n.parent < 0
    · exact Or.inr ⟨(label_root_iff hl hn).mpr hr, by omega⟩
    · exact Or.inl ((label_branch_iff hl hn).mpr ⟨hr, hc⟩)

theorem mem_endNodes (hl : labelsOKB t = true) {i : Int} :
    i ∈ endNodes t ↔ ∃ n ∈ t, n.id = i ∧ ¬ n.parent < 0 ∧ childCount t i = 0 := by
  unfold endNodes
  simp only [List.mem_map, List.mem_filter, beq_iff_eq]
  constructor
  · rintro ⟨n, ⟨hn, hc⟩, rfl⟩
    exact ⟨n, hn, rfl, (label_end_iff hl hn).mp hc⟩
  · rintro ⟨n, hn, rfl, hc⟩
    exact ⟨n, ⟨hn, (label_end_iff hl hn).mpr hc⟩, rfl⟩

/-- What `walkUp` returns: `seg` continues from `cur` through parents that are present and not branch
nodes; `pn` is the parent at which the loop stopped (negative, or a branch node). -/
def Chain (t : Table) (br : List Int) : Int → List Int → Int → Prop
  | cur, [], pn => parentOf t cur = some pn ∧ ¬ (0 ≤ pn ∧ pn ∉ br)
  | cur, p :: rest, pn => parentOf t cur = some p ∧ 0 ≤ p ∧ p ∉ br ∧ Chain t br p rest pn

theorem walkUp_spec {br : List Int} (f : Nat) (cur : Int) (seg : List Int) (pn : Int)
    (h : walkUp t br f cur = some (seg, pn)) : Chain t br cur seg pn := by
  have hcond : ∀ p, (decide (0 ≤ p) && !br.contains p) = true ↔ 0 ≤ p ∧ p ∉ br := fun p => by
    rw [Bool.and_eq_true, decide_eq_true_eq, Bool.not_eq_true', List.contains_eq_mem, decide_eq_false_iff_not]
  fun_induction walkUp t br f cur generalizing seg pn with
  | case1 => cases h
  | case2 => cases h
  | case3 f cur p hp hc ih =>
    obtain ⟨r, hr, he⟩ := Option.map_eq_some_iff.mp h
    obtain ⟨rfl, rfl⟩ := Prod.mk.inj he
    exact ⟨hp, ((hcond p).mp hc).1, ((hcond p).mp hc).2, ih r.1 r.2 hr⟩
  | case4 f cur p hp hc =>
    obtain ⟨rfl, rfl⟩ := Prod.mk.inj (Option.some.inj h)
    exact ⟨hp, fun hh => hc ((hcond _).mpr hh)⟩

theorem walkUp_some (hw : WF t) (br : List Int) (f : Nat) (cur : Int) (hc : cur ∈ ids t) (hd : dep t cur ≤ f) :
    ∃ seg pn, walkUp t br f cur = some (seg, pn) := by
  fun_induction walkUp t br f cur with
  | case1 => exact absurd (Nat.le_trans (dep_pos hc) hd) (Nat.not_succ_le_zero _)
  | case2 f cur hp => obtain ⟨p, hp'⟩ := parentOf_isSome_of_mem hc; rw [hp] at hp'; cases hp'
  | case3 f cur p hp hcnd ih =>
    simp only [Bool.and_eq_true, decide_eq_true_eq] at hcnd
    obtain ⟨seg, pn, h⟩ := ih (parentOf_up hw hp hcnd.1).1 (by rw [dep_of_parent hw hp] at hd; exact Nat.le_of_succ_le_succ hd)
    exact ⟨p :: seg, pn, by rw [h]; rfl⟩
  | case4 f cur p hp hcnd => exact ⟨[], p, rfl⟩

namespace Chain
variable {br : List Int}

theorem mem_ids (hw : WF t) : ∀ (seg : List Int) (cur pn : Int), Chain t br cur seg pn → ∀ x ∈ seg, x ∈ ids t
  | [], _, _, _ => fun _ hx => absurd hx List.not_mem_nil
  | p :: rest, _, pn, ⟨h1, h2, _, h4⟩ =>
    List.forall_mem_cons.mpr ⟨(parentOf_up hw h1 h2).1, mem_ids hw rest p pn h4⟩

theorem pn_mem (hw : WF t) : ∀ (seg : List Int) (cur pn : Int), Chain t br cur seg pn → 0 ≤ pn → pn ∈ ids t
  | [], _, _, h, h0 => (parentOf_up hw h.1 h0).1
  | _ :: rest, _, pn, h, h0 => pn_mem hw rest _ pn h.2.2.2 h0

theorem child_in : ∀ (seg : List Int) (cur pn : Int), Chain t br cur seg pn →
    ∀ x ∈ seg, ∃ y ∈ cur :: seg, parentOf t y = some x ∧ 0 ≤ x ∧ x ∉ br
  | [], _, _, _ => fun _ hx => absurd hx List.not_mem_nil
  | p :: rest, cur, pn, ⟨h1, h2, h3, h4⟩ =>
    List.forall_mem_cons.mpr ⟨⟨cur, List.mem_cons_self, h1, h2, h3⟩, fun x hx =>
      (child_in rest p pn h4 x hx).imp fun _ hy => ⟨List.mem_cons_of_mem _ hy.1, hy.2⟩⟩

theorem parent_in : ∀ (seg : List Int) (cur pn : Int), Chain t br cur seg pn →
    ∀ y ∈ cur :: seg, ∃ p, parentOf t y = some p ∧ (p ∈ seg ∨ (p = pn ∧ ¬ (0 ≤ pn ∧ pn ∉ br)))
  | [], _, pn, h => List.forall_mem_cons.mpr ⟨⟨pn, h.1, Or.inr ⟨rfl, h.2⟩⟩, fun _ hy => absurd hy List.not_mem_nil⟩
  | p :: rest, _, pn, ⟨h1, _, _, h4⟩ =>
    List.forall_mem_cons.mpr ⟨⟨p, h1, Or.inl List.mem_cons_self⟩, fun y hy =>
      (parent_in rest p pn h4 y hy).imp fun _ hq => ⟨hq.1, hq.2.imp_left (List.mem_cons_of_mem _)⟩⟩

theorem stop : ∀ (seg : List Int) (cur pn : Int), Chain t br cur seg pn → ¬ (0 ≤ pn ∧ pn ∉ br)
  | [], _, _, h => h.2
  | _ :: rest, _, pn, h => stop rest _ pn h.2.2.2

theorem unseen {seen : List Int} (down : ∀ i ∈ seen, ∀ c ∈ children t i, c ∈ seen) :
    ∀ (seg : List Int) (cur pn : Int), Chain t br cur seg pn → cur ∉ seen → (∀ x ∈ seg, x ∉ seen) ∧ pn ∉ seen
  | [], cur, pn, h, hc =>
    ⟨fun _ hx => absurd hx List.not_mem_nil, fun hp => hc (down pn hp cur (mem_children_of_parentOf h.1))⟩
  | p :: rest, cur, pn, ⟨h1, _, _, h4⟩, hc => by
    have hp : p ∉ seen := fun hp => hc (down p hp cur (mem_children_of_parentOf h1))
    obtain ⟨a, b⟩ := unseen down rest p pn h4 hp
    exact ⟨List.forall_mem_cons.mpr ⟨hp, a⟩, b⟩

theorem dep_lt (hw : WF t) : ∀ (seg : List Int) (cur pn : Int), Chain t br cur seg pn →
    (∀ x ∈ seg, dep t x < dep t cur) ∧ (0 ≤ pn → dep t pn < dep t cur)
  | [], cur, pn, h => by
    refine ⟨fun _ hx => absurd hx List.not_mem_nil, fun h0 => ?_⟩
    have := (parentOf_up hw h.1 h0).2
    omega
  | p :: rest, cur, pn, ⟨h1, h2, _, h4⟩ => by
    have hd := (parentOf_up hw h1 h2).2
    obtain ⟨a, b⟩ := dep_lt hw rest p pn h4
    exact ⟨List.forall_mem_cons.mpr ⟨by omega, fun x hx => Nat.lt_trans (a x hx) (by omega)⟩,
      fun h0 => Nat.lt_trans (b h0) (by omega)⟩

end Chain

/-- An appended node has exactly one child: the node it was reached from. -/
theorem only_child (hl : labelsOKB t = true) {cur p : Int} (hpar : parentOf t cur = some p)
    (hp : p ∈ ids t) (hbr : p ∉ branchNodes t) : children t p = [cur] := by
  apply children_eq_singleton (mem_children_of_parentOf hpar)
  have := (mem_branchNodes hl (i := p)).not.mp hbr
  have : ¬ 2 ≤ childCount t p := fun h => this ⟨hp, h⟩
  omega

theorem Chain.children_in (hw : WF t) (hl : labelsOKB t = true) {seg : List Int} {cur pn : Int}
    (h : Chain t (branchNodes t) cur seg pn) : ∀ x ∈ seg, ∀ c ∈ children t x, c ∈ cur :: seg := by
  intro x hx c hc
  obtain ⟨y, hy, hpy, _, hnb⟩ := Chain.child_in seg cur pn h x hx
  rw [only_child hl hpy (Chain.mem_ids hw seg cur pn h x hx) hnb] at hc
  exact List.mem_singleton.mp hc ▸ hy

/-- The recurrence value is constant along the segment (every appended node has a single child). -/
theorem Chain.values {t : Table} (hw : WF t) (hl : labelsOKB t = true) (g : Bool) (ign : List Int) :
    ∀ (seg : List Int) (cur pn : Int), Chain t (branchNodes t) cur seg pn →
      ∀ x ∈ seg, strahlerRaw t g ign (t.length + 1) x = strahlerRaw t g ign (t.length + 1) cur
  | [], _, _, _, x, hx => by simp at hx
  | p :: rest, cur, pn, h, x, hx => by
    have hpi : p ∈ ids t := Chain.mem_ids hw (p :: rest) cur pn h p List.mem_cons_self
    obtain ⟨h1, _, h3, h4⟩ := h
    have hp := strahlerRaw_single_child hw g ign (only_child hl h1 hpi h3)
    rcases List.mem_cons.mp hx with e | e
    · rw [e]; exact hp
    · rw [Chain.values hw hl g ign rest p pn h4 x e, hp]

/-! ### the outer loop: invariant and termination measure -/

/-- Loop invariant.  `V` is the value every node must receive (the structural recurrence). -/
structure Inv (t : Table) (V : Int → Nat) (s : St) : Prop where
  /-- every seen node carries its final value -/
  val : ∀ i ∈ s.seen, i ∈ ids t ∧ siGet? s.si i = some (V i)
  /-- seen is closed under children: whole subtrees are finished -/
  down : ∀ i ∈ s.seen, ∀ c ∈ children t i, c ∈ s.seen
  /-- the dictionary has no other keys -/
  keys : ∀ i, (siGet? s.si i).isSome = true → i ∈ s.seen
  /-- work-set nodes are unseen and ready (`SI[c]` exists for every child: no `KeyError`) -/
  que : ∀ u ∈ s.queue, u ∈ ids t ∧ u ∉ s.seen ∧ ∀ c ∈ children t u, c ∈ s.seen
  /-- no end node is lost -/
  ends : ∀ e ∈ endNodes t, e ∈ s.seen ∨ e ∈ s.queue
  /-- a walk never stops below a non-branch parent -/
  up : ∀ n ∈ t, n.id ∈ s.seen → 0 ≤ n.parent → n.parent ∉ branchNodes t → n.parent ∈ s.seen
  /-- a branch node all of whose children are finished has been queued -/
  ready : ∀ b ∈ branchNodes t, (∀ c ∈ children t b, c ∈ s.seen) → b ∈ s.seen ∨ b ∈ s.queue

/-- Termination measure: number of table rows not yet seen. -/
def unseenCount (t : Table) (s : St) : Nat := ((ids t).filter fun i => !s.seen.contains i).length

theorem unseenCount_lt {s : St} {seg : List Int} {u : Int} (hu : u ∈ ids t) (hus : u ∉ s.seen)
    (hseg : u ∈ seg) : ((ids t).filter fun i => !(s.seen ++ seg).contains i).length < unseenCount t s := by
  have hsplit : (fun i => !(s.seen ++ seg).contains i) = fun i => !seg.contains i && !s.seen.contains i := by
    funext i
    rw [List.contains_append, Bool.not_or, Bool.and_comm]
  rw [hsplit, ← List.filter_filter]
  apply List.length_filter_lt_length_iff_exists.mpr
  refine ⟨u, List.mem_filter.mpr ⟨hu, ?_⟩, ?_⟩
  · rw [Bool.not_eq_true', List.contains_eq_mem, decide_eq_false_iff_not]; exact hus
  · rw [Bool.not_eq_true', Bool.not_eq_false, List.contains_iff_mem]; exact hseg

theorem unseen_pos {s : St} {u : Int} (hu : u ∈ ids t) (hs : u ∉ s.seen) : 0 < unseenCount t s := by
  unfold unseenCount
  apply List.length_pos_of_mem (a := u)
  simp only [List.mem_filter, Bool.not_eq_true', List.contains_eq_mem, decide_eq_false_iff_not]
  exact ⟨hu, hs⟩

/-- The work set after an iteration: `q` (the old one without the popped node) plus the stop `pn` of the walk when all
its children have been seen. -/
def requeue (t : Table) (q seen' : List Int) (pn : Int) : List Int :=
  if 0 ≤ pn && (children t pn).all (fun c => seen'.contains c) then (if q.contains pn then q else q ++ [pn]) else q

theorem mem_requeue {q seen' : List Int} {pn v : Int} :
    v ∈ requeue t q seen' pn ↔ v ∈ q ∨ ((0 ≤ pn ∧ ∀ c ∈ children t pn, c ∈ seen') ∧ v = pn) := by
  unfold requeue
  by_cases hr : (decide (0 ≤ pn) && (children t pn).all fun c => seen'.contains c) = true
  · have hr' : 0 ≤ pn ∧ ∀ c ∈ children t pn, c ∈ seen' := by
      simpa only [Bool.and_eq_true, decide_eq_true_eq, List.all_eq_true, List.contains_iff_mem] using hr
    rw [if_pos hr]
    by_cases hc : q.contains pn = true
    · rw [if_pos hc]
      exact ⟨Or.inl, fun h => h.elim id fun h => h.2 ▸ List.contains_iff_mem.mp hc⟩
    · rw [if_neg hc, List.mem_append, List.mem_singleton]
      exact ⟨fun h => h.imp id fun h => ⟨hr', h⟩, fun h => h.imp id fun h => h.2⟩
  · rw [if_neg hr]
    refine ⟨Or.inl, fun h => h.elim id fun h => absurd ?_ hr⟩
    simpa only [Bool.and_eq_true, decide_eq_true_eq, List.all_eq_true, List.contains_iff_mem] using h.1

theorem inv_init (hl : labelsOKB t = true) (V : Int → Nat) : Inv t V (init t) where
  val := by intro i hi; simp [init] at hi
  down := by intro i hi; simp [init] at hi
  keys := by intro i hi; simp [init, siGet?] at hi
  que := by
    intro u hu
    obtain ⟨n, hn, hid, _, hc⟩ := (mem_endNodes hl).mp hu
    refine ⟨hid ▸ mem_ids_of_mem hn, by simp [init], ?_⟩
    intro c hcm
    rw [children_nil_iff.mpr hc] at hcm
    simp at hcm
  ends := by intro e he; exact Or.inr he
  up := by intro n _ hs; simp [init] at hs
  ready := by
    intro b hb hall
    have h2 := ((mem_branchNodes hl).mp hb).2
    obtain ⟨c, hc⟩ := List.exists_mem_of_length_pos (l := children t b) (by rw [children_length]; omega)
    exact absurd (hall c hc) (by simp [init])

theorem branchIndex_value (hw : WF t) (hl : labelsOKB t = true) (g : Bool) (ign : List Int)
    (hign : ∀ l ∈ ign, l ∈ ids t → l ∈ endNodes t) {u : Int} (hu : u ∈ ids t) :
    branchIndex g ign u ((children t u).map (strahlerRaw t g ign (t.length + 1))) =
      strahlerRaw t g ign (t.length + 1) u := by
  rw [branchIndex_eq, strahlerRaw_rec hw g ign u]
  by_cases hi : ign.contains u = true
  · have hm : u ∈ ign := by simpa using hi
    obtain ⟨n, _, _, _, hc⟩ := (mem_endNodes hl).mp (hign u hm hu)
    rw [if_pos hi, if_pos (children_nil_iff.mpr hc), if_pos hi]
  · rw [if_neg hi]
    by_cases hc : children t u = []
    · rw [if_pos hc, if_neg hi, hc]; simp [strahlerRule]
    · rw [if_neg hc]

theorem step_eq {g : Bool} {ign br : List Int} {s : St} {u pn : Int} {prev : List Nat} {seg : List Int}
    (hprev : prevIndices t s.si u = some prev) (hwk : walkUp t br (t.length + 1) u = some (seg, pn)) :
    step t g ign br s u = some
      { si := siUpdate s.si (u :: seg) (branchIndex g ign u prev)
        seen := s.seen ++ u :: seg
        queue := requeue t (s.queue.filter fun v => v != u) (s.seen ++ u :: seg) pn } := by
  unfold step
  rw [hprev]
  simp only
  rw [hwk]
  rfl

/-- **One iteration preserves the invariant**, raises no `KeyError`, and sees at least one new node. -/
theorem step_inv (hw : WF t) (hl : labelsOKB t = true) (g : Bool) (ign : List Int)
    (hign : ∀ l ∈ ign, l ∈ ids t → l ∈ endNodes t) {s : St}
    (hI : Inv t (strahlerRaw t g ign (t.length + 1)) s) {u : Int} (hu : u ∈ s.queue) :
    ∃ s', step t g ign (branchNodes t) s u = some s' ∧ Inv t (strahlerRaw t g ign (t.length + 1)) s' ∧
      unseenCount t s' < unseenCount t s := by
  obtain ⟨hui, hus, huc⟩ := hI.que u hu
  have hprev : prevIndices t s.si u = some ((children t u).map (strahlerRaw t g ign (t.length + 1))) :=
    mapM_some_of_forall _ _ _ (fun c hc => (hI.val c (huc c hc)).2)
  obtain ⟨seg, pn, hwk⟩ := walkUp_some hw (branchNodes t) (t.length + 1) u hui (by have := dep_le hw u; omega)
  have hch := walkUp_spec _ _ _ _ hwk
  have hidx := branchIndex_value hw hl g ign hign hui
  have hsegids : ∀ x ∈ u :: seg, x ∈ ids t := List.forall_mem_cons.mpr ⟨hui, Chain.mem_ids hw seg u pn hch⟩
  have hsegV : ∀ x ∈ u :: seg, strahlerRaw t g ign (t.length + 1) x = strahlerRaw t g ign (t.length + 1) u :=
    List.forall_mem_cons.mpr ⟨rfl, Chain.values hw hl g ign seg u pn hch⟩
  obtain ⟨hsegun', hpnun⟩ := Chain.unseen hI.down seg u pn hch hus
  have hsegun : ∀ x ∈ u :: seg, x ∉ s.seen := List.forall_mem_cons.mpr ⟨hus, hsegun'⟩
  have hdeppn := (Chain.dep_lt hw seg u pn hch).2
  have hstop := Chain.stop seg u pn hch
  have hpn_notseg : 0 ≤ pn → pn ∉ u :: seg := by
    intro h0 hm
    rcases List.mem_cons.mp hm with e | e
    · have := hdeppn h0; rw [e] at this; omega
    · obtain ⟨_, _, _, _, hnb⟩ := Chain.child_in seg u pn hch pn e
      exact hstop ⟨h0, hnb⟩
  refine ⟨_, step_eq hprev hwk, ?_, unseenCount_lt hui hus List.mem_cons_self⟩
  rw [hidx]
  have hq : ∀ v, v ∈ requeue t (s.queue.filter fun v => v != u) (s.seen ++ u :: seg) pn ↔
      (v ∈ s.queue ∧ v ≠ u) ∨ ((0 ≤ pn ∧ ∀ c ∈ children t pn, c ∈ s.seen ++ u :: seg) ∧ v = pn) := fun v => by
    rw [mem_requeue, List.mem_filter, bne_iff_ne]
  -- a work-set node other than the popped one stays in the work set
  have hkeep : ∀ v ∈ s.queue, v ∈ s.seen ++ u :: seg ∨
      v ∈ requeue t (s.queue.filter fun v => v != u) (s.seen ++ u :: seg) pn := fun v hv => by
    by_cases hvu : v = u
    · exact Or.inl (List.mem_append_right _ (hvu ▸ List.mem_cons_self))
    · exact Or.inr ((hq v).mpr (Or.inl ⟨hv, hvu⟩))
  constructor
  case val =>
    intro i hi
    by_cases hseg : i ∈ u :: seg
    · exact ⟨hsegids i hseg, by rw [siGet?_update, if_pos hseg, hsegV i hseg]⟩
    · rcases List.mem_append.mp hi with h | h
      · rw [siGet?_update, if_neg hseg]; exact hI.val i h
      · exact absurd h hseg
  case down =>
    intro i hi c hc
    rcases List.mem_append.mp hi with h | h
    · exact List.mem_append_left _ (hI.down i h c hc)
    · rcases List.mem_cons.mp h with e | e
      · rw [e] at hc; exact List.mem_append_left _ (huc c hc)
      · exact List.mem_append_right _ (Chain.children_in hw hl hch i e c hc)
  case keys =>
    intro i hi
    by_cases hseg : i ∈ u :: seg
    · exact List.mem_append_right _ hseg
    · rw [siGet?_update, if_neg hseg] at hi
      exact List.mem_append_left _ (hI.keys i hi)
  case que =>
    intro v hv
    rcases (hq v).mp hv with ⟨hvq, hne⟩ | ⟨⟨h0, hall⟩, rfl⟩
    · obtain ⟨hvi, hvs, hvc⟩ := hI.que v hvq
      refine ⟨hvi, ?_, fun c hc => List.mem_append_left _ (hvc c hc)⟩
      intro hm
      rcases List.mem_append.mp hm with h | h
      · exact hvs h
      · rcases List.mem_cons.mp h with e | e
        · exact hne e
        · obtain ⟨y, hy, hpy, _, _⟩ := Chain.child_in seg u pn hch v e
          exact hsegun y hy (hvc y (mem_children_of_parentOf hpy))
    · refine ⟨Chain.pn_mem hw seg u v hch h0, ?_, hall⟩
      intro hm
      rcases List.mem_append.mp hm with h | h
      · exact hpnun h
      · exact hpn_notseg h0 h
  case ends =>
    intro e he
    exact (hI.ends e he).elim (fun h => Or.inl (List.mem_append_left _ h)) (hkeep e)
  case up =>
    intro n hn hs h0 hnb
    rcases List.mem_append.mp hs with h | h
    · exact List.mem_append_left _ (hI.up n hn h h0 hnb)
    · obtain ⟨p, hp, hcase⟩ := Chain.parent_in seg u pn hch n.id h
      rw [parentOf_of_mem hw.1 hn] at hp
      have hpe : n.parent = p := Option.some.inj hp
      rcases hcase with hc | ⟨hc, hst⟩
      · exact List.mem_append_right _ (List.mem_cons_of_mem _ (hpe ▸ hc))
      · exfalso; apply hst; rw [← hc, ← hpe]; exact ⟨h0, hnb⟩
  case ready =>
    intro b hb hall
    by_cases hold : ∀ c ∈ children t b, c ∈ s.seen
    · exact (hI.ready b hb hold).elim (fun h => Or.inl (List.mem_append_left _ h)) (hkeep b)
    · -- some child of `b` was seen in this very iteration: `b` is the stop of the walk
      obtain ⟨c, hc, hcs⟩ := not_forall₂.mp hold
      have hcseg : c ∈ u :: seg := (List.mem_append.mp (hall c hc)).resolve_left hcs
      obtain ⟨m, hm, hmp, hmid⟩ := mem_children.mp hc
      obtain ⟨p, hp, hcase⟩ := Chain.parent_in seg u pn hch c hcseg
      rw [← hmid, parentOf_of_mem hw.1 hm] at hp
      have hpe : b = p := hmp ▸ Option.some.inj hp
      have hb0 := ids_nonneg hw.2.1 ((mem_branchNodes hl).mp hb).1
      rcases hcase with hc' | ⟨hc', _⟩
      · exfalso
        obtain ⟨_, _, _, _, hnb⟩ := Chain.child_in seg u pn hch p hc'
        exact hnb (hpe ▸ hb)
      · have hbpn : b = pn := hpe.trans hc'
        exact Or.inr ((hq b).mpr (Or.inr ⟨hbpn ▸ ⟨hb0, hall⟩, hbpn⟩))

theorem popped_mem (pick : St → Nat) {s : St} (h : s.queue ≠ []) : popped pick s ∈ s.queue := by
  unfold popped
  have hlen : 0 < s.queue.length := List.length_pos_iff.mpr h
  have hlt : pick s % s.queue.length < s.queue.length := Nat.mod_lt _ hlen
  rw [List.getD_eq_getElem?_getD, List.getElem?_eq_getElem hlt]
  exact List.getElem_mem hlt

/-- **The outer loop terminates (fuel = number of unseen rows suffices), raises no `KeyError`, and ends
with an empty work set and the invariant** — for every pop order. -/
theorem loop_inv (hw : WF t) (hl : labelsOKB t = true) (g : Bool) (ign : List Int)
    (hign : ∀ l ∈ ign, l ∈ ids t → l ∈ endNodes t) (pick : St → Nat) (f : Nat) (s : St)
    (hI : Inv t (strahlerRaw t g ign (t.length + 1)) s) (hm : unseenCount t s ≤ f) :
      ∃ s', loop t g ign (branchNodes t) pick f s = some s' ∧ Inv t (strahlerRaw t g ign (t.length + 1)) s' ∧
        s'.queue = [] := by
  fun_induction loop t g ign (branchNodes t) pick f s with
  | case1 s hq | case3 f s hq => exact ⟨s, rfl, hI, List.isEmpty_iff.mp hq⟩
  | case2 s hq =>
    obtain ⟨hui, hus, _⟩ := hI.que _ (popped_mem pick (mt List.isEmpty_iff.mpr hq))
    exact absurd (Nat.lt_of_lt_of_le (unseen_pos hui hus) hm) (Nat.lt_irrefl 0)
  | case4 f s hq hs =>
    obtain ⟨s', hs', _⟩ := step_inv hw hl g ign hign hI (popped_mem pick (mt List.isEmpty_iff.mpr hq))
    cases hs.symm.trans hs'
  | case5 f s hq s' hs ih =>
    obtain ⟨s'', hs', hI', hlt⟩ := step_inv hw hl g ign hign hI (popped_mem pick (mt List.isEmpty_iff.mpr hq))
    cases hs.symm.trans hs'
    exact ih hI' (by omega)

/-- With an empty work set every row has been seen, except isolated roots. -/
theorem complete {t : Table} (hw : WF t) (hl : labelsOKB t = true) {V : Int → Nat} {s : St} (hI : Inv t V s)
    (hq : s.queue = []) :
    ∀ i ∈ ids t, i ∈ s.seen ∨ (children t i = [] ∧ ∃ n ∈ t, n.id = i ∧ n.parent < 0) := by
  apply children_induct hw
  intro i hi ih
  obtain ⟨n, hn, rfl⟩ := mem_ids.mp hi
  by_cases hc : children t n.id = []
  · by_cases hr : n.parent < 0
    · exact Or.inr ⟨hc, n, hn, rfl, hr⟩
    · rcases hI.ends n.id ((mem_endNodes hl).mpr ⟨n, hn, rfl, hr, children_nil_iff.mp hc⟩) with h | h
      · exact Or.inl h
      · rw [hq] at h; simp at h
  · have h0 : 0 ≤ n.id := hw.2.1 n hn
    have hall : ∀ c ∈ children t n.id, c ∈ s.seen := by
      intro c hcm
      rcases ih c hcm with h | ⟨_, m, hm, hmid, hmr⟩
      · exact h
      · exfalso
        obtain ⟨m', hm', hmp', hmid'⟩ := mem_children.mp hcm
        rw [node_eq_of_id hw.1 hm hm' (hmid.trans hmid'.symm), hmp'] at hmr; omega
    by_cases hb : n.id ∈ branchNodes t
    · rcases hI.ready n.id hb hall with h | h
      · exact Or.inl h
      · rw [hq] at h; simp at h
    · obtain ⟨c, hcm⟩ := List.exists_mem_of_ne_nil _ hc
      obtain ⟨m, hm, hmp, hmid⟩ := mem_children.mp hcm
      have := hI.up m hm (hmid ▸ hall c hcm) (by rw [hmp]; exact h0) (by rw [hmp]; exact hb)
      rw [hmp] at this
      exact Or.inl this

theorem final_values (hw : WF t) (hl : labelsOKB t = true) (g : Bool) (ign : List Int)
    (hign : ∀ l ∈ ign, l ∈ ids t → l ∈ endNodes t) {s : St}
    (hI : Inv t (strahlerRaw t g ign (t.length + 1)) s) (hq : s.queue = []) :
    ∀ i ∈ ids t, siGetD s.si i = strahlerRaw t g ign (t.length + 1) i := by
  intro i hi
  have hseen : i ∈ s.seen → siGetD s.si i = strahlerRaw t g ign (t.length + 1) i := by
    intro h; unfold siGetD; rw [(hI.val i h).2]; rfl
  rcases complete hw hl hI hq i hi with h | ⟨hc, n, hn, hid, hr⟩
  · exact hseen h
  · cases hk : siGet? s.si i with
    | some v => exact hseen (hI.keys i (by rw [hk]; rfl))
    | none =>
      unfold siGetD; rw [hk, strahlerRaw_rec hw g ign i, if_pos hc]
      have : ign.contains i = false := Bool.eq_false_iff.mpr fun hcon => by
        obtain ⟨m, hm', hmid, hmr, _⟩ := (mem_endNodes hl).mp (hign i (List.contains_iff_mem.mp hcon) hi)
        exact hmr (node_eq_of_id hw.1 hn hm' (hid.trans hmid.symm) ▸ hr)
      rw [this]; rfl

theorem unseenCount_init_le (t : Table) : unseenCount t (init t) ≤ t.length + 1 := by
  unfold unseenCount
  have := List.length_filter_le (fun i => !(init t).seen.contains i) (ids t)
  rw [ids_length] at this; omega

theorem sweepRaw_eq (hw : WF t) (hl : labelsOKB t = true) (g : Bool) (ign : List Int)
    (hign : ∀ l ∈ ign, l ∈ ids t → l ∈ endNodes t) (pick : St → Nat) :
    ∃ si, sweepRaw t g ign pick = some si ∧ ∀ i ∈ ids t, siGetD si i = strahlerRaw t g ign (t.length + 1) i := by
  obtain ⟨s', hs', hI', hq'⟩ := loop_inv hw hl g ign hign pick (t.length + 1) (init t) (inv_init hl _)
    (unseenCount_init_le t)
  exact ⟨s'.si, by unfold sweepRaw; rw [hs']; rfl, final_values hw hl g ign hign hI' hq'⟩

end Navis.Sweep

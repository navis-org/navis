import NavisModel.Model.TreeEdit
import NavisModel.Proofs.RerootEdgesLemmas
import NavisModel.Proofs.ForestConnLemmas
import NavisModel.Proofs.DistLemmas
/-!
C10 (core Lean only): what `_subset_treeneuron` and `reroot_skeleton` do beside the node-table operation of
`Model/Ops.lean`.  Connectors, tags and soma of a subset are the originals filtered to the surviving nodes, and a boolean
mask selects what its ids select.  The parent assignment as the source spells it (two slices of the path, zipped) is
`rerootParents`, so the loop over several targets is `rerootMany`, which inherits what one reroot preserves; cable
length and weighted undirected edges are functions of the undirected edges, which a reroot permutes; and the trees are
the connected components of those edges, so a reroot keeps the partition into trees (`rootOf_reroot_eq_iff`).
-/
namespace Navis.TreeEdit
open Navis.Forest

theorem mem_filterConns {t' : Table} {cs : List Conn} {c : Conn} :
    c ∈ filterConns t' cs ↔ c ∈ cs ∧ c.node ∈ ids t' := by
  unfold filterConns
  simp [List.mem_filter]

theorem subsetNeuron_conns (x : Neuron) (keep : Int → Bool) :
    (subsetNeuron x keep false).conns = x.conns.filter fun c => keep c.node && (ids x.nodes).contains c.node := by
  unfold subsetNeuron filterConns
  simp only [Bool.false_eq_true, if_false]
  apply List.filter_congr
  intro c _
  rw [ids_subset, Bool.eq_iff_iff]
  simp only [List.contains_eq_mem, decide_eq_true_eq, List.mem_filter, Bool.and_eq_true]
  exact ⟨fun h => ⟨h.2, h.1⟩, fun h => ⟨h.2, h.1⟩⟩

theorem subsetNeuron_conns_keep_disc (x : Neuron) (keep : Int → Bool) : (subsetNeuron x keep true).conns = x.conns := by
  unfold subsetNeuron
  simp

theorem mem_filterTags {t' : Table} {tg : Tags} {name : String} {l : List Int} :
    (name, l) ∈ filterTags t' tg ↔ ∃ l0, (name, l0) ∈ tg ∧ l = l0.filter (fun i => (ids t').contains i) ∧ l ≠ [] := by
  unfold filterTags
  simp only [List.mem_filter, List.mem_map, Bool.not_eq_true', List.isEmpty_eq_false_iff]
  constructor
  · rintro ⟨⟨e, he, heq⟩, hne⟩
    simp only [Prod.mk.injEq] at heq
    obtain ⟨h1, h2⟩ := heq
    exact ⟨e.2, by rw [← h1]; exact he, h2.symm, hne⟩
  · rintro ⟨l0, hl0, rfl, hne⟩
    exact ⟨⟨(name, l0), hl0, rfl⟩, hne⟩

/-- The surviving tags keep their order. -/
theorem filterTags_keys_sublist (t' : Table) (tg : Tags) : ((filterTags t' tg).map (·.1)).Sublist (tg.map (·.1)) := by
  unfold filterTags
  have h1 : ((tg.map fun e => (e.1, e.2.filter fun i => (ids t').contains i)).map (·.1)) = tg.map (·.1) := by
    rw [List.map_map]; rfl
  rw [← h1]
  exact (List.filter_sublist).map _

theorem filterSoma_eq_some {t' : Table} {s : Option Int} {i : Int} : filterSoma t' s = some i ↔ s = some i ∧ i ∈ ids t' := by
  cases s with
  | none => simp [filterSoma]
  | some j =>
    simp only [filterSoma, List.contains_eq_mem, decide_eq_true_eq, Option.some.injEq]
    constructor
    · intro h
      split at h
      · obtain rfl := Option.some.inj h; exact ⟨rfl, ‹_›⟩
      · cases h
    · rintro ⟨rfl, h⟩; rw [if_pos h]

theorem maskRows_eq_filter (keep : Int → Bool) (t : Table) : maskRows t ((ids t).map keep) = t.filter fun n => keep n.id := by
  unfold maskRows ids
  rw [List.map_map, List.zip_eq_zipWith, List.zipWith_map_right, List.zipWith_self, List.filter_map, List.map_map]
  exact List.map_id _

/-- **A boolean mask selects the same neuron as the ids it marks** (the mask is positional, the id form is not). -/
theorem subsetMask_eq_subset (t : Table) (keep : Int → Bool) : subsetMask t ((ids t).map keep) = subset t keep := by
  unfold subsetMask subset
  rw [maskRows_eq_filter]

theorem maskIds_eq_filter (t : Table) (keep : Int → Bool) : maskIds t ((ids t).map keep) = (ids t).filter keep := by
  unfold maskIds
  rw [maskRows_eq_filter, ids_filter]

theorem slice_tail (l : List Int) : ({ start := some 1 } : Slice).apply l = l.tail := by
  unfold Slice.apply normIdx
  simp only [List.take_length]
  cases l with
  | nil => rfl
  | cons a l =>
    simp only [List.length_cons, List.tail_cons]
    simp

theorem slice_dropLast (l : List Int) : ({ stop := some (-1) } : Slice).apply l = l.dropLast := by
  unfold Slice.apply normIdx
  simp only [List.drop_zero]
  have : ((-1 : Int) + (l.length : Int)).toNat = l.length - 1 := by omega
  simp only [show ((-1 : Int) < 0) from by decide, if_true, this]
  exact (List.dropLast_eq_take).symm

/-- `zip(path[1:], path[:-1])` lists every node of the path (but the first) with its predecessor. -/
theorem find?_zip_tail_dropLast : ∀ (l : List Int) (i : Int),
    (l.tail.zip l.dropLast).find? (fun e => e.1 == i) = (predOnPath l i).map fun a => (i, a)
  | [], i => rfl
  | [a], i => rfl
  | a :: b :: rest, i => by
    have ih := find?_zip_tail_dropLast (b :: rest) i
    simp only [List.tail_cons, List.dropLast_cons_cons, List.zip_cons_cons, List.find?_cons] at ih ⊢
    unfold predOnPath
    by_cases hb : b = i
    · subst hb; simp
    · have : (b == i) = false := by simpa using hb
      simp only [this, if_neg hb]
      exact ih

theorem find?_reverse_of_nodup_keys {ps : List (Int × Int)} (hnd : (ps.map (·.1)).Nodup) (i : Int) :
    ps.reverse.find? (fun e => e.1 == i) = ps.find? (fun e => e.1 == i) := by
  induction ps with
  | nil => rfl
  | cons p ps ih =>
    simp only [List.map_cons, List.nodup_cons] at hnd
    rw [List.reverse_cons, List.find?_append, ih hnd.2, List.find?_cons]
    by_cases hp : p.1 = i
    · have hnone : ps.find? (fun e => e.1 == i) = none := by
        rw [List.find?_eq_none]
        intro e he hei
        simp only [beq_iff_eq] at hei
        exact hnd.1 (List.mem_map.mpr ⟨e, he, by rw [hei, hp]⟩)
      simp [hnone, hp]
    · have : (p.1 == i) = false := by simpa using hp
      cases hq : ps.find? (fun e => e.1 == i) <;> simp [this, hq]

theorem keys_zip_tail_dropLast_nodup {l : List Int} (hnd : l.Nodup) : ((l.tail.zip l.dropLast).map (·.1)).Nodup := by
  have hkeys : (l.tail.zip l.dropLast).map (·.1) = l.tail := by
    apply List.map_fst_zip
    simp
  rw [hkeys]
  exact hnd.sublist (List.tail_sublist l)

section AsWritten
variable {spec : RerootSpec} (hl : spec.lhs = { start := some 1 }) (hr : spec.rhs = { stop := some (-1) })
  (hp : spec.newRootParent = -1)
include hl hr hp

/-- On a duplicate-free path the slices `path[1:]` / `path[:-1]` produce exactly the path reversal of the model. -/
theorem rerootLinksAW_eq (t : Table) (r : Int) {path : List Int} (hnd : path.Nodup) :
    rerootLinksAW spec t r path = rerootParents t r path := by
  unfold rerootLinksAW setParent assignParents rerootParents
  simp only [hl, hr, hp, slice_tail, slice_dropLast, List.map_map]
  apply List.map_congr_left
  intro n _
  simp only [Function.comp]
  rw [find?_reverse_of_nodup_keys (keys_zip_tail_dropLast_nodup hnd), find?_zip_tail_dropLast]
  by_cases hr : n.id = r
  · rw [if_pos hr]
    cases predOnPath path n.id <;> simp [hr]
  · rw [if_neg hr]
    cases predOnPath path n.id <;> simp [hr]

theorem rerootStepAW_eq {t : Table} (hw : WF t) (r : Int) : rerootStepAW spec t r = reroot t r := by
  unfold rerootStepAW
  cases hf : find? t r with
  | none => exact (reroot_absent hf).symm
  | some nr =>
    by_cases hp' : nr.parent < 0
    · rw [reroot_of_root hf hp']; exact if_pos hp'
    · rw [reroot_of_nonroot hf hp', ← rerootLinksAW_eq hl hr hp t r (rootPath_nodup hw r)]
      exact if_neg hp'

/-- **The reroot loop as the source spells it is the model's `rerootMany`** — provided the skip test re-reads
the roots in every iteration (it then only skips targets for which `reroot` is the identity anyway). -/
theorem rerootLoopAW_eq (hrr : spec.rereadsRoots = true) {rs : List Int} : ∀ {t : Table} (snap : List Int), WF t →
    rerootLoopAW spec snap t rs = rerootMany t rs := by
  induction rs with
  | nil => intro t snap _; rfl
  | cons r rs ih =>
    intro t snap hw
    unfold rerootLoopAW rerootMany
    simp only [hrr, if_true, List.foldl_cons]
    by_cases hr' : (roots t).contains r = true
    · rw [if_pos hr']
      obtain ⟨n, hn, hid, hp'⟩ := mem_roots.mp (by simpa using hr')
      rw [← hid, reroot_of_root (find?_of_mem hw.1 hn) hp']
      exact ih snap hw
    · rw [if_neg hr', rerootStepAW_eq hl hr hp hw r]
      exact ih snap (WF_reroot hw r)

end AsWritten

theorem rerootMany_snoc (t : Table) (rs : List Int) (r : Int) : rerootMany t (rs ++ [r]) = reroot (rerootMany t rs) r := by
  unfold rerootMany
  rw [List.foldl_append]
  rfl

theorem ids_rerootMany (t : Table) (rs : List Int) : ids (rerootMany t rs) = ids t :=
  rerootMany_induct (fun u => ids u = ids t) (fun u r h => by rw [ids_reroot]; exact h) rfl rs

theorem coords_rerootMany (t : Table) (rs : List Int) :
    (rerootMany t rs).map (fun n => (n.id, n.x, n.y, n.z)) = t.map (fun n => (n.id, n.x, n.y, n.z)) :=
  rerootMany_induct (fun u => u.map (fun n => (n.id, n.x, n.y, n.z)) = t.map (fun n => (n.id, n.x, n.y, n.z)))
    (fun u r h => by rw [reroot_coords]; exact h) rfl rs

theorem uedges_rerootMany_perm {t : Table} (hw : WF t) (rs : List Int) : (uedges (rerootMany t rs)).Perm (uedges t) :=
  (rerootMany_induct (fun u => WF u ∧ (uedges u).Perm (uedges t))
    (fun _ r h => ⟨WF_reroot h.1 r, (uedges_reroot_perm h.1 r).trans h.2⟩) ⟨hw, List.Perm.refl _⟩ rs).2

theorem len_uedge {len : Int → Int → Nat} (hsym : ∀ a b, len a b = len b a) (a b : Int) :
    len (uedge a b).1 (uedge a b).2 = len a b := by
  rcases uedge_cases a b with h | h <;> rw [h]
  exact hsym _ _

/-- For a symmetric edge-length function the cable length only depends on the undirected edges. -/
theorem cable_eq_sum_uedges (t : Table) (len : Int → Int → Nat) (hsym : ∀ a b, len a b = len b a) :
    cable t len = ((uedges t).map fun e => len e.1 e.2).sum := by
  rw [cable_eq_sum_edges]
  unfold uedges
  rw [List.map_map]
  exact congrArg List.sum (List.map_congr_left fun e _ => (len_uedge hsym e.1 e.2).symm)

theorem cable_rerootMany {t : Table} (hw : WF t) (len : Int → Int → Nat) (hsym : ∀ a b, len a b = len b a) (rs : List Int) :
    cable (rerootMany t rs) len = cable t len := by
  rw [cable_eq_sum_uedges _ len hsym, cable_eq_sum_uedges _ len hsym]
  exact ((uedges_rerootMany_perm hw rs).map _).sum_nat

theorem cable_reroot {t : Table} (hw : WF t) (len : Int → Int → Nat) (hsym : ∀ a b, len a b = len b a) (r : Int) :
    cable (reroot t r) len = cable t len := cable_rerootMany hw len hsym [r]

theorem wuedges_graphOf (t : Table) (len : Int → Int → Nat) (hsym : ∀ a b, len a b = len b a) :
    wuedges (graphOf t len) = (uedges t).map fun e => (e, len e.1 e.2) := by
  unfold wuedges graphOf uedges
  rw [List.map_map, List.map_map]
  exact List.map_congr_left fun e _ => congrArg (Prod.mk _) (len_uedge hsym e.1 e.2).symm

open Navis.Heal

/-- **A reroot keeps the partition into trees.** -/
theorem rootOf_reroot_eq_iff {t : Table} (hw : WF t) (r : Int) {i j : Int} (hi : i ∈ ids t) (hj : j ∈ ids t) :
    rootOf (reroot t r) i = rootOf (reroot t r) j ↔ rootOf t i = rootOf t j := by
  have hp := uedges_reroot_perm hw r
  rw [← Conn_iff_rootOf (WF_reroot hw r) (by rw [ids_reroot]; exact hi) (by rw [ids_reroot]; exact hj),
    ← Conn_iff_rootOf hw hi hj]
  exact ⟨Conn.of_subset fun _ => hp.mem_iff.mp, Conn.of_subset fun _ => hp.mem_iff.mpr⟩

theorem rootOf_reroot_same {t : Table} (hw : WF t) {r : Int} (hr : r ∈ ids t)
    {i : Int} (hi : i ∈ ids t) (hsame : rootOf t i = rootOf t r) : rootOf (reroot t r) i = some r := by
  obtain ⟨n, hn, rfl, hp⟩ := reroot_new_root t _ hr
  rw [(rootOf_reroot_eq_iff hw _ hi hr).mpr hsame, rootOf_of_root (WF_reroot hw _) hn hp]

theorem rootOf_reroot_other {t : Table} (hw : WF t) (r : Int) {i : Int} (hi : i ∈ ids t) (hne : rootOf t i ≠ rootOf t r) :
    rootOf (reroot t r) i = rootOf t i := by
  -- the root of `i`'s tree is off the reversed path, so it is still a root
  obtain ⟨ρ, hρ, hroot, hρi⟩ := rootOf_spec hw hi
  obtain ⟨n, hn, rfl, hp⟩ := mem_roots.mp hroot
  have hsame := rootOf_of_mem_rootPath hw hρi
  have hn' := reroot_off_path t r n hn (not_mem_rootPath_of_rootOf_ne hw (hsame ▸ hne))
  rw [(rootOf_reroot_eq_iff hw r hi (mem_ids_of_mem hn)).mpr hsame.symm, rootOf_of_root (WF_reroot hw r) hn' hp, hρ]

end Navis.TreeEdit

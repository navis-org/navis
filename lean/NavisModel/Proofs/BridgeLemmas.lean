import NavisModel.Model.Bridge
/-! Helper lemmas for C08 (`Model/Bridge.lean`).  Transforms are elements of an abstract `TGroup`, so that the
composition facts hold for every family of invertible transforms; the invertible affine maps (`affGroup`, in
`Proofs/AffineLemmas.lean`) are the one instance, and nothing here needs more than core Lean.

* **telescoping**: if every edge of a graph is the change of frame between its end points, the transforms along ANY
  chain of edges compose to `frame t ∘ (frame s)⁻¹` (`telescope`); the edges of `bridgingGraph` are such
  (`mem_bridgingGraph_iff`, `edge_consistent`), and the edges `pathEdges` picks form a chain (`pathEdges_chain`);
* **search**: `findPath_cases` says which of its three outcomes `find_bridging_path` takes (a `ValueError` of the template
  checks, the answer of `shortest_path`, the result of the loop); the fuel-bounded enumerator yields exactly the simple
  paths (`mem_simplePaths_iff`), so "no admissible path" can be stated over `simplePaths`;
* **sequences**: a row-wise member acts on the non-NaN rows only (`seqStep_liftRow`); `append` with merging keeps the
  composition (`prod_foldl_seqAppend`, `prod_seqBuildItems_aux`, for any accumulator);
* **memo table**: `Coherent` (every memoised graph is the graph of the current records) is kept by `register` and
  `graphCached`, hence a run with the table returns what the cache-free `runRef` returns;
* the functions parameterised by what the translator extracts equal the plain ones under the extracted facts
  (`acceptOf_eq_repaired`, `findPathG_eq`, `bridgingGraphOf_eq`, `registerOf_eq`). -/
namespace Navis.Bridge

section Group
variable {τ : Type} (g : TGroup τ)

theorem TGroup.inv_unique {a b : τ} (h : g.mul a b = g.one) : b = g.inv a := by
  calc b = g.mul g.one b := (g.one_mul b).symm
    _ = g.mul (g.mul (g.inv a) a) b := by rw [g.inv_mul]
    _ = g.mul (g.inv a) (g.mul a b) := g.mul_assoc _ _ _
    _ = g.mul (g.inv a) g.one := by rw [h]
    _ = g.inv a := g.mul_one _

theorem TGroup.inv_inv (a : τ) : g.inv (g.inv a) = a :=
  (g.inv_unique (g.inv_mul a)).symm

theorem TGroup.inv_mul_rev (a b : τ) : g.inv (g.mul a b) = g.mul (g.inv b) (g.inv a) := by
  symm
  apply g.inv_unique
  calc g.mul (g.mul a b) (g.mul (g.inv b) (g.inv a))
      = g.mul a (g.mul b (g.mul (g.inv b) (g.inv a))) := g.mul_assoc _ _ _
    _ = g.mul a (g.mul (g.mul b (g.inv b)) (g.inv a)) := by rw [g.mul_assoc b]
    _ = g.mul a (g.inv a) := by rw [g.mul_inv, g.one_mul]
    _ = g.one := g.mul_inv a

theorem TGroup.inv_one : g.inv g.one = g.one :=
  (g.inv_unique (g.one_mul g.one)).symm

theorem foldl_mul (a : τ) (ts : List τ) : ts.foldl g.mul a = g.mul a (prod g ts) := by
  induction ts generalizing a with
  | nil => simp [prod, g.mul_one]
  | cons t ts ih =>
    simp only [prod, List.foldl_cons]
    rw [ih (g.mul a t), ih (g.mul g.one t), g.one_mul, g.mul_assoc]

theorem prod_nil : prod g ([] : List τ) = g.one := rfl

theorem prod_cons (t : τ) (ts : List τ) : prod g (t :: ts) = g.mul t (prod g ts) := by
  show (t :: ts).foldl g.mul g.one = g.mul t (prod g ts)
  rw [List.foldl_cons, foldl_mul, g.one_mul]

theorem prod_append (ts us : List τ) : prod g (ts ++ us) = g.mul (prod g ts) (prod g us) := by
  induction ts with
  | nil => simp [prod_nil, g.one_mul]
  | cons t ts ih => rw [List.cons_append, prod_cons, prod_cons, ih, g.mul_assoc]

theorem prod_singleton (t : τ) : prod g [t] = t := by
  rw [prod_cons, prod_nil, g.mul_one]

theorem prod_negSeq (ts : List τ) : prod g (negSeq g.inv ts) = g.inv (prod g ts) := by
  induction ts with
  | nil => simp [negSeq, prod_nil, g.inv_one]
  | cons t ts ih =>
    have : negSeq g.inv (t :: ts) = negSeq g.inv ts ++ [g.inv t] := by simp [negSeq]
    rw [this, prod_append, ih, prod_cons, prod_cons, prod_nil, g.mul_one, g.inv_mul_rev]

end Group

section Graph
variable {τ : Type}

theorem mem_bridges_iff {regs : List (Reg τ)} {r : Reg τ} {i : Nat} :
    (r, i) ∈ bridges regs ↔ regs[i]? = some r ∧ r.kind = Kind.bridging := by
  simp only [bridges, List.mem_filter, beq_iff_eq, List.mem_zipIdx_iff_getElem?]

theorem mem_bridgingGraph_iff {neg : τ → τ} {regs : List (Reg τ)} {recip : Option Rat} {e : GEdge τ} :
    e ∈ bridgingGraph neg regs recip ↔
      ∃ r, regs[e.ridx]? = some r ∧ r.kind = Kind.bridging ∧
        ((e = ⟨r.src, r.tgt, r.xf, r.weight, e.ridx, false⟩) ∨
         (r.invertible = true ∧ ∃ k, recip = some k ∧ k ≠ 0 ∧
            e = ⟨r.tgt, r.src, neg r.xf, r.weight * k, e.ridx, true⟩)) := by
  simp only [bridgingGraph, List.mem_append, fwdEdges, List.mem_map]
  constructor
  · rintro (⟨⟨r, i⟩, hm, rfl⟩ | h)
    · obtain ⟨h1, h2⟩ := mem_bridges_iff.mp hm
      exact ⟨r, h1, h2, Or.inl rfl⟩
    · cases recip with
      | none => cases h
      | some k =>
        dsimp only at h
        by_cases hk : k = 0
        · rw [if_pos hk] at h; cases h
        · rw [if_neg hk] at h
          simp only [revEdges, List.mem_map, List.mem_filter] at h
          obtain ⟨⟨r, i⟩, ⟨hm, hinv⟩, rfl⟩ := h
          obtain ⟨h1, h2⟩ := mem_bridges_iff.mp hm
          exact ⟨r, h1, h2, Or.inr ⟨hinv, k, rfl, hk, rfl⟩⟩
  · rintro ⟨r, h1, h2, h3 | ⟨hi, k, rfl, hk, h3⟩⟩
    · exact Or.inl ⟨(r, e.ridx), mem_bridges_iff.mpr ⟨h1, h2⟩, h3.symm⟩
    · right
      dsimp only
      rw [if_neg hk]
      simp only [revEdges, List.mem_map, List.mem_filter]
      exact ⟨(r, e.ridx), ⟨mem_bridges_iff.mpr ⟨h1, h2⟩, hi⟩, h3.symm⟩

/-- Forward-only registrations never produce a reverse edge; with `reciprocal` off nothing does. -/
theorem inverted_edge_needs_invertible {neg : τ → τ} {regs : List (Reg τ)} {recip : Option Rat}
    {e : GEdge τ} (h : e ∈ bridgingGraph neg regs recip) (hi : e.inverted = true) :
    ∃ r, regs[e.ridx]? = some r ∧ r.invertible = true ∧ ∃ k, recip = some k ∧ k ≠ 0 := by
  obtain ⟨r, h1, _, h3 | ⟨hinv, k, hk, hk0, _⟩⟩ := mem_bridgingGraph_iff.mp h
  · rw [h3] at hi; cases hi
  · exact ⟨r, h1, hinv, k, hk, hk0⟩

end Graph

section Telescoping
variable {τ : Type}

/-- A chain of graph edges leading from `a` to `c` (any edges of `G`, parallel ones included). -/
inductive EChain (G : List (GEdge τ)) : Nat → Nat → List (GEdge τ) → Prop
  | nil (a : Nat) : EChain G a a []
  | cons {a c : Nat} {e : GEdge τ} {es : List (GEdge τ)} :
      e ∈ G → e.u = a → EChain G e.v c es → EChain G a c (e :: es)

/-- Every bridging registration is the change of frame between its two templates. -/
def Consistent (g : TGroup τ) (frame : Nat → τ) (regs : List (Reg τ)) : Prop :=
  ∀ r ∈ regs, r.kind = Kind.bridging → r.xf = g.mul (g.inv (frame r.src)) (frame r.tgt)

theorem edge_consistent (g : TGroup τ) {frame : Nat → τ} {regs : List (Reg τ)}
    (hc : Consistent g frame regs) {recip : Option Rat} {e : GEdge τ}
    (he : e ∈ bridgingGraph g.inv regs recip) :
    e.xf = g.mul (g.inv (frame e.u)) (frame e.v) := by
  obtain ⟨r, h1, h2, h3 | ⟨_, k, _, _, h3⟩⟩ := mem_bridgingGraph_iff.mp he
  · rw [h3]; exact hc r (List.mem_of_getElem? h1) h2
  · rw [h3]
    show g.inv r.xf = g.mul (g.inv (frame r.tgt)) (frame r.src)
    rw [hc r (List.mem_of_getElem? h1) h2, g.inv_mul_rev, g.inv_inv]

theorem telescope (g : TGroup τ) (frame : Nat → τ) (G : List (GEdge τ))
    (hG : ∀ e ∈ G, e.xf = g.mul (g.inv (frame e.u)) (frame e.v))
    {s t : Nat} {es : List (GEdge τ)} (h : EChain G s t es) :
    prod g (es.map (·.xf)) = g.mul (g.inv (frame s)) (frame t) := by
  induction h with
  | nil a => simp [prod_nil, g.inv_mul]
  | @cons a c e es he hu _ ih =>
    rw [List.map_cons, prod_cons, ih, hG e he, hu]
    rw [g.mul_assoc, ← g.mul_assoc (frame e.v), g.mul_inv, g.one_mul]

end Telescoping

section Pick
variable {τ : Type}

theorem mem_parallel {G : List (GEdge τ)} {a b : Nat} {e : GEdge τ} :
    e ∈ parallel G a b ↔ e ∈ G ∧ e.u = a ∧ e.v = b := by
  simp [parallel, List.mem_filter]

theorem pick_mem {G : List (GEdge τ)} {a b : Nat} {e : GEdge τ} (h : pick G a b = some e) :
    e ∈ G ∧ e.u = a ∧ e.v = b := by
  have := List.mem_of_getLast? h
  rw [List.mem_mergeSort] at this
  exact mem_parallel.mp this

theorem pick_isSome_of_hasEdge {G : List (GEdge τ)} {a b : Nat} (h : hasEdge G a b = true) :
    ∃ e, pick G a b = some e := by
  simp only [hasEdge, List.any_eq_true, Bool.and_eq_true, beq_iff_eq] at h
  obtain ⟨e, he, hu, hv⟩ := h
  have hm : e ∈ (parallel G a b).mergeSort fun x y => decide (x.weight ≤ y.weight) :=
    List.mem_mergeSort.mpr (mem_parallel.mpr ⟨he, hu, hv⟩)
  exact ⟨_, List.getLast?_eq_some_getLast (List.ne_nil_of_mem hm)⟩

theorem pathEdges_chain {G : List (GEdge τ)} {p : List Nat} {es : List (GEdge τ)} {s t : Nat}
    (h : pathEdges G p = some es) (hs : p.head? = some s) (ht : p.getLast? = some t) :
    EChain G s t es := by
  induction p generalizing es s with
  | nil => cases hs
  | cons a rest ih =>
    cases hs
    cases rest with
    | nil => cases h; cases ht; exact EChain.nil _
    | cons b rest =>
      simp only [pathEdges] at h
      split at h
      · rename_i e es' hp hes
        cases h
        obtain ⟨hm, hu, hv⟩ := pick_mem hp
        exact EChain.cons hm hu (hv ▸ ih hes rfl ht)
      · cases h

end Pick

section ViaAvoid

theorem acceptRepaired_iff (via avoid p : List Nat) :
    acceptRepaired via avoid p = true ↔ (∀ v ∈ via, v ∈ p) ∧ (∀ v ∈ avoid, v ∉ p) := by
  simp only [acceptRepaired, Bool.and_eq_true, List.all_eq_true, List.contains_eq_mem, decide_eq_true_eq,
    Bool.not_eq_true', List.any_eq_false]

theorem searchLoop_ok {accept : List Nat → Bool} {enum : List (List Nat)} {p : List Nat}
    (h : searchLoop accept enum = .ok p) : p ∈ enum ∧ accept p = true := by
  unfold searchLoop at h
  split at h
  · cases h
  · split at h
    · rename_i q hq
      cases h
      exact ⟨List.mem_of_find?_eq_some hq, List.find?_some hq⟩
    · cases h

theorem searchLoop_error {accept : List Nat → Bool} {enum : List (List Nat)} {e : FindErr}
    (h : searchLoop accept enum = .error e) : ∀ p ∈ enum, accept p = false := by
  unfold searchLoop at h
  split at h
  · intro p hp; cases hp
  · split at h
    · cases h
    · rename_i hq
      exact fun p hp => Bool.eq_false_iff.mpr (List.find?_eq_none.mp hq p hp)

theorem searchLoop_noPath {accept : List Nat → Bool} {enum : List (List Nat)}
    (h : searchLoop accept enum = .error .noPath) : enum = [] := by
  unfold searchLoop at h
  split at h
  · rfl
  · split at h <;> cases h

theorem searchLoop_error_kind {accept : List Nat → Bool} {enum : List (List Nat)} {e : FindErr}
    (h : searchLoop accept enum = .error e) : e = .noPath ∨ e = .noGood := by
  unfold searchLoop at h
  split at h
  · cases h; exact Or.inl rfl
  · split at h
    · cases h
    · cases h; exact Or.inr rfl

theorem via_or_avoid_of_not_both_empty {via avoid : List Nat} (h : ¬(via.isEmpty && avoid.isEmpty) = true) :
    via ≠ [] ∨ avoid ≠ [] := by
  rw [Bool.and_eq_true, List.isEmpty_iff, List.isEmpty_iff] at h
  exact Classical.not_and_iff_not_or_not.mp h

/-- What `find_bridging_path` returns: one of the four `ValueError`s of the template checks (only when a template is
unknown), the answer of `nx.shortest_path` when neither `via` nor `avoid` is given, the result of the loop otherwise.
(`by_cases` with `if_pos` / `if_neg`: `split` on this chain of `if`s is many times dearer.) -/
theorem findPath_cases {τ} {accept : List Nat → List Nat → List Nat → Bool} {G : List (GEdge τ)} {s t : Nat}
    {via avoid : List Nat} {sh : Option (List Nat)} {enum : List (List Nat)} {r : Except FindErr (List Nat)}
    (h : findPath accept G s t via avoid sh enum = r) :
    (∃ e, r = .error e ∧ e ≠ .noPath ∧ e ≠ .noGood ∧
      ¬(G ≠ [] ∧ s ∈ nodes G ∧ t ∈ nodes G ∧ ∀ v ∈ via, v ∈ nodes G)) ∨
    (via = [] ∧ avoid = [] ∧ r = sh.elim (.error .noPath) .ok) ∨
    ((via ≠ [] ∨ avoid ≠ []) ∧ r = searchLoop (accept via avoid) enum) := by
  subst h
  unfold findPath
  by_cases h1 : G.isEmpty = true
  · rw [if_pos h1]
    exact Or.inl ⟨_, rfl, nofun, nofun, fun k => k.1 (List.isEmpty_iff.mp h1)⟩
  rw [if_neg h1]
  by_cases h2 : (!(nodes G).contains s) = true
  · rw [if_pos h2]
    exact Or.inl ⟨_, rfl, nofun, nofun, fun k => by simp [k.2.1] at h2⟩
  rw [if_neg h2]
  by_cases h3 : (!(nodes G).contains t) = true
  · rw [if_pos h3]
    exact Or.inl ⟨_, rfl, nofun, nofun, fun k => by simp [k.2.2.1] at h3⟩
  rw [if_neg h3]
  by_cases h4 : (via.any fun v => !(nodes G).contains v) = true
  · rw [if_pos h4]
    refine Or.inl ⟨_, rfl, nofun, nofun, fun k => ?_⟩
    obtain ⟨v, hv, hn⟩ := List.any_eq_true.mp h4
    simp [k.2.2.2 v hv] at hn
  rw [if_neg h4]
  by_cases h5 : (via.isEmpty && avoid.isEmpty) = true
  · rw [if_pos h5]
    rw [Bool.and_eq_true, List.isEmpty_iff, List.isEmpty_iff] at h5
    exact Or.inr (Or.inl ⟨h5.1, h5.2, by cases sh <;> rfl⟩)
  · rw [if_neg h5]
    exact Or.inr (Or.inr ⟨via_or_avoid_of_not_both_empty h5, rfl⟩)

end ViaAvoid

section Enum
variable {τ : Type}

theorem nodupB_iff (l : List Nat) : nodupB l = true ↔ l.Nodup := by
  induction l with
  | nil => simp [nodupB]
  | cons a l ih => simp [nodupB, ih]

theorem mem_succs {G : List (GEdge τ)} {a b : Nat} : b ∈ succs G a ↔ hasEdge G a b = true := by
  simp only [succs, List.mem_map, List.mem_filter, hasEdge, List.any_eq_true, Bool.and_eq_true,
    beq_iff_eq, and_assoc]

/-- A simple path of `G` from `s` to `t` (node list). -/
def SimplePath (G : List (GEdge τ)) (s t : Nat) (p : List Nat) : Prop :=
  p.head? = some s ∧ p.getLast? = some t ∧ isChain G p = true ∧ p.Nodup

theorem pathsFrom_sound {G : List (GEdge τ)} {t : Nat} (fuel cur : Nat) (vis p : List Nat) (hcur : cur ∉ vis)
    (h : p ∈ pathsFrom G t fuel cur vis) : SimplePath G cur t p ∧ ∀ x ∈ p, x ∉ vis := by
  fun_induction pathsFrom G t fuel cur vis generalizing p with
  | case1 => cases h
  | case2 fuel vis =>
    obtain rfl := List.mem_singleton.mp h
    exact ⟨⟨rfl, rfl, rfl, List.nodup_cons.mpr ⟨List.not_mem_nil, List.nodup_nil⟩⟩, fun x hx => List.mem_singleton.mp hx ▸ hcur⟩
  | case3 fuel cur vis hct ih =>
    simp only [List.mem_flatMap, List.mem_filter, List.mem_map, Bool.not_eq_true', Bool.or_eq_false_iff,
      beq_eq_false_iff_ne, List.contains_eq_mem, decide_eq_false_iff_not] at h
    obtain ⟨n, ⟨hn, hne, hnv⟩, q, hq, rfl⟩ := h
    obtain ⟨⟨hqh, hql, hqc, hqn⟩, hqv⟩ := ih n q (fun hm => (List.mem_cons.mp hm).elim hne hnv) hq
    cases q with
    | nil => cases hqh
    | cons b q' =>
      cases hqh
      refine ⟨⟨rfl, hql, ?_, List.nodup_cons.mpr ⟨fun hm => hqv cur hm List.mem_cons_self, hqn⟩⟩, ?_⟩
      · simp only [isChain, Bool.and_eq_true]; exact ⟨mem_succs.mp hn, hqc⟩
      · intro x hx
        rcases List.mem_cons.mp hx with rfl | hx
        · exact hcur
        · exact fun hm => hqv x hx (List.mem_cons_of_mem _ hm)

theorem simplePath_self {G : List (GEdge τ)} {t : Nat} {p : List Nat} (h : SimplePath G t t p) :
    p = [t] := by
  obtain ⟨hh, hl, _, hn⟩ := h
  cases p with
  | nil => cases hh
  | cons a q =>
    cases hh
    cases q with
    | nil => rfl
    | cons b q => exact absurd (List.mem_of_getLast? (l := b :: q) hl) (List.nodup_cons.mp hn).1

theorem pathsFrom_complete {G : List (GEdge τ)} {t : Nat} (fuel cur : Nat) (vis p : List Nat)
    (hp : SimplePath G cur t p) (hv : ∀ x ∈ p, x ∉ vis) (hf : p.length ≤ fuel) :
    p ∈ pathsFrom G t fuel cur vis := by
  fun_induction pathsFrom G t fuel cur vis generalizing p with
  | case1 =>
    cases p with
    | nil => cases hp.1
    | cons _ _ => cases hf
  | case2 fuel vis => rw [simplePath_self hp]; exact List.mem_singleton_self _
  | case3 fuel cur vis hct ih =>
    obtain ⟨hh, hl, hc, hn⟩ := hp
    cases p with
    | nil => cases hh
    | cons a q =>
      cases hh
      cases q with
      | nil => exact absurd (Option.some.inj hl) hct
      | cons b q =>
        simp only [isChain, Bool.and_eq_true] at hc
        obtain ⟨hab, hnq⟩ := List.nodup_cons.mp hn
        simp only [List.mem_flatMap, List.mem_filter, List.mem_map, Bool.not_eq_true', Bool.or_eq_false_iff,
          beq_eq_false_iff_ne, List.contains_eq_mem, decide_eq_false_iff_not]
        refine ⟨b, ⟨mem_succs.mpr hc.1, fun hba => hab (hba ▸ List.mem_cons_self),
          hv b (List.mem_cons_of_mem _ List.mem_cons_self)⟩, b :: q, ?_, rfl⟩
        refine ih b (b :: q) ⟨rfl, hl, hc.2, hnq⟩ (fun x hx hm => ?_) (Nat.le_of_succ_le_succ hf)
        rcases List.mem_cons.mp hm with rfl | hm
        · exact hab hx
        · exact hv x (List.mem_cons_of_mem _ hx) hm

theorem mem_nodes {G : List (GEdge τ)} {x : Nat} : x ∈ nodes G ↔ ∃ e ∈ G, x = e.u ∨ x = e.v := by
  simp only [nodes, List.mem_eraseDups, List.mem_flatMap, List.mem_cons, List.not_mem_nil, or_false]

theorem chain_nodes {G : List (GEdge τ)} {p : List Nat} (hc : isChain G p = true)
    (h2 : 2 ≤ p.length) : ∀ x ∈ p, x ∈ nodes G := by
  induction p with
  | nil => cases h2
  | cons a q ih =>
    cases q with
    | nil => exact absurd h2 (Nat.not_succ_le_self 1)
    | cons b q =>
      simp only [isChain, Bool.and_eq_true, hasEdge, List.any_eq_true, beq_iff_eq] at hc
      obtain ⟨⟨e, he, hu, hv⟩, hc2⟩ := hc
      intro x hx
      rcases List.mem_cons.mp hx with rfl | hx
      · exact mem_nodes.mpr ⟨e, he, Or.inl hu.symm⟩
      · cases q with
        | nil => exact mem_nodes.mpr ⟨e, he, Or.inr ((List.mem_singleton.mp hx).trans hv.symm)⟩
        | cons c q => exact ih hc2 (Nat.le_add_left 2 _) x hx

/-- The fuel `(nodes G).length + 1` of `simplePaths` suffices: a simple path of two or more nodes lies in `nodes G`
without repetition, so it is no longer than `nodes G`. -/
theorem mem_simplePaths_iff {G : List (GEdge τ)} {s t : Nat} {p : List Nat} :
    p ∈ simplePaths G s t ↔ SimplePath G s t p := by
  constructor
  · intro h; exact (pathsFrom_sound _ _ _ _ List.not_mem_nil h).1
  · intro h
    apply pathsFrom_complete _ _ _ _ h (by simp)
    by_cases h2 : 2 ≤ p.length
    · have := h.2.2.2.length_le_of_subset (chain_nodes h.2.2.1 h2)
      omega
    · omega

end Enum

section Seq
variable {π : Type}

theorem scatter_map (f : π → Option π) (rows : List (Option π)) :
    scatter rows ((rows.filterMap id).map f) = rows.map (·.bind f) := by
  induction rows with
  | nil => rfl
  | cons r rows ih =>
    cases r with
    | none => exact congrArg (none :: ·) ih
    | some p => exact congrArg (f p :: ·) ih

theorem map_bind_of_all_none (f : π → Option π) (rows : List (Option π))
    (h : rows.all Option.isNone = true) : rows.map (·.bind f) = rows := by
  induction rows with
  | nil => rfl
  | cons r rows ih =>
    rw [List.all_cons, Bool.and_eq_true] at h
    cases r with
    | none => rw [List.map_cons, ih h.2]; rfl
    | some p => exact nomatch h.1

theorem seqStep_liftRow (f : π → Option π) (rows : List (Option π)) :
    seqStep rows (liftRow f) = rows.map (·.bind f) := by
  unfold seqStep
  split
  · rename_i h; exact (map_bind_of_all_none f rows h).symm
  · exact scatter_map f rows

theorem rowSeq_none (fs : List (π → Option π)) : rowSeq fs none = none := by
  induction fs with
  | nil => rfl
  | cons f fs ih => simpa [rowSeq] using ih

theorem rowSeq_append (fs gs : List (π → Option π)) (r : Option π) :
    rowSeq (fs ++ gs) r = rowSeq gs (rowSeq fs r) := by
  simp [rowSeq, List.foldl_append]

end Seq

section Cache
variable {τ : Type} [DecidableEq τ]

/-- Every memoised graph is the graph of the CURRENT records. -/
def Coherent (neg : τ → τ) (st : RegState τ) : Prop :=
  ∀ k g, cacheGet st.cache k = some g → g = bridgingGraph neg st.regs k

omit [DecidableEq τ] in
theorem coherent_empty (neg : τ → τ) : Coherent neg (RegState.empty : RegState τ) :=
  fun _ _ h => nomatch h

theorem coherent_register (neg : τ → τ) (st : RegState τ) (r : Reg τ) (sk : Bool) :
    Coherent neg (register st r sk) :=
  fun _ _ h => nomatch h

omit [DecidableEq τ] in
theorem graphCached_spec (neg : τ → τ) (st : RegState τ) (hc : Coherent neg st) (k : Option Rat) :
    (graphCached neg st k).1 = bridgingGraph neg st.regs k ∧
    (graphCached neg st k).2.regs = st.regs ∧ Coherent neg (graphCached neg st k).2 := by
  unfold graphCached
  split
  · rename_i g hg
    exact ⟨hc k g hg, rfl, hc⟩
  · refine ⟨rfl, rfl, ?_⟩
    intro k' g' h
    simp only [cacheGet] at h
    split at h
    · rename_i hk; cases h; rw [hk]
    · exact hc k' g' h

/-- Cache-free reference semantics of a history. -/
def runRef (neg : τ → τ) : List (Reg τ) → List (Op τ) → List (List (GEdge τ))
  | _, [] => []
  | regs, .reg r sk :: ops => runRef neg (register ⟨regs, []⟩ r sk).regs ops
  | regs, .query k :: ops => bridgingGraph neg regs k :: runRef neg regs ops

theorem runOps_eq_runRef (neg : τ → τ) (st : RegState τ) (hc : Coherent neg st) (ops : List (Op τ)) :
    (runOps neg st ops).1 = runRef neg st.regs ops := by
  induction ops generalizing st with
  | nil => rfl
  | cons op ops ih =>
    cases op with
    | reg r sk => exact ih _ (coherent_register neg st r sk)
    | query k =>
      obtain ⟨h1, h2, h3⟩ := graphCached_spec neg st hc k
      simp only [runOps, runRef]
      rw [ih _ h3, h1, h2]

theorem register_appends (st : RegState τ) (r : Reg τ) (sk : Bool) (h : sk = false ∨ r ∉ st.regs) :
    (register st r sk).regs = st.regs ++ [r] := by
  simp only [register]
  rcases h with h | h
  · simp [h]
  · simp [h]

end Cache

section Source
variable {τ : Type}

/-- A decision function that agrees with "all `via`, no `avoid`" on every combination of the four
facts that can occur inside the loop yields the repaired loop body.  (Inside the loop `via` or `avoid`
is given; an empty `via` is vacuously all on the path; an empty `avoid` has nothing on the path.) -/
theorem acceptOf_eq_repaired (f : Bool → Bool → Bool → Bool → Bool)
    (hf : ∀ vne allv ane anya : Bool, (vne = true ∨ ane = true) → (vne = false → allv = true) →
      (ane = false → anya = false) → f vne allv ane anya = (allv && !anya))
    (via avoid p : List Nat) (hne : via ≠ [] ∨ avoid ≠ []) :
    acceptOf f via avoid p = acceptRepaired via avoid p := by
  have nil_of : ∀ {l : List Nat}, (!l.isEmpty) = false → l = [] := fun h =>
    List.isEmpty_iff.mp ((Bool.not_eq_false' _).mp h)
  have ne : ∀ {l : List Nat}, l ≠ [] → (!l.isEmpty) = true := fun h =>
    (Bool.not_eq_true' _).mpr (List.isEmpty_eq_false_iff.mpr h)
  exact hf _ _ _ _ (hne.imp ne ne) (fun h => by rw [nil_of h]; rfl) (fun h => by rw [nil_of h]; rfl)

theorem findPathG_eq (shortcut : Bool → Bool → Bool) (accept accept' : List Nat → List Nat → List Nat → Bool)
    (hs : ∀ v a, shortcut v a = (!v && !a))
    (ha : ∀ via avoid p, (via ≠ [] ∨ avoid ≠ []) → accept via avoid p = accept' via avoid p)
    (G : List (GEdge τ)) (s t : Nat) (via avoid : List Nat) (sh : Option (List Nat)) (enum : List (List Nat)) :
    findPathG shortcut accept G s t via avoid sh enum = findPath accept' G s t via avoid sh enum := by
  unfold findPathG findPath
  rw [hs, Bool.not_not, Bool.not_not]
  refine ite_congr rfl (fun _ => rfl) fun _ => ?_
  refine ite_congr rfl (fun _ => rfl) fun _ => ?_
  refine ite_congr rfl (fun _ => rfl) fun _ => ?_
  refine ite_congr rfl (fun _ => rfl) fun _ => ?_
  refine ite_congr rfl (fun _ => rfl) fun h5 => ?_
  exact congrArg (searchLoop · enum) (funext fun p => ha via avoid p (via_or_avoid_of_not_both_empty h5))

theorem bridgingGraphOf_eq (fw : Rat → Rat) (rw' : Rat → Rat → Rat) (hfw : ∀ w, fw w = w)
    (hrw : ∀ w k, rw' w k = w * k) (neg : τ → τ) (regs : List (Reg τ)) (recip : Option Rat) :
    bridgingGraphOf fw rw' neg regs recip = bridgingGraph neg regs recip := by
  have e1 : fw = fun w => w := funext hfw
  have e2 : rw' = fun w k => w * k := funext fun w => funext fun k => hrw w k
  subst e1 e2
  rfl

theorem registerOf_eq [DecidableEq τ] (cond : Bool → Bool → Bool) (hc : ∀ s p, cond s p = (!s || !p))
    (st : RegState τ) (r : Reg τ) (sk : Bool) : registerOf cond true st r sk = register st r sk := by
  unfold registerOf register
  rw [hc]
  rfl

end Source

section Merge
variable {τ : Type} (g : TGroup τ)

/-- `a.append(b)` succeeding means: `a` now is "first `a`, then `b`". -/
def MergeSound (merge : τ → τ → Option τ) : Prop := ∀ a b c, merge a b = some c → c = g.mul a b

theorem prod_seqAppend (merge : τ → τ → Option τ) (hm : MergeSound g merge) (ts : List τ) (t : τ) :
    prod g (seqAppend merge ts t) = g.mul (prod g ts) t := by
  unfold seqAppend
  cases hl : ts.getLast? with
  | none =>
    rw [List.getLast?_eq_none_iff.mp hl]
    exact (prod_singleton g t).trans (g.one_mul t).symm
  | some l =>
    obtain ⟨ys, rfl⟩ := List.getLast?_eq_some_iff.mp hl
    dsimp only
    cases hmg : merge l t with
    | some c =>
      dsimp only
      rw [hm l t c hmg, List.dropLast_concat, prod_append, prod_append, prod_singleton, prod_singleton, g.mul_assoc]
    | none => exact (prod_append g _ _).trans (by rw [prod_singleton])

theorem prod_foldl_seqAppend (merge : τ → τ → Option τ) (hm : MergeSound g merge) (acc ts : List τ) :
    prod g (ts.foldl (seqAppend merge) acc) = g.mul (prod g acc) (prod g ts) := by
  induction ts generalizing acc with
  | nil => simp [prod_nil, g.mul_one]
  | cons t ts ih =>
    rw [List.foldl_cons, ih, prod_seqAppend g merge hm, prod_cons, g.mul_assoc]

theorem prod_seqBuildItems_aux (merge : τ → τ → Option τ) (hm : MergeSound g merge) (acc : List τ)
    (items : List (Item τ)) :
    prod g (items.foldl (seqAppendItem merge) acc) = g.mul (prod g acc) (prod g (items.flatMap Item.members)) := by
  induction items generalizing acc with
  | nil => simp [prod_nil, g.mul_one]
  | cons it items ih =>
    rw [List.foldl_cons, ih, List.flatMap_cons, prod_append]
    unfold seqAppendItem
    rw [prod_foldl_seqAppend g merge hm, g.mul_assoc]

end Merge

/-! When `-sequence` is defined: every member has a negation. -/
section NegDefined
variable {τ : Type}

theorem optAll_isSome_iff {α} (l : List (Option α)) : (optAll l).isSome = true ↔ ∀ o ∈ l, o.isSome = true := by
  induction l with
  | nil => exact ⟨fun _ _ h => (nomatch h), fun _ => rfl⟩
  | cons o l ih =>
    rw [List.forall_mem_cons]
    cases o with
    | none => exact ⟨fun h => (nomatch h), fun h => (nomatch h.1)⟩
    | some a => rw [optAll, Option.isSome_map, ih]; exact ⟨fun h => ⟨rfl, h⟩, fun h => h.2⟩

theorem optAll_map_some {α β} (f : α → β) (l : List α) : optAll (l.map fun a => some (f a)) = some (l.map f) := by
  induction l with
  | nil => rfl
  | cons a l ih => simp [optAll, ih]

theorem negSeq?_isSome_iff (neg? : τ → Option τ) (ts : List τ) :
    (negSeq? neg? ts).isSome = true ↔ ∀ t ∈ ts, (neg? t).isSome = true := by
  simp only [negSeq?, optAll_isSome_iff, List.mem_map, List.mem_reverse, forall_exists_index, and_imp,
    forall_apply_eq_imp_iff₂]

end NegDefined

end Navis.Bridge

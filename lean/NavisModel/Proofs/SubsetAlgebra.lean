import NavisModel.Proofs.AncestorLemmas
import NavisModel.Proofs.EdgeLemmas
/-!
Algebra of `subset` (C10; core Lean only): a subset depends on its keep-predicate only
through the ids of the table, subsetting twice is subsetting once, root paths inside a subset are the
kept prefix of the original root path, the roots of a subset and of the two pieces of a cut, and the subset that
keeps everything (the normal form of a table, in which a cut gives the pieces it gives in the table itself).

`classify` reads ids and parents only.  So tables are first compared with their labels erased (`eraseLabel`,
`classify_congr`), and correct labels are then forced by the rest (`classify_eq_self`, `eq_of_eraseLabel`): this is how
`subset_subset` and the exactness of the subset checker are proved.
-/
namespace Navis.Forest

theorem subset_congr {t : Table} {f g : Int → Bool} (h : ∀ i ∈ ids t, f i = g i) : subset t f = subset t g := by
  unfold subset
  rw [List.filter_congr fun n hn => h n.id (mem_ids_of_mem hn)]

def eraseLabel (n : Node) : Node := { n with label := .slab }

@[simp] theorem eraseLabel_id (n : Node) : (eraseLabel n).id = n.id := rfl
@[simp] theorem eraseLabel_parent (n : Node) : (eraseLabel n).parent = n.parent := rfl

theorem parents_map_eraseLabel (t : Table) : parents (t.map eraseLabel) = parents t := by
  unfold parents; rw [List.map_map]; rfl

theorem classify_map_eraseLabel (t : Table) : classify (t.map eraseLabel) = classify t := by
  unfold classify
  rw [List.map_map]
  apply List.map_congr_left
  intro n _
  simp only [Function.comp]
  have : classifyNode (t.map eraseLabel) (eraseLabel n) = classifyNode t n := by
    unfold classifyNode
    rw [parents_map_eraseLabel]
    rfl
  rw [this]
  rfl

theorem classify_congr {t u : Table} (h : t.map eraseLabel = u.map eraseLabel) : classify t = classify u := by
  rw [← classify_map_eraseLabel t, ← classify_map_eraseLabel u, h]

theorem classify_eq_self {t : Table} (h : labelsOKB t = true) : classify t = t := by
  unfold classify
  conv => rhs; rw [← List.map_id t]
  refine List.map_congr_left fun n hn => ?_
  rw [classifyNode_eq_labelOf, ← (labelsOKB_iff t).mp h n hn]
  rfl

theorem eq_of_eraseLabel {u v : Table} (h : u.map eraseLabel = v.map eraseLabel) (hu : labelsOKB u = true)
    (hv : labelsOKB v = true) : u = v := by
  rw [← classify_eq_self hu, ← classify_eq_self hv, classify_congr h]

theorem classify_eraseLabel (t : Table) : (classify t).map eraseLabel = t.map eraseLabel := by
  unfold classify
  rw [List.map_map]
  apply List.map_congr_left
  intro n _
  rfl

/-- What `fixOrphans` does to one row, given the id list of the table. -/
def orphanRow (I : List Int) (n : Node) : Node := if I.contains n.parent then n else { n with parent := -1 }

theorem fixOrphans_eq_map (t : Table) : fixOrphans t = t.map (orphanRow (ids t)) := rfl

@[simp] theorem orphanRow_id (I : List Int) (n : Node) : (orphanRow I n).id = n.id := by
  unfold orphanRow; split <;> rfl

theorem orphanRow_pos {I : List Int} {n : Node} (h : I.contains n.parent = true) : orphanRow I n = n := by
  unfold orphanRow; rw [if_pos h]

theorem orphanRow_neg {I : List Int} {n : Node} (h : ¬ I.contains n.parent = true) :
    orphanRow I n = { n with parent := -1 } := by
  unfold orphanRow; rw [if_neg h]

theorem orphanRow_eraseLabel (I : List Int) (n : Node) : eraseLabel (orphanRow I n) = orphanRow I (eraseLabel n) := by
  by_cases h : I.contains n.parent = true
  · rw [orphanRow_pos h, orphanRow_pos (by simpa using h)]
  · rw [orphanRow_neg h, orphanRow_neg (by simpa using h)]; rfl

theorem fixOrphans_eraseLabel (t : Table) : (fixOrphans t).map eraseLabel = fixOrphans (t.map eraseLabel) := by
  rw [fixOrphans_eq_map, fixOrphans_eq_map, List.map_map, List.map_map, ids_map_of_id eraseLabel_id]
  apply List.map_congr_left
  intro n _
  simp only [Function.comp]
  exact orphanRow_eraseLabel _ n

theorem filter_eraseLabel (t : Table) (keep : Int → Bool) :
    (t.filter fun n => keep n.id).map eraseLabel = (t.map eraseLabel).filter fun n => keep n.id := by
  rw [List.filter_map]
  rfl

theorem fixOrphans_filter_fixOrphans (a : Table) (q : Int → Bool) :
    fixOrphans ((fixOrphans a).filter fun n => q n.id) = fixOrphans (a.filter fun n => q n.id) := by
  have hcomm : (fixOrphans a).filter (fun n => q n.id) = (a.filter fun n => q n.id).map (orphanRow (ids a)) := by
    rw [fixOrphans_eq_map, List.filter_map]
    congr 1
    apply List.filter_congr
    intro n _
    simp [Function.comp]
  rw [hcomm, fixOrphans_eq_map, fixOrphans_eq_map, ids_map_of_id (orphanRow_id _), List.map_map]
  have hsub : ∀ i, i ∈ ids (a.filter fun n => q n.id) → i ∈ ids a := by
    intro i hi
    obtain ⟨n, hn, rfl⟩ := mem_ids.mp hi
    exact mem_ids_of_mem (List.mem_filter.mp hn).1
  apply List.map_congr_left
  intro n _
  simp only [Function.comp]
  generalize hD : ids (a.filter fun n => q n.id) = D at hsub
  by_cases h1 : D.contains n.parent = true
  · have h2 : (ids a).contains n.parent = true := by
      simp only [List.contains_eq_mem, decide_eq_true_eq] at h1 ⊢
      exact hsub _ h1
    rw [orphanRow_pos h2, orphanRow_pos h1]
  · rw [orphanRow_neg h1]
    by_cases h2 : (ids a).contains n.parent = true
    · rw [orphanRow_pos h2, orphanRow_neg h1]
    · rw [orphanRow_neg h2]
      -- without `WF` the id `-1` may occur, so the orphan's new parent `-1` is looked up too; either way nothing changes
      by_cases h3 : D.contains (-1 : Int) = true
      · rw [orphanRow_pos (by simpa using h3)]
      · rw [orphanRow_neg (by simpa using h3)]

theorem subset_subset (t : Table) (k1 k2 : Int → Bool) :
    subset (subset t k1) k2 = subset t fun i => k1 i && k2 i := by
  unfold subset
  apply classify_congr
  have e1 : (fixOrphans ((classify (fixOrphans (t.filter fun n => k1 n.id))).filter fun n => k2 n.id)).map eraseLabel =
      (fixOrphans ((fixOrphans (t.filter fun n => k1 n.id)).filter fun n => k2 n.id)).map eraseLabel := by
    rw [fixOrphans_eraseLabel, filter_eraseLabel, classify_eraseLabel, ← filter_eraseLabel, ← fixOrphans_eraseLabel]
  rw [e1, fixOrphans_filter_fixOrphans]
  congr 2
  rw [List.filter_filter]
  apply List.filter_congr
  intro n _
  simp [Bool.and_comm]

theorem find?_subset {t : Table} (hw : WF t) (keep : Int → Bool) {n : Node} (hn : n ∈ t) (hk : keep n.id = true) :
    ∃ m, find? (subset t keep) n.id = some m ∧
      m.parent = (if n.parent ∈ (ids t).filter keep then n.parent else -1) := by
  obtain ⟨m, hm, hmid, hmp⟩ := subset_row_of_mem hw.1 keep hn hk
  have hws := WF_subset hw keep
  have := find?_of_mem hws.1 hm
  rw [hmid] at this
  exact ⟨m, this, hmp⟩

/-- **The root path of a kept node inside a subset is the kept prefix of its original root path**: the
walk stops at the first ancestor that was not kept (which made its child a new root). -/
theorem rootPath_subset {t : Table} (hw : WF t) (keep : Int → Bool) :
    ∀ i ∈ ids t, keep i = true → rootPath (subset t keep) i = (rootPath t i).takeWhile keep := by
  have hws := WF_subset hw keep
  refine rootPath_induct hw (fun i => keep i = true → rootPath (subset t keep) i = (rootPath t i).takeWhile keep) ?_ ?_
  · intro n hn hp e hk
    obtain ⟨m, hfm, hmp⟩ := find?_subset hw keep hn hk
    have hnot : n.parent ∉ (ids t).filter keep := fun h => neg_not_mem_ids hw hp (List.mem_filter.mp h).1
    rw [if_neg hnot] at hmp
    rw [rootPath_of_root hfm (by rw [hmp]; decide), e, List.takeWhile_cons, if_pos hk, List.takeWhile_nil]
  · intro n hn hp e ih hk
    obtain ⟨m, hfm, hmp⟩ := find?_subset hw keep hn hk
    rw [e, List.takeWhile_cons, if_pos hk]
    have hpin := WF_parent_mem hw hn hp
    by_cases hkp : keep n.parent = true
    · have hin : n.parent ∈ (ids t).filter keep := List.mem_filter.mpr ⟨hpin, hkp⟩
      rw [if_pos hin] at hmp
      rw [rootPath_of_nonroot hws hfm (by rw [hmp]; exact hp), hmp, ih hkp]
    · have hnot : n.parent ∉ (ids t).filter keep := fun h => hkp (List.mem_filter.mp h).2
      rw [if_neg hnot] at hmp
      rw [rootPath_of_root hfm (by rw [hmp]; decide)]
      obtain ⟨rest, hrest⟩ := rootPath_cons hpin
      rw [hrest, List.takeWhile_cons, if_neg hkp]

theorem anc_of_anc_subset {t : Table} (hw : WF t) (keep : Int → Bool) {a i : Int}
    (h : a ∈ rootPath (subset t keep) i) : a ∈ rootPath t i ∧ keep a = true ∧ keep i = true ∧ i ∈ ids t := by
  have hi := (anc_ids h).2
  rw [ids_subset] at hi
  obtain ⟨hi1, hi2⟩ := List.mem_filter.mp hi
  rw [rootPath_subset hw keep i hi1 hi2] at h
  exact ⟨(List.takeWhile_sublist _).subset h, List.all_eq_true.mp List.all_takeWhile a h, hi2, hi1⟩

/-- When the kept ancestors of `i` form an initial piece of its root path (every node between `i` and a
kept ancestor is kept), being an ancestor inside the subset is being a kept ancestor. -/
theorem anc_subset_iff {t : Table} (hw : WF t) (keep : Int → Bool) {a i : Int} (hi : i ∈ ids t) (hk : keep i = true)
    (hconv : ∀ x ∈ rootPath t i, a ∈ rootPath t x → keep x = true) :
    a ∈ rootPath (subset t keep) i ↔ a ∈ rootPath t i ∧ keep a = true := by
  constructor
  · intro h
    obtain ⟨h1, h2, _, _⟩ := anc_of_anc_subset hw keep h
    exact ⟨h1, h2⟩
  · rintro ⟨h1, h2⟩
    -- everything met before `a` on the way up from `i` is below `a`, hence kept
    obtain ⟨A, B, e⟩ := List.append_of_mem h1
    rw [rootPath_subset hw keep i hi hk, e, List.takeWhile_append_of_pos fun x hx =>
      hconv x (e ▸ List.mem_append_left _ hx) (List.mem_of_mem_tail (below_of_before hw e hx)),
      List.takeWhile_cons_of_pos h2]
    exact List.mem_append_right _ List.mem_cons_self

theorem mem_roots_subset {t : Table} (hw : WF t) (keep : Int → Bool) {r : Int} :
    r ∈ roots (subset t keep) ↔ ∃ n ∈ t, n.id = r ∧ keep r = true ∧ (n.parent < 0 ∨ keep n.parent = false) := by
  rw [mem_roots]
  constructor
  · rintro ⟨m, hm, rfl, hp⟩
    obtain ⟨n, hn, hid, hk, _, _, _, hmp⟩ := subset_parent keep hm
    refine ⟨n, hn, hid, hid ▸ hk, ?_⟩
    by_cases hin : n.parent ∈ (ids t).filter keep
    · rw [if_pos hin] at hmp; left; rw [← hmp]; exact hp
    · by_cases hneg : n.parent < 0
      · exact Or.inl hneg
      · right
        have hpin := WF_parent_mem hw hn hneg
        cases hkp : keep n.parent with
        | false => rfl
        | true => exact absurd (List.mem_filter.mpr ⟨hpin, hkp⟩) hin
  · rintro ⟨n, hn, rfl, hk, hcase⟩
    obtain ⟨m, hm, hmid, hmp⟩ := subset_row_of_mem hw.1 keep hn hk
    refine ⟨m, hm, hmid, ?_⟩
    have hnot : n.parent ∉ (ids t).filter keep := by
      intro h
      obtain ⟨h1, h2⟩ := List.mem_filter.mp h
      rcases hcase with hc | hc
      · exact neg_not_mem_ids hw hc h1
      · rw [hc] at h2; exact absurd h2 (by decide)
    rw [if_neg hnot] at hmp
    rw [hmp]; decide

/-! ### the roots of the two pieces of a cut -/

theorem roots_proximal_perm {t : Table} (hw : WF t) (c : Int) :
    (roots (subset t (fun i => !(distalSet t c).contains i || i == c))).Perm (roots t) := by
  apply (List.perm_ext_iff_of_nodup (roots_nodup (WF_subset hw _).1) (roots_nodup hw.1)).mpr
  intro r
  rw [mem_roots_subset hw, mem_roots]
  simp only [Bool.or_eq_true, Bool.not_eq_true', List.contains_eq_mem, decide_eq_false_iff_not, beq_iff_eq, mem_distalSet,
    Bool.or_eq_false_iff, decide_eq_true_eq, Bool.not_eq_false', beq_eq_false_iff_ne, ne_eq]
  constructor
  · rintro ⟨n, hn, rfl, hk, hcase⟩
    refine ⟨n, hn, rfl, ?_⟩
    rcases hcase with h | ⟨h1, h2⟩
    · exact h
    · exfalso
      by_cases hneg : n.parent < 0
      · exact neg_not_mem_ids hw hneg h1.1
      · have hci : c ∈ rootPath t n.id := by
          rw [rootPath_of_nonroot hw (find?_of_mem hw.1 hn) hneg]
          exact List.mem_cons_of_mem _ h1.2
        rcases hk with hk | hk
        · exact hk ⟨mem_ids_of_mem hn, hci⟩
        · have := parent_not_distal hw hn hneg
          rw [hk] at this
          exact this h1.2
  · rintro ⟨n, hn, rfl, hneg⟩
    refine ⟨n, hn, rfl, ?_, Or.inl hneg⟩
    by_cases hci : c ∈ rootPath t n.id
    · right
      rw [rootPath_of_root (find?_of_mem hw.1 hn) hneg] at hci
      exact (List.mem_singleton.mp hci).symm
    · exact Or.inl fun hh => hci hh.2

theorem roots_distal_perm {t : Table} (hw : WF t) {c : Int} {nc : Node} (hf : find? t c = some nc) (hp : ¬ nc.parent < 0) :
    (roots (subset t (fun i => (distalSet t c).contains i))).Perm [c] := by
  have hnc := find?_some hf
  have hc := mem_ids_of_find? hf
  apply (List.perm_ext_iff_of_nodup (roots_nodup (WF_subset hw _).1) (by simp)).mpr
  intro r
  rw [mem_roots_subset hw]
  simp only [List.contains_eq_mem, decide_eq_true_eq, mem_distalSet, decide_eq_false_iff_not, List.mem_singleton]
  constructor
  · rintro ⟨n, hn, rfl, hk, hcase⟩
    by_cases hneg : n.parent < 0
    · have := hk.2
      rw [rootPath_of_root (find?_of_mem hw.1 hn) hneg] at this
      exact (List.mem_singleton.mp this).symm
    · rcases hcase with h | h
      · exact absurd h hneg
      · have hci := hk.2
        rw [rootPath_of_nonroot hw (find?_of_mem hw.1 hn) hneg] at hci
        rcases List.mem_cons.mp hci with h1 | h1
        · exact h1.symm
        · exact absurd ⟨WF_parent_mem hw hn hneg, h1⟩ h
  · rintro rfl
    refine ⟨nc, hnc.1, hnc.2, ⟨hc, rootPath_head_mem hc⟩, Or.inr ?_⟩
    intro hh
    have := parent_not_distal hw hnc.1 hp
    rw [hnc.2] at this
    exact this hh.2

/-! ### a subset that keeps everything: the normal form of a table -/

theorem distalSet_subset_all {t : Table} (hw : WF t) {k : Int → Bool} (hk : ∀ i ∈ ids t, k i = true) (c : Int) :
    distalSet (subset t k) c = distalSet t c := by
  have hids : ids (subset t k) = ids t := by
    rw [ids_subset]; exact List.filter_eq_self.mpr hk
  unfold distalSet isAncestorOrSelf
  rw [hids]
  apply List.filter_congr
  intro i hi
  rw [rootPath_subset hw k i hi (hk i hi), takeWhile_all fun x hx => hk x (rootPath_sub hx)]

theorem subset_subset_all {t : Table} {k : Int → Bool} (hk : ∀ i ∈ ids t, k i = true) (f : Int → Bool) :
    subset (subset t k) f = subset t f := by
  rw [subset_subset]
  exact subset_congr fun i hi => by rw [hk i hi, Bool.true_and]

theorem cut_subset_all {t : Table} (hw : WF t) {k : Int → Bool} (hk : ∀ i ∈ ids t, k i = true) {c : Int}
    {d p : Table} (h : cut (subset t k) c = some (d, p)) : cut t c = some (d, p) := by
  obtain ⟨rfl, rfl, nc, hfc, hp⟩ := cut_some h
  have hcs : c ∈ ids (subset t k) := mem_ids_of_find? hfc
  rw [ids_subset] at hcs
  obtain ⟨n, hn, hid⟩ := mem_ids.mp (List.mem_filter.mp hcs).1
  obtain ⟨m, hfm, hmp⟩ := find?_subset hw k hn (by rw [hid]; exact (List.mem_filter.mp hcs).2)
  rw [hid, hfc] at hfm
  rw [(Option.some.inj hfm).symm] at hmp
  have hpn : ¬ n.parent < 0 := by
    by_cases hin : n.parent ∈ (ids t).filter k
    · rw [if_pos hin] at hmp; rw [← hmp]; exact hp
    · rw [if_neg hin] at hmp; rw [hmp] at hp; exact absurd (by decide) hp
  have hfn := find?_of_mem hw.1 hn
  rw [hid] at hfn
  rw [cut_of_find hfn hpn, subset_subset_all hk, subset_subset_all hk, distalSet_subset_all hw hk]

end Navis.Forest

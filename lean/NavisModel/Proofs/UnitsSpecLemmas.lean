import NavisModel.Model.UnitsSpec
/-! C15: interpreting the extracted operator table gives the hand-written model operators. -/
namespace Navis.Units
open Navis.Gen.Units (OpFact)

theorem applyFact_core (f : OpFact) (n : Neuron) (a : Factor) (p : Int) :
    applyFact f n a p = applyFact (factCore f).toFact n a p := by
  cases f; rfl

theorem v3op_mul (a b : V3) : v3op (fun x y => x * y) a b = a.mul b := rfl
theorem v3op_div (a b : V3) : v3op (fun x y => x / y) a b = a.div b := rfl
theorem v3op_add (a b : V3) : v3op (fun x y => x + y) a b = a.add b := rfl
theorem v3op_sub (a b : V3) : v3op (fun x y => x - y) a b = a.sub b := rfl

def RadiiOnlyOnTrees (n : Neuron) : Prop := n.kind ≠ .tree → n.radii = []

theorem factAccepts_expected (k : Kind) (op : OpK) (a : Factor) :
    factAccepts (expectedCore k op).toFact a = if op.scaling then acceptsScale k a else acceptsShift a := by
  cases k <;> cases op <;> cases a <;> rfl

/-! `applyFact` guards with `if !(A && B) then none else some x`, which `simp` turns into a test of `A = false ∨ B = false`; the
model operators have `if A && B then some x else none`. -/

theorem ite_none_some_or {α : Type} (A B : Bool) (x : α) :
    (if A = false ∨ B = false then none else some x) = if A = true ∧ B = true then some x else none := by
  cases A <;> cases B <;> rfl

theorem ite_none_some {α : Type} (A : Bool) (x : α) :
    (if A = false then none else some x) = if A = true then some x else none := by
  cases A <;> rfl

theorem expected_is_model (k : Kind) (op : OpK) (n : Neuron) (a : Factor) (p : Int) (hk : n.kind = k)
    (hr : RadiiOnlyOnTrees n) : applyFact (expectedCore k op).toFact n a p = modelOp op n a p := by
  subst hk
  unfold applyFact
  rw [factAccepts_expected]
  unfold RadiiOnlyOnTrees at hr
  -- what is left is to run the interpreter on each of the 16 closed rows; those of the classes without a `radius`
  -- column leave `n.radii` alone where the model maps over it: it is empty by `hr`
  cases hkk : n.kind <;> cases op <;>
    simp [hkk, hr, expectedCore, OpCore.toFact, binop, OpK.name, OpK.sym, OpK.inv, OpK.scaling, v3op_mul, v3op_div,
      v3op_add, v3op_sub, modelOp, mul, div, add, sub, ite_none_some_or, ite_none_some]

theorem expectedCore_cls (k : Kind) (op : OpK) : (expectedCore k op).cls = clsOf k ∧ (expectedCore k op).op = op.name := by
  cases k <;> exact ⟨rfl, rfl⟩

theorem clsOf_inj {a b : Kind} (h : clsOf a = clsOf b) : a = b := by
  cases a <;> cases b <;> first | rfl | (exact absurd h (by decide))

theorem opName_inj {a b : OpK} (h : a.name = b.name) : a = b := by
  cases a <;> cases b <;> first | rfl | (exact absurd h (by decide))

theorem mem_expectedTable {c : OpCore} (h : c ∈ expectedTable) : ∃ k op, c = expectedCore k op := by
  simp only [expectedTable, allKinds, allOps, List.mem_flatMap, List.mem_map, List.mem_cons, List.not_mem_nil,
    or_false] at h
  obtain ⟨k, _, op, _, rfl⟩ := h
  exact ⟨k, op, rfl⟩

theorem expectedCore_mem (k : Kind) (op : OpK) : expectedCore k op ∈ expectedTable :=
  List.mem_flatMap.mpr ⟨k, by cases k <;> decide, List.mem_map_of_mem (by cases op <;> decide)⟩

/-- a row of a table whose semantic fields are the expected ones acts as the hand-written model operator -/
theorem table_rows_are_model {facts : List OpFact} (ht : facts.map factCore = expectedTable) {f : OpFact} (hf : f ∈ facts)
    {k : Kind} {op : OpK} (hc : f.cls = clsOf k) (ho : f.op = op.name) (n : Neuron) (a : Factor) (p : Int)
    (hk : n.kind = k) (hr : RadiiOnlyOnTrees n) : applyFact f n a p = modelOp op n a p := by
  have hm : factCore f ∈ expectedTable := by rw [← ht]; exact List.mem_map_of_mem hf
  obtain ⟨k', op', he⟩ := mem_expectedTable hm
  obtain ⟨e1, e2⟩ := expectedCore_cls k' op'
  have hk' : k' = k := clsOf_inj (by rw [← e1, ← he]; exact hc)
  have ho' : op' = op := opName_inj (by rw [← e2, ← he]; exact ho)
  subst hk' ho'
  rw [applyFact_core, he]
  exact expected_is_model _ _ n a p hk hr

end Navis.Units

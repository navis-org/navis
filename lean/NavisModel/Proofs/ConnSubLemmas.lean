import NavisModel.Model.ConnSub
import NavisModel.Proofs.SubsetAlgebra
import NavisModel.Proofs.ListLemmas
/-!
Helper lemmas for `connected_subgraph` / `subset_neuron(prevent_fragments=True)` (C10, core Lean only).

`a ∈ rootPath t d` reads "`a` is an ancestor-or-self of `d`" (`Proofs/AncestorLemmas.lean`).  The main result,
`connSub_spec`, describes the node set computed by `connectedSubgraph` tree by tree: it is the union of the tree paths from the in-subset
leafs up to one *apex* node per tree (the new root), every node on these paths is either requested or lies
below-or-at the lowest common ancestor of the leafs, and every requested node is on one of them.

From there to `subset_neuron(prevent_fragments=True)`: a kept node whose parent is not kept is a *top* (`IsTopOf`; these are
the roots of the subset, `subset_root_top` / `subset_top_root`), a set is `TreeConnected` if it has at most one top per tree, the
new roots are tops of the included set (`connSub_newRoots`) — which is why the reroot navis performs after the subset
changes nothing (`Props.C10.prevent_fragments_is_subset`).
-/
namespace Navis.Forest

theorem mem_ssLeafs {t : Table} {ss : List Int} {l : Int} :
    l ∈ ssLeafs t ss ↔ l ∈ ids t ∧ l ∈ ss ∧ ∀ c ∈ t, c.parent = l → c.id ∉ ss := by
  unfold ssLeafs children
  simp only [List.mem_filter, Bool.and_eq_true, List.contains_eq_mem, decide_eq_true_eq, Bool.not_eq_true',
    List.any_eq_false, List.mem_map, beq_iff_eq]
  constructor
  · rintro ⟨h1, h2, h3⟩
    exact ⟨h1, h2, fun c hc hcp hcs => h3 c.id ⟨c, ⟨hc, hcp⟩, rfl⟩ hcs⟩
  · rintro ⟨h1, h2, h3⟩
    refine ⟨h1, h2, ?_⟩
    rintro x ⟨c, ⟨hc, hcp⟩, rfl⟩
    exact h3 c hc hcp

theorem exists_ssLeaf_below {t : Table} (hw : WF t) (ss : List Int) :
    ∀ s ∈ ids t, s ∈ ss →
      ∃ l ∈ ssLeafs t ss, s ∈ rootPath t l ∧ ∀ x ∈ rootPath t l, s ∈ rootPath t x → x ∈ ss := by
  intro s hs hss
  obtain ⟨l, hl, hlow, hsl, hchain⟩ := exists_lowest_below hw (· ∈ ss) s hs hss
  exact ⟨l, mem_ssLeafs.mpr ⟨(anc_ids hsl).2, hl, fun c hc hcp => hlow c.id (mem_children.mpr ⟨c, hc, hcp, rfl⟩)⟩,
    hsl, hchain⟩

theorem longestPath_mem {ps : List (List Int)} (h : ps ≠ []) : longestPath ps ∈ ps := by
  cases ps with
  | nil => exact absurd rfl h
  | cons p ps =>
    unfold longestPath
    rw [List.foldl_cons]
    simp only [List.length_nil, Nat.zero_le, if_true]
    refine foldl_mem_of_sel _ (fun a b => ?_) ps p
    exact (ite_cases _ _ _).symm

theorem inAll_map {t : Table} (L : List Int) (x : Int) :
    inAll (L.map (rootPath t)) x = true ↔ ∀ l ∈ L, x ∈ rootPath t l := by
  simp [inAll, List.all_eq_true]

/-- The first common node of the leaf paths of one tree is their lowest common ancestor: it is on every
path, and every node that is on every path is an ancestor-or-self of it. -/
theorem firstCommon_spec {t : Table} (hw : WF t) {r : Int} (L : List Int) (hL : L ≠ [])
    (hLr : ∀ l ∈ L, rootOf t l = some r) :
    ∃ fc l0, l0 ∈ L ∧ longestPath (L.map (rootPath t)) = rootPath t l0 ∧
      firstCommon (L.map (rootPath t)) = some fc ∧ (∀ l ∈ L, fc ∈ rootPath t l) ∧
      ∀ x, (∀ l ∈ L, x ∈ rootPath t l) → x ∈ rootPath t fc := by
  have hne : L.map (rootPath t) ≠ [] := by simpa using hL
  obtain ⟨l0, hl0, e0⟩ := List.mem_map.mp (longestPath_mem hne)
  cases hfind : (rootPath t l0).find? (inAll (L.map (rootPath t))) with
  | none =>
    exfalso
    rw [List.find?_eq_none] at hfind
    apply hfind r (root_mem_of_rootOf (hLr l0 hl0))
    rw [inAll_map]
    intro l hl
    exact root_mem_of_rootOf (hLr l hl)
  | some fc =>
    obtain ⟨_, h2, h3⟩ := find?_rootPath hw _ hfind
    refine ⟨fc, l0, hl0, e0.symm, ?_, (inAll_map L fc).mp h2, ?_⟩
    · unfold firstCommon
      rw [List.head?_filter, ← e0, hfind]
    · intro x hx
      exact h3 x (hx l0 hl0) ((inAll_map L x).mpr hx)

/-- What one walk adds, on lists: the stretch `pre` before the first node `s` that is included already or is `fc`, and
`s` itself (new only if it is `fc`). -/
theorem mem_collectPath_append {fc s : Int} {post : List Int} : ∀ {pre inc : List Int}, (pre ++ [s]).Nodup →
    (∀ n ∈ pre, n ∉ inc ∧ n ≠ fc) → (s ∈ inc ∨ s = fc) →
    ∀ x, x ∈ collectPath fc inc (pre ++ s :: post) ↔ x ∈ inc ∨ x ∈ pre ∨ x = s := by
  intro pre
  induction pre with
  | nil =>
    intro inc _ _ hs x
    rw [List.nil_append, collectPath]
    simp only [List.not_mem_nil, false_or]
    by_cases hin : inc.contains s = true
    · rw [if_pos hin]
      exact ⟨Or.inl, fun h => h.elim id fun e => e ▸ List.contains_iff_mem.mp hin⟩
    · rw [if_neg hin, if_pos (hs.resolve_left fun h => hin (List.contains_iff_mem.mpr h)), List.mem_cons]
      exact or_comm
  | cons n pre ih =>
    intro inc hnd hpre hs x
    obtain ⟨hn1, hn2⟩ := hpre n List.mem_cons_self
    rw [List.cons_append, List.nodup_cons] at hnd
    rw [List.cons_append, collectPath, if_neg (fun h => hn1 (List.contains_iff_mem.mp h)), if_neg hn2,
      ih hnd.2 (fun m hm => ⟨fun h => (List.mem_cons.mp h).elim
          (fun e => hnd.1 (by rw [← e]; exact List.mem_append_left _ hm)) (hpre m (List.mem_cons_of_mem _ hm)).1,
        (hpre m (List.mem_cons_of_mem _ hm)).2⟩) (hs.imp_left (List.mem_cons_of_mem _))]
    simp only [List.mem_cons]
    exact or_assoc.trans (or_left_comm.trans (or_congr_right or_assoc.symm))

/-- `inc` is closed upwards below `fc`: with a node it holds every ancestor of that node that lies below-or-at `fc`. -/
def UpTo (t : Table) (fc : Int) (inc : List Int) : Prop :=
  ∀ y ∈ inc, ∀ x ∈ rootPath t y, fc ∈ rootPath t x → x ∈ inc

/-- Walking one leaf path (`collectPath`) adds exactly the nodes from the leaf up to the first common node: the walk
takes the stretch of the root path up to the first node `s` that is included already or is `fc`; what lies between `s`
and `fc` is included already because the included set is closed upwards below `fc`. -/
theorem collectPath_spec {t : Table} (hw : WF t) (fc : Int) {cur : Int} (hfc : fc ∈ rootPath t cur) {inc : List Int}
    (hU : UpTo t fc inc) :
    UpTo t fc (collectPath fc inc (rootPath t cur)) ∧
    ∀ x, x ∈ collectPath fc inc (rootPath t cur) ↔ x ∈ inc ∨ (x ∈ rootPath t cur ∧ fc ∈ rootPath t x) := by
  have key : ∀ x, x ∈ collectPath fc inc (rootPath t cur) ↔ x ∈ inc ∨ (x ∈ rootPath t cur ∧ fc ∈ rootPath t x) := by
    cases hfind : (rootPath t cur).find? (fun n => inc.contains n || n == fc) with
    | none => exact absurd (List.find?_eq_none.mp hfind fc hfc) (by simp)
    | some s =>
      obtain ⟨hps, pre, post, hsplit, hpre⟩ := List.find?_eq_some_iff_append.mp hfind
      have hs : s ∈ inc ∨ s = fc := by simpa using hps
      have hpre' : ∀ n ∈ pre, n ∉ inc ∧ n ≠ fc := fun n hn => by simpa using hpre n hn
      have hnd := hsplit ▸ rootPath_nodup hw cur
      have hss := rootPath_split hw hsplit
      have hfp : fc ∈ s :: post :=
        (List.mem_append.mp (hsplit ▸ hfc)).resolve_left fun h => (hpre' fc h).2 rfl
      intro x
      rw [hsplit, mem_collectPath_append (by rw [List.append_cons] at hnd; exact (List.nodup_append.mp hnd).1) hpre' hs]
      constructor
      · rintro (h | h | rfl)
        · exact Or.inl h
        · exact Or.inr ⟨List.mem_append_left _ h,
            anc_trans hw (hss ▸ hfp) (List.mem_of_mem_tail (below_of_before hw hsplit h))⟩
        · exact hs.imp id fun e => ⟨List.mem_append_right _ List.mem_cons_self, by rw [← e, hss]; exact List.mem_cons_self⟩
      · rintro (h | ⟨hx, hfx⟩)
        · exact Or.inl h
        · rcases List.mem_append.mp hx with h | h
          · exact Or.inr (Or.inl h)
          · rcases List.mem_cons.mp h with e | h
            · exact Or.inr (Or.inr e)
            · -- `x` lies strictly above `s`
              have hxs : x ∈ rootPath t s := hss ▸ List.mem_cons_of_mem _ h
              rcases hs with hsin | rfl
              · exact Or.inl (hU s hsin x hxs hfx)
              · rw [anc_antisymm hw hxs hfx] at h
                exact absurd h (List.nodup_cons.mp (List.nodup_append.mp hnd).2.1).1
  refine ⟨fun y hy x hx hfx => (key x).mpr ?_, key⟩
  rcases (key y).mp hy with h | ⟨h1, _⟩
  · exact Or.inl (hU y h x hx hfx)
  · exact Or.inr ⟨anc_trans hw hx h1, hfx⟩

theorem collectAll_spec {t : Table} (hw : WF t) (fc : Int) :
    ∀ (L : List Int), (∀ l ∈ L, fc ∈ rootPath t l) → ∀ inc, UpTo t fc inc →
      UpTo t fc (collectAll fc inc (L.map (rootPath t))) ∧
      ∀ x, x ∈ collectAll fc inc (L.map (rootPath t)) ↔
        x ∈ inc ∨ ∃ l ∈ L, x ∈ rootPath t l ∧ fc ∈ rootPath t x := by
  intro L
  induction L with
  | nil =>
    intro _ inc hc
    exact ⟨hc, fun x => by simp [collectAll]⟩
  | cons l L ih =>
    intro hL inc hc
    obtain ⟨h1, h2⟩ := collectPath_spec hw fc (hL l List.mem_cons_self) hc
    obtain ⟨h3, h4⟩ := ih (fun l' hl' => hL l' (List.mem_cons_of_mem _ hl')) _ h1
    have e : collectAll fc inc ((l :: L).map (rootPath t)) =
        collectAll fc (collectPath fc inc (rootPath t l)) (L.map (rootPath t)) := by
      simp [collectAll]
    rw [e]
    refine ⟨h3, fun x => ?_⟩
    rw [h4 x, h2 x]
    simp only [List.mem_cons, or_and_right, exists_or, exists_eq_left, or_assoc]

/-- The in-subset leafs of the tree rooted at `r`. -/
def treeLeafs (t : Table) (ss : List Int) (r : Int) : List Int := (ssLeafs t ss).filter (inTree t r)

theorem inTree_iff {t : Table} {r i : Int} : inTree t r i = true ↔ rootOf t i = some r := by
  unfold inTree; exact beq_iff_eq

theorem inTree_eq_false_iff {t : Table} {r i : Int} : inTree t r i = false ↔ rootOf t i ≠ some r := by
  unfold inTree; exact beq_eq_false_iff_ne

theorem leafPaths_eq (t : Table) (ss : List Int) (r : Int) :
    leafPaths t (ssLeafs t ss) r = (treeLeafs t ss r).map (rootPath t) := rfl

theorem mem_treeLeafs {t : Table} {ss : List Int} {r l : Int} :
    l ∈ treeLeafs t ss r ↔ l ∈ ssLeafs t ss ∧ rootOf t l = some r := by
  unfold treeLeafs; rw [List.mem_filter, inTree_iff]

theorem rootOf_treeLeaf {t : Table} (hw : WF t) {ss : List Int} {r l x : Int} (hl : l ∈ treeLeafs t ss r)
    (hx : x ∈ rootPath t l) : rootOf t x = some r := by
  rw [rootOf_of_mem_rootPath hw hx]; exact (mem_treeLeafs.mp hl).2

theorem mem_restOf {t : Table} {ss : List Int} {r : Int} {inc : List Int} {x : Int} :
    x ∈ restOf t ss r inc ↔ x ∈ ids t ∧ x ∈ ss ∧ inTree t r x = true ∧ x ∉ inc := by
  simp [restOf, and_assoc]

/-- What one component contributes, in terms of its *apex* `a` (the new root): `a` is a common ancestor of
all in-subset leafs of the tree; every requested node of the tree is on a path leaf → `a`; and a node on
such a path is either requested itself or has no proper descendant that is common to all leaf paths
(i.e. it lies below-or-at the lowest common ancestor of the leafs). -/
structure TreeSpec (t : Table) (ss : List Int) (r a : Int) : Prop where
  common : ∀ l ∈ treeLeafs t ss r, a ∈ rootPath t l
  covers : ∀ s ∈ ss, s ∈ ids t → inTree t r s = true →
    ∃ l ∈ treeLeafs t ss r, s ∈ rootPath t l ∧ a ∈ rootPath t s
  minimal : ∀ x, (∃ l ∈ treeLeafs t ss r, x ∈ rootPath t l ∧ a ∈ rootPath t x) →
    x ∈ ss ∨ ∀ d, x ∈ rootPath t d → d ≠ x → ∃ l' ∈ treeLeafs t ss r, d ∉ rootPath t l'

theorem ccStep_nil {t : Table} {ss : List Int} {r : Int} (st : List Int × List Int) (h : treeLeafs t ss r = []) :
    ccStep t ss (ssLeafs t ss) st r = st := by
  unfold ccStep
  rw [leafPaths_eq, h]
  rfl

theorem ccStep_spec {t : Table} (hw : WF t) {ss : List Int} (r : Int) (st : List Int × List Int)
    (hst : ∀ y ∈ st.1, inTree t r y = false) (hL : treeLeafs t ss r ≠ []) :
    ∃ a, TreeSpec t ss r a ∧ (ccStep t ss (ssLeafs t ss) st r).2 = st.2 ++ [a] ∧
      ∀ x, x ∈ (ccStep t ss (ssLeafs t ss) st r).1 ↔
        x ∈ st.1 ∨ ∃ l ∈ treeLeafs t ss r, x ∈ rootPath t l ∧ a ∈ rootPath t x := by
  have hLr : ∀ l ∈ treeLeafs t ss r, rootOf t l = some r := fun l hl => (mem_treeLeafs.mp hl).2
  obtain ⟨fc, l0, hl0, elong, efc, hF1, hF2⟩ := firstCommon_spec hw _ hL hLr
  have hfcr : rootOf t fc = some r := rootOf_treeLeaf hw hl0 (hF1 l0 hl0)
  have hcl : UpTo t fc st.1 := by
    intro y hy x hx hfx
    have h1 : rootOf t y = some r := by
      rw [← rootOf_of_mem_rootPath hw hx, ← rootOf_of_mem_rootPath hw hfx]; exact hfcr
    exact absurd h1 (inTree_eq_false_iff.mp (hst y hy))
  obtain ⟨_, hinc⟩ := collectAll_spec hw fc _ hF1 st.1 hcl
  have estep : ccStep t ss (ssLeafs t ss) st r =
      ccFinish t ss r (rootPath t l0) fc (collectAll fc st.1 ((treeLeafs t ss r).map (rootPath t))) st.2 := by
    have hne : ((treeLeafs t ss r).map (rootPath t)).isEmpty = false := by
      rw [List.isEmpty_eq_false_iff]; exact fun h => hL (List.map_eq_nil_iff.mp h)
    unfold ccStep
    rw [leafPaths_eq, hne, efc, elong]
    rfl
  rw [estep]
  generalize collectAll fc st.1 ((treeLeafs t ss r).map (rootPath t)) = inc at hinc ⊢
  -- a requested node not yet included lies strictly above `fc`, and everything between it and `fc` is requested
  have hF3 : ∀ x ∈ restOf t ss r inc, x ≠ fc ∧ x ∈ rootPath t fc ∧
      (∀ z ∈ rootPath t fc, x ∈ rootPath t z → z ∈ ss) ∧ ∃ l ∈ treeLeafs t ss r, x ∈ rootPath t l := by
    intro x hx
    obtain ⟨hxi, hxs, hxt, hxn⟩ := mem_restOf.mp hx
    obtain ⟨l, hl, hxl, hchain⟩ := exists_ssLeaf_below hw ss x hxi hxs
    have hlL : l ∈ treeLeafs t ss r :=
      mem_treeLeafs.mpr ⟨hl, by rw [← rootOf_of_mem_rootPath hw hxl]; exact inTree_iff.mp hxt⟩
    rcases anc_comparable hw (hF1 l hlL) hxl with h | h
    · exact absurd ((hinc x).mpr (Or.inr ⟨l, hlL, hxl, h⟩)) hxn
    · refine ⟨?_, h, ?_, l, hlL, hxl⟩
      · intro he
        apply hxn
        rw [hinc]
        exact Or.inr ⟨l, hlL, hxl, by rw [he]; exact rootPath_head_mem (anc_ids h).2⟩
      · intro z hz hxz
        exact hchain z (anc_trans hw hz (hF1 l hlL)) hxz
  have hmin : ∀ x, fc ∈ rootPath t x → ∀ d, x ∈ rootPath t d → d ≠ x →
      ∃ l' ∈ treeLeafs t ss r, d ∉ rootPath t l' := by
    intro x hfx d hxd hne
    apply Classical.byContradiction
    intro hno
    -- otherwise `d` is common to all leaf paths, hence above `fc`, hence equal to `x`
    have h1 := hF2 d fun l' hl' => Classical.byContradiction fun h => hno ⟨l', hl', h⟩
    have e1 : d = fc := anc_antisymm hw h1 (anc_trans hw hfx hxd)
    rw [e1] at hxd hne
    exact hne (anc_antisymm hw hfx hxd)
  -- an included node of this tree lies on a leaf path above `fc`
  have hcov : ∀ s ∈ inc, inTree t r s = true → ∃ l ∈ treeLeafs t ss r, s ∈ rootPath t l ∧ fc ∈ rootPath t s := by
    intro s hsin hst'
    rcases (hinc s).mp hsin with h | h
    · rw [hst s h] at hst'; cases hst'
    · exact h
  unfold ccFinish
  by_cases hre : (restOf t ss r inc).isEmpty = true
  · rw [if_pos hre]
    have hnil : restOf t ss r inc = [] := List.isEmpty_iff.mp hre
    refine ⟨fc, ⟨hF1, ?_, ?_⟩, rfl, hinc⟩
    · intro s hs hsi hst'
      refine hcov s (Classical.byContradiction fun hn => ?_) hst'
      have : s ∈ restOf t ss r inc := mem_restOf.mpr ⟨hsi, hs, hst', hn⟩
      rw [hnil] at this
      cases this
    · rintro x ⟨l, hl, hx, hfx⟩
      exact Or.inr (hmin x hfx)
  · rw [if_neg hre]
    obtain ⟨x0, hx0⟩ : ∃ x0, x0 ∈ restOf t ss r inc := by
      cases h : restOf t ss r inc with
      | nil => rw [h] at hre; simp at hre
      | cons a l => exact ⟨a, List.mem_cons_self⟩
    have hfl0 := hF1 l0 hl0
    cases hlast : ((rootPath t l0).filter fun x => (restOf t ss r inc).contains x).getLast? with
    | none =>
      exfalso
      have hnil := List.getLast?_eq_none_iff.mp hlast
      have := List.filter_eq_nil_iff.mp hnil x0 (anc_trans hw (hF3 x0 hx0).2.1 hfl0)
      simp at this
      exact this hx0
    | some a =>
      obtain ⟨ha0, hap, hatop⟩ := getLast?_filter_rootPath hw _ hlast
      have har : a ∈ restOf t ss r inc := by simpa using hap
      obtain ⟨hane, hafc, hachain, _⟩ := hF3 a har
      have hnr : newRootOf (rootPath t l0) (restOf t ss r inc) fc = a := by
        unfold newRootOf
        rw [hlast]
        rfl
      rw [hnr]
      have htop : ∀ x ∈ restOf t ss r inc, a ∈ rootPath t x := by
        intro x hx
        exact hatop x (anc_trans hw (hF3 x hx).2.1 hfl0) (by simpa using hx)
      refine ⟨a, ⟨?_, ?_, ?_⟩, rfl, ?_⟩
      · intro l hl
        exact anc_trans hw hafc (hF1 l hl)
      · intro s hs hsi hst'
        by_cases hsin : s ∈ inc
        · obtain ⟨l, hl, h1, h2⟩ := hcov s hsin hst'
          exact ⟨l, hl, h1, anc_trans hw hafc h2⟩
        · have hsr := mem_restOf.mpr ⟨hsi, hs, hst', hsin⟩
          obtain ⟨_, _, _, l, hl, hsl⟩ := hF3 s hsr
          exact ⟨l, hl, hsl, htop s hsr⟩
      · rintro x ⟨l, hl, hx, hax⟩
        rcases anc_comparable hw (hF1 l hl) hx with h | h
        · exact Or.inr (hmin x h)
        · exact Or.inl (hachain x h hax)
      · intro x
        show x ∈ restOf t ss r inc ++ inc ↔ _
        rw [List.mem_append, hinc x]
        constructor
        · rintro (h | h | ⟨l, hl, h1, h2⟩)
          · obtain ⟨_, _, _, l, hl, hxl⟩ := hF3 x h
            exact Or.inr ⟨l, hl, hxl, htop x h⟩
          · exact Or.inl h
          · exact Or.inr ⟨l, hl, h1, anc_trans hw hafc h2⟩
        · rintro (h | ⟨l, hl, h1, h2⟩)
          · exact Or.inr (Or.inl h)
          · rcases anc_comparable hw (hF1 l hl) h1 with h | h
            · exact Or.inr (Or.inr ⟨l, hl, h1, h⟩)
            · by_cases hxin : x ∈ inc
              · exact Or.inr ((hinc x).mp hxin)
              · exact Or.inl (mem_restOf.mpr ⟨(anc_ids h1).1, hachain x h h2, inTree_iff.mpr (rootOf_treeLeaf hw hl h1), hxin⟩)

theorem ccStep_fold_spec {t : Table} (hw : WF t) {ss : List Int} :
    ∀ (rs : List Int), rs.Nodup → ∀ st : List Int × List Int, (∀ y ∈ st.1, ∀ r ∈ rs, inTree t r y = false) →
      ∃ ap : Int → Int,
        (∀ r ∈ rs, treeLeafs t ss r ≠ [] → TreeSpec t ss r (ap r)) ∧
        (rs.foldl (ccStep t ss (ssLeafs t ss)) st).2 =
          st.2 ++ (rs.filter fun r => !(treeLeafs t ss r).isEmpty).map ap ∧
        ∀ x, x ∈ (rs.foldl (ccStep t ss (ssLeafs t ss)) st).1 ↔
          x ∈ st.1 ∨ ∃ r ∈ rs, ∃ l ∈ treeLeafs t ss r, x ∈ rootPath t l ∧ ap r ∈ rootPath t x := by
  intro rs
  induction rs with
  | nil =>
    intro _ st _
    exact ⟨fun _ => 0, by simp, by simp, by simp⟩
  | cons r rs ih =>
    intro hnd st hst
    have hnd' := List.nodup_cons.mp hnd
    rw [List.foldl_cons]
    by_cases hL : treeLeafs t ss r = []
    · rw [ccStep_nil st hL]
      obtain ⟨ap, h1, h2, h3⟩ := ih hnd'.2 st (fun y hy r' hr' => hst y hy r' (List.mem_cons_of_mem _ hr'))
      refine ⟨ap, List.forall_mem_cons.mpr ⟨fun hne => absurd hL hne, h1⟩, ?_, ?_⟩
      · rw [h2, List.filter_cons]
        simp [hL]
      · intro x
        rw [h3 x]
        constructor
        · rintro (h | ⟨r', hr', h⟩)
          · exact Or.inl h
          · exact Or.inr ⟨r', List.mem_cons_of_mem _ hr', h⟩
        · rintro (h | ⟨r', hr', l, hl, h⟩)
          · exact Or.inl h
          · rcases List.mem_cons.mp hr' with he | he
            · rw [he, hL] at hl; simp at hl
            · exact Or.inr ⟨r', he, l, hl, h⟩
    · obtain ⟨a, hspec, hnr, hmem⟩ := ccStep_spec hw r st (fun y hy => hst y hy r List.mem_cons_self) hL
      have hst' : ∀ y ∈ (ccStep t ss (ssLeafs t ss) st r).1, ∀ r' ∈ rs, inTree t r' y = false := by
        intro y hy r' hr'
        rcases (hmem y).mp hy with h | ⟨l, hl, h1, _⟩
        · exact hst y h r' (List.mem_cons_of_mem _ hr')
        · rw [inTree_eq_false_iff, rootOf_treeLeaf hw hl h1]
          exact fun he => hnd'.1 (Option.some.inj he ▸ hr')
      obtain ⟨ap, h1, h2, h3⟩ := ih hnd'.2 _ hst'
      have hap : ∀ q ∈ rs, (if q = r then a else ap q) = ap q := by
        intro q hq
        have : q ≠ r := fun he => hnd'.1 (he ▸ hq)
        rw [if_neg this]
      refine ⟨fun q => if q = r then a else ap q, ?_, ?_, ?_⟩
      · intro r' hr' hne
        rcases List.mem_cons.mp hr' with h | h
        · simp only [h, if_true]; exact hspec
        · simp only [hap r' h]; exact h1 r' h hne
      · rw [h2, hnr, List.filter_cons]
        have hb : (!(treeLeafs t ss r).isEmpty) = true := by
          rw [List.isEmpty_eq_false_iff.mpr hL]; rfl
        rw [if_pos hb, List.map_cons, List.append_assoc]
        simp only [if_true, List.singleton_append]
        rw [List.map_congr_left fun q hq => hap q (List.mem_filter.mp hq).1]
      · intro x
        rw [h3 x, hmem x]
        constructor
        · rintro ((h | ⟨l, hl, h⟩) | ⟨r', hr', l, hl, h⟩)
          · exact Or.inl h
          · exact Or.inr ⟨r, List.mem_cons_self, l, hl, by simpa using h⟩
          · exact Or.inr ⟨r', List.mem_cons_of_mem _ hr', l, hl, by simpa [hap r' hr'] using h⟩
        · rintro (h | ⟨r', hr', l, hl, h⟩)
          · exact Or.inl (Or.inl h)
          · rcases List.mem_cons.mp hr' with he | he
            · subst he
              exact Or.inl (Or.inr ⟨l, hl, by simpa using h⟩)
            · exact Or.inr ⟨r', he, l, hl, by simpa [hap r' he] using h⟩

/-- **Characterisation of `connectedSubgraph`.**  There is one apex `ap r` per tree with requested nodes; the
included nodes are exactly the nodes on the tree paths from the in-subset leafs up to the apex of their
tree, and the new roots are the apexes. -/
theorem connSub_spec {t : Table} (hw : WF t) (ss : List Int) :
    ∃ ap : Int → Int,
      (∀ r ∈ roots t, treeLeafs t ss r ≠ [] → TreeSpec t ss r (ap r)) ∧
      (connectedSubgraph t ss).2 = ((roots t).filter fun r => !(treeLeafs t ss r).isEmpty).map ap ∧
      ∀ x, x ∈ (connectedSubgraph t ss).1 ↔
        ∃ r ∈ roots t, ∃ l ∈ treeLeafs t ss r, x ∈ rootPath t l ∧ ap r ∈ rootPath t x := by
  obtain ⟨ap, h1, h2, h3⟩ := ccStep_fold_spec hw (ss := ss) (roots t) (roots_nodup hw.1) ([], []) (by simp)
  exact ⟨ap, h1, by simpa [connectedSubgraph] using h2, fun x => by simpa [connectedSubgraph] using h3 x⟩

/-- `x` is a *top* of `K`: it is kept and its parent is not (it is a root of the forest, or its parent is
dropped).  These are exactly the nodes that `subset` turns into roots. -/
def IsTopOf (t : Table) (K : List Int) (x : Int) : Prop :=
  x ∈ K ∧ ∀ n, find? t x = some n → n.parent < 0 ∨ n.parent ∉ K

/-- `K` is connected within every tree of the forest: a tree has at most one top, i.e. every kept node other
than the tree's kept top has its parent kept. -/
def TreeConnected (t : Table) (K : List Int) : Prop :=
  ∀ x y, IsTopOf t K x → IsTopOf t K y → rootOf t x = rootOf t y → x = y

theorem connSub_newRoots {t : Table} (hw : WF t) (ss : List Int) :
    ∀ a ∈ (connectedSubgraph t ss).2, IsTopOf t (connectedSubgraph t ss).1 a := by
  obtain ⟨ap, h1, h2, h3⟩ := connSub_spec hw ss
  intro a ha
  rw [h2] at ha
  obtain ⟨r, hr, rfl⟩ := List.mem_map.mp ha
  obtain ⟨hr, hne⟩ := List.mem_filter.mp hr
  have hL : treeLeafs t ss r ≠ [] := by
    intro h; rw [h] at hne; simp at hne
  have hs := h1 r hr hL
  obtain ⟨l, hl⟩ := List.exists_mem_of_ne_nil _ hL
  have hal := hs.common l hl
  refine ⟨(h3 _).mpr ⟨r, hr, l, hl, hal, rootPath_head_mem (anc_ids hal).1⟩, ?_⟩
  intro n hf
  by_cases hp : n.parent < 0
  · exact Or.inl hp
  · right
    intro hin
    obtain ⟨r', hr', l', hl', hpl, hap⟩ := (h3 _).mp hin
    have hn := find?_some hf
    have hpa : n.parent ∈ rootPath t (ap r) := hn.2 ▸ List.mem_of_mem_tail (parent_mem_tail hw hn.1 hp)
    have e : r' = r := by
      have h1' := rootOf_treeLeaf hw hl' hpl
      have h2' := rootOf_treeLeaf hw hl (anc_trans hw hpa hal)
      rw [h1'] at h2'
      exact Option.some.inj h2'
    rw [e, ← hn.2] at hap
    exact parent_not_distal hw hn.1 hp hap

theorem connSub_sub_ids {t : Table} (hw : WF t) (ss : List Int) :
    ∀ x ∈ (connectedSubgraph t ss).1, x ∈ ids t := by
  obtain ⟨ap, _, _, h3⟩ := connSub_spec hw ss
  intro x hx
  obtain ⟨_, _, _, _, hxl, _⟩ := (h3 x).mp hx
  exact (anc_ids hxl).1

theorem exists_top_above {t : Table} (hw : WF t) (K : List Int) :
    ∀ y ∈ ids t, y ∈ K → ∃ top, IsTopOf t K top ∧ top ∈ rootPath t y ∧
      ∀ z ∈ rootPath t y, top ∈ rootPath t z → z ∈ K := by
  -- a kept node whose parent is not kept (or that is a root) is itself the top
  have hme : ∀ n ∈ t, n.id ∈ K → (n.parent < 0 ∨ n.parent ∉ K) → ∃ top, IsTopOf t K top ∧ top ∈ rootPath t n.id ∧
      ∀ z ∈ rootPath t n.id, top ∈ rootPath t z → z ∈ K := by
    intro n hn hy hpar
    refine ⟨n.id, ⟨hy, fun m hm => ?_⟩, rootPath_head_mem (mem_ids_of_mem hn), fun z hz hnz => ?_⟩
    · rw [find?_of_mem hw.1 hn] at hm
      rw [← Option.some.inj hm]; exact hpar
    · rw [anc_antisymm hw hz hnz]; exact hy
  refine rootPath_induct hw _ ?_ ?_
  · intro n hn hp _ hy
    exact hme n hn hy (Or.inl hp)
  · intro n hn _ e ih hy
    by_cases hpk : n.parent ∈ K
    · obtain ⟨top, h1, h2, h3⟩ := ih hpk
      rw [e]
      exact ⟨top, h1, List.mem_cons_of_mem _ h2, List.forall_mem_cons.mpr ⟨fun _ => hy, h3⟩⟩
    · exact hme n hn hy (Or.inr hpk)

theorem subset_root_top {t : Table} (hw : WF t) (K : List Int) {m : Node}
    (hm : m ∈ subset t fun i => K.contains i) (hp : m.parent < 0) : IsTopOf t K m.id := by
  obtain ⟨n, hn, hid, hk, hcase⟩ := (mem_roots_subset hw _).mp (mem_roots.mpr ⟨m, hm, rfl, hp⟩)
  refine ⟨by simpa using hk, fun n' hf' => ?_⟩
  rw [← hid, find?_of_mem hw.1 hn] at hf'
  rw [← Option.some.inj hf']
  exact hcase.imp_right fun h => by simpa using h

theorem subset_top_root {t : Table} (hw : WF t) (K : List Int) {a : Int} (ha : a ∈ ids t) (htop : IsTopOf t K a) :
    ∃ m, find? (subset t fun i => K.contains i) a = some m ∧ m.parent < 0 := by
  obtain ⟨n, hn, rfl⟩ := mem_ids.mp ha
  have hcase := (htop.2 n (find?_of_mem hw.1 hn)).imp_right fun h => show K.contains n.parent = false by simpa using h
  obtain ⟨m, hm, hid, hp⟩ := mem_roots.mp ((mem_roots_subset hw _).mpr ⟨n, hn, rfl, by simpa using htop.1, hcase⟩)
  exact ⟨m, hid ▸ find?_of_mem (WF_subset hw _).1 hm, hp⟩

end Navis.Forest

import NavisModel.Proofs.SegIdxLemmas
import Mathlib.Analysis.SpecialFunctions.BinaryEntropy
/-! The segregation index at the reals with the logarithmic binary entropy navis evaluates: it is Mathlib's
`Real.binEntropy`, positive on (0,1), and its guarded form is non-negative and concave on [0,1], so the bounds and
exact cases of `SegIdxLemmas` apply. -/
namespace Navis.Flow

/-- The entropy navis evaluates: `-(p * math.log(p) + (1 - p) * math.log(1 - p))`. -/
noncomputable def navisEntropy (p : ℝ) : ℝ := -(p * Real.log p + (1 - p) * Real.log (1 - p))

theorem navisEntropy_eq_binEntropy : navisEntropy = Real.binEntropy := by
  funext p
  unfold navisEntropy Real.binEntropy
  rw [Real.log_inv, Real.log_inv]; ring

theorem navisEntropy_pos (p : ℝ) (h0 : 0 < p) (h1 : p < 1) : 0 < navisEntropy p := by
  rw [navisEntropy_eq_binEntropy]; exact Real.binEntropy_pos h0 h1

/-- **The guarded logarithmic binary entropy is non-negative and concave on [0,1]** (Mathlib:
`Real.strictConcave_binEntropy`, `Real.binEntropy_pos`). -/
theorem concave_navisEntropy : ConcaveNonnegG (guardG navisEntropy) := by
  rw [navisEntropy_eq_binEntropy]
  refine ConcaveNonnegG.of_unit Real.binEntropy_zero Real.binEntropy_one
    (fun p h0 h1 => (Real.binEntropy_pos h0 h1).le) fun x y lam hx0 hx1 hy0 hy1 hl0 hl1 => ?_
  exact Real.strictConcave_binEntropy.concaveOn.2 (Set.mem_Icc.mpr ⟨hx0, hx1⟩) (Set.mem_Icc.mpr ⟨hy0, hy1⟩)
    hl0 (sub_nonneg.mpr hl1) (add_sub_cancel _ _)

end Navis.Flow

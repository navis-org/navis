import NavisModel.Model.Affine
import NavisModel.Model.Bridge
import Mathlib.Tactic.Ring
/-! Helper lemmas for C08: exact rational 3-D affine maps.  Three facts are computed (`xform_comp`, `det_comp` and
`xform_neg_xform`, Cramer's rule); the monoid and inverse laws of `comp` / `neg` follow from them because an affine
map is determined by what it does to points (`xform_ext`).  With them the invertible maps are a `TGroup` of
`Model/Bridge.lean` (`affGroup`, at the end). -/
namespace Navis.Affine

theorem pt_ext {p q : Pt} (h1 : p.1 = q.1) (h2 : p.2.1 = q.2.1) (h3 : p.2.2 = q.2.2) : p = q :=
  Prod.ext h1 (Prod.ext h2 h3)

theorem xform_comp (S T : Aff) (p : Pt) : xform (comp S T) p = xform T (xform S p) := by
  apply pt_ext <;> simp only [xform, comp] <;> ring

theorem xform_one (p : Pt) : xform one p = p := by
  simp only [xform, one, one_mul, zero_mul, add_zero, zero_add]

/-- An affine map is determined by what it does to points: the images of the origin and of the three unit
points are its translation and its columns. -/
theorem xform_ext {S T : Aff} (h : ∀ p, xform S p = xform T p) : S = T := by
  have h0 := h (0, 0, 0)
  have h1 := h (1, 0, 0)
  have h2 := h (0, 1, 0)
  have h3 := h (0, 0, 1)
  cases S; cases T
  simp only [xform, mul_zero, mul_one, add_zero, zero_add, Prod.mk.injEq] at h0 h1 h2 h3
  obtain ⟨rfl, rfl, rfl⟩ := h0
  simp only [add_left_inj] at h1 h2 h3
  obtain ⟨rfl, rfl, rfl⟩ := h1
  obtain ⟨rfl, rfl, rfl⟩ := h2
  obtain ⟨rfl, rfl, rfl⟩ := h3
  rfl

theorem comp_assoc (A B C : Aff) : comp (comp A B) C = comp A (comp B C) :=
  xform_ext fun p => by simp only [xform_comp]

theorem one_comp (A : Aff) : comp one A = A :=
  xform_ext fun p => by rw [xform_comp, xform_one]

theorem comp_one (A : Aff) : comp A one = A :=
  xform_ext fun p => by rw [xform_comp, xform_one]

theorem det_comp (S T : Aff) : det (comp S T) = det S * det T := by
  simp only [det, comp]; ring

theorem det_one : det one = 1 := by
  simp only [det, one]; ring

theorem det_def (T : Aff) : det T =
    T.a11 * (T.a22 * T.a33 - T.a23 * T.a32) - T.a12 * (T.a21 * T.a33 - T.a23 * T.a31)
      + T.a13 * (T.a21 * T.a32 - T.a22 * T.a31) := rfl

/-- `neg T` undoes `T` on every point (Cramer's rule): each coordinate of the left side is that of `p` times
`d / det T` with `d` the expansion of the determinant; the `det T` in the denominators stays folded for `ring`. -/
theorem xform_neg_xform (T : Aff) (h : det T ≠ 0) (p : Pt) : xform (neg T) (xform T p) = p := by
  have key : ∀ x d : Rat, det T = d → d / det T * x = x := fun x d hd => by rw [← hd, div_self h, one_mul]
  apply pt_ext
  · rw [← key p.1 _ (det_def T)]; simp only [xform, neg, invLin]; ring
  · rw [← key p.2.1 _ (det_def T)]; simp only [xform, neg, invLin]; ring
  · rw [← key p.2.2 _ (det_def T)]; simp only [xform, neg, invLin]; ring

theorem comp_neg (T : Aff) (h : det T ≠ 0) : comp T (neg T) = one :=
  xform_ext fun p => by rw [xform_comp, xform_neg_xform T h, xform_one]

theorem det_neg_mul (T : Aff) (h : det T ≠ 0) : det (neg T) * det T = 1 := by
  rw [mul_comm, ← det_comp, comp_neg T h, det_one]

theorem det_neg_ne (T : Aff) (h : det T ≠ 0) : det (neg T) ≠ 0 :=
  left_ne_zero_of_mul_eq_one (det_neg_mul T h)

/-- Negating twice gives the transform back: `T` and `neg (neg T)` are both inverse to `neg T`. -/
theorem neg_neg (T : Aff) (h : det T ≠ 0) : neg (neg T) = T := by
  calc neg (neg T) = comp one (neg (neg T)) := (one_comp _).symm
    _ = comp (comp T (neg T)) (neg (neg T)) := by rw [comp_neg T h]
    _ = comp T (comp (neg T) (neg (neg T))) := comp_assoc _ _ _
    _ = comp T one := by rw [comp_neg (neg T) (det_neg_ne T h)]
    _ = T := comp_one T

theorem neg_comp (T : Aff) (h : det T ≠ 0) : comp (neg T) T = one := by
  have := comp_neg (neg T) (det_neg_ne T h)
  rwa [neg_neg T h] at this

theorem xform_xform_neg (T : Aff) (h : det T ≠ 0) (p : Pt) : xform T (xform (neg T) p) = p := by
  rw [← xform_comp, neg_comp T h, xform_one]

theorem neg?_eq_some (T : Aff) (h : det T ≠ 0) : neg? T = some (neg T) := if_neg h

theorem neg?_eq_none (T : Aff) (h : det T = 0) : neg? T = none := if_pos h

end Navis.Affine

namespace Navis.Bridge
open Navis.Affine

abbrev InvAff := { T : Aff // det T ≠ 0 }

def affGroup : TGroup InvAff where
  mul a b := ⟨comp a.1 b.1, by rw [det_comp]; exact mul_ne_zero a.2 b.2⟩
  one := ⟨Affine.one, by rw [det_one]; decide⟩
  inv a := ⟨neg a.1, det_neg_ne a.1 a.2⟩
  mul_assoc a b c := Subtype.ext (comp_assoc a.1 b.1 c.1)
  one_mul a := Subtype.ext (one_comp a.1)
  mul_one a := Subtype.ext (comp_one a.1)
  mul_inv a := Subtype.ext (comp_neg a.1 a.2)
  inv_mul a := Subtype.ext (neg_comp a.1 a.2)

end Navis.Bridge

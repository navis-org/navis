import NavisModel.Proofs.PruneManyLemmas
/-!
The fragments of a multi-cut (`cut_skeleton` with several cut nodes; C10; core Lean only).

Cutting a single tree `t` with root `ρ` at the distinct non-root nodes `cs` yields one fragment per top
`τ ∈ ρ :: cs`, namely `subset t (fragKeep t cs τ)`; consequently the fragments do not depend on the order
of the cuts (`Props.C10.cuts_commute`).  The fragment description needs at least one cut node, or an input table that is
already in the normal form `subset` produces (`cutMany_fragments_partial`): with no cut node `cutMany`
returns `t` itself, labels untouched (`cutMany_fragments_counterexample`).
-/
namespace Navis.TreeEdit
open Navis.Forest

theorem fragCond_iff {t : Table} {c τ i : Int} :
    (!((rootPath t i).contains c && (rootPath t c).contains τ) || c == τ || c == i) = true ↔
      (c ∈ rootPath t i → τ ∈ rootPath t c → c = τ ∨ c = i) := by
  by_cases h1 : c ∈ rootPath t i <;> by_cases h2 : τ ∈ rootPath t c <;> simp [h1, h2]

theorem fragKeep_iff {t : Table} {P : List Int} {τ i : Int} :
    fragKeep t P τ i = true ↔
      τ ∈ rootPath t i ∧ ∀ q ∈ P, q ∈ rootPath t i → τ ∈ rootPath t q → q = τ ∨ q = i := by
  unfold fragKeep
  rw [Bool.and_eq_true, List.all_eq_true]
  constructor
  · rintro ⟨h1, h2⟩
    exact ⟨by simpa using h1, fun q hq => fragCond_iff.mp (h2 q hq)⟩
  · rintro ⟨h1, h2⟩
    exact ⟨by simpa using h1, fun q hq => fragCond_iff.mpr (h2 q hq)⟩

theorem fragKeep_snoc (t : Table) (P : List Int) (c τ i : Int) :
    fragKeep t (P ++ [c]) τ i = (fragKeep t P τ i &&
      (!((rootPath t i).contains c && (rootPath t c).contains τ) || c == τ || c == i)) := by
  unfold fragKeep
  rw [List.all_append]
  simp only [List.all_cons, List.all_nil, Bool.and_true, Bool.and_assoc]

theorem fragKeep_congr {t : Table} {P P' : List Int} (h : ∀ x, x ∈ P ↔ x ∈ P') (τ i : Int) :
    fragKeep t P τ i = fragKeep t P' τ i := by
  rw [Bool.eq_iff_iff, fragKeep_iff, fragKeep_iff]
  constructor
  · rintro ⟨h1, h2⟩; exact ⟨h1, fun q hq => h2 q ((h q).mpr hq)⟩
  · rintro ⟨h1, h2⟩; exact ⟨h1, fun q hq => h2 q ((h q).mp hq)⟩

/-- Fragments are convex: every node between a kept node and the top is kept. -/
theorem fragKeep_convex {t : Table} (hw : WF t) {P : List Int} {τ i x : Int} (h : fragKeep t P τ i = true)
    (hx : x ∈ rootPath t i) (hτ : τ ∈ rootPath t x) : fragKeep t P τ x = true := by
  rw [fragKeep_iff] at h ⊢
  refine ⟨hτ, fun q hq hqx hτq => ?_⟩
  rcases h.2 q hq (anc_trans hw hqx hx) hτq with e | e
  · exact Or.inl e
  · right
    rw [e] at hqx ⊢
    exact anc_antisymm hw hqx hx

theorem exists_top {t : Table} (hw : WF t) {ρ : Int} (hroot : roots t = [ρ]) (P : List Int) {c : Int}
    (hc : c ∈ ids t) :
    ∃ τ0 ∈ ρ :: P, τ0 ∈ rootPath t c ∧ ∀ x ∈ ρ :: P, x ∈ rootPath t c → x ∈ rootPath t τ0 := by
  cases hf : (rootPath t c).find? (fun x => (ρ :: P).contains x) with
  | none =>
    rw [List.find?_eq_none] at hf
    have := hf ρ (root_anc hw hroot hc)
    simp at this
  | some τ0 =>
    obtain ⟨h1, h2, h3⟩ := find?_rootPath hw _ hf
    refine ⟨τ0, by simpa using h2, h1, fun x hx hxc => h3 x hxc (by simpa using hx)⟩

theorem top_spec {t : Table} (hw : WF t) {ρ : Int} (hroot : roots t = [ρ]) (P : List Int) {c : Int}
    (hc : c ∈ ids t) (hcP : c ∉ P) :
    ∃ τ0 ∈ ρ :: P, fragKeep t P τ0 c = true ∧ ∀ τ ∈ ρ :: P, fragKeep t P τ c = true → τ = τ0 := by
  obtain ⟨τ0, hτ0, h1, h2⟩ := exists_top hw hroot P hc
  refine ⟨τ0, hτ0, ?_, ?_⟩
  · rw [fragKeep_iff]
    refine ⟨h1, fun q hq hqc hτq => Or.inl ?_⟩
    exact anc_antisymm hw (h2 q (List.mem_cons_of_mem _ hq) hqc) hτq
  · intro τ hτ hk
    rw [fragKeep_iff] at hk
    have hττ0 := h2 τ hτ hk.1
    rcases List.mem_cons.mp hτ0 with e | hP
    · rw [e] at hττ0 ⊢
      exact anc_root_eq hw hroot hττ0
    · rcases hk.2 τ0 hP h1 hττ0 with e | e
      · exact e.symm
      · exact absurd (e ▸ hP) hcP

theorem distal_fragment {t : Table} (hw : WF t) {P : List Int} {c τ0 : Int}
    (hk : fragKeep t P τ0 c = true) {i : Int} (hi : i ∈ ids t) :
    (distalSet (subset t (fragKeep t P τ0)) c).contains i =
      (fragKeep t P τ0 i && (rootPath t i).contains c) := by
  rw [Bool.eq_iff_iff]
  simp only [List.contains_eq_mem, decide_eq_true_eq, mem_distalSet, ids_subset, List.mem_filter, Bool.and_eq_true]
  constructor
  · rintro ⟨⟨_, h2⟩, h3⟩
    exact ⟨h2, (anc_of_anc_subset hw _ h3).1⟩
  · rintro ⟨h1, h2⟩
    refine ⟨⟨hi, h1⟩, ?_⟩
    rw [anc_subset_iff hw _ hi h1]
    · exact ⟨h2, hk⟩
    · intro x hx hcx
      exact fragKeep_convex hw h1 hx (anc_trans hw (fragKeep_iff.mp hk).1 hcx)

/-- Cutting the fragment topped at `τ0` at one of its nodes `c` (not a top) gives the fragment topped at `c` and
the fragment topped at `τ0` of the cut-node list extended by `c`. -/
theorem cut_fragment {t : Table} (hw : WF t) {P : List Int} {c τ0 : Int} (hcP : c ∉ P) (hne : c ≠ τ0)
    (hk : fragKeep t P τ0 c = true) :
    cut (subset t (fragKeep t P τ0)) c =
      some (subset t (fragKeep t (P ++ [c]) c), subset t (fragKeep t (P ++ [c]) τ0)) := by
  have hk' := fragKeep_iff.mp hk
  obtain ⟨n, hfn, hp, hτp, hpc⟩ := anc_parent hw hk'.1 hne
  obtain ⟨hn, hid⟩ := find?_some hfn
  have hkp : fragKeep t P τ0 n.parent = true := fragKeep_convex hw hk hpc hτp
  obtain ⟨m, hfm, hmp⟩ := find?_subset hw (fragKeep t P τ0) hn (by rw [hid]; exact hk)
  rw [hid] at hfm
  have hin : n.parent ∈ (ids t).filter (fragKeep t P τ0) := List.mem_filter.mpr ⟨rootPath_sub hpc, hkp⟩
  rw [if_pos hin] at hmp
  rw [cut_of_find hfm (by rw [hmp]; exact hp), subset_subset, subset_subset]
  rw [Option.some.injEq, Prod.mk.injEq]
  constructor
  · apply subset_congr
    intro i hi
    rw [distal_fragment hw hk hi, Bool.eq_iff_iff]
    simp only [Bool.and_eq_true, List.contains_eq_mem, decide_eq_true_eq]
    rw [fragKeep_iff, fragKeep_iff]
    constructor
    · rintro ⟨⟨h1, h2⟩, _, hci⟩
      refine ⟨hci, fun q hq hqi hcq => ?_⟩
      rcases List.mem_append.mp hq with hqP | hqc
      · rcases h2 q hqP hqi (anc_trans hw hk'.1 hcq) with e | e
        · exfalso
          rw [e] at hcq
          exact hne (anc_antisymm hw hcq hk'.1)
        · exact Or.inr e
      · exact Or.inl (List.mem_singleton.mp hqc)
    · rintro ⟨hci, h2⟩
      have hkeep : τ0 ∈ rootPath t i ∧ ∀ q ∈ P, q ∈ rootPath t i → τ0 ∈ rootPath t q → q = τ0 ∨ q = i := by
        refine ⟨anc_trans hw hk'.1 hci, fun q hq hqi hτq => ?_⟩
        rcases anc_comparable hw hqi hci with hqc | hcq
        · rcases hk'.2 q hq hqc hτq with e | e
          · exact Or.inl e
          · exact absurd (e ▸ hq) hcP
        · rcases h2 q (List.mem_append_left _ hq) hqi hcq with e | e
          · exact absurd (e ▸ hq) hcP
          · exact Or.inr e
      exact ⟨hkeep, hkeep, hci⟩
  · apply subset_congr
    intro i hi
    rw [distal_fragment hw hk hi, fragKeep_snoc, Bool.eq_iff_iff]
    simp only [Bool.and_eq_true]
    rw [fragCond_iff]
    simp only [Bool.or_eq_true, Bool.not_eq_true', Bool.and_eq_false_iff, List.contains_eq_mem, decide_eq_false_iff_not,
      beq_iff_eq]
    constructor
    · rintro ⟨h1, h2⟩
      refine ⟨h1, fun hci _ => Or.inr ?_⟩
      rcases h2 with (h | h) | h
      · rw [h1] at h; exact absurd h (by decide)
      · exact absurd hci h
      · exact h.symm
    · rintro ⟨h1, h2⟩
      refine ⟨h1, ?_⟩
      by_cases hci : c ∈ rootPath t i
      · rcases h2 hci hk'.1 with e | e
        · exact absurd e hne
        · exact Or.inr e.symm
      · exact Or.inl (Or.inr hci)

theorem fragKeep_snoc_other {t : Table} (hw : WF t) {P : List Int} {c τ0 τ : Int}
    (huniq : fragKeep t P τ c = true → τ = τ0) (hne : τ ≠ τ0) (i : Int) :
    fragKeep t (P ++ [c]) τ i = fragKeep t P τ i := by
  rw [fragKeep_snoc]
  cases hk : fragKeep t P τ i with
  | false => rfl
  | true =>
    rw [Bool.true_and, fragCond_iff]
    intro hci hτc
    exact absurd (huniq (fragKeep_convex hw hk hci hτc)) hne

theorem cutStep_perm {frags rest : List Table} {f d p : Table} {c : Int}
    (hperm : frags.Perm (f :: rest)) (hcf : c ∈ ids f) (huniq : ∀ g ∈ frags, c ∈ ids g → g = f)
    (hcut : cut f c = some (d, p)) : (cutStep frags c).Perm (d :: p :: rest) := by
  unfold cutStep
  cases hfi : frags.findIdx? (fun f => (ids f).contains c) with
  | none =>
    rw [List.findIdx?_eq_none_iff] at hfi
    have := hfi f (hperm.mem_iff.mpr List.mem_cons_self)
    simp [hcf] at this
  | some k =>
    obtain ⟨hlt, hpk, _⟩ := List.findIdx?_eq_some_iff_getElem.mp hfi
    have hfk : frags[k] = f := huniq _ (List.getElem_mem hlt) (by simpa using hpk)
    simp only [List.getElem?_eq_getElem hlt, hfk, hcut]
    have hsplit := split_at_getElem? (List.getElem?_eq_getElem hlt)
    rw [hfk] at hsplit
    have h1 : (frags.take k ++ frags.drop (k + 1)).Perm rest := by
      have : (f :: (frags.take k ++ frags.drop (k + 1))).Perm (f :: rest) := by
        refine List.Perm.trans ?_ hperm
        rw [List.perm_comm]
        conv => lhs; rw [hsplit]
        exact List.perm_middle
      exact this.cons_inv
    have h2 : (frags.take k ++ [d, p] ++ frags.drop (k + 1)).Perm (d :: p :: (frags.take k ++ frags.drop (k + 1))) := by
      rw [List.append_assoc]
      show (frags.take k ++ d :: p :: frags.drop (k + 1)).Perm _
      exact List.perm_middle.trans ((List.perm_middle).cons d)
    exact h2.trans ((h1.cons p).cons d)

theorem cutStep_fragments {t : Table} (hw : WF t) {ρ : Int} (hroot : roots t = [ρ]) {P : List Int} {c : Int}
    (hnd : (P ++ [c]).Nodup) (hρP : ρ ∉ P) (hc : c ∈ ids t) (hcρ : c ≠ ρ) {frags : List Table}
    (hinv : frags.Perm ((ρ :: P).map fun τ => subset t (fragKeep t P τ))) :
    (cutStep frags c).Perm ((ρ :: (P ++ [c])).map fun τ => subset t (fragKeep t (P ++ [c]) τ)) := by
  obtain ⟨hPnd, _, hdisj⟩ := List.nodup_append.mp hnd
  have hcP : c ∉ P := fun h => hdisj c h c (List.mem_singleton.mpr rfl) rfl
  have htnd : (ρ :: P).Nodup := List.nodup_cons.mpr ⟨hρP, hPnd⟩
  obtain ⟨τ0, hτ0, hk0, huniq⟩ := top_spec hw hroot P hc hcP
  have hne : c ≠ τ0 := by
    intro e
    rcases List.mem_cons.mp hτ0 with h | h
    · exact hcρ (e.trans h)
    · exact hcP (e ▸ h)
  have hcut := cut_fragment hw hcP hne hk0
  have hsplit : (ρ :: P).Perm (τ0 :: (ρ :: P).erase τ0) := List.perm_cons_erase hτ0
  have h1 : frags.Perm (subset t (fragKeep t P τ0) ::
      ((ρ :: P).erase τ0).map fun τ => subset t (fragKeep t P τ)) :=
    hinv.trans (hsplit.map _)
  have hcin : c ∈ ids (subset t (fragKeep t P τ0)) := by
    rw [ids_subset]; exact List.mem_filter.mpr ⟨hc, hk0⟩
  have hu : ∀ g ∈ frags, c ∈ ids g → g = subset t (fragKeep t P τ0) := by
    intro g hg hcg
    obtain ⟨τ, hτ, rfl⟩ := List.mem_map.mp (hinv.mem_iff.mp hg)
    rw [ids_subset] at hcg
    rw [huniq τ hτ (List.mem_filter.mp hcg).2]
  have h2 := cutStep_perm h1 hcin hu hcut
  have hrest : (((ρ :: P).erase τ0).map fun τ => subset t (fragKeep t P τ)) =
      ((ρ :: P).erase τ0).map fun τ => subset t (fragKeep t (P ++ [c]) τ) := by
    apply List.map_congr_left
    intro τ hτ
    have hmem := (List.Nodup.mem_erase_iff htnd).mp hτ
    apply subset_congr
    intro i _
    exact (fragKeep_snoc_other hw (huniq τ hmem.2) hmem.1 i).symm
  rw [hrest] at h2
  refine h2.trans ?_
  have h3 : ((ρ :: (P ++ [c])).map fun τ => subset t (fragKeep t (P ++ [c]) τ)).Perm
      ((c :: τ0 :: (ρ :: P).erase τ0).map fun τ => subset t (fragKeep t (P ++ [c]) τ)) := by
    apply List.Perm.map
    have : (ρ :: (P ++ [c])) = (ρ :: P) ++ [c] := rfl
    rw [this]
    exact (List.perm_append_singleton c (ρ :: P)).trans (hsplit.cons c)
  exact h3.symm

/-- The invariant of the fold: after the cut nodes `P` the fragment list is (a permutation of) the fragments
topped at `ρ :: P`. -/
theorem cutFold_fragments {t : Table} (hw : WF t) {ρ : Int} (hroot : roots t = [ρ]) :
    ∀ (cs P : List Int) (frags : List Table), (P ++ cs).Nodup → (∀ c ∈ P ++ cs, c ∈ ids t ∧ c ≠ ρ) →
      frags.Perm ((ρ :: P).map fun τ => subset t (fragKeep t P τ)) →
      (cs.foldl cutStep frags).Perm ((ρ :: (P ++ cs)).map fun τ => subset t (fragKeep t (P ++ cs) τ)) := by
  intro cs
  induction cs with
  | nil =>
    intro P frags _ _ hinv
    rw [List.append_nil]
    exact hinv
  | cons c cs ih =>
    intro P frags hnd hall hinv
    rw [List.foldl_cons]
    have happ : P ++ c :: cs = (P ++ [c]) ++ cs := by rw [List.append_assoc]; rfl
    rw [happ] at hnd hall ⊢
    have hnd1 : (P ++ [c]).Nodup := (List.nodup_append.mp hnd).1
    have hρP : ρ ∉ P := fun h => (hall ρ (List.mem_append_left _ (List.mem_append_left _ h))).2 rfl
    have hc := hall c (List.mem_append_left _ (List.mem_append_right _ (List.mem_singleton.mpr rfl)))
    exact ih (P ++ [c]) _ hnd hall (cutStep_fragments hw hroot hnd1 hρP hc.1 hc.2 hinv)

theorem cutStep_single {f d p : Table} {c : Int} (h : cut f c = some (d, p)) : cutStep [f] c = [d, p] := by
  obtain ⟨_, _, nc, hfc, _⟩ := cut_some h
  have hc : c ∈ ids f := mem_ids_of_find? hfc
  unfold cutStep
  simp [List.findIdx?_cons, hc, h]

theorem fragKeep_nil {t : Table} (hw : WF t) {ρ : Int} (hroot : roots t = [ρ]) :
    ∀ i ∈ ids t, fragKeep t [] ρ i = true := by
  intro i hi
  rw [fragKeep_iff]
  exact ⟨root_anc hw hroot hi, fun q hq => absurd hq List.not_mem_nil⟩

/-- The first cut puts both pieces through `subset`, so it gives the same two pieces from `t` as from the fragment of
the root with no cut made yet; the fold invariant can therefore start at that fragment instead of `t`. -/
theorem cutMany_normal {t : Table} (hw : WF t) {ρ : Int} (hroot : roots t = [ρ]) {c : Int} (cs : List Int)
    (hc : c ∈ ids t) (hcρ : c ≠ ρ) :
    cutMany t (c :: cs) = (c :: cs).foldl cutStep [subset t (fragKeep t [] ρ)] := by
  obtain ⟨τ0, hτ0, hk0, _⟩ := top_spec hw hroot [] hc List.not_mem_nil
  have e : τ0 = ρ := by simpa using hτ0
  rw [e] at hk0
  have hcut := cut_fragment hw List.not_mem_nil hcρ hk0
  have hcut' := cut_subset_all hw (fragKeep_nil hw hroot) hcut
  rw [cutMany_eq_foldl, List.foldl_cons, List.foldl_cons, cutStep_single hcut, cutStep_single hcut']

/-- The fragment description **is false for `cs = []`** without a further hypothesis: `cutMany t [] = [t]`, whereas
a fragment is a `subset` of `t`, which re-classifies the labels (and rewrites the parent of a root to `-1`).
Witness: the one-node tree whose root carries the default label `slab`. -/
theorem cutMany_fragments_counterexample :
    ¬ ∀ {t : Table} (_ : WF t) {ρ : Int} (_ : roots t = [ρ]) (cs : List Int) (_ : cs.Nodup)
        (_ : ∀ c ∈ cs, c ∈ ids t ∧ c ≠ ρ),
        (cutMany t cs).Perm ((ρ :: cs).map fun τ => subset t (fragKeep t cs τ)) := by
  intro h
  have hw : WF [({ id := 0, parent := -1 } : Node)] := by
    refine ⟨by decide, ?_, fun _ => 0, ?_⟩
    · intro n hn; rw [List.mem_singleton.mp hn]; decide
    · intro n hn; rw [List.mem_singleton.mp hn]; exact Or.inl (by decide)
  have := h hw (ρ := 0) rfl [] List.nodup_nil (fun c hc => absurd hc List.not_mem_nil)
  have e := List.singleton_perm_singleton.mp this
  revert e
  decide

/-- The fragments of a multi-cut, one per top (the root and every cut node).  The hypothesis `hne` cannot be dropped
(`cutMany_fragments_counterexample`): there is at least one cut node, or the input table is already in the
normal form `subset` produces (labels classified, root parent `-1`). -/
theorem cutMany_fragments_partial {t : Table} (hw : WF t) {ρ : Int} (hroot : roots t = [ρ]) (cs : List Int)
    (hnd : cs.Nodup) (hcs : ∀ c ∈ cs, c ∈ ids t ∧ c ≠ ρ) (hne : cs ≠ [] ∨ subset t (fun _ => true) = t) :
    (cutMany t cs).Perm ((ρ :: cs).map fun τ => subset t (fragKeep t cs τ)) := by
  cases cs with
  | nil =>
    rcases hne with h | h
    · exact absurd rfl h
    · have e : subset t (fragKeep t [] ρ) = t := by
        have e1 : subset t (fragKeep t [] ρ) = subset t (fun _ => true) :=
          subset_congr fun i hi => fragKeep_nil hw hroot i hi
        exact e1.trans h
      show List.Perm [t] [subset t (fragKeep t [] ρ)]
      rw [e]
  | cons c cs =>
    have hc := hcs c List.mem_cons_self
    rw [cutMany_normal hw hroot cs hc.1 hc.2]
    have := cutFold_fragments hw hroot (c :: cs) [] [subset t (fragKeep t [] ρ)]
      (by rw [List.nil_append]; exact hnd) (by rw [List.nil_append]; exact hcs) (List.Perm.refl _)
    rw [List.nil_append] at this
    exact this

end Navis.TreeEdit

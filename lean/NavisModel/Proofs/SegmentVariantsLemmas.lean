import NavisModel.Model.SegmentVariants
import NavisModel.Proofs.SegmentLemmas
/-!
The two pure-Python variants of navis' segment builders (`Model/SegmentVariants.lean`) against the C05
model: `_break_segments` (networkx variant = `smallSegments`, igraph variant = a permutation of them for
any seed order) and `_generate_segments` (igraph variant = networkx variant, and the result passes the
C05 checker).  `genNx` is not identified with the C05 model `segments`, because the two differ on ties: `sortedEnds`
keeps the table order of leafs at the same root distance (Python's stable sort), the insertion sort of `segments`
reverses it (on `1 ← 2 ← {3, 4}` with unit lengths: `[[3, 2, 1], [4, 2]]` against `[[4, 2, 1], [3, 2]]`).  Both pass
`segmentsOKB`, which is what `genNx_ok` proves.  Core Lean only.
-/
namespace Navis.SegVar
open Navis.Forest

variable {t : Table}

theorem succId_eq (t : Table) (i : Int) :
    succId t i = ((t.filter fun m => m.id == i).filter fun m => !isRootNode m).map (·.parent) := by
  unfold succId idEdges edges
  rw [List.filter_map, List.map_map, List.filter_filter, List.filter_filter]
  congr 1
  apply List.filter_congr
  intro m _
  simp [Function.comp, Bool.and_comm]

theorem succId_of_find (hnd : (ids t).Nodup) {i : Int} {n : Node} (hf : find? t i = some n) :
    succId t i = if n.parent < 0 then [] else [n.parent] := by
  rw [succId_eq, filter_id_of_find hnd hf]
  by_cases hp : n.parent < 0 <;> simp [isRootNode, hp]

theorem succId_absent {i : Int} (h : find? t i = none) : succId t i = [] := by
  have : (t.filter fun m => m.id == i) = [] :=
    List.filter_eq_nil_iff.mpr fun m hm hmi => find?_none h ((beq_iff_eq (a := m.id)).mp hmi ▸ mem_ids_of_mem hm)
  rw [succId_eq, this]
  rfl

theorem succId_sub (hw : WF t) {cur p : Int} {rest : List Int} (h : succId t cur = p :: rest) : p ∈ ids t := by
  cases hf : find? t cur with
  | none => rw [succId_absent hf] at h; simp at h
  | some n =>
    rw [succId_of_find hw.1 hf] at h
    by_cases hp : n.parent < 0
    · rw [if_pos hp] at h; simp at h
    · rw [if_neg hp] at h
      exact (List.cons.inj h).1 ▸ WF_parent_mem hw (find?_some hf).1 hp

/-! ### `_break_segments`, networkx variant -/

theorem stopsNx_contains (hnd : (ids t).Nodup) (hl : labelsOKB t = true) {p : Int} {n : Node}
    (hf : find? t p = some n) : (stopsNx t).contains p = isBranchOrRoot t p := by
  obtain ⟨hn, hid⟩ := find?_some hf
  -- `n` is the only row with id `p`
  have hrow : p ∈ stopsNx t ↔ n.label = .branch ∨ n.label = .root := by
    unfold stopsNx
    simp only [List.mem_map, List.mem_filter, Bool.or_eq_true, beq_iff_eq]
    constructor
    · rintro ⟨m, ⟨hm, hlm⟩, hmp⟩
      exact node_eq_of_id hnd hm hn (hmp.trans hid.symm) ▸ hlm
    · exact fun h => ⟨n, ⟨hn, h⟩, hid⟩
  rw [isBranchOrRoot_of_find hf, Bool.eq_iff_iff, List.contains_iff_mem, Bool.or_eq_true, decide_eq_true_eq,
    decide_eq_true_eq, hrow, label_branch_iff hl hn, label_root_iff hl hn, hid]
  omega

/-- The fuel `f` is spent from the parent of `i` on, whose root path is one node shorter: hence `≤ f + 1`. -/
theorem tailId_walk (hw : WF t) (hl : labelsOKB t = true) :
    ∀ (f : Nat) (i : Int) (n : Node), find? t i = some n → ¬ n.parent < 0 → (rootPath t i).length ≤ f + 1 →
      ∃ T, tailId t (stopsNx t) f n.parent = some T ∧ walkToStop t (isBranchOrRoot t) f i = n.parent :: T := by
  intro f
  induction f with
  | zero =>
    intro i n hf hp hlen
    have e := rootPath_of_nonroot hw hf hp
    obtain ⟨rest, hr⟩ := rootPath_cons (WF_parent_mem hw (find?_some hf).1 hp)
    rw [e, hr] at hlen; simp at hlen
  | succ f ih =>
    intro i n hf hp hlen
    have hn := find?_some hf
    have e := rootPath_of_nonroot hw hf hp
    have hpm := WF_parent_mem hw hn.1 hp
    obtain ⟨pn, hpn, hpid⟩ := mem_ids.mp hpm
    have hfp : find? t n.parent = some pn := hpid ▸ find?_of_mem hw.1 hpn
    have hstop := stopsNx_contains hw.1 hl hfp
    unfold walkToStop tailId
    rw [hf]
    simp only [if_neg hp, hstop]
    cases hst : isBranchOrRoot t n.parent with
    | true => simp
    | false =>
      obtain ⟨pn', hfp', hpp, _⟩ := not_stop hst
      rw [hfp] at hfp'
      cases hfp'
      rw [succId_of_find hw.1 hfp, if_neg hpp]
      have hlen' : (rootPath t n.parent).length ≤ f + 1 := by rw [e] at hlen; simpa using hlen
      obtain ⟨T, h1, h2⟩ := ih n.parent pn hfp hpp hlen'
      simp [h1, h2]

theorem segId_eq (hw : WF t) (hl : labelsOKB t = true) {n : Node} (hn : n ∈ t) (hp : ¬ n.parent < 0) :
    segId t (stopsNx t) n.id = some (segOf t n.id) := by
  have hf := find?_of_mem hw.1 hn
  have hlen : (rootPath t n.id).length ≤ (t.length + 1) + 1 := by have := rootPath_length_le hw n.id; omega
  obtain ⟨T, h1, h2⟩ := tailId_walk hw hl (t.length + 1) n.id n hf hp hlen
  unfold segId segOf
  rw [succId_of_find hw.1 hf, if_neg hp]
  simp only [h1, h2, Option.map_some]

theorem seedsNx_eq (hl : labelsOKB t = true) :
    seedsNx t = (t.filter fun n => !isRootNode n && childCount t n.id != 1).map (·.id) := by
  unfold seedsNx
  congr 1
  apply List.filter_congr
  intro n hn
  rw [Bool.eq_iff_iff]
  simp only [Bool.or_eq_true, beq_iff_eq, Bool.and_eq_true, Bool.not_eq_true', bne_iff_ne, ne_eq, isRootNode,
    decide_eq_false_iff_not]
  rw [label_branch_iff hl hn, label_end_iff hl hn]
  omega

theorem breakNx_eq (t : Table) (hw : WF t) (hl : labelsOKB t = true) : breakNx t = some (smallSegments t) := by
  unfold breakNx
  rw [seedsNx_eq hl, smallSegments_eq, mapM_some_of_forall _ (segOf t)]
  · rw [List.map_map]; rfl
  · intro i hi
    obtain ⟨n, hn, rfl⟩ := List.mem_map.mp hi
    obtain ⟨h1, h2, _⟩ := mem_seeds.mp hn
    exact segId_eq hw hl h1 h2

/-! ### row positions: the igraph graph is the networkx graph with every id replaced by its position -/

/-- Row position of the node id `i` (`id2ix[i]`). -/
def pos (t : Table) (i : Int) : Nat := (ids t).idxOf i

theorem pos_lt {i : Int} (h : i ∈ ids t) : pos t i < t.length := by
  have := List.idxOf_lt_length_of_mem h
  rwa [ids_length] at this

theorem idAt?_pos {i : Int} (h : i ∈ ids t) : idAt? t (pos t i) = some i := by
  unfold idAt? pos
  have hlt := List.idxOf_lt_length_of_mem h
  rw [List.getElem?_eq_getElem hlt, List.getElem_idxOf hlt]

theorem ixOf?_mem {i : Int} (h : i ∈ ids t) : ixOf? t i = some (pos t i) := by
  unfold ixOf? pos
  rw [if_pos (List.contains_iff_mem.mpr h)]

theorem pos_getElem (hnd : (ids t).Nodup) {ix : Nat} (h : ix < t.length) : pos t t[ix].id = ix := by
  have hid : t[ix].id = (ids t)[ix]'(by simpa using h) := by simp [ids]
  unfold pos
  rw [hid, hnd.idxOf_getElem]

theorem zipIdx_eq_map_pos (hnd : (ids t).Nodup) : t.zipIdx = t.map fun n => (n, pos t n.id) := by
  apply List.ext_getElem
  · simp
  · intro ix h1 h2
    rw [List.getElem_zipIdx, List.getElem_map, pos_getElem hnd (by simpa using h1)]
    simp

theorem idxEdges_eq (hnd : (ids t).Nodup) :
    idxEdges t = (idEdges t).map fun e => (pos t e.1, pos t e.2) := by
  unfold idxEdges idEdges edges
  rw [zipIdx_eq_map_pos hnd, List.filter_map, List.map_map, List.map_map]
  rfl

theorem succIdx_pos (hnd : (ids t).Nodup) {i : Int} (hi : i ∈ ids t) :
    succIdx t (pos t i) = (succId t i).map (pos t) := by
  unfold succIdx succId
  rw [idxEdges_eq hnd, List.filter_map, List.map_map, List.map_map]
  rw [List.filter_congr fun e _ => idxOf_beq hi e.1]
  rfl

theorem contains_map_pos (S : List Int) {p : Int} (hp : p ∈ ids t) :
    (S.map (pos t)).contains (pos t p) = S.contains p := by
  rw [Bool.eq_iff_iff, List.contains_iff_mem, List.contains_iff_mem, List.mem_map]
  exact ⟨fun ⟨x, hx, hxp⟩ => idxOf_inj hp hxp ▸ hx, fun h => ⟨p, h, rfl⟩⟩

theorem mapM_idAt (l : List Int) (h : ∀ x ∈ l, x ∈ ids t) : (l.map (pos t)).mapM (idAt? t) = some l := by
  have := mapM_map_some (idAt? t) (pos t) id l fun x hx => idAt?_pos (h x hx)
  rwa [List.map_id] at this

theorem mapM_mapM_idAt (X : List (List Int)) (h : ∀ s ∈ X, ∀ x ∈ s, x ∈ ids t) :
    (X.map (List.map (pos t))).mapM (fun s => s.mapM (idAt? t)) = some X := by
  have := mapM_map_some (fun s => s.mapM (idAt? t)) (List.map (pos t)) id X fun s hs => mapM_idAt s (h s hs)
  rwa [List.map_id] at this

/-! ### `_break_segments`, igraph variant -/

theorem indegIdx_pos (hw : WF t) {i : Int} (hi : i ∈ ids t) : indegIdx t (pos t i) = childCount t i := by
  unfold indegIdx
  rw [idxEdges_eq hw.1, List.filter_map, List.length_map, List.filter_congr fun e _ => idxOf_beq hi e.2,
    ← List.countP_eq_length_filter]
  exact countP_edges_snd t (ids_nonneg hw.2.1 hi)

theorem outdegIdx_of_find (hnd : (ids t).Nodup) {i : Int} {n : Node} (hf : find? t i = some n) :
    outdegIdx t (pos t i) = if n.parent < 0 then 0 else 1 := by
  have hi : i ∈ ids t := mem_ids.mpr ⟨n, find?_some hf⟩
  have : outdegIdx t (pos t i) = (succIdx t (pos t i)).length := by simp [outdegIdx, succIdx]
  rw [this, succIdx_pos hnd hi, List.length_map, succId_of_find hnd hf]
  by_cases hp : n.parent < 0 <;> simp [hp]

theorem stopsIdx_contains (hw : WF t) {p : Int} {n : Node} (hf : find? t p = some n) :
    (stopsIdx t).contains (pos t p) = isBranchOrRoot t p := by
  have hp : p ∈ ids t := mem_ids.mpr ⟨n, (find?_some hf).1, (find?_some hf).2⟩
  have hlt := pos_lt hp
  rw [isBranchOrRoot_of_find hf, Bool.eq_iff_iff]
  unfold stopsIdx branchIdx rootIdx
  simp only [List.contains_eq_mem, decide_eq_true_eq, List.mem_append, List.mem_filter, List.mem_range,
    Bool.and_eq_true, beq_iff_eq, Bool.or_eq_true]
  rw [indegIdx_pos hw hp, outdegIdx_of_find hw.1 hf]
  by_cases hr : n.parent < 0
  · simp [hr, hlt]
  · simp [hr, hlt]

theorem tailIdx_conj (hw : WF t) (hl : labelsOKB t = true) : ∀ (f : Nat) (p : Int), p ∈ ids t →
    tailIdx t (stopsIdx t) f (pos t p) = (tailId t (stopsNx t) f p).map (List.map (pos t)) := by
  intro f
  induction f with
  | zero => intro p _; rfl
  | succ f ih =>
    intro p hp
    obtain ⟨n, hn, hnp⟩ := mem_ids.mp hp
    have hf : find? t p = some n := hnp ▸ find?_of_mem hw.1 hn
    unfold tailIdx tailId
    rw [stopsIdx_contains hw hf, stopsNx_contains hw.1 hl hf, succIdx_pos hw.1 hp]
    cases isBranchOrRoot t p with
    | true => rfl
    | false =>
      simp only [Bool.false_eq_true, if_false]
      cases hsu : succId t p with
      | nil => rfl
      | cons q rest =>
        have hq := succId_sub hw hsu
        simp only [List.map_cons]
        rw [ih q hq, Option.map_map, Option.map_map]
        rfl

theorem segIdx_conj (hw : WF t) (hl : labelsOKB t = true) {s : Int} (hs : s ∈ ids t) :
    segIdx t (stopsIdx t) (pos t s) = (segId t (stopsNx t) s).map (List.map (pos t)) := by
  unfold segIdx segId
  rw [succIdx_pos hw.1 hs]
  cases hsu : succId t s with
  | nil => rfl
  | cons q rest =>
    have hq := succId_sub hw hsu
    simp only [List.map_cons]
    rw [tailIdx_conj hw hl _ q hq, Option.map_map, Option.map_map]
    rfl

theorem mem_seedsIdx_pos (hw : WF t) {n : Node} (hn : n ∈ t) :
    pos t n.id ∈ seedsIdx t ↔ ¬ n.parent < 0 ∧ childCount t n.id ≠ 1 := by
  have hi := mem_ids_of_mem hn
  have hf := find?_of_mem hw.1 hn
  have hlt := pos_lt hi
  unfold seedsIdx branchIdx endIdx rootIdx
  simp only [List.mem_filter, List.mem_append, List.mem_range, Bool.and_eq_true, decide_eq_true_eq, beq_iff_eq,
    Bool.not_eq_true', List.contains_eq_mem, decide_eq_false_iff_not, not_and]
  rw [indegIdx_pos hw hi, outdegIdx_of_find hw.1 hf]
  by_cases hr : n.parent < 0
  · simp [hr, hlt]
  · simp [hr, hlt]; omega

theorem seedsIdx_lt {ix : Nat} (h : ix ∈ seedsIdx t) : ix < t.length := by
  unfold seedsIdx branchIdx endIdx at h
  simp only [List.mem_filter, List.mem_append, List.mem_range] at h
  rcases h.1 with h' | h'
  · exact h'.1
  · exact h'.1

theorem seedsIdx_nodup (t : Table) : (seedsIdx t).Nodup := by
  unfold seedsIdx
  refine List.Nodup.sublist List.filter_sublist ?_
  rw [List.nodup_append]
  refine ⟨List.Nodup.sublist List.filter_sublist List.nodup_range,
    List.Nodup.sublist List.filter_sublist List.nodup_range, ?_⟩
  intro a ha b hb hab
  subst hab
  unfold branchIdx at ha
  unfold endIdx at hb
  simp only [List.mem_filter, Bool.and_eq_true, decide_eq_true_eq, beq_iff_eq] at ha hb
  omega

theorem seedsIdx_perm (hw : WF t) (hl : labelsOKB t = true) :
    (seedsIdx t).Perm ((seedsNx t).map (pos t)) := by
  have hnd2 : ((seedsNx t).map (pos t)).Nodup := by
    have hnd1 : (seedsNx t).Nodup := hw.1.sublist (List.filter_sublist.map _)
    show List.Pairwise (· ≠ ·) _
    rw [List.pairwise_map]
    refine List.Pairwise.imp_of_mem ?_ hnd1
    intro a b _ hb hne hab
    obtain ⟨n, hn, rfl⟩ := List.mem_map.mp hb
    exact hne (idxOf_inj (mem_ids_of_mem (List.mem_filter.mp hn).1) hab)
  apply (List.perm_ext_iff_of_nodup (seedsIdx_nodup t) hnd2).mpr
  intro ix
  rw [seedsNx_eq hl]
  simp only [List.mem_map]
  constructor
  · intro h
    have hlt := seedsIdx_lt h
    have hpos := pos_getElem hw.1 hlt
    have hn : t[ix] ∈ t := List.getElem_mem hlt
    rw [← hpos] at h
    have := (mem_seedsIdx_pos hw hn).mp h
    exact ⟨t[ix].id, ⟨t[ix], mem_seeds.mpr ⟨hn, this.1, this.2⟩, rfl⟩, hpos⟩
  · rintro ⟨i, ⟨n, hn, rfl⟩, rfl⟩
    obtain ⟨h1, h2, h3⟩ := mem_seeds.mp hn
    exact (mem_seedsIdx_pos hw h1).mpr ⟨h2, h3⟩

theorem segOf_sub (hw : WF t) {n : Node} (hn : n ∈ t) (hp : ¬ n.parent < 0) :
    ∀ x ∈ segOf t n.id, x ∈ ids t := by
  obtain ⟨mid, last, e, hs⟩ := segOf_spec hw hn hp
  intro x hx
  rw [e] at hx
  rcases List.mem_append.mp hx with h | h
  · apply rootPath_sub (i := n.id)
    rw [hs.path]; exact List.mem_append_left _ h
  · simp only [List.mem_singleton] at h
    rw [h]; exact hs.hlast

theorem breakIgraphFrom_perm (t : Table) (hw : WF t) (hl : labelsOKB t = true) (seeds : List Nat)
    (hs : seeds.Perm (seedsIdx t)) : ∃ segs, breakIgraphFrom t seeds = some segs ∧ segs.Perm (smallSegments t) := by
  -- every seed position is the position of a seed row, whose id the attribute lookup `idOf` recovers
  let idOf : Nat → Int := fun ix => (idAt? t ix).getD 0
  have hid : ∀ i ∈ ids t, idOf (pos t i) = i := fun i hi => by
    show (idAt? t (pos t i)).getD 0 = i
    rw [idAt?_pos hi]; rfl
  have hp : seeds.Perm ((seedsNx t).map (pos t)) := hs.trans (seedsIdx_perm hw hl)
  have hseed : ∀ ix ∈ seeds, ∃ n ∈ t, ¬ n.parent < 0 ∧ pos t n.id = ix := by
    intro ix hix
    obtain ⟨i, hi, rfl⟩ := List.mem_map.mp (hp.mem_iff.mp hix)
    rw [seedsNx_eq hl] at hi
    obtain ⟨n, hn, rfl⟩ := List.mem_map.mp hi
    exact ⟨n, (mem_seeds.mp hn).1, (mem_seeds.mp hn).2.1, rfl⟩
  have h1 : seeds.mapM (segIdx t (stopsIdx t)) = some (seeds.map fun ix => (segOf t (idOf ix)).map (pos t)) :=
    mapM_some_of_forall _ _ _ fun ix hix => by
      obtain ⟨n, hn, hnp, rfl⟩ := hseed ix hix
      rw [hid _ (mem_ids_of_mem hn), segIdx_conj hw hl (mem_ids_of_mem hn), segId_eq hw hl hn hnp]
      rfl
  have h2 : (seeds.map fun ix => (segOf t (idOf ix)).map (pos t)).mapM (fun s => s.mapM (idAt? t)) =
      some (seeds.map fun ix => segOf t (idOf ix)) :=
    mapM_map_some _ _ _ _ fun ix hix => by
      obtain ⟨n, hn, hnp, rfl⟩ := hseed ix hix
      rw [hid _ (mem_ids_of_mem hn)]
      exact mapM_idAt _ (segOf_sub hw hn hnp)
  refine ⟨_, by unfold breakIgraphFrom; rw [h1]; exact h2, (hp.map _).trans (List.Perm.of_eq ?_)⟩
  rw [List.map_map, seedsNx_eq hl, smallSegments_eq, List.map_map]
  apply List.map_congr_left
  intro n hn
  show segOf t (idOf (pos t n.id)) = segOf t n.id
  rw [hid _ (mem_ids_of_mem (mem_seeds.mp hn).1)]

/-! ### the two variants of `_generate_segments` agree

The igraph loops are the networkx loops conjugated by `pos`: successors commute with `pos`, and membership tests
in the `seen` list commute because `pos` is injective at the present id being tested. -/

theorem growId_sub (hw : WF t) (f : Nat) (cur : Int) (seen : List Int) (r : List Int × List Int)
    (h : growId t f cur seen = some r) : ∀ x ∈ r.1, x ∈ ids t := by
  fun_induction growId t f cur seen generalizing r with
  | case1 => cases h
  | case2 => cases h; nofun
  | case3 f cur seen p rest hsu hc => cases h; exact List.forall_mem_singleton.mpr (succId_sub hw hsu)
  | case4 f cur seen p rest hsu hc ih =>
    obtain ⟨r', hg, rfl⟩ := Option.map_eq_some_iff.mp h
    exact List.forall_mem_cons.mpr ⟨succId_sub hw hsu, ih r' hg⟩

theorem growIdx_conj (hw : WF t) : ∀ (f : Nat) (cur : Int) (seen : List Int), cur ∈ ids t →
    growIdx t f (pos t cur) (seen.map (pos t)) =
      (growId t f cur seen).map fun r => (r.1.map (pos t), r.2.map (pos t)) := by
  intro f
  induction f with
  | zero => intro cur seen _; rfl
  | succ f ih =>
    intro cur seen hc
    unfold growIdx growId
    rw [succIdx_pos hw.1 hc]
    cases hsu : succId t cur with
    | nil => rfl
    | cons p rest =>
      have hp := succId_sub hw hsu
      simp only [List.map_cons]
      rw [contains_map_pos seen hp]
      by_cases hcs : seen.contains p = true
      · rw [if_pos hcs, if_pos hcs]; rfl
      · rw [if_neg hcs, if_neg hcs]
        have := ih p (p :: seen) hp
        rw [List.map_cons] at this
        rw [this, Option.map_map, Option.map_map]
        rfl

/-- One iteration of the `for nodeID in endNodeIDs` loop (igraph). -/
def stepIdx (t : Table) (acc : List (List Nat) × List Nat) (l : Nat) : Option (List (List Nat) × List Nat) :=
  (growIdx t (t.length + 1) l acc.2).map fun r =>
    (if r.1.length + 1 > 1 then acc.1 ++ [l :: r.1] else acc.1, r.2)

/-- One iteration of the `for nodeID in endNodeIDs` loop (networkx). -/
def stepId (t : Table) (acc : List (List Int) × List Int) (l : Int) : Option (List (List Int) × List Int) :=
  (growId t (t.length + 1) l acc.2).map fun r =>
    (if r.1.length + 1 > 1 then acc.1 ++ [l :: r.1] else acc.1, r.2)

theorem seqsIdx_eq (t : Table) (leafs : List Nat) :
    seqsIdx t leafs = (leafs.foldlM (stepIdx t) ([], [])).map (·.1) := rfl

theorem seqsId_eq (t : Table) (leafs : List Int) :
    seqsId t leafs = (leafs.foldlM (stepId t) ([], [])).map (·.1) := rfl

theorem stepIdx_conj (hw : WF t) (A : List (List Int)) (S : List Int) {l : Int} (hl : l ∈ ids t) :
    stepIdx t (A.map (List.map (pos t)), S.map (pos t)) (pos t l) =
      (stepId t (A, S) l).map fun r => (r.1.map (List.map (pos t)), r.2.map (pos t)) := by
  unfold stepIdx stepId
  simp only []
  rw [growIdx_conj hw _ l S hl, Option.map_map, Option.map_map]
  cases growId t (t.length + 1) l S with
  | none => rfl
  | some r =>
    simp only [Option.map_some, Function.comp, List.length_map]
    by_cases h : r.1.length + 1 > 1
    · rw [if_pos h, if_pos h]; simp
    · rw [if_neg h, if_neg h]

theorem stepId_sub (hw : WF t) {A : List (List Int)} {S : List Int} {l : Int} (hl : l ∈ ids t)
    (hA : ∀ s ∈ A, ∀ x ∈ s, x ∈ ids t) {r : List (List Int) × List Int}
    (h : stepId t (A, S) l = some r) : ∀ s ∈ r.1, ∀ x ∈ s, x ∈ ids t := by
  obtain ⟨r', hg, rfl⟩ := Option.map_eq_some_iff.mp h
  by_cases hc : r'.1.length + 1 > 1
  · simp only [if_pos hc]
    intro s hs
    rcases List.mem_append.mp hs with e | e
    · exact hA s e
    · rw [List.mem_singleton.mp e]
      exact List.forall_mem_cons.mpr ⟨hl, growId_sub hw _ l S r' hg⟩
  · simp only [if_neg hc]; exact hA

theorem foldlM_conj (hw : WF t) : ∀ (L : List Int) (A : List (List Int)) (S : List Int),
    (∀ l ∈ L, l ∈ ids t) → (∀ s ∈ A, ∀ x ∈ s, x ∈ ids t) →
    (L.map (pos t)).foldlM (stepIdx t) (A.map (List.map (pos t)), S.map (pos t)) =
      ((L.foldlM (stepId t) (A, S)).map fun r => (r.1.map (List.map (pos t)), r.2.map (pos t))) ∧
    ∀ r, L.foldlM (stepId t) (A, S) = some r → ∀ s ∈ r.1, ∀ x ∈ s, x ∈ ids t := by
  intro L
  induction L with
  | nil =>
    intro A S _ hA
    refine ⟨rfl, fun r h => ?_⟩
    rw [← Option.some.inj h]; exact hA
  | cons l L ih =>
    intro A S hL hA
    have hl := hL l List.mem_cons_self
    simp only [List.map_cons, List.foldlM_cons]
    rw [stepIdx_conj hw A S hl]
    cases hst : stepId t (A, S) l with
    | none => simp
    | some r =>
      simp only [Option.map_some, Option.bind_eq_bind, Option.bind_some]
      exact ih r.1 r.2 (fun x hx => hL x (List.mem_cons_of_mem _ hx)) (stepId_sub hw hl hA hst)

theorem seqsIdx_conj (hw : WF t) (L : List Int) (hL : ∀ l ∈ L, l ∈ ids t) :
    seqsIdx t (L.map (pos t)) = (seqsId t L).map (List.map (List.map (pos t))) ∧
    ∀ X, seqsId t L = some X → ∀ s ∈ X, ∀ x ∈ s, x ∈ ids t := by
  obtain ⟨h1, h2⟩ := foldlM_conj hw L [] [] hL (by simp)
  rw [seqsIdx_eq, seqsId_eq]
  constructor
  · simp only [List.map_nil] at h1
    rw [h1, Option.map_map, Option.map_map]
    rfl
  · intro X hX
    obtain ⟨r, hf, rfl⟩ := Option.map_eq_some_iff.mp hX
    exact h2 r hf

theorem mem_sortedEnds {len : Int → Int → Nat} {i : Int} (h : i ∈ sortedEnds t len) : i ∈ ids t := by
  unfold sortedEnds at h
  rw [mem_sortBy] at h
  obtain ⟨n, hn, rfl⟩ := List.mem_map.mp h
  exact mem_ids_of_mem (List.mem_filter.mp hn).1

theorem genIgraph_eq_genNx (t : Table) (hw : WF t) (len : Int → Int → Nat) : genIgraph t len = genNx t len := by
  have hL : ∀ l ∈ sortedEnds t len, l ∈ ids t := fun l hl => mem_sortedEnds hl
  have h1 : (sortedEnds t len).mapM (ixOf? t) = some ((sortedEnds t len).map (pos t)) :=
    mapM_some_of_forall _ _ _ (fun a ha => ixOf?_mem (hL a ha))
  obtain ⟨h2, h3⟩ := seqsIdx_conj hw (sortedEnds t len) hL
  unfold genIgraph genNx
  rw [h1]
  simp only [h2]
  cases hs : seqsId t (sortedEnds t len) with
  | none => rfl
  | some X =>
    simp only [Option.map_some]
    rw [mapM_mapM_idAt X (h3 X hs)]

/-! ### `_generate_segments`, networkx variant, passes the checker -/

theorem growId_eq_walkSeen (hw : WF t) (f : Nat) (cur : Int) (seen : List Int) (h : dep t cur < f) :
    growId t f cur seen = some (walkSeen t f cur seen) := by
  -- `fun_induction` on one of the two: `growId` has `walkSeen`'s case tree, so one `rw [growId, …]` per case follows it
  fun_induction walkSeen t f cur seen with
  | case1 => exact absurd h (Nat.not_lt_zero _)
  | case2 f cur seen hf => rw [growId, succId_absent hf]
  | case3 f cur seen n hf hp => rw [growId, succId_of_find hw.1 hf, if_pos hp]
  | case4 f cur seen n hf hp hc => rw [growId, succId_of_find hw.1 hf, if_neg hp]; simp only [hc, if_true]
  | case5 f cur seen n hf hp hc r ih =>
    rw [growId, succId_of_find hw.1 hf, if_neg hp]
    simp only [hc, Bool.false_eq_true, if_false]
    rw [ih (by rw [dep, rootPath_of_nonroot hw hf hp] at h; exact Nat.lt_of_succ_lt_succ h)]; rfl

theorem stepId_eq_greedyStep (hw : WF t) (A : List (List Int)) (S : List Int) (l : Int) :
    stepId t (A.filter fun s => s.length > 1, S) l =
      some ((greedyStep t (A, S) l).1.filter fun s => s.length > 1, (greedyStep t (A, S) l).2) := by
  have hlen : (rootPath t l).length < t.length + 1 := by have := rootPath_length_le hw l; omega
  unfold stepId greedyStep
  simp only []
  rw [growId_eq_walkSeen hw _ l S hlen]
  simp only [Option.map_some, Option.some.injEq, Prod.mk.injEq, and_true]
  rw [List.filter_append]
  by_cases h : (walkSeen t (t.length + 1) l S).1.length + 1 > 1
  · rw [if_pos h]
    congr 1
    rw [List.filter_cons, if_pos (by simpa using h)]; rfl
  · rw [if_neg h]
    rw [List.filter_cons, if_neg (by simpa using h)]; simp

theorem foldlM_eq_foldl (hw : WF t) : ∀ (ls : List Int) (A : List (List Int)) (S : List Int),
    ls.foldlM (stepId t) (A.filter fun s => s.length > 1, S) =
      some ((ls.foldl (greedyStep t) (A, S)).1.filter fun s => s.length > 1, (ls.foldl (greedyStep t) (A, S)).2) := by
  intro ls
  induction ls with
  | nil => intro A S; rfl
  | cons l ls ih =>
    intro A S
    rw [List.foldlM_cons, stepId_eq_greedyStep hw A S l]
    simp only [Option.bind_eq_bind, Option.bind_some, List.foldl_cons]
    exact ih _ _

theorem seqsId_eq_greedy (hw : WF t) (ls : List Int) :
    seqsId t ls = some ((greedySeqs t ls).filter fun s => s.length > 1) := by
  rw [seqsId_eq]
  have := foldlM_eq_foldl hw ls [] []
  rw [List.filter_nil] at this
  rw [this]; rfl

theorem sortedEnds_perm (hl : labelsOKB t = true) (len : Int → Int → Nat) :
    (sortedEnds t len).Perm (leafIds t) := by
  have : ((t.filter fun n => n.label == .end_).map (·.id)) = leafIds t := by
    unfold leafIds
    congr 1
    apply List.filter_congr
    intro n hn
    rw [Bool.eq_iff_iff]
    simp only [beq_iff_eq, Bool.and_eq_true, Bool.not_eq_true', isRootNode, decide_eq_false_iff_not]
    exact label_end_iff hl hn
  unfold sortedEnds
  rw [this]
  exact sortBy_perm _ _

/-- `nx.isolates`: the rows without incident edge are the childless roots (no edge out of the row, none into it). -/
theorem isolated_eq (hw : WF t) :
    (t.filter fun n => ((idEdges t).filter fun e => e.1 == n.id || e.2 == n.id).isEmpty) =
      t.filter fun n => isRootNode n && childCount t n.id == 0 := by
  refine List.filter_congr fun n hn => ?_
  have hout : (∀ e ∈ edges t, ¬ (e.1 == n.id) = true) ↔ isRootNode n = true := by
    rw [← List.filter_eq_nil_iff, ← List.map_eq_nil_iff (f := (·.2))]
    show succId t n.id = [] ↔ _
    rw [succId_of_find hw.1 (find?_of_mem hw.1 hn), isRootNode, decide_eq_true_eq]
    split <;> simp [*]
  rw [Bool.eq_iff_iff, List.isEmpty_iff, List.filter_eq_nil_iff, Bool.and_eq_true, beq_iff_eq,
    ← countP_edges_snd t (hw.2.1 n hn), List.countP_eq_zero, ← hout]
  simp only [Bool.or_eq_true, not_or]
  exact ⟨fun h => ⟨fun e he => (h e he).1, fun e he => (h e he).2⟩, fun h e he => ⟨h.1 e he, h.2 e he⟩⟩

/-- `dkey`, `keyLt`: the `let key` and the comparator inside `finish`, named; tied to it by the `show` in `finish_eq_segLt`. -/
def dkey (t : Table) (len : Int → Int → Nat) (s : List Int) : Nat :=
  distToRoot t len (s.head?.getD 0) - distToRoot t len (s.getLast?.getD 0)

def keyLt (t : Table) (len : Int → Int → Nat) (y x : List Int) : Bool :=
  decide (dkey t len x < dkey t len y) || (dkey t len x == dkey t len y && !lexLt y x)

theorem dkey_eq (hw : WF t) (len : Int → Int → Nat) {s : List Int} (h : isParentPath t s = true) :
    dkey t len s = pathLen len s := by
  unfold dkey
  rw [dist_telescope hw len s h]; omega

theorem finish_eq_segLt (hw : WF t) (len : Int → Int → Nat) (X : List (List Int))
    (hpp : ∀ s ∈ X, isParentPath t s = true) :
    finish t len X = sortBy (segLt len) X ++ (isolatedIds t).map fun i => [i] := by
  show sortBy (keyLt t len) X ++ _ = _
  rw [isolated_eq hw]
  congr 1
  · apply sortBy_congr
    intro y hy x hx
    unfold keyLt segLt
    rw [dkey_eq hw len (hpp y hy), dkey_eq hw len (hpp x hx)]
  · unfold isolatedIds
    rw [List.map_map]; rfl

theorem genNx_ok (t : Table) (hw : WF t) (hl : labelsOKB t = true) (len : Int → Int → Nat) :
    ∃ segs, genNx t len = some segs ∧ segmentsOKB t len segs = true := by
  obtain ⟨hpp, hperm⟩ := greedySeqs_spec hw (sortedEnds t len) (sortedEnds_perm hl len)
  have hfil : ((greedySeqs t (sortedEnds t len)).filter fun s => s.length > 1) = greedySeqs t (sortedEnds t len) := by
    rw [List.filter_eq_self]
    intro s hs; simpa using (hpp s hs).2
  refine ⟨finish t len (greedySeqs t (sortedEnds t len)), ?_, ?_⟩
  · unfold genNx
    rw [seqsId_eq_greedy hw, hfil]; rfl
  · rw [finish_eq_segLt hw len _ (fun s hs => (hpp s hs).1)]
    exact segs_ok_of len _ hpp hperm

end Navis.SegVar

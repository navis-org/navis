import NavisModel.Model.Ops
import NavisModel.Proofs.ListLemmas
/-! Node tables row by row: `find?` and ids under `Nodup`, children / roots / parents read off the rows, `classify` as
`labelOf ∘ childCount` and which label goes with which child count, the `(id, parent)` columns `links` that carry the
topology and the edge list read off them (membership, `countP_edges_snd`: the in-degree of a non-negative id is its child count), the row-level
reading of `subset` and its edge list (a filter of the old one), the case equations of `cut`, what the dictionary lookup
`lookupD` returns, the empty table is well-formed (`WF_nil`), and the first facts that need `WF` only through its non-negative ids
(`ids_nonneg`, `neg_not_mem_ids`, `parentOf_none_of_neg`). -/
namespace Navis.Forest

@[simp] theorem ids_nil : ids [] = [] := rfl
@[simp] theorem ids_cons (n : Node) (t : Table) : ids (n :: t) = n.id :: ids t := rfl
@[simp] theorem ids_append (a b : Table) : ids (a ++ b) = ids a ++ ids b := by simp [ids]
@[simp] theorem ids_length (t : Table) : (ids t).length = t.length := by simp [ids]

theorem getElem_ids {t : Table} {i : Nat} (h : i < t.length) (h' : i < (ids t).length) : (ids t)[i] = (t[i]).id := by
  simp only [ids, List.getElem_map]

theorem ids_map_of_id {g : Node → Node} (hg : ∀ n, (g n).id = n.id) (t : Table) : ids (t.map g) = ids t := by
  unfold ids
  rw [List.map_map]
  exact List.map_congr_left fun n _ => hg n

theorem mem_ids {t : Table} {i : Int} : i ∈ ids t ↔ ∃ n ∈ t, n.id = i := by
  simp [ids]

theorem mem_ids_of_mem {t : Table} {n : Node} (h : n ∈ t) : n.id ∈ ids t := mem_ids.mpr ⟨n, h, rfl⟩

theorem find?_some {t : Table} {i : Int} {n : Node} (h : find? t i = some n) : n ∈ t ∧ n.id = i := by
  unfold find? at h
  exact ⟨List.mem_of_find?_eq_some h, by simpa using List.find?_some h⟩

theorem mem_ids_of_find? {t : Table} {i : Int} {n : Node} (h : find? t i = some n) : i ∈ ids t :=
  mem_ids.mpr ⟨n, find?_some h⟩

theorem find?_none {t : Table} {i : Int} (h : find? t i = none) : i ∉ ids t :=
  find?_key_eq_none.mp h

theorem find?_isSome_iff {t : Table} {i : Int} : (find? t i).isSome ↔ i ∈ ids t := by
  rw [find?, List.find?_isSome, mem_ids]
  simp only [beq_iff_eq]

theorem find?_of_mem {t : Table} (hnd : (ids t).Nodup) {n : Node} (h : n ∈ t) : find? t n.id = some n :=
  find?_key_of_nodup hnd h

theorem node_eq_of_id {t : Table} (hnd : (ids t).Nodup) {a b : Node} (ha : a ∈ t) (hb : b ∈ t) (h : a.id = b.id) :
    a = b :=
  inj_of_nodup_map hnd a ha b hb h

theorem filter_id_of_find {t : Table} (hnd : (ids t).Nodup) {i : Int} {n : Node} (hf : find? t i = some n) :
    (t.filter fun m => m.id == i) = [n] := by
  induction t with
  | nil => simp [find?] at hf
  | cons a t ih =>
    rw [ids_cons, List.nodup_cons] at hnd
    unfold find? at hf
    rw [List.find?_cons] at hf
    by_cases ha : a.id = i
    · have hai : (a.id == i) = true := by simpa using ha
      rw [hai] at hf
      simp only [Option.some.injEq] at hf
      rw [List.filter_cons, hai, if_pos rfl, hf]
      congr 1
      rw [List.filter_eq_nil_iff]
      intro m hm hmi
      have : m.id = i := by simpa using hmi
      exact hnd.1 (ha ▸ this ▸ mem_ids_of_mem hm)
    · have hai : (a.id == i) = false := by simpa using ha
      rw [hai] at hf
      rw [List.filter_cons, hai]
      exact ih hnd.2 hf

theorem nodup_of_ids_nodup {t : Table} (h : (ids t).Nodup) : t.Nodup :=
  List.Pairwise.of_map (fun n : Node => n.id) (fun a b hne heq => hne (by rw [heq])) h

/-! ### children, roots and parents, read off the rows -/

theorem mem_map_id_filter {t : Table} {p : Node → Bool} {x : Int} :
    x ∈ (t.filter p).map (·.id) ↔ ∃ n ∈ t, n.id = x ∧ p n = true := by
  simp only [mem_map_filter, and_comm]

theorem nodup_map_id_filter {t : Table} (hnd : (ids t).Nodup) (p : Node → Bool) : ((t.filter p).map (·.id)).Nodup :=
  hnd.sublist (List.filter_sublist.map _)

theorem mem_children {t : Table} {i c : Int} : c ∈ children t i ↔ ∃ n ∈ t, n.parent = i ∧ n.id = c := by
  unfold children
  simp only [List.mem_map, List.mem_filter, beq_iff_eq, and_assoc]

theorem mem_filter_parent {t : Table} {i : Int} {n : Node} :
    n ∈ t.filter (fun m => m.parent == i) ↔ n ∈ t ∧ n.parent = i := by
  rw [List.mem_filter, beq_iff_eq]

theorem children_length (t : Table) (i : Int) : (children t i).length = childCount t i := by
  simp [children, childCount]

theorem children_nil_iff {t : Table} {i : Int} : children t i = [] ↔ childCount t i = 0 := by
  rw [← children_length]; exact List.length_eq_zero_iff.symm

theorem children_nodup {t : Table} (hnd : (ids t).Nodup) (b : Int) : (children t b).Nodup := nodup_map_id_filter hnd _

theorem children_eq_singleton {t : Table} {i c : Int} (hc : c ∈ children t i) (h1 : childCount t i ≤ 1) :
    children t i = [c] := by
  rw [← children_length] at h1
  match hch : children t i, hc, h1 with
  | [x], hc, _ => rw [List.mem_singleton.mp hc]
  | [], hc, _ => exact absurd hc List.not_mem_nil
  | _ :: _ :: _, _, h1 => exact absurd h1 (by rw [List.length_cons, List.length_cons]; omega)

theorem childCount_pos_of_child {t : Table} {n : Node} (hn : n ∈ t) : 0 < childCount t n.parent := by
  unfold childCount
  exact List.length_pos_of_mem (List.mem_filter.mpr ⟨hn, by simp⟩)

theorem exists_child_of_pos {t : Table} {i : Int} (h : 0 < childCount t i) : ∃ c ∈ t, c.parent = i := by
  unfold childCount at h
  obtain ⟨c, hc⟩ := List.exists_mem_of_length_pos h
  have := List.mem_filter.mp hc
  exact ⟨c, this.1, by simpa using this.2⟩

theorem child_unique {t : Table} {i : Int} (h : childCount t i ≤ 1) {n n' : Node} (hn : n ∈ t) (hn' : n' ∈ t)
    (hp : n.parent = i) (hp' : n'.parent = i) : n = n' := by
  unfold childCount at h
  have h1 : n ∈ t.filter (fun m => m.parent == i) := List.mem_filter.mpr ⟨hn, by simpa using hp⟩
  have h2 : n' ∈ t.filter (fun m => m.parent == i) := List.mem_filter.mpr ⟨hn', by simpa using hp'⟩
  generalize t.filter (fun m => m.parent == i) = L at h h1 h2
  match L, h, h1, h2 with
  | [a], _, h1, h2 =>
    simp at h1 h2; rw [h1, h2]
  | _ :: _ :: _, h, _, _ => simp at h

theorem mem_roots {t : Table} {r : Int} : r ∈ roots t ↔ ∃ n ∈ t, n.id = r ∧ n.parent < 0 := by
  unfold roots
  simp only [mem_map_id_filter, isRootNode, decide_eq_true_eq]

theorem roots_sub {t : Table} {r : Int} (h : r ∈ roots t) : r ∈ ids t := by
  obtain ⟨n, hn, rfl, _⟩ := mem_roots.mp h
  exact mem_ids_of_mem hn

theorem roots_nodup {t : Table} (hnd : (ids t).Nodup) : (roots t).Nodup := nodup_map_id_filter hnd _

theorem WF_nil : WF ([] : Table) := ⟨by simp [ids], by simp, fun _ => 0, by simp⟩

theorem ids_nonneg {t : Table} (hpos : ∀ n ∈ t, 0 ≤ n.id) {i : Int} (hi : i ∈ ids t) : 0 ≤ i := by
  obtain ⟨a, ha, rfl⟩ := mem_ids.mp hi
  exact hpos a ha

theorem neg_not_mem_ids {t : Table} (hw : WF t) {i : Int} (hi : i < 0) : i ∉ ids t :=
  fun h => Int.not_lt.mpr (ids_nonneg hw.2.1 h) hi

theorem parentOf_some {t : Table} {i p : Int} (h : parentOf t i = some p) :
    ∃ n, find? t i = some n ∧ n ∈ t ∧ n.id = i ∧ n.parent = p := by
  obtain ⟨n, hf, hp⟩ := Option.map_eq_some_iff.mp h
  exact ⟨n, hf, (find?_some hf).1, (find?_some hf).2, hp⟩

theorem mem_children_of_parentOf {t : Table} {c p : Int} (h : parentOf t c = some p) : c ∈ children t p := by
  obtain ⟨n, _, hn, hid, hnp⟩ := parentOf_some h
  exact mem_children.mpr ⟨n, hn, hnp, hid⟩

theorem parentOf_of_mem {t : Table} (hnd : (ids t).Nodup) {n : Node} (h : n ∈ t) :
    parentOf t n.id = some n.parent := by
  unfold parentOf; rw [find?_of_mem hnd h]; rfl

theorem parentOf_isSome_of_mem {t : Table} {i : Int} (hi : i ∈ ids t) : ∃ p, parentOf t i = some p := by
  unfold parentOf
  cases hf : find? t i with
  | none => exact absurd hi (find?_none hf)
  | some n => exact ⟨n.parent, rfl⟩

theorem parentOf_none_of_neg {t : Table} (hpos : ∀ n ∈ t, 0 ≤ n.id) {i : Int} (hi : i < 0) :
    parentOf t i = none := by
  cases h : parentOf t i with
  | none => rfl
  | some p =>
    obtain ⟨n, _, hn, hid, _⟩ := parentOf_some h
    have := hpos n hn
    omega

/-! ### `classify` and the labels -/

@[simp] theorem ids_classify (t : Table) : ids (classify t) = ids t :=
  ids_map_of_id (g := fun n => { n with label := classifyNode t n }) (fun _ => rfl) t

@[simp] theorem parents_classify (t : Table) : parents (classify t) = parents t := by
  simp [classify, parents, List.map_map, Function.comp_def]

theorem mem_classify {t : Table} {m : Node} :
    m ∈ classify t ↔ ∃ n ∈ t, m = { n with label := classifyNode t n } := by
  unfold classify
  rw [List.mem_map]
  exact ⟨fun ⟨n, hn, h⟩ => ⟨n, hn, h.symm⟩, fun ⟨n, hn, h⟩ => ⟨n, hn, h.symm⟩⟩

theorem mem_classify_of_mem {t : Table} {n : Node} (h : n ∈ t) : ∃ m ∈ classify t, m.id = n.id ∧ m.parent = n.parent ∧
    m.x = n.x ∧ m.y = n.y ∧ m.z = n.z :=
  ⟨{ n with label := classifyNode t n }, mem_classify.mpr ⟨n, h, rfl⟩, rfl, rfl, rfl, rfl, rfl⟩

theorem count_parents_eq_childCount (t : Table) (i : Int) : (parents t).count i = childCount t i := by
  unfold parents childCount
  rw [List.count_eq_countP, List.countP_map, List.countP_eq_length_filter]
  rfl

theorem mem_parents_iff_childCount_pos (t : Table) (i : Int) : i ∈ parents t ↔ 0 < childCount t i := by
  rw [← count_parents_eq_childCount, List.count_pos_iff]

theorem classifyNode_eq_labelOf (t : Table) (n : Node) :
    classifyNode t n = labelOf (childCount t n.id) (n.parent < 0) := by
  unfold classifyNode labelOf
  simp only [count_parents_eq_childCount, mem_parents_iff_childCount_pos]
  generalize childCount t n.id = c
  by_cases h : n.parent < 0
  · simp only [h, if_true, decide_true]
  · simp only [h, if_false, decide_false, Bool.false_eq_true]
    match c with
    | 0 => rfl
    | 1 => rfl
    | k + 2 => simp

theorem childCount_classify (t : Table) (i : Int) : childCount (classify t) i = childCount t i := by
  rw [← count_parents_eq_childCount, ← count_parents_eq_childCount, parents_classify]

theorem labelsOKB_classify (t : Table) : labelsOKB (classify t) = true := by
  unfold labelsOKB
  rw [List.all_eq_true]
  intro m hm
  obtain ⟨n, hn, rfl⟩ := mem_classify.mp hm
  simp only [childCount_classify]
  rw [classifyNode_eq_labelOf]
  simp

theorem labelsOKB_iff (t : Table) :
    labelsOKB t = true ↔ ∀ n ∈ t, n.label = labelOf (childCount t n.id) (n.parent < 0) := by
  simp [labelsOKB, List.all_eq_true]

theorem labelOf_root_iff (c : Nat) (r : Bool) : labelOf c r = .root ↔ r = true := by
  cases r
  · rcases c with _ | _ | c <;> simp [labelOf]
  · simp [labelOf]

theorem labelOf_end_iff (c : Nat) (r : Bool) : labelOf c r = .end_ ↔ r = false ∧ c = 0 := by
  cases r
  · rcases c with _ | _ | c <;> simp [labelOf]
  · simp [labelOf]

theorem labelOf_branch_iff (c : Nat) (r : Bool) : labelOf c r = .branch ↔ r = false ∧ 2 ≤ c := by
  cases r
  · rcases c with _ | _ | c <;> simp [labelOf]
  · simp [labelOf]

theorem labelOf_slab_iff (c : Nat) (r : Bool) : labelOf c r = .slab ↔ r = false ∧ c = 1 := by
  cases r
  · rcases c with _ | _ | c <;> simp [labelOf]
  · simp [labelOf]

theorem label_root_iff {t : Table} {n : Node} (hl : labelsOKB t = true) (hn : n ∈ t) : n.label = .root ↔ n.parent < 0 := by
  rw [(labelsOKB_iff t).mp hl n hn, labelOf_root_iff, decide_eq_true_eq]

theorem label_end_iff {t : Table} {n : Node} (hl : labelsOKB t = true) (hn : n ∈ t) :
    n.label = .end_ ↔ ¬ n.parent < 0 ∧ childCount t n.id = 0 := by
  rw [(labelsOKB_iff t).mp hl n hn, labelOf_end_iff, decide_eq_false_iff_not]

theorem label_branch_iff {t : Table} {n : Node} (hl : labelsOKB t = true) (hn : n ∈ t) :
    n.label = .branch ↔ ¬ n.parent < 0 ∧ 2 ≤ childCount t n.id := by
  rw [(labelsOKB_iff t).mp hl n hn, labelOf_branch_iff, decide_eq_false_iff_not]

theorem label_slab_iff {t : Table} {n : Node} (hl : labelsOKB t = true) (hn : n ∈ t) :
    n.label = .slab ↔ ¬ n.parent < 0 ∧ childCount t n.id = 1 := by
  rw [(labelsOKB_iff t).mp hl n hn, labelOf_slab_iff, decide_eq_false_iff_not]

/-! ### the `(id, parent)` columns -/

/-- The `(id, parent)` column pair: everything the topology depends on. -/
def links (t : Table) : List (Int × Int) := t.map fun n => (n.id, n.parent)

/-! ### `edges` and `uedges` -/

theorem mem_edges {t : Table} {e : Int × Int} :
    e ∈ edges t ↔ ∃ n ∈ t, ¬ n.parent < 0 ∧ e = (n.id, n.parent) := by
  simp only [edges, isRootNode, mem_map_filter, Bool.not_eq_true', decide_eq_false_iff_not, eq_comm (b := e)]

theorem mem_uedges {t : Table} {e : Int × Int} :
    e ∈ uedges t ↔ ∃ n ∈ t, ¬ n.parent < 0 ∧ e = uedge n.id n.parent := by
  unfold uedges
  simp only [List.mem_map, mem_edges]
  constructor
  · rintro ⟨_, ⟨n, h1, h2, rfl⟩, rfl⟩; exact ⟨n, h1, h2, rfl⟩
  · rintro ⟨n, h1, h2, rfl⟩; exact ⟨_, ⟨n, h1, h2, rfl⟩, rfl⟩

theorem Nodup_edges {t : Table} (hnd : (ids t).Nodup) : (edges t).Nodup := by
  have h : t.Pairwise fun a b => a.id ≠ b.id := List.pairwise_map.mp hnd
  exact List.pairwise_map.mpr ((h.filter _).imp fun hab heq => hab (congrArg Prod.fst heq))

theorem edges_eq_links (t : Table) : edges t = (links t).filter (fun e => !decide (e.2 < 0)) := by
  unfold edges links isRootNode
  rw [List.filter_map]
  rfl

theorem edges_congr {t u : Table} (h : links u = links t) : edges u = edges t := by
  rw [edges_eq_links, edges_eq_links, h]

theorem uedges_congr {t u : Table} (h : links u = links t) : uedges u = uedges t := by
  unfold uedges; rw [edges_congr h]

theorem parents_eq_links (t : Table) : parents t = (links t).map (·.2) := by
  unfold parents links; rw [List.map_map]; rfl

theorem childCount_congr {t u : Table} (h : links u = links t) (i : Int) : childCount u i = childCount t i := by
  rw [← count_parents_eq_childCount, ← count_parents_eq_childCount, parents_eq_links, parents_eq_links, h]

theorem links_classify (t : Table) : links (classify t) = links t := by
  unfold links classify
  rw [List.map_map]
  rfl

theorem edges_classify (t : Table) : edges (classify t) = edges t := edges_congr (links_classify t)

/-- **The children of a node are the edges into it**: a row with parent `i ≥ 0` is not a root row. -/
theorem countP_edges_snd (t : Table) {i : Int} (hi : 0 ≤ i) :
    (edges t).countP (fun e => e.2 == i) = childCount t i := by
  unfold edges childCount
  rw [List.countP_map, List.countP_filter, List.countP_eq_length_filter]
  refine congrArg List.length (List.filter_congr fun n _ => ?_)
  have : n.parent = i → ¬ n.parent < 0 := fun h => by omega
  simpa [isRootNode] using this

theorem countP_edges_fst (t : Table) (i : Int) :
    (edges t).countP (fun e => e.1 == i) = t.countP fun n => n.id == i && !isRootNode n := by
  unfold edges
  rw [List.countP_map, List.countP_filter]
  rfl

/-! ### `subset`, `cut` -/

@[simp] theorem ids_fixOrphans (t : Table) : ids (fixOrphans t) = ids t :=
  ids_map_of_id (fun n => by split <;> rfl) t

theorem mem_fixOrphans {t : Table} {m : Node} :
    m ∈ fixOrphans t ↔ ∃ n ∈ t, m = (if (ids t).contains n.parent then n else { n with parent := -1 }) := by
  unfold fixOrphans
  rw [List.mem_map]
  exact ⟨fun ⟨n, hn, h⟩ => ⟨n, hn, h.symm⟩, fun ⟨n, hn, h⟩ => ⟨n, hn, h.symm⟩⟩

theorem ids_filter (t : Table) (keep : Int → Bool) :
    ids (t.filter fun n => keep n.id) = (ids t).filter keep := by
  simp [ids, List.filter_map, Function.comp_def]

theorem ids_subset (t : Table) (keep : Int → Bool) : ids (subset t keep) = (ids t).filter keep := by
  simp [subset, ids_filter]

theorem ids_subset_sub (t : Table) (keep : Int → Bool) : ∀ i ∈ ids (subset t keep), i ∈ ids t := by
  intro i hi
  rw [ids_subset] at hi
  exact (List.mem_filter.mp hi).1

theorem length_subset (t : Table) (keep : Int → Bool) :
    (subset t keep).length = ((ids t).filter keep).length := by
  rw [← ids_subset, ids_length]

theorem length_subset_le (t : Table) (keep : Int → Bool) : (subset t keep).length ≤ t.length := by
  rw [length_subset, ← ids_length t]; exact List.length_filter_le _ _

theorem length_subset_lt {t : Table} {keep : Int → Bool} {x : Int} (hx : x ∈ ids t) (hk : keep x = false) :
    (subset t keep).length < t.length := by
  rw [length_subset, ← ids_length t]
  exact List.length_filter_lt_length_iff_exists.mpr ⟨x, hx, by simp [hk]⟩

theorem subset_parent {t : Table} (keep : Int → Bool) {m : Node} (hm : m ∈ subset t keep) :
    ∃ n ∈ t, n.id = m.id ∧ keep n.id = true ∧ m.x = n.x ∧ m.y = n.y ∧ m.z = n.z ∧
      m.parent = (if n.parent ∈ (ids t).filter keep then n.parent else -1) := by
  obtain ⟨a, ha, rfl⟩ := mem_classify.mp hm
  obtain ⟨n, hn, rfl⟩ := mem_fixOrphans.mp ha
  have hn' := List.mem_filter.mp hn
  refine ⟨n, hn'.1, ?_, hn'.2, ?_⟩
  · split <;> rfl
  · simp only [ids_filter, List.contains_eq_mem, decide_eq_true_eq]
    split <;> exact ⟨rfl, rfl, rfl, rfl⟩

theorem subset_row_of_mem {t : Table} (hnd : (ids t).Nodup) (keep : Int → Bool) {n : Node} (hn : n ∈ t)
    (hk : keep n.id = true) :
    ∃ m ∈ subset t keep, m.id = n.id ∧ m.parent = (if n.parent ∈ (ids t).filter keep then n.parent else -1) := by
  have hid : n.id ∈ ids (subset t keep) := by
    rw [ids_subset]; exact List.mem_filter.mpr ⟨mem_ids_of_mem hn, hk⟩
  obtain ⟨m, hm, hmid⟩ := mem_ids.mp hid
  obtain ⟨n', hn', h1, _, _, _, _, h2⟩ := subset_parent keep hm
  have hfn' := find?_of_mem hnd hn'
  rw [h1, hmid, find?_of_mem hnd hn] at hfn'
  obtain rfl := Option.some.inj hfn'
  exact ⟨m, hm, hmid, h2⟩

theorem labelsOKB_subset (t : Table) (keep : Int → Bool) : labelsOKB (subset t keep) = true :=
  labelsOKB_classify _

/-! Each of the three steps of `subset` (filter the rows, cut the links to absent parents, relabel) filters the edge list or
leaves it alone, whatever the table. -/

theorem edges_filter (t : Table) (keep : Int → Bool) :
    edges (t.filter fun n => keep n.id) = (edges t).filter fun e => keep e.1 := by
  unfold edges
  rw [List.filter_map, List.filter_filter, List.filter_filter]
  exact congrArg _ (List.filter_congr fun n _ => Bool.and_comm _ _)

/-- A row of `fixOrphans t` has a parent exactly if it had one in `t` and that parent is present. -/
theorem edges_fixOrphans (t : Table) : edges (fixOrphans t) = (edges t).filter fun e => (ids t).contains e.2 := by
  unfold edges fixOrphans
  rw [List.filter_map, List.filter_map, List.map_map, List.filter_filter]
  refine (List.map_congr_left fun n hn => ?_).trans (congrArg _ (List.filter_congr fun n _ => ?_))
  · have := (List.mem_filter.mp hn).2
    simp only [Function.comp] at this ⊢
    split at this
    · rw [if_pos ‹_›]
    · cases this
  · simp only [Function.comp]
    split
    · rename_i h; rw [h, Bool.true_and]
    · rename_i h; rw [Bool.eq_false_iff.mpr h]; rfl

theorem edges_subset (t : Table) (keep : Int → Bool) :
    edges (subset t keep) = (edges t).filter fun e => keep e.1 && ((ids t).filter keep).contains e.2 := by
  rw [subset, edges_classify, edges_fixOrphans, edges_filter, List.filter_filter, ids_filter]
  exact List.filter_congr fun e _ => Bool.and_comm _ _

theorem mem_edges_subset {t : Table} {keep : Int → Bool} {e : Int × Int} :
    e ∈ edges (subset t keep) ↔ e ∈ edges t ∧ keep e.1 = true ∧ e.2 ∈ (ids t).filter keep := by
  rw [edges_subset, List.mem_filter, Bool.and_eq_true, List.contains_iff_mem]

theorem cut_none_of_absent {t : Table} {c : Int} (hf : find? t c = none) : cut t c = none := by
  unfold cut; rw [hf]

theorem cut_none_of_root {t : Table} {c : Int} {nc : Node} (hf : find? t c = some nc) (hp : nc.parent < 0) : cut t c = none := by
  unfold cut; rw [hf]; exact if_pos hp

theorem cut_of_find {t : Table} {c : Int} {nc : Node} (hf : find? t c = some nc) (hp : ¬ nc.parent < 0) :
    cut t c = some (subset t (fun i => (distalSet t c).contains i), subset t (fun i => !(distalSet t c).contains i || i == c)) := by
  unfold cut; rw [hf]; exact if_neg hp

theorem cut_some {t : Table} {c : Int} {d p : Table} (h : cut t c = some (d, p)) :
    d = subset t (fun i => (distalSet t c).contains i) ∧
    p = subset t (fun i => !(distalSet t c).contains i || i == c) ∧
    ∃ nc, find? t c = some nc ∧ ¬ nc.parent < 0 := by
  cases hf : find? t c with
  | none => rw [cut_none_of_absent hf] at h; cases h
  | some nc =>
    by_cases hp : nc.parent < 0
    · rw [cut_none_of_root hf hp] at h; cases h
    · rw [cut_of_find hf hp] at h
      obtain ⟨h1, h2⟩ := Prod.mk.inj (Option.some.inj h)
      exact ⟨h1.symm, h2.symm, nc, rfl, hp⟩

/-! ### `lookupD`; squared distance -/

theorem lookupD_mem {m : List (Int × Int)} {k : Int} (d : Int) (hk : k ∈ m.map Prod.fst) :
    ∃ e ∈ m, e.1 = k ∧ lookupD m k d = e.2 := by
  unfold lookupD
  cases hf : m.find? (fun e => e.1 == k) with
  | none => exact absurd hk (find?_key_eq_none.mp hf)
  | some e =>
    exact ⟨e, List.mem_of_find?_eq_some hf, by simpa using List.find?_some hf, rfl⟩

theorem lookupD_of_not_mem {m : List (Int × Int)} {k : Int} (d : Int) (h : k ∉ m.map (·.1)) : lookupD m k d = d := by
  unfold lookupD
  rw [find?_key_eq_none.mpr h]

theorem lookupD_of_mem {m : List (Int × Int)} (hnd : (m.map (·.1)).Nodup) {e : Int × Int} (he : e ∈ m) (d : Int) :
    lookupD m e.1 d = e.2 := by
  unfold lookupD
  rw [find?_key_of_nodup hnd he]

theorem lookupD_eq_or (m : List (Int × Int)) (k d : Int) : lookupD m k d = d ∨ lookupD m k d ∈ m.map (·.2) := by
  unfold lookupD
  cases h : m.find? (fun e => e.1 == k) with
  | none => exact Or.inl rfl
  | some e => exact Or.inr (List.mem_map.mpr ⟨e, List.mem_of_find?_eq_some h, rfl⟩)

theorem lookupD_functional {l : List (Int × Int)} {F : Int → Int} (hF : ∀ e ∈ l, e.2 = F e.1) {k : Int} (d : Int)
    (hk : ∃ e ∈ l, e.1 = k) : lookupD l k d = F k := by
  obtain ⟨e, he, hek⟩ := hk
  obtain ⟨e', he', hk', hl⟩ := lookupD_mem (m := l) d (k := k) (List.mem_map.mpr ⟨e, he, hek⟩)
  rw [hl, hF e' he', hk']

theorem sqDist_comm (a b : Node) : sqDist a b = sqDist b a := by
  unfold sqDist
  have h : ∀ u v : Int, (u - v) * (u - v) = (v - u) * (v - u) := by
    intro u v; rw [← Int.neg_sub v u, Int.neg_mul_neg]
  rw [h a.x, h a.y, h a.z]

end Navis.Forest

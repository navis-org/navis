import NavisModel.Proofs.SwcLemmas
import NavisModel.Proofs.DictLemmas
/-!
The algorithms as written compute what the model specifies: `_node_depths` (memoised walk towards the root, `Model/Swc.lean`: `walkUp`,
`assignDepths`, `depthsStep`, `nodeDepthsW`) gives `depth - 1` for every row of a well-formed forest, and the sequential label
assignments (`labelsAsWritten` over the translator's rule list) give `autoLabel`.  The latter is proved about the generated table
`Gen.Swc.labelRules` itself, on purpose: a source that assigns the labels in another order is to be looked at again.  Core Lean only.
-/
namespace Navis.Swc
open Navis.Forest

/-- Every memo entry is the depth (steps to the root) of a row of the table. -/
def MemoOK (t : List SNode) (m : List (Int × Int)) : Prop :=
  ∀ kv ∈ m, kv.1 ∈ nodeIds t ∧ kv.2 = ((depth t kv.1 : Nat) : Int) - 1

theorem memoGet_some {m : List (Int × Int)} {i d : Int} (h : memoGet m i = some d) : (i, d) ∈ m :=
  Conn.mem_of_dget m i d ((Conn.dget_eq_find? m i).trans h)

theorem memoGet_isSome_of_key {m : List (Int × Int)} {i : Int} (h : i ∈ m.map (·.1)) : (memoGet m i).isSome = true := by
  have e : memoGet m i = Conn.dget m i := (Conn.dget_eq_find? m i).symm
  rw [e]; exact (Conn.dget_isSome_iff m i).mpr h

theorem memoGet_ok {t : List SNode} {m : List (Int × Int)} (hm : MemoOK t m) {i d : Int} (h : memoGet m i = some d) :
    i ∈ nodeIds t ∧ d = ((depth t i : Nat) : Int) - 1 := hm _ (memoGet_some h)

theorem parentOf?_some {t : List SNode} {i p : Int} (h : parentOf? t i = some p) : ∃ n ∈ t, n.id = i ∧ n.parent = p := by
  unfold parentOf? at h
  obtain ⟨n, hf, rfl⟩ := Option.map_eq_some_iff.mp h
  exact ⟨n, List.mem_of_find?_eq_some hf, by simpa using List.find?_some hf, rfl⟩

theorem parentOf?_none {t : List SNode} {i : Int} (h : parentOf? t i = none) : i ∉ nodeIds t :=
  find?_key_eq_none.mp (Option.map_eq_none_iff.mp h)

/-- `rp` is a piece of a root path listed from the top: the first element hangs on `s`, every further element on its predecessor. -/
inductive Chain (t : List SNode) : Int → List Int → Prop
  | nil (s : Int) : Chain t s []
  | cons {s y : Int} {rest : List Int} : parentOf? t y = some s → Chain t y rest → Chain t s (y :: rest)

theorem assignDepths_keys (m : List (Int × Int)) (d : Int) (rp : List Int) :
    (assignDepths m d rp).map (·.1) = rp.reverse ++ m.map (·.1) := by
  induction rp generalizing m d with
  | nil => rfl
  | cons n rest ih => rw [assignDepths, ih, List.reverse_cons, List.append_assoc]; rfl

theorem assign_ok {t : List SNode} (hw : WF (forest t)) {s : Int} {rp : List Int} (hc : Chain t s rp) :
    ∀ (m : List (Int × Int)), MemoOK t m → MemoOK t (assignDepths m (((depth t s : Nat) : Int) - 1) rp) := by
  induction hc with
  | nil s => exact fun m hm => hm
  | @cons s y rest hp _ ih =>
    intro m hm
    obtain ⟨n, hn, hid, hpar⟩ := parentOf?_some hp
    have e : ((depth t s : Nat) : Int) - 1 + 1 = ((depth t y : Nat) : Int) - 1 := by
      rw [← hid, ← hpar, depth_step hw hn]; omega
    rw [assignDepths, e]
    exact ih _ (List.forall_mem_cons.mpr ⟨⟨by rw [← hid]; exact mem_nodeIds_of_mem hn, rfl⟩, hm⟩)

/-- The walk stops at a node `s` whose memo entry (or `-1` when `s` is no row) is its depth, with the nodes passed, `rp`, hanging below `s`. -/
theorem walk_ok {t : List SNode} (hw : WF (forest t)) {m : List (Int × Int)} (hm : MemoOK t m)
    (f : Nat) (node : Int) (path : List Int) (hf : depth t node < f) (hc : Chain t node path)
    (hlt : ∀ x ∈ path, depth t node < depth t x) :
      ∃ rp s, walkUp t m f node path = (rp, s) ∧ Chain t s rp ∧
        (memoGet m s).getD (-1) = ((depth t s : Nat) : Int) - 1 ∧ (∀ x ∈ path, x ∈ rp) ∧
        (node ∈ nodeIds t → memoGet m node = none → node ∈ rp) := by
  fun_induction walkUp t m f node path with
  | case1 => exact absurd hf (Nat.not_lt_zero _)
  | case2 f node path hp =>
    have hni := parentOf?_none hp
    have hg : memoGet m node = none := Option.eq_none_iff_forall_ne_some.mpr fun d hgg => hni (memoGet_ok hm hgg).1
    refine ⟨path, node, rfl, hc, ?_, fun x hx => hx, fun h => absurd h hni⟩
    rw [hg, depth_absent hni]; rfl
  | case3 f node path p hp hstop =>
    cases hg : memoGet m node with
    | some d => exact ⟨path, node, rfl, hc, by rw [hg]; exact (memoGet_ok hm hg).2, fun x hx => hx, fun _ h => nomatch h⟩
    | none =>
      rw [hg] at hstop
      exact absurd (hlt node (by simpa using hstop)) (Nat.lt_irrefl _)
  | case4 f node path p hp hstop ih =>
    obtain ⟨n, hn, hid, hpar⟩ := parentOf?_some hp
    have hd : depth t node = depth t p + 1 := by rw [← hid, ← hpar]; exact depth_step hw hn
    obtain ⟨rp, s, e, h1, h2, h3, _⟩ := ih (by omega) (Chain.cons hp hc)
      (List.forall_mem_cons.mpr ⟨by omega, fun x hx => by have := hlt x hx; omega⟩)
    exact ⟨rp, s, e, h1, h2, fun x hx => h3 x (List.mem_cons_of_mem _ hx), fun _ _ => h3 node List.mem_cons_self⟩

/-- Besides `MemoOK` a step keeps every key of the memo and adds the node it was called on: this is why `nodeDepthsW` finds every row id in
the final memo. -/
theorem step_ok {t : List SNode} (hw : WF (forest t)) {m : List (Int × Int)} (hm : MemoOK t m) {node : Int}
    (hn : node ∈ nodeIds t) :
    MemoOK t (depthsStep t m node) ∧ (∀ k ∈ m.map (·.1), k ∈ (depthsStep t m node).map (·.1)) ∧
      node ∈ (depthsStep t m node).map (·.1) := by
  obtain ⟨rp, s, e, h1, h2, _, h4⟩ := walk_ok hw hm (t.length + 1) node [] (by have := depth_le hw node; omega) (Chain.nil node)
    (fun x hx => nomatch hx)
  unfold depthsStep
  rw [e, h2, assignDepths_keys]
  refine ⟨assign_ok hw h1 m hm, fun k hk => List.mem_append_right _ hk, ?_⟩
  cases hg : memoGet m node with
  | none => exact List.mem_append_left _ (List.mem_reverse.mpr (h4 hn hg))
  | some d => exact List.mem_append_right _ (List.mem_map.mpr ⟨_, memoGet_some hg, rfl⟩)

theorem fold_ok {t : List SNode} (hw : WF (forest t)) (l : List Int) (hl : ∀ i ∈ l, i ∈ nodeIds t) :
    ∀ m, MemoOK t m → MemoOK t (l.foldl (depthsStep t) m) ∧
      ∀ k, (k ∈ m.map (·.1) ∨ k ∈ l) → k ∈ (l.foldl (depthsStep t) m).map (·.1) := by
  induction l with
  | nil => intro m hm; exact ⟨hm, fun k hk => hk.elim id (fun h => nomatch h)⟩
  | cons a l ih =>
    intro m hm
    obtain ⟨s1, s2, s3⟩ := step_ok hw hm (hl a List.mem_cons_self)
    obtain ⟨f1, f2⟩ := ih (fun i hi => hl i (List.mem_cons_of_mem _ hi)) _ s1
    refine ⟨f1, fun k hk => f2 k ?_⟩
    rcases hk with hk | hk
    · exact Or.inl (s2 k hk)
    · rcases List.mem_cons.mp hk with rfl | hk
      · exact Or.inl s3
      · exact Or.inr hk

theorem nodeDepthsW_eq {t : List SNode} (hw : WF (forest t)) :
    nodeDepthsW t = t.map fun n => ((depth t n.id : Nat) : Int) - 1 := by
  obtain ⟨hok, hkeys⟩ := fold_ok hw (nodeIds t) (fun i hi => hi) [] (fun kv h => nomatch h)
  unfold nodeDepthsW depthsMemo nodeIds
  rw [List.map_map]
  apply List.map_congr_left
  intro n hn
  have hk := hkeys n.id (Or.inr (mem_nodeIds_of_mem hn))
  have hs := memoGet_isSome_of_key hk
  obtain ⟨d, hd⟩ := Option.isSome_iff_exists.mp hs
  simp only [Function.comp, nodeIds] at hd ⊢
  rw [hd]
  exact (memoGet_ok hok hd).2

theorem sortByDepthW_eq {t : List SNode} (hw : WF (forest t)) : sortByDepthW t = sortByDepth t := by
  unfold sortByDepthW
  -- the keys as written are the depths shifted by one, which orders the rows the same way
  rw [nodeDepthsW_eq hw, ← List.map_prod_right_eq_zip, sortByDepth_eq_key, isortBy_map (fun n => ((depth t n.id : Nat) : Int)),
    List.map_map]
  · exact List.map_id' _
  · intro x y
    show _ - 1 ≤ _ - 1 ↔ _
    omega

theorem selects_branch (sk : Skel) (n : SNode) : selects sk n "type:branch" = decide (n.type = .branch) := by simp [selects]

theorem selects_end (sk : Skel) (n : SNode) : selects sk n "type:end" = decide (n.type = .end_) := by simp [selects]

theorem selects_soma (sk : Skel) (n : SNode) : selects sk n "isin:soma" = decide (n.id ∈ sk.soma) := by simp [selects]

theorem selects_pre (sk : Skel) (n : SNode) : selects sk n "isin:pre_ids" = decide (n.id ∈ sk.pre) := by simp [selects]

theorem selects_post (sk : Skel) (n : SNode) : selects sk n "isin:post_ids" = decide (n.id ∈ sk.post) := by simp [selects]

/-- About the rule table as generated, on purpose: a source that assigns the labels in another order changes `Gen.Swc.labelRules`, and this
proof is then to be looked at again. -/
theorem labelsAsWritten_gen (sk : Skel) (ex : Bool) (n : SNode) :
    labelsAsWritten Gen.Swc.labelRules sk ex n = autoLabel sk ex n := by
  -- the five assignments one after the other, each selector as the condition it stands for
  simp only [labelsAsWritten, Gen.Swc.labelRules, List.foldl_cons, List.foldl_nil, selects_branch, selects_end, selects_soma,
    selects_pre, selects_post, autoLabel, lblSoma, lblBranch, lblEnd, lblUndefined, lblPost, lblPre, Gen.Swc.lblSoma,
    Gen.Swc.lblBranch, Gen.Swc.lblEnd, Gen.Swc.lblUndefined, Gen.Swc.lblPost, Gen.Swc.lblPre]
  -- a later assignment wins, which is the priority order of `autoLabel`; `end` after `branch` is harmless as a node has one type
  cases ex <;> cases n.type <;> simp

theorem labelOfW_eq (op : Opts) (sk : Skel) : labelOfW op sk = labelOf op sk := by
  funext n
  unfold labelOfW labelOf
  cases op.labels <;> simp [labelsAsWritten_gen]

end Navis.Swc

import NavisModel.Model.Units
import NavisModel.Proofs.RoundLemmas
import NavisModel.Proofs.ListLemmas
/-! Helper lemmas for C15 (exact rational coordinate / unit arithmetic).

Two reductions carry the arithmetic: dividing a neuron by `f` is multiplying it by the reciprocal operand (`div_eq_mul`),
subtracting `o` is adding the negated operand (`sub_eq_add`); what is proved about `mul` and `add` for every operand
therefore holds for `div` and `sub`.  A unit is determined by its base and its physical value (`units_eq_of_phys`): that is
why `x * f * f⁻¹` is `x` itself and not only a neuron with the same physical coordinates (`mul_mul_inv_cancel`).
After the arithmetic: `convert_units` as one multiplication, `round_smart` through half-to-even rounding, `map_units`, and the
driver's comparisons at tolerance `0`. -/

namespace Navis.Units

theorem V3.ext' {a b : V3} (hx : a.x = b.x) (hy : a.y = b.y) (hz : a.z = b.z) : a = b :=
  match a, b, hx, hy, hz with
  | ⟨_, _, _⟩, ⟨_, _, _⟩, rfl, rfl, rfl => rfl

theorem V3.eq_iff (a b : V3) : a = b ↔ a.x = b.x ∧ a.y = b.y ∧ a.z = b.z :=
  ⟨fun h => h ▸ ⟨rfl, rfl, rfl⟩, fun h => V3.ext' h.1 h.2.1 h.2.2⟩

theorem Neuron.ext' {a b : Neuron} (h1 : a.kind = b.kind) (h2 : a.pts = b.pts) (h3 : a.radii = b.radii)
    (h4 : a.conns = b.conns) (h5 : a.offset = b.offset) (h6 : a.units = b.units) (h7 : a.name = b.name)
    (h8 : a.id = b.id) : a = b :=
  match a, b, h1, h2, h3, h4, h5, h6, h7, h8 with
  | ⟨_, _, _, _, _, _, _, _⟩, ⟨_, _, _, _, _, _, _, _⟩, rfl, rfl, rfl, rfl, rfl, rfl, rfl, rfl => rfl

theorem nz_iff (a : V3) : a.nz = true ↔ a.x ≠ 0 ∧ a.y ≠ 0 ∧ a.z ≠ 0 := by
  simp [V3.nz, and_assoc]

theorem iso_iff (a : V3) : a.iso = true ↔ a.x = a.y ∧ a.y = a.z := by
  simp [V3.iso]

theorem rep_x_of_iso {a : V3} (h : a.iso = true) : V3.rep a.x = a :=
  have ⟨h1, h2⟩ := (iso_iff a).mp h
  V3.ext' rfl h1 (h1.trans h2)

def V3.inv (a : V3) : V3 := ⟨a.x⁻¹, a.y⁻¹, a.z⁻¹⟩

def V3.neg (a : V3) : V3 := ⟨-a.x, -a.y, -a.z⟩

theorem V3.div_eq_mul_inv (a b : V3) : a.div b = a.mul b.inv :=
  V3.ext' (_root_.div_eq_mul_inv _ _) (_root_.div_eq_mul_inv _ _) (_root_.div_eq_mul_inv _ _)

theorem V3.div_inv (a b : V3) : a.div b.inv = a.mul b :=
  V3.ext' (div_inv_eq_mul _ _) (div_inv_eq_mul _ _) (div_inv_eq_mul _ _)

theorem V3.sub_eq_add_neg (a b : V3) : a.sub b = a.add b.neg :=
  V3.ext' (_root_.sub_eq_add_neg _ _) (_root_.sub_eq_add_neg _ _) (_root_.sub_eq_add_neg _ _)

theorem V3.inv_inv (a : V3) : a.inv.inv = a := V3.ext' (_root_.inv_inv _) (_root_.inv_inv _) (_root_.inv_inv _)

theorem V3.neg_neg (a : V3) : a.neg.neg = a := V3.ext' (_root_.neg_neg _) (_root_.neg_neg _) (_root_.neg_neg _)

theorem V3.nz_inv (a : V3) : a.inv.nz = a.nz := by
  simp only [V3.nz, V3.inv, bne, beq_eq_decide, inv_eq_zero]

theorem V3.mul_div_cancel (c f : V3) (hf : f.x ≠ 0 ∧ f.y ≠ 0 ∧ f.z ≠ 0) : (c.mul f).div f = c :=
  V3.ext' (mul_div_cancel_right₀ _ hf.1) (mul_div_cancel_right₀ _ hf.2.1) (mul_div_cancel_right₀ _ hf.2.2)

theorem V3.div_mul_cancel (c f : V3) (hf : f.x ≠ 0 ∧ f.y ≠ 0 ∧ f.z ≠ 0) : (c.div f).mul f = c :=
  V3.ext' (div_mul_cancel₀ _ hf.1) (div_mul_cancel₀ _ hf.2.1) (div_mul_cancel₀ _ hf.2.2)

theorem V3.add_sub_cancel (c o : V3) : (c.add o).sub o = c :=
  V3.ext' (add_sub_cancel_right _ _) (add_sub_cancel_right _ _) (add_sub_cancel_right _ _)

theorem mul_mul_div_cancel (c P : Rat) {f : Rat} (hf : f ≠ 0) : c * f * (P / f) = c * P := by
  rw [mul_assoc, mul_div_cancel₀ P hf]

theorem ten_pow_pos (n : Nat) : (0 : Rat) < (10 : Rat) ^ n := pow_pos (by decide) _

theorem pow10_pos (e : Int) : 0 < pow10 e := by
  unfold pow10
  split
  · exact ten_pow_pos _
  · exact one_div_pos.mpr (ten_pow_pos _)

theorem pow10_ne_zero (e : Int) : pow10 e ≠ 0 := ne_of_gt (pow10_pos e)

theorem scale_pos (b : Base) : 0 < b.scale := by
  cases b
  · exact one_pos
  · exact pow10_pos _

theorem phys_metre {u : Units} {e : Int} (hb : u.base = .metre e) : u.phys = u.mag.mul (V3.rep (pow10 e)) := by
  rw [Units.phys, hb]; rfl

theorem phys_iso {u : Units} (h : u.iso = true) : u.phys = V3.rep u.phys.x := by
  rw [Units.phys, ← rep_x_of_iso (a := u.mag) h]
  rfl

theorem phys_mag_div (u : Units) (f : V3) : (⟨u.mag.div f, u.base⟩ : Units).phys = u.phys.div f :=
  V3.ext' (div_mul_eq_mul_div _ _ _) (div_mul_eq_mul_div _ _ _) (div_mul_eq_mul_div _ _ _)

theorem compact_phys (u : Units) (p : Int) : (u.compact p).phys = u.phys := by
  obtain ⟨mag, base⟩ := u
  cases base with
  | dimless => rfl
  | metre e =>
    have h : ∀ m : Rat, m * (pow10 e / pow10 p) * pow10 p = m * pow10 e := fun m => by
      rw [mul_assoc, div_mul_cancel₀ _ (pow10_ne_zero p)]
    exact V3.ext' (h _) (h _) (h _)

theorem compact_dimless (u : Units) (p : Int) (hb : u.base = .dimless) : u.compact p = u := by
  simp only [Units.compact, hb]

theorem compact_base_metre (u : Units) (e p : Int) (hb : u.base = .metre e) :
    (u.compact p).base = .metre p := by
  simp only [Units.compact, hb]

theorem units_eq_of_phys {u v : Units} (hb : u.base = v.base) (hp : u.phys = v.phys) : u = v := by
  obtain ⟨um, ub⟩ := u
  obtain ⟨vm, vb⟩ := v
  cases (hb : ub = vb)
  have hs := (scale_pos ub).ne'
  have hc := fun (g : V3 → Rat) => congrArg g hp
  have hm : um = vm :=
    V3.ext' (mul_right_cancel₀ hs (hc V3.x)) (mul_right_cancel₀ hs (hc V3.y)) (mul_right_cancel₀ hs (hc V3.z))
  rw [hm]

theorem compact_same (u : Units) (e : Int) (hb : u.base = .metre e) : u.compact e = u :=
  units_eq_of_phys ((compact_base_metre u e e hb).trans hb.symm) (compact_phys u e)

/-- `p'` is the prefix of the base unit `b`, so that a `to_compact` to `p'` lands on `b` again (a dimensionless unit is never
re-expressed: any `p'`) -/
def backTo (b : Base) (p' : Int) : Prop :=
  match b with
  | .dimless => True
  | .metre e => p' = e

/-- two compactions in a row, whatever happens to the magnitudes in between: the base unit is the one we started with
when the second returns to the original prefix -/
theorem compact_compact_base (a a' : V3) (b : Base) (p p' : Int) (h : backTo b p') :
    ((⟨a', ((⟨a, b⟩ : Units).compact p).base⟩ : Units).compact p').base = b := by
  cases b with
  | dimless => rfl
  | metre e => exact congrArg Base.metre h

/-- the reciprocal operand: `x / f` is `x * f.inv` -/
def Factor.inv : Factor → Factor
  | .s k => .s k⁻¹
  | .v3 f => .v3 f.inv
  | .v4 f r => .v4 f.inv r⁻¹

/-- the negated operand: `x - o` is `x + o.neg` -/
def Factor.neg : Factor → Factor
  | .s k => .s (-k)
  | .v3 f => .v3 f.neg
  | .v4 f r => .v4 f.neg (-r)

theorem Factor.xyz_inv (f : Factor) : f.inv.xyz = f.xyz.inv := by cases f <;> rfl

theorem Factor.rad_inv (f : Factor) : f.inv.rad = f.rad⁻¹ := by cases f <;> rfl

theorem Factor.xyz_neg (o : Factor) : o.neg.xyz = o.xyz.neg := by cases o <;> rfl

theorem Factor.inv_inv (f : Factor) : f.inv.inv = f := by
  cases f <;> simp only [Factor.inv, V3.inv_inv, _root_.inv_inv]

theorem Factor.neg_neg (o : Factor) : o.neg.neg = o := by
  cases o <;> simp only [Factor.neg, V3.neg_neg, _root_.neg_neg]

theorem Factor.nz_inv (f : Factor) : f.inv.nz = f.nz := by
  cases f <;> simp only [Factor.nz, Factor.inv, V3.nz_inv, bne, beq_eq_decide, inv_eq_zero]

theorem acceptsScale_inv (k : Kind) (f : Factor) : acceptsScale k f.inv = acceptsScale k f := by
  cases f <;> cases k <;> rfl

theorem acceptsShift_neg (o : Factor) : acceptsShift o.neg = acceptsShift o := by cases o <;> rfl

theorem xyz_nz {f : Factor} (h : f.nz = true) : f.xyz.x ≠ 0 ∧ f.xyz.y ≠ 0 ∧ f.xyz.z ≠ 0 := by
  cases f with
  | s k => exact ⟨bne_iff_ne.mp h, bne_iff_ne.mp h, bne_iff_ne.mp h⟩
  | v3 v => exact (nz_iff v).mp h
  | v4 v r => exact (nz_iff v).mp (Bool.and_eq_true _ _ ▸ h).1

theorem rad_nz {f : Factor} (h : f.nz = true) : f.rad ≠ 0 := by
  cases f with
  | s k => exact bne_iff_ne.mp h
  | v3 v => exact ((nz_iff v).mp h).1
  | v4 v r => exact bne_iff_ne.mp (Bool.and_eq_true _ _ ▸ h).2

section
variable {n m n' : Neuron} {f o : Factor} {p p' : Int}

theorem physPts_nonvoxel (hk : n.kind ≠ .voxel) : physPts n = n.pts.map (fun c => c.mul n.units.phys) := by
  unfold physPts
  split
  · contradiction
  · rfl

theorem physConns_nonvoxel (hk : n.kind ≠ .voxel) :
    physConns n = n.conns.map (fun c => c.mul n.units.phys) := by
  unfold physConns
  split
  · contradiction
  · rfl

theorem worldPts_nonvoxel (hk : n.kind ≠ .voxel) : worldPts n = n.pts := by
  unfold worldPts
  split
  · contradiction
  · rfl

theorem worldPts_voxel (hk : n.kind = .voxel) :
    worldPts n = n.pts.map (fun v => (v.mul n.units.mag).add n.offset) := by
  unfold worldPts; simp only [hk]

theorem div_eq_mul (n : Neuron) (f : Factor) (p : Int) : div n f p = mul n f.inv p := by
  simp only [div, mul, acceptsScale_inv, Factor.nz_inv, Factor.xyz_inv, Factor.rad_inv, V3.div_inv,
    ← V3.div_eq_mul_inv, ← _root_.div_eq_mul_inv]

theorem mul_isSome_iff (n : Neuron) (f : Factor) (p : Int) :
    (mul n f p).isSome = true ↔ acceptsScale n.kind f = true ∧ f.nz = true := by
  unfold mul
  split
  · next h => exact iff_of_true (by split <;> rfl) ((Bool.and_eq_true _ _).mp h)
  · next h => exact iff_of_false Bool.false_ne_true (mt (Bool.and_eq_true _ _).mpr h)

theorem div_isSome_iff (n : Neuron) (f : Factor) (p : Int) :
    (div n f p).isSome = true ↔ acceptsScale n.kind f = true ∧ f.nz = true := by
  rw [div_eq_mul, mul_isSome_iff, acceptsScale_inv, Factor.nz_inv]

theorem mul_accepted (h : mul n f p = some m) : acceptsScale n.kind f = true ∧ f.nz = true :=
  (mul_isSome_iff n f p).mp (h ▸ rfl)

theorem mul_nonvoxel (hk : n.kind ≠ .voxel) (h : mul n f p = some m) :
    m = { n with
        pts := n.pts.map (fun c => c.mul f.xyz),
        radii := n.radii.map (fun r => r * f.rad),
        conns := n.conns.map (fun c => c.mul f.xyz),
        units := (⟨n.units.mag.div f.xyz, n.units.base⟩ : Units).compact p } := by
  unfold mul at h
  split at h
  · split at h
    · contradiction
    · exact (Option.some.inj h).symm
  · cases h

theorem mul_voxel (hk : n.kind = .voxel) (h : mul n f p = some m) :
    m = { n with
        units := ⟨n.units.mag.mul f.xyz, n.units.base⟩,
        offset := n.offset.mul f.xyz,
        conns := n.conns.map (fun c => c.mul f.xyz) } := by
  unfold mul at h
  split at h
  · simp only [hk, Option.some.injEq] at h
    rw [← h, hk]
  · cases h

theorem div_nonvoxel (hk : n.kind ≠ .voxel) (h : div n f p = some m) :
    m = { n with
        pts := n.pts.map (fun c => c.div f.xyz),
        radii := n.radii.map (fun r => r / f.rad),
        conns := n.conns.map (fun c => c.div f.xyz),
        units := (⟨n.units.mag.mul f.xyz, n.units.base⟩ : Units).compact p } := by
  rw [div_eq_mul] at h
  have h' := mul_nonvoxel hk h
  simpa only [Factor.xyz_inv, Factor.rad_inv, V3.div_inv, ← V3.div_eq_mul_inv, ← _root_.div_eq_mul_inv] using h'

theorem div_voxel (hk : n.kind = .voxel) (h : div n f p = some m) :
    m = { n with
        units := ⟨n.units.mag.div f.xyz, n.units.base⟩,
        offset := n.offset.div f.xyz,
        conns := n.conns.map (fun c => c.div f.xyz) } := by
  rw [div_eq_mul] at h
  have h' := mul_voxel hk h
  simpa only [Factor.xyz_inv, ← V3.div_eq_mul_inv] using h'

theorem mul_meta (h : mul n f p = some m) :
    m.kind = n.kind ∧ m.name = n.name ∧ m.id = n.id := by
  by_cases hk : n.kind = .voxel
  · obtain rfl := mul_voxel hk h; exact ⟨rfl, rfl, rfl⟩
  · obtain rfl := mul_nonvoxel hk h; exact ⟨rfl, rfl, rfl⟩

theorem mul_units_phys (hk : n.kind ≠ .voxel) (h : mul n f p = some m) : m.units.phys = n.units.phys.div f.xyz := by
  obtain rfl := mul_nonvoxel hk h
  exact (compact_phys _ p).trans (phys_mag_div _ _)

theorem map_mul_phys_div (u : Units) (f : V3) (p : Int) (hf : f.x ≠ 0 ∧ f.y ≠ 0 ∧ f.z ≠ 0) (l : List V3) :
    (l.map fun c => c.mul f).map (fun c => c.mul ((⟨u.mag.div f, u.base⟩ : Units).compact p).phys) =
      l.map fun c => c.mul u.phys := by
  rw [List.map_map, compact_phys, phys_mag_div]
  exact List.map_congr_left fun c _ =>
    V3.ext' (mul_mul_div_cancel _ _ hf.1) (mul_mul_div_cancel _ _ hf.2.1) (mul_mul_div_cancel _ _ hf.2.2)

theorem mul_physRadii (hk : n.kind ≠ .voxel) (h : mul n f p = some m)
    (hr : f.rad = f.xyz.x) : physRadii m = physRadii n := by
  have hnz := (mul_accepted h).2
  obtain rfl := mul_nonvoxel hk h
  unfold physRadii
  rw [List.map_map, compact_phys, phys_mag_div, hr]
  exact List.map_congr_left fun r _ => mul_mul_div_cancel r _ (xyz_nz hnz).1

/-- `x * f * f⁻¹`: the data come back exactly and the unit with its physical value, whatever prefixes the two `to_compact` pick;
the unit itself, hence the neuron, comes back when the second prefix is the one we started from (`backTo`), since a unit is
determined by its base and its physical value (`units_eq_of_phys`). -/
theorem mul_mul_inv_cancel (h1 : mul n f p = some m) (h2 : mul m f.inv p' = some n') :
    n'.kind = n.kind ∧ n'.pts = n.pts ∧ n'.radii = n.radii ∧ n'.conns = n.conns ∧ n'.offset = n.offset ∧
      n'.name = n.name ∧ n'.id = n.id ∧ n'.units.phys = n.units.phys ∧ (backTo n.units.base p' → n' = n) := by
  have hnz := (mul_accepted h1).2
  have hf := xyz_nz hnz
  have hv : ∀ c : V3, (c.mul f.xyz).mul f.inv.xyz = c := fun c => by
    rw [Factor.xyz_inv, ← V3.div_eq_mul_inv, V3.mul_div_cancel c _ hf]
  have hl : ∀ l : List V3, (l.map (fun c => c.mul f.xyz)).map (fun c => c.mul f.inv.xyz) = l := map_map_cancel hv
  by_cases hk : n.kind = .voxel
  · obtain rfl := mul_voxel hk h1
    -- `by exact`: the kind of the record update is `n.kind` only after unfolding it, so `hk` is elaborated last
    obtain rfl := mul_voxel (by exact hk) h2
    have hu : (⟨(n.units.mag.mul f.xyz).mul f.inv.xyz, n.units.base⟩ : Units) = n.units := by rw [hv]
    refine ⟨rfl, rfl, rfl, hl _, hv _, rfl, rfl, congrArg Units.phys hu, fun _ => ?_⟩
    exact Neuron.ext' rfl rfl rfl (hl _) (hv _) hu rfl rfl
  · have hp : n'.units.phys = n.units.phys := by
      rw [mul_units_phys ((mul_meta h1).1 ▸ hk) h2, mul_units_phys hk h1, Factor.xyz_inv, V3.div_inv, V3.div_mul_cancel _ _ hf]
    obtain rfl := mul_nonvoxel hk h1
    obtain rfl := mul_nonvoxel (by exact hk) h2
    have hrd : (n.radii.map (fun r => r * f.rad)).map (fun r => r * f.inv.rad) = n.radii :=
      map_map_cancel (fun r => by rw [Factor.rad_inv, mul_inv_cancel_right₀ (rad_nz hnz)]) _
    refine ⟨rfl, hl _, hrd, hl _, rfl, rfl, rfl, hp, fun hb => ?_⟩
    exact Neuron.ext' rfl (hl _) hrd (hl _) rfl (units_eq_of_phys (compact_compact_base _ _ _ p p' hb) hp) rfl rfl

theorem add_eq_some : add n o = some m ↔ acceptsShift o = true ∧
    m = (if n.kind = .voxel then { n with offset := n.offset.add o.xyz, conns := n.conns.map (fun c => c.add o.xyz) }
         else { n with pts := n.pts.map (fun c => c.add o.xyz), conns := n.conns.map (fun c => c.add o.xyz) }) := by
  unfold add
  by_cases h : acceptsShift o = true
  · rw [if_pos h]
    split
    · next hv => rw [if_pos hv, Option.some.injEq, eq_comm, and_iff_right h]
    · next hv => rw [if_neg hv, Option.some.injEq, eq_comm, and_iff_right h]
  · rw [if_neg h]
    exact ⟨nofun, fun hm => absurd hm.1 h⟩

theorem add_isSome_iff (n : Neuron) (o : Factor) : (add n o).isSome = true ↔ acceptsShift o = true :=
  Option.isSome_iff_exists.trans ⟨fun ⟨_, hm⟩ => (add_eq_some.mp hm).1, fun h => ⟨_, add_eq_some.mpr ⟨h, rfl⟩⟩⟩

theorem sub_eq_add (n : Neuron) (o : Factor) : sub n o = add n o.neg := by
  simp only [sub, add, acceptsShift_neg, Factor.xyz_neg, ← V3.sub_eq_add_neg]

theorem sub_eq_some : sub n o = some m ↔ acceptsShift o = true ∧
    m = (if n.kind = .voxel then { n with offset := n.offset.sub o.xyz, conns := n.conns.map (fun c => c.sub o.xyz) }
         else { n with pts := n.pts.map (fun c => c.sub o.xyz), conns := n.conns.map (fun c => c.sub o.xyz) }) := by
  rw [sub_eq_add, add_eq_some]
  simp only [acceptsShift_neg, Factor.xyz_neg, ← V3.sub_eq_add_neg]

theorem add_add_neg (h : add n o = some m) : add m o.neg = some n := by
  obtain ⟨hacc, rfl⟩ := add_eq_some.mp h
  have hv : ∀ c : V3, (c.add o.xyz).add o.neg.xyz = c := fun c => by
    rw [Factor.xyz_neg, ← V3.sub_eq_add_neg, V3.add_sub_cancel]
  have hl : ∀ l : List V3, (l.map (fun c => c.add o.xyz)).map (fun c => c.add o.neg.xyz) = l := map_map_cancel hv
  refine add_eq_some.mpr ⟨(acceptsShift_neg o).trans hacc, Eq.symm ?_⟩
  by_cases hk : n.kind = .voxel
  · rw [if_pos hk, if_pos (by exact hk)]
    exact Neuron.ext' rfl rfl rfl (hl _) (hv _) rfl rfl rfl
  · rw [if_neg hk, if_neg (by exact hk)]
    exact Neuron.ext' rfl (hl _) rfl (hl _) rfl rfl rfl rfl

theorem convFactor_spec {u : Units} {tgt : Int} {c : V3} (h : convFactor u tgt = some c) :
    ∃ e, u.base = .metre e ∧ c = u.mag.mul (V3.rep (pow10 e / pow10 tgt)) := by
  unfold convFactor at h
  cases hb : u.base with
  | dimless => rw [hb] at h; cases h
  | metre e => rw [hb] at h; exact ⟨e, rfl, (Option.some.inj h).symm⟩

/-- the operand of the multiplication `convert_units` performs -/
def convArg (c : V3) : Factor := if c.iso then .s c.x else .v3 c

theorem convert_eq_mul {tgt : Int} (h : convertUnits n tgt p = some m) :
    ∃ e c, n.units.base = .metre e ∧ c = n.units.mag.mul (V3.rep (pow10 e / pow10 tgt)) ∧
      mul n (convArg c) p = some m := by
  unfold convertUnits at h
  cases hc : convFactor n.units tgt with
  | none => rw [hc] at h; cases h
  | some c =>
    rw [hc] at h
    obtain ⟨e, hb, hce⟩ := convFactor_spec hc
    exact ⟨e, c, hb, hce, h⟩

theorem convArg_xyz (c : V3) : (convArg c).xyz = c := by
  unfold convArg
  split
  · next h => exact rep_x_of_iso h
  · rfl

theorem convArg_rad (c : V3) : (convArg c).rad = (convArg c).xyz.x := by
  unfold convArg
  split <;> rfl

theorem convArg_accepted (k : Kind) {c : V3} (hc : c.nz = true) :
    acceptsScale k (convArg c) = true ∧ (convArg c).nz = true := by
  unfold convArg
  split
  · exact ⟨by cases k <;> rfl, bne_iff_ne.mpr ((nz_iff c).mp hc).1⟩
  · exact ⟨by cases k <;> rfl, hc⟩

end

theorem rabs_eq_abs (q : Rat) : rabs q = |q| := by
  unfold rabs
  split
  · next h => exact (abs_of_neg h).symm
  · next h => exact (abs_of_nonneg (not_lt.mp h)).symm

theorem rabs_neg (q : Rat) : rabs (-q) = rabs q := by
  rw [rabs_eq_abs, rabs_eq_abs, abs_neg]

theorem rabs_nonneg (q : Rat) : 0 ≤ rabs q := by
  rw [rabs_eq_abs]; exact abs_nonneg q

/-- at tolerance 0 the comparisons `|a - b| ≤ tol · …` of the checkers are equality -/
theorem rabs_sub_le_zero_mul (a b x : Rat) : rabs (a - b) ≤ 0 * x ↔ a = b := by
  rw [zero_mul, rabs_eq_abs, abs_nonpos_iff, sub_eq_zero]

theorem halfEven : HalfEven roundHalfEven := halfEven_ite

theorem roundSmart_exact {q : Rat} (z : Int) (hz : q * (10 : Rat) ^ smartDecimals q = z) :
    roundSmart q = some q := by
  unfold roundSmart
  rw [hz, halfEven.intCast, ← hz, mul_div_cancel_right₀ q (ten_pow_pos _).ne']

theorem roundSmart_zero : roundSmart 0 = some 0 := by
  apply roundSmart_exact 0; simp

theorem smartDecimals_neg (q : Rat) : smartDecimals (-q) = smartDecimals q := by
  unfold smartDecimals; rw [rabs_neg]

theorem roundSmart_neg (q : Rat) : roundSmart (-q) = (roundSmart q).map (fun r => -r) := by
  unfold roundSmart
  simp only [Option.map_some, Option.some.injEq, smartDecimals_neg]
  rw [neg_mul, halfEven.neg]
  push_cast
  ring

theorem mapRatio_metre {u : Units} {en : Int} (hb : u.base = .metre en) (a : Rat) (e : Int) :
    mapRatio u a e = a * pow10 e / u.phys.x := by
  unfold mapRatio
  simp only [hb]
  rw [phys_metre hb, ← mul_div_assoc, div_div, mul_comm (pow10 en)]
  rfl

theorem mapRatio_mul_phys {u : Units} {en : Int} (hb : u.base = .metre en) (hm : 0 < u.mag.x) (a : Rat) (e : Int) :
    mapRatio u a e * u.phys.x = a * pow10 e := by
  have hP : 0 < u.phys.x := mul_pos hm (scale_pos _)
  rw [mapRatio_metre hb, div_mul_cancel₀ _ hP.ne']

theorem mapUnits_metre {n : Neuron} {en : Int} (hb : n.units.base = .metre en) (hiso : n.units.iso = true) (a : Rat)
    (e : Int) : mapUnits n (.qty a (.metre e)) = roundSmart (mapRatio n.units a e) := by
  simp only [mapUnits, Units.dimensionless, hb, hiso]
  rfl

theorem not_dimensionless {u : Units} (h : u.dimensionless = false) : ∃ en, u.base = .metre en := by
  unfold Units.dimensionless at h
  cases hb : u.base with
  | dimless => simp [hb] at h
  | metre en => exact ⟨en, rfl⟩

theorem mapUnits_qty {n : Neuron} {a : Rat} {e : Int} {r : Rat} (h : mapUnits n (.qty a (.metre e)) = some r) :
    ∃ en, n.units.base = .metre en ∧ n.units.iso = true ∧ roundSmart (mapRatio n.units a e) = some r := by
  cases hd : n.units.dimensionless with
  | true => simp [mapUnits, hd] at h
  | false =>
    cases hiso : n.units.iso with
    | false => simp [mapUnits, hd, hiso] at h
    | true =>
      obtain ⟨en, hb⟩ := not_dimensionless hd
      exact ⟨en, hb, rfl, (mapUnits_metre hb hiso a e).symm.trans h⟩

theorem closeR_zero (a b : Rat) : closeR 0 a b = true ↔ a = b := by
  unfold closeR
  rw [decide_eq_true_eq]
  exact rabs_sub_le_zero_mul a b _

theorem closeV_zero (a b : V3) : closeV 0 a b = true ↔ a = b := by
  unfold closeV
  simp only [Bool.and_eq_true, closeR_zero, and_assoc]
  exact (V3.eq_iff a b).symm

theorem closeL_zero (a b : List V3) : closeL 0 a b = true ↔ a = b := by
  induction a generalizing b with
  | nil => cases b <;> simp [closeL]
  | cons x xs ih => cases b <;> simp [closeL, closeV_zero, ih]

theorem closeRL_zero (a b : List Rat) : closeRL 0 a b = true ↔ a = b := by
  induction a generalizing b with
  | nil => cases b <;> simp [closeRL]
  | cons x xs ih => cases b <;> simp [closeRL, closeR_zero, ih]

end Navis.Units

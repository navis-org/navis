import NavisModel.Model.Flow
import NavisModel.Model.StrahlerFc
import NavisModel.Proofs.SegmentLemmas
import Mathlib.Data.List.Basic
/-! What the morphometrics of C17, and C04's other implementations of them, rest on.  First, about the forest alone
(`Navis.Forest`; the lowest module that has `chainLeaf` and `stopAbove` of `Model/Prune.lean` beside the small segments):
the leaf below an unbranched chain is the seed of the small segment a node lies on, and a small segment ends in the stop
node its seed reports.  Then Strahler: `strahlerRaw` obeys its recurrence at full fuel (any fuel that covers the levels
below a node gives the same value), with the bounds of `strahlerRule`, the as-observed fastcore recurrence without an
ignore list, the readings of `strahler` and of the twig checker.  Flow: a tree path climbs exactly through the ancestors
of its start that are not ancestors of its end, within one tree (`mem_legUp_iff`), which with counting in a product of two lists turns the
flow formulas into path counts; the fork rule; the bending-flow summand of a child pair as a count of synapse pairs; the
formulas do not change along a connector-free unbranched edge and vanish at a connector-free leaf. -/
namespace Navis.Forest

theorem chainLeaf_succ (t : Table) (f : Nat) (i : Int) :
    chainLeaf t (f + 1) i = match children t i with
      | [] => some i
      | [c] => chainLeaf t f c
      | _ => none := by
  rw [chainLeaf]
  generalize children t i = cs
  match cs with
  | [] => rfl
  | [_] => rfl
  | _ :: _ :: _ => rfl

theorem chainLeaf_zero (t : Table) (i : Int) : chainLeaf t 0 i = none := rfl

theorem chainLeaf_mono (t : Table) {f f' : Nat} (hle : f ≤ f') {i l : Int} (h : chainLeaf t f i = some l) :
    chainLeaf t f' i = some l := by
  fun_induction chainLeaf t f i generalizing f' with
  | case1 => cases h
  | case2 f i hc =>
    obtain ⟨f', rfl⟩ := Nat.exists_eq_add_one_of_ne_zero (by omega : f' ≠ 0)
    rw [chainLeaf_succ, hc]; exact h
  | case3 f i c hc ih =>
    obtain ⟨f', rfl⟩ := Nat.exists_eq_add_one_of_ne_zero (by omega : f' ≠ 0)
    rw [chainLeaf_succ, hc]; exact ih (by omega) h
  | case4 => cases h

theorem chain_step {t : Table} (hw : WF t) {a b : Int} {rest : List Int} (hl : Linked t (a :: b :: rest))
    (hc : childCount t b = 1) : children t b = [a] ∧ b ∈ ids t := by
  obtain ⟨⟨na, hfa, hpa, hb0⟩, _⟩ := hl
  have hna := find?_some hfa
  exact ⟨children_eq_singleton (mem_children.mpr ⟨na, hna.1, hpa, hna.2⟩) (Nat.le_of_eq hc),
    hpa ▸ WF_parent_mem hw hna.1 (by omega)⟩

/-- Walking up an unbranched chain keeps the chain leaf (one more unit of fuel per step). -/
theorem chainLeaf_up {t : Table} {l : Int} : ∀ (rest : List Int) (y : Int) (f : Nat), Linked t (y :: rest) →
    (∀ x ∈ rest, childCount t x = 1) → chainLeaf t f y = some l →
    ∀ x ∈ y :: rest, chainLeaf t (f + rest.length) x = some l
  | [], y, f, _, _, h => List.forall_mem_cons.mpr ⟨h, fun _ hx => absurd hx List.not_mem_nil⟩
  | z :: rest, y, f, ⟨⟨n, hf, hp, _⟩, hl'⟩, h1, h => by
    have hn := find?_some hf
    have hyz : y ∈ children t z := mem_children.mpr ⟨n, hn.1, hp, hn.2⟩
    have hz : chainLeaf t (f + 1) z = some l := by
      rw [chainLeaf_succ, children_eq_singleton hyz (Nat.le_of_eq (h1 z List.mem_cons_self))]
      exact h
    refine List.forall_mem_cons.mpr ⟨chainLeaf_mono t (Nat.le_add_right _ _) h, fun x hx => ?_⟩
    have := chainLeaf_up rest z (f + 1) hl' (fun x hx => h1 x (List.mem_cons_of_mem _ hx)) hz x hx
    rwa [Nat.add_right_comm] at this

theorem chainLeaf_of_fork {t : Table} {i : Int} (h : 2 ≤ childCount t i) : ∀ f, chainLeaf t f i = none
  | 0 => rfl
  | f + 1 => by
    rw [chainLeaf]
    match hc : children t i, children_length t i with
    | [], hl | [_], hl => rw [← hl] at h; simp at h
    | _ :: _ :: _, _ => rfl

theorem chainLeaf_mem_ids {t : Table} (hw : WF t) (f : Nat) (i l : Int) (hi : i ∈ ids t) (h : chainLeaf t f i = some l) :
    l ∈ ids t ∧ children t l = [] := by
  fun_induction chainLeaf t f i with
  | case1 => cases h
  | case2 f i hc => cases h; exact ⟨hi, hc⟩
  | case3 f i c hc ih => exact ih (child_facts hw (by rw [hc]; exact List.mem_cons_self)).1 h
  | case4 => cases h

theorem chainLeaf_of_mem_seg {t : Table} (hw : WF t) {l : Int} {mid : List Int} {last : Int}
    (hs : SmallSeg t l mid last) (hleaf : children t l = []) :
    ∀ x ∈ l :: mid, chainLeaf t (t.length + 1) x = some l := by
  intro x hx
  have h0 : chainLeaf t 1 l = some l := by rw [chainLeaf_succ, hleaf]
  have := chainLeaf_up mid l 1 hs.linked_init (fun x hx => (hs.mid_slab x hx).1) h0 x hx
  apply chainLeaf_mono t _ this
  have hlen := rootPath_length_le hw l
  rw [hs.path] at hlen
  simp only [List.length_append, List.length_cons] at hlen
  omega

/-- Conversely, a node whose chain leaf is the leaf `l` lies on `l`'s small segment. -/
theorem mem_seg_of_chainLeaf {t : Table} (hw : WF t) {l : Int} {mid : List Int} {last : Int}
    (hs : SmallSeg t l mid last) (f : Nat) (i : Int) (hi : i ∈ ids t) (h : chainLeaf t f i = some l) :
    i ∈ l :: mid ∨ i = last := by
  fun_induction chainLeaf t f i with
  | case1 => cases h
  | case2 f i hc => exact Or.inl (Option.some.inj h ▸ List.mem_cons_self)
  | case3 f i c hc ih =>
    have hcm : c ∈ children t i := by rw [hc]; exact List.mem_cons_self
    obtain ⟨m, hm, hmp, hmid⟩ := mem_children.mp hcm
    rcases ih (child_facts hw hcm).1 h with hin | hlast
    · have := hs.parent_next hm hw.1 (hmid ▸ hin)
      rw [hmp] at this
      rcases List.mem_append.mp this with h1 | h1
      · exact Or.inl (List.mem_cons_of_mem _ h1)
      · exact Or.inr (List.mem_singleton.mp h1)
    · -- `last` is a stop with a parent, hence a fork: it has no chain leaf
      exfalso
      have hfl : find? t last = some m := by rw [← hlast, ← hmid]; exact find?_of_mem hw.1 hm
      have hst := hs.stop
      rw [isBranchOrRoot_of_find hfl, Bool.or_eq_true, decide_eq_true_eq, decide_eq_true_eq, hmp] at hst
      have h0 := ids_nonneg hw.2.1 hi
      rw [hlast, chainLeaf_of_fork (by omega)] at h
      cases h
  | case4 => cases h

theorem segOf_stopAbove {t : Table} {i last : Int} {mid : List Int} (e : segOf t i = i :: mid ++ [last]) :
    stopAbove t i = some last := by
  unfold stopAbove
  rw [show walkToStop t (isBranchOrRoot t) (t.length + 1) i = mid ++ [last] from List.tail_eq_of_cons_eq e]
  exact List.getLast?_concat

/-- A small segment with the stop node its seed reports. -/
theorem mem_smallSegments_stop {t : Table} (hw : WF t) {s : List Int} (hs : s ∈ smallSegments t) :
    ∃ (n : Node) (mid : List Int) (last : Int), n ∈ t ∧ ¬ n.parent < 0 ∧ s = n.id :: mid ++ [last] ∧
      SmallSeg t n.id mid last ∧ stopAbove t n.id = some last := by
  obtain ⟨n, hn, hp, _, rfl⟩ := mem_smallSegments_iff.mp hs
  obtain ⟨mid, last, e, hseg⟩ := segOf_spec hw hn hp
  exact ⟨n, mid, last, hn, hp, e, hseg, segOf_stopAbove e⟩

theorem smallSegments_linked {t : Table} (hw : WF t) : ∀ s ∈ smallSegments t, Linked t s := by
  intro s hs
  obtain ⟨n, _, _, _, mid, last, rfl, hseg⟩ := mem_smallSegments hw hs
  exact hseg.linked

end Navis.Forest

namespace Navis.Flow
open Navis.Forest

theorem strahlerRaw_succ (t : Table) (g : Bool) (ign : List Int) (f : Nat) (i : Int) :
    strahlerRaw t g ign (f + 1) i =
      if children t i = [] then (if ign.contains i then 0 else 1)
      else strahlerRule g ((children t i).map (strahlerRaw t g ign f)) := by
  rw [strahlerRaw]
  cases h : children t i with
  | nil => simp
  | cons c cs =>
    cases cs with
    | nil => simp [strahlerRule]
    | cons c2 cs => simp

/-- The recursion descends: below a node at depth `dep t i` there are at most `t.length - dep t i` further levels, so any
fuel `f` with `t.length < f + dep t i` reaches the leafs. -/
theorem strahlerRaw_fuel_irrel {t : Table} (hw : WF t) (g : Bool) (ign : List Int) :
    ∀ i ∈ ids t, ∀ f f', t.length < f + dep t i → t.length < f' + dep t i →
      strahlerRaw t g ign f i = strahlerRaw t g ign f' i := by
  apply children_induct hw
  intro i hi ih f f' hf hf'
  have := dep_le hw i
  obtain ⟨k, rfl⟩ : ∃ k, f = k + 1 := ⟨f - 1, by omega⟩
  obtain ⟨k', rfl⟩ : ∃ k', f' = k' + 1 := ⟨f' - 1, by omega⟩
  rw [strahlerRaw_succ, strahlerRaw_succ]
  refine if_congr Iff.rfl rfl (congrArg _ (List.map_congr_left fun c hcm => ?_))
  have hd := (child_facts hw hcm).2
  exact ih c hcm k k' (by omega) (by omega)

theorem strahlerRaw_fuel {t : Table} (hw : WF t) (g : Bool) (ign : List Int) {i : Int} (hi : i ∈ ids t)
    (f : Nat) (hf : t.length ≤ f) : strahlerRaw t g ign f i = strahlerRaw t g ign (t.length + 1) i := by
  have h1 := dep_pos hi
  exact strahlerRaw_fuel_irrel hw g ign i hi f (t.length + 1) (by omega) (by omega)

theorem strahlerRaw_rec {t : Table} (hw : WF t) (g : Bool) (ign : List Int) (i : Int) :
    strahlerRaw t g ign (t.length + 1) i =
      if children t i = [] then (if ign.contains i then 0 else 1)
      else strahlerRule g ((children t i).map (strahlerRaw t g ign (t.length + 1))) := by
  rw [strahlerRaw_succ]
  exact if_congr Iff.rfl rfl (congrArg _ (List.map_congr_left fun c hcm =>
    strahlerRaw_fuel hw g ign (child_facts hw hcm).1 _ (Nat.le_refl _)))

theorem strahlerRaw_rec_nil {t : Table} (hw : WF t) (g : Bool) (i : Int) :
    strahlerRaw t g [] (t.length + 1) i =
      strahlerRule g ((children t i).map (strahlerRaw t g [] (t.length + 1))) := by
  rw [strahlerRaw_rec hw g [] i]
  by_cases hc : children t i = []
  · simp [hc, strahlerRule]
  · simp [hc]

theorem strahlerRaw_single_child {t : Table} (hw : WF t) (g : Bool) (ign : List Int) {i c : Int}
    (hc : children t i = [c]) : strahlerRaw t g ign (t.length + 1) i = strahlerRaw t g ign (t.length + 1) c := by
  rw [strahlerRaw_rec hw g ign i, hc]
  rfl

theorem le_maxList {l : List Nat} {v : Nat} (hv : v ∈ l) : v ≤ maxList l := 
  (foldl_max_nat l 0).1 v (List.mem_cons_of_mem _ hv)

theorem maxList_mem {l : List Nat} (hl : l ≠ []) : maxList l ∈ l := by
  rcases List.mem_cons.mp (foldl_max_nat l 0).2 with h | h
  · obtain ⟨v, hv⟩ := List.exists_mem_of_ne_nil _ hl
    have hle := le_maxList hv
    unfold maxList at hle ⊢
    rw [h] at hle ⊢
    exact Nat.le_zero.mp hle ▸ hv
  · exact h

theorem maxList_map_mono {α} (f g : α → Nat) (l : List α) (h : ∀ x ∈ l, f x ≤ g x) :
    maxList (l.map f) ≤ maxList (l.map g) := by
  by_cases hl : l.map f = []
  · rw [hl]; exact Nat.zero_le _
  · obtain ⟨x, hx, e⟩ := List.mem_map.mp (maxList_mem hl)
    rw [← e]
    exact Nat.le_trans (h x hx) (le_maxList (List.mem_map_of_mem hx))

theorem strahlerRule_standard (c1 c2 : Nat) (cs : List Nat) :
    strahlerRule false (c1 :: c2 :: cs) =
      (if (c1 :: c2 :: cs).count (maxList (c1 :: c2 :: cs)) ≥ 2 then maxList (c1 :: c2 :: cs) + 1
       else maxList (c1 :: c2 :: cs)) := rfl

theorem strahlerRule_greedy (c1 c2 : Nat) (cs : List Nat) :
    strahlerRule true (c1 :: c2 :: cs) = (c1 :: c2 :: cs).sum := rfl

theorem le_strahlerRule (g : Bool) {l : List Nat} {v : Nat} (hv : v ∈ l) : v ≤ strahlerRule g l := by
  match l, hv with
  | [c], hv => exact Nat.le_of_eq (List.mem_singleton.mp hv)
  | c1 :: c2 :: cs, hv =>
    cases g with
    | true => rw [strahlerRule_greedy]; exact le_sum_of_mem hv
    | false =>
      rw [strahlerRule_standard]
      have := le_maxList hv
      split <;> omega

theorem one_le_strahlerRule (g : Bool) {l : List Nat} (h : ∀ v ∈ l, 1 ≤ v) : 1 ≤ strahlerRule g l := by
  match l, h with
  | [], _ => exact Nat.le_refl 1
  | c :: cs, h =>
    have h1 : 1 ≤ c := h c List.mem_cons_self
    exact Nat.le_trans h1 (le_strahlerRule g List.mem_cons_self)

theorem one_le_strahlerRaw_nil (t : Table) (g : Bool) : ∀ (f : Nat) (i : Int), 1 ≤ strahlerRaw t g [] f i := by
  intro f
  induction f with
  | zero => intro i; exact Nat.le_refl 1
  | succ f ih =>
    intro i
    rw [strahlerRaw_succ]
    split
    · exact Nat.le_refl 1
    · exact one_le_strahlerRule g fun v hv => by
        obtain ⟨c, _, rfl⟩ := List.mem_map.mp hv
        exact ih c

/-- Without an ignore list the recurrence of the as-observed navis-fastcore model is the Strahler recurrence. -/
theorem fcRaw_nil (t : Table) (g : Bool) : ∀ (f : Nat) (i : Int), fcRaw t g [] f i = strahlerRaw t g [] f i := by
  intro f
  induction f with
  | zero => intro i; rfl
  | succ f ih =>
    intro i
    rw [strahlerRaw_succ, fcRaw]
    have hm : (children t i).map (fcRaw t g [] f) = (children t i).map (strahlerRaw t g [] f) :=
      List.map_congr_left (fun c _ => ih c)
    cases hc : children t i with
    | nil => simp
    | cons c cs =>
      simp only [reduceCtorEq, if_false]
      -- no child contributes 0, so the model's filter on positive values keeps them all
      rw [← hc, hm, List.filter_eq_self.mpr fun v hv => by
        obtain ⟨c', _, rfl⟩ := List.mem_map.mp hv
        exact decide_eq_true (one_le_strahlerRaw_nil t g f c')]
      rw [hc]
      cases cs with
      | nil => simp [strahlerRule]
      | cons c2 cs => simp

theorem strahler_of_ignored (t : Table) (g : Bool) (ign : List Int) {i l s : Int}
    (h1 : chainLeaf t (t.length + 1) i = some l) (h2 : ign.contains l = true) (h3 : stopAbove t l = some s) :
    strahler t g ign i = strahlerRaw t g ign (t.length + 1) s := by
  have h2' : l ∈ ign := by simpa using h2
  unfold strahler
  simp [h1, h2', h3]

theorem strahler_of_not_ignored (t : Table) (g : Bool) (ign : List Int) {i : Int}
    (h : ∀ l, chainLeaf t (t.length + 1) i = some l → ign.contains l = false) :
    strahler t g ign i = strahlerRaw t g ign (t.length + 1) i := by
  unfold strahler
  simp only
  cases hc : chainLeaf t (t.length + 1) i with
  | none => rfl
  | some l =>
    have : l ∉ ign := by simpa using h l hc
    simp [this]

theorem strahler_nil (t : Table) (g : Bool) (i : Int) :
    strahler t g [] i = strahlerRaw t g [] (t.length + 1) i :=
  strahler_of_not_ignored t g [] fun _ _ => rfl

/-- The twig test of the checker `ignoredTwigsOKB`, as a proposition. -/
theorem twigOKB_iff (t : Table) (eff : List Int) (v : Int → Nat) (s : List Int) :
    twigOKB t eff v s = true ↔ ∀ h e, s.head? = some h → s.getLast? = some e → h ∈ eff → childCount t h = 0 →
      2 ≤ childCount t e → ∀ x ∈ s.dropLast, v x = v e := by
  unfold twigOKB
  cases s.head? with
  | none => exact iff_of_true rfl fun _ _ hh => nomatch hh
  | some h =>
    cases s.getLast? with
    | none => exact iff_of_true rfl fun _ _ _ he => nomatch he
    | some e =>
      have hc : (eff.contains h && childCount t h == 0 && decide (2 ≤ childCount t e)) = true ↔
          h ∈ eff ∧ childCount t h = 0 ∧ 2 ≤ childCount t e := by
        simp only [Bool.and_eq_true, List.contains_iff_mem, beq_iff_eq, decide_eq_true_eq, and_assoc]
      dsimp only
      constructor
      · intro hok h' e' hh he hin hc0 hc2 x hx
        obtain rfl := Option.some.inj hh
        obtain rfl := Option.some.inj he
        rw [if_pos (hc.mpr ⟨hin, hc0, hc2⟩), List.all_eq_true] at hok
        exact beq_iff_eq.mp (hok x hx)
      · intro hspec
        split
        · rename_i hcond
          obtain ⟨hin, hc0, hc2⟩ := hc.mp hcond
          exact List.all_eq_true.mpr fun x hx => beq_iff_eq.mpr (hspec h e rfl rfl hin hc0 hc2 x hx)
        · rfl

theorem product_cons {α β} (a : α) (xs : List α) (ys : List β) :
    product (a :: xs) ys = ys.map (fun b => (a, b)) ++ product xs ys := rfl

theorem mem_product {α β} {xs : List α} {ys : List β} {p : α × β} : p ∈ product xs ys ↔ p.1 ∈ xs ∧ p.2 ∈ ys :=
  List.pair_mem_product

theorem count_product {α β} (f : α → Bool) (g : β → Bool) (xs : List α) (ys : List β) :
    ((product xs ys).filter fun p => f p.1 && g p.2).length = (xs.filter f).length * (ys.filter g).length := by
  induction xs with
  | nil => simp [product]
  | cons a xs ih =>
    rw [product_cons, List.filter_append, List.length_append, ih, List.filter_map, List.length_map]
    -- the pairs that start with `a`: all of `ys.filter g` if `f a`, none otherwise
    cases ha : f a with
    | true =>
      simp only [Function.comp_def, ha, Bool.true_and, List.filter_cons, if_true, List.length_cons, Nat.succ_mul]
      exact Nat.add_comm _ _
    | false =>
      simp only [Function.comp_def, ha, Bool.false_and, List.filter_false, List.filter_cons, Bool.false_eq_true,
        if_false, List.length_nil, Nat.zero_add]

theorem length_filter_sub_add {α} (p q : α → Bool) (l : List α) (h : ∀ x ∈ l, q x = true → p x = true) :
    (l.filter fun x => p x && !q x).length + (l.filter q).length = (l.filter p).length := by
  -- `l.filter p` split along `q`; within `l`, `q` alone is `q ∧ p`
  have e1 : (l.filter fun x => p x && !q x) = (l.filter p).filter fun x => !q x := by
    rw [List.filter_filter]
    exact List.filter_congr fun x _ => Bool.and_comm _ _
  have e2 : l.filter q = (l.filter p).filter q := by
    rw [List.filter_filter]
    refine List.filter_congr fun x hx => ?_
    cases hq : q x with
    | false => rfl
    | true => exact (h x hx hq).symm
  rw [e1, e2, Nat.add_comm]
  exact (List.length_eq_length_filter_add q).symm

theorem isDistal_iff {t : Table} {n s : Int} : isDistal t n s = true ↔ n ∈ rootPath t s := by
  unfold isDistal isAncestorOrSelf; simp

theorem sameTree_iff {t : Table} {a b : Int} :
    sameTree t a b = true ↔ ∃ r, rootOf t a = some r ∧ rootOf t b = some r := by
  unfold sameTree
  cases ha : rootOf t a with
  | none => simp
  | some ra =>
    cases hb : rootOf t b with
    | none => simp
    | some rb =>
      simp only [beq_iff_eq, Option.some.injEq]
      constructor
      · intro h; exact ⟨ra, rfl, h.symm⟩
      · rintro ⟨r, h1, h2⟩; rw [h1, h2]

theorem sameTree_of_distal {t : Table} (hw : WF t) {n a : Int} (h : n ∈ rootPath t a) : sameTree t a n = true := by
  unfold sameTree
  rw [rootOf_of_mem_rootPath hw h]
  cases hr : rootOf t a with
  | none => exact absurd (List.getLast?_eq_none_iff.mp hr) (List.ne_nil_of_mem h)
  | some r => exact beq_self_eq_true r

theorem legUp_of_meet {t : Table} {x y l : Int} {px py : List Int} (m : Meet t x y l px py) :
    legUp t x y = px := by
  obtain ⟨rest, hr⟩ := rootPath_cons m.hl
  unfold legUp
  rw [m.lca_eq]
  simp only
  -- `l` is not on `px` and heads the rest of the root path
  rw [m.ha, hr, List.takeWhile_append_of_pos fun a ha => bne_iff_ne.mpr fun (e : a = l) => m.l_not_pa (e ▸ ha),
    List.takeWhile_cons_of_neg (by rw [bne_self_eq_false]; exact Bool.false_ne_true), List.append_nil]

theorem mem_legUp_iff {t : Table} (hw : WF t) (x y n : Int) :
    n ∈ legUp t x y ↔ n ∈ rootPath t x ∧ n ∉ rootPath t y ∧ sameTree t y n = true := by
  rcases meet_or_disjoint hw x y with hd | ⟨l, px, py, m⟩
  · -- no path: by `h3` and `h1` the trees of `x` and `y` would share their root, which lies on both root paths
    unfold legUp
    rw [lca_of_disjoint hd]
    refine iff_of_false List.not_mem_nil ?_
    rintro ⟨h1, _, h3⟩
    obtain ⟨r, hr1, hr2⟩ := sameTree_iff.mp h3
    rw [rootOf_of_mem_rootPath hw h1] at hr2
    exact hd r (List.mem_of_getLast? hr2) (List.mem_of_getLast? hr1)
  · rw [legUp_of_meet m]
    constructor
    · intro hn
      have h1 : n ∈ rootPath t x := by rw [m.ha]; exact List.mem_append_left _ hn
      refine ⟨h1, m.da n hn, ?_⟩
      have := sameTree_of_distal hw h1
      unfold sameTree at this ⊢
      rwa [← m.rootOf_eq]
    · rintro ⟨h1, h2, _⟩
      rw [m.ha] at h1
      rcases List.mem_append.mp h1 with h | h
      · exact h
      · exact absurd (by rw [m.hb]; exact List.mem_append_right _ h) h2

theorem legUp_contains {t : Table} (hw : WF t) (x y n : Int) :
    (legUp t x y).contains n = (isDistal t n x && (sameTree t y n && !isDistal t n y)) := by
  rw [Bool.eq_iff_iff, List.contains_iff_mem, mem_legUp_iff hw, Bool.and_eq_true, Bool.and_eq_true,
    Bool.not_eq_true', isDistal_iff, ← Bool.not_eq_true, isDistal_iff]
  exact and_congr_right' and_comm

theorem proximal_add_distal {t : Table} (hw : WF t) (syn : List Int) (n : Int) :
    (syn.filter fun a => sameTree t a n && !isDistal t n a).length + distalCount t syn n = total t true syn n :=
  length_filter_sub_add (fun a => sameTree t a n) (fun a => isDistal t n a) syn
    fun _ _ ha => sameTree_of_distal hw (isDistal_iff.mp ha)

theorem distalCount_le_total {t : Table} (hw : WF t) (syn : List Int) (n : Int) :
    distalCount t syn n ≤ total t true syn n :=
  proximal_add_distal hw syn n ▸ Nat.le_add_left _ _

theorem length_filter_proximal {t : Table} (hw : WF t) (syn : List Int) (n : Int) :
    (syn.filter fun a => sameTree t a n && !isDistal t n a).length = total t true syn n - distalCount t syn n :=
  Nat.eq_sub_of_add_eq (proximal_add_distal hw syn n)

theorem centrifugal_eq_count {t : Table} (hw : WF t) (pre post : List Int) (n : Int) :
    centrifugal t true pre post n =
      ((product post pre).filter fun p => (sameTree t p.1 n && !isDistal t n p.1) && isDistal t n p.2).length := by
  rw [count_product (fun a => sameTree t a n && !isDistal t n a) (fun b => isDistal t n b), length_filter_proximal hw]
  rfl

theorem centripetal_eq_count {t : Table} (hw : WF t) (pre post : List Int) (n : Int) :
    centripetal t true pre post n =
      ((product post pre).filter fun p => isDistal t n p.1 && (sameTree t p.2 n && !isDistal t n p.2)).length := by
  rw [count_product (fun a => isDistal t n a) (fun b => sameTree t b n && !isDistal t n b), length_filter_proximal hw]
  rfl

theorem pathsDown_eq {t : Table} (hw : WF t) (pre post : List Int) (n : Int) :
    pathsDown t pre post n = centrifugal t true pre post n := by
  rw [centrifugal_eq_count hw]
  refine congrArg List.length (List.filter_congr fun p _ => ?_)
  rw [legUp_contains hw, Bool.and_comm]

theorem pathsUp_eq {t : Table} (hw : WF t) (pre post : List Int) (n : Int) :
    pathsUp t pre post n = centripetal t true pre post n := by
  rw [centripetal_eq_count hw]
  exact congrArg List.length (List.filter_congr fun p _ => legUp_contains hw p.1 p.2 n)

theorem pathCount_eq {t : Table} (hw : WF t) (m : Mode) (pre post : List Int) (n : Int) :
    pathCount t m pre post n = sfcRaw t true m pre post n := by
  cases m <;> simp [pathCount, sfcRaw, pathsDown_eq hw, pathsUp_eq hw]

theorem children_ne_nil_of_isFork {t : Table} {n : Int} (h : isFork t n = true) : children t n ≠ [] := by
  unfold isFork at h
  split at h
  · intro he
    have hl := children_length t n
    rw [he] at hl
    rw [Bool.and_eq_true, decide_eq_true_eq, ← hl] at h
    exact absurd h.2 (by decide)
  · cases h

/-- `sfc`, `sfcSpec`, `fcSpec`, `flowCentrality` all unfold to this shape (a fork takes its largest child's value), so the
lemma applies to goals stated with those names. -/
theorem forkRule_congr {t : Table} {n : Int} {f g : Int → Nat}
    (hc : isFork t n = true → ∀ c ∈ children t n, f c = g c) (hn : ¬ isFork t n = true → f n = g n) :
    (if isFork t n then maxList ((children t n).map f) else f n) =
      (if isFork t n then maxList ((children t n).map g) else g n) :=
  if_ctx_congr Iff.rfl (fun h => congrArg maxList (List.map_congr_left (hc h))) hn

theorem sfcSpec_eq {t : Table} (hw : WF t) (m : Mode) (pre post : List Int) (n : Int) :
    sfcSpec t m pre post n = sfc t true m pre post n :=
  forkRule_congr (fun _ c _ => pathCount_eq hw m pre post c) fun _ => pathCount_eq hw m pre post n

theorem bendAt_eq_bendPairs (t : Table) (pre post : List Int) (b : Int) :
    bendAt t pre post b = bendPairs t pre post b := by
  unfold bendAt bendPairs
  rw [List.length_flatMap]
  congr 1
  apply List.map_congr_left
  intro p _
  unfold distalCount
  exact (count_product (fun a => isDistal t p.1 a) (fun b => isDistal t p.2 b) post pre).symm

/-- Through a node with a single child, "distal to" is the same relation for the node and its child —
for every node other than the node itself. -/
theorem isDistal_single_child {t : Table} (hw : WF t) {p c : Int} (hch : children t p = [c]) (hp : p ∈ ids t)
    {s : Int} (hs : s ≠ p) : isDistal t p s = isDistal t c s := by
  have hcm : c ∈ children t p := hch ▸ List.mem_singleton_self c
  rw [Bool.eq_iff_iff, isDistal_iff, isDistal_iff]
  constructor
  · intro h
    obtain ⟨c', hc', a⟩ := child_on_path hw h hs
    obtain rfl : c' = c := List.mem_singleton.mp (hch ▸ hc')
    exact a
  · exact anc_trans hw (child_anc hw hp hcm).2.1

theorem distalCount_single_child {t : Table} (hw : WF t) {p c : Int} (hch : children t p = [c]) (hp : p ∈ ids t)
    (syn : List Int) (hsyn : p ∉ syn) : distalCount t syn p = distalCount t syn c :=
  congrArg List.length (List.filter_congr fun _ hs => isDistal_single_child hw hch hp fun e => hsyn (e ▸ hs))

/-- Tree totals agree along every edge: a node and its child have the same root. -/
theorem treeCount_child {t : Table} (hw : WF t) {n c : Int} (hn : n ∈ ids t) (hc : c ∈ children t n) (syn : List Int) :
    treeCount t syn n = treeCount t syn c := by
  unfold treeCount sameTree
  rw [rootOf_of_mem_rootPath hw (child_anc hw hn hc).2.1]

/-- The formulas do not change along a connector-free unbranched stretch. -/
theorem sfcRaw_single_child {t : Table} (hw : WF t) {p c : Int} (hch : children t p = [c]) (hp : p ∈ ids t)
    (m : Mode) (pre post : List Int) (h1 : p ∉ pre) (h2 : p ∉ post) :
    sfcRaw t true m pre post p = sfcRaw t true m pre post c := by
  have a := distalCount_single_child hw hch hp pre h1
  have b := distalCount_single_child hw hch hp post h2
  have hcm : c ∈ children t p := hch ▸ List.mem_singleton_self c
  have hcf : centrifugal t true pre post p = centrifugal t true pre post c := by
    unfold centrifugal total
    rw [a, b, treeCount_child hw hp hcm post]
  have hcp : centripetal t true pre post p = centripetal t true pre post c := by
    unfold centripetal total
    rw [a, b, treeCount_child hw hp hcm pre]
  cases m
  · exact hcf
  · exact hcp
  · show _ + _ = _ + _
    rw [hcf, hcp]

theorem distalCount_leaf {t : Table} (hw : WF t) {e : Int} (hch : children t e = []) (syn : List Int) (hsyn : e ∉ syn) :
    distalCount t syn e = 0 := by
  unfold distalCount
  rw [List.length_eq_zero_iff, List.filter_eq_nil_iff]
  intro s hs
  rw [isDistal_iff]
  intro hm
  obtain ⟨c, hc, _⟩ := child_on_path hw hm (fun h => hsyn (h ▸ hs))
  rw [hch] at hc; simp at hc

theorem sfcRaw_leaf {t : Table} (hw : WF t) {e : Int} (hch : children t e = []) (m : Mode) (pre post : List Int)
    (h1 : e ∉ pre) (h2 : e ∉ post) : sfcRaw t true m pre post e = 0 := by
  have hcf : centrifugal t true pre post e = 0 := by
    unfold centrifugal
    rw [distalCount_leaf hw hch pre h1, Nat.mul_zero]
  have hcp : centripetal t true pre post e = 0 := by
    unfold centripetal
    rw [distalCount_leaf hw hch post h2, Nat.zero_mul]
  cases m
  · exact hcf
  · exact hcp
  · show _ + _ = 0
    rw [hcf, hcp]

end Navis.Flow

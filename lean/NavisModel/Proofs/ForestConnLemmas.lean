import NavisModel.Proofs.UConnLemmas
import NavisModel.Proofs.EdgeLemmas
/-!
The trees of a well-formed forest are the connected components of its undirected edges: `Conn (uedges t) a b` holds
exactly if `a` and `b` have the same root (`Conn_iff_rootOf`), and `uedges t` is acyclic (`Acyc_uedges`).
-/
namespace Navis.Heal
open Navis.Forest

theorem adj_uedges {t : Table} {a b : Int} : Adj (uedges t) a b ↔
    ∃ n ∈ t, ¬ n.parent < 0 ∧ ((a = n.id ∧ b = n.parent) ∨ (a = n.parent ∧ b = n.id)) := by
  simp only [Adj, mem_uedges, ← exists_or, ← and_or_left, uedge_ends]

theorem adj_edges {t : Table} {a b : Int} : Adj (edges t) a b ↔ Adj (uedges t) a b := by
  rw [adj_uedges]
  simp only [Adj, mem_edges, Prod.mk.injEq]
  constructor
  · rintro (⟨n, hn, hp, h⟩ | ⟨n, hn, hp, h⟩)
    · exact ⟨n, hn, hp, Or.inl h⟩
    · exact ⟨n, hn, hp, Or.inr ⟨h.2, h.1⟩⟩
  · rintro ⟨n, hn, hp, h | h⟩
    · exact Or.inl ⟨n, hn, hp, h⟩
    · exact Or.inr ⟨n, hn, hp, h.2, h.1⟩

theorem rootOf_eq_of_Conn {t : Table} (hw : WF t) {a b : Int} (h : Conn (uedges t) a b) :
    rootOf t a = rootOf t b := by
  induction h with
  | refl => rfl
  | step _ hadj ih =>
    obtain ⟨n, hn, hp, hc⟩ := adj_uedges.mp hadj
    rcases hc with ⟨rfl, rfl⟩ | ⟨rfl, rfl⟩
    · exact ih.trans (rootOf_parent hw hn hp)
    · exact ih.trans (rootOf_parent hw hn hp).symm

theorem Conn_mem_ids {t : Table} (hw : WF t) {i j : Int} (hi : i ∈ ids t) (h : Conn (uedges t) i j) : j ∈ ids t := by
  induction h with
  | refl => exact hi
  | step _ hadj ih =>
    obtain ⟨n, hn, hp, h | h⟩ := adj_uedges.mp hadj
    · exact h.2 ▸ WF_parent_mem hw hn hp
    · exact h.2 ▸ mem_ids_of_mem hn

theorem Conn_rootOf {t : Table} (hw : WF t) {i : Int} (hi : i ∈ ids t) :
    ∃ r, rootOf t i = some r ∧ r ∈ roots t ∧ Conn (uedges t) i r := by
  refine WF_induct hw (fun i => ∃ r, rootOf t i = some r ∧ r ∈ roots t ∧ Conn (uedges t) i r) ?_ i hi
  intro n hn hcase
  by_cases hp : n.parent < 0
  · exact ⟨n.id, rootOf_of_root hw hn hp, mem_roots.mpr ⟨n, hn, rfl, hp⟩, .refl _⟩
  · obtain ⟨r, h1, h2, h3⟩ := hcase.resolve_left hp
    exact ⟨r, by rw [rootOf_parent hw hn hp]; exact h1, h2,
      (Conn.single (adj_uedges.mpr ⟨n, hn, hp, Or.inl ⟨rfl, rfl⟩⟩)).trans h3⟩

theorem Conn_iff_rootOf {t : Table} (hw : WF t) {a b : Int} (ha : a ∈ ids t) (hb : b ∈ ids t) :
    Conn (uedges t) a b ↔ rootOf t a = rootOf t b := by
  refine ⟨rootOf_eq_of_Conn hw, fun h => ?_⟩
  -- both are connected to their roots, which are the same node
  obtain ⟨r, h1, _, h3⟩ := Conn_rootOf hw ha
  obtain ⟨r', h1', _, h3'⟩ := Conn_rootOf hw hb
  obtain rfl : r = r' := Option.some.inj (h1.symm.trans (h.trans h1'))
  exact h3.trans h3'.symm

theorem Acyc_uedges {t : Table} (hw : WF t) : Acyc (uedges t) := by
  have hnd := Nodup_uedges hw
  refine ⟨hnd, ?_⟩
  intro e he hc
  obtain ⟨n, hn, hp, rfl⟩ := mem_uedges.mp he
  -- without the edge `n`–parent, "`n.id` lies on the root path of `x`" is the same at both ends of every remaining edge,
  -- hence constant along paths; yet it holds at `n` and fails at its parent
  have key : ∀ {x y : Int}, Conn ((uedges t).erase (uedge n.id n.parent)) x y →
      (n.id ∈ rootPath t x ↔ n.id ∈ rootPath t y) := by
    intro x y h
    induction h with
    | refl => exact Iff.rfl
    | @step b c _ hadj ih =>
      have hx : ∃ x ∈ (uedges t).erase (uedge n.id n.parent), (b, c) = x ∨ (c, b) = x :=
        hadj.elim (fun h => ⟨_, h, Or.inl rfl⟩) (fun h => ⟨_, h, Or.inr rfl⟩)
      obtain ⟨x, hxm, hxe⟩ := hx
      obtain ⟨hxne, hxmem⟩ := hnd.mem_erase_iff.mp hxm
      obtain ⟨m, hm, hmp, rfl⟩ := mem_uedges.mp hxmem
      have hmne : m.id ≠ n.id := fun hid => hxne (node_eq_of_id hw.1 hm hn hid ▸ rfl)
      have hd := distal_iff_parent hw hm hmp hmne
      rcases uedge_ends.mp hxe with ⟨rfl, rfl⟩ | ⟨rfl, rfl⟩
      · exact ih.trans hd
      · exact ih.trans hd.symm
  have h1 : n.id ∈ rootPath t n.id := rootPath_head_mem (mem_ids_of_mem hn)
  have h2 : n.id ∉ rootPath t n.parent := parent_not_distal hw hn hp
  have hk := key hc
  rcases uedge_cases n.id n.parent with e | e <;> rw [e] at hk
  · exact h2 (hk.mp h1)
  · exact h2 (hk.mpr h1)

end Navis.Heal

import NavisModel.Proofs.DownsampleLemmas
/-! C13: contracting single-child nodes changes neither the number of children of a kept node nor the ancestor
relation among kept nodes.

`Contracts t u`: `u` keeps a subset of the rows of `t`, links every kept node to the first kept node on the
tail of its old root path, and every dropped node has exactly one child in `t`.  Walking down from any node through
dropped nodes one reaches exactly one kept node (`Below`, `Contracts.below`: induction from the leafs inward); so for
every kept node `i` the children of `i` in `u` are the kept nodes below the children of `i` in `t`, one below each
(`childCount_contract`), and the root path of `i` in `u` is its root path in `t` restricted to the kept nodes
(`rootPath_contract`).  Core Lean only. -/
namespace Navis.Forest

structure Contracts (t u : Table) : Prop where
  nodup : (ids u).Nodup
  sub : ∀ m ∈ u, m.id ∈ ids t
  link : ∀ m ∈ u, ((rootPath t m.id).tail.find? (fun a => (ids u).contains a) = none ∧ m.parent < 0) ∨
      (∃ a, (rootPath t m.id).tail.find? (fun a => (ids u).contains a) = some a ∧ m.parent = a)
  slab : ∀ n ∈ t, n.id ∉ ids u → childCount t n.id = 1

/-- A kept node whose new parent is `i ≥ 0`: its root path is `m.id :: between ++ i :: above` with nothing kept in
`between`. -/
theorem Contracts.path {t u : Table} (h : Contracts t u) {m : Node} (hm : m ∈ u) {i : Int}
    (hp : m.parent = i) (hi : 0 ≤ i) :
    ∃ between above, rootPath t m.id = (m.id :: between) ++ i :: above ∧ i ∈ ids u ∧ ∀ x ∈ between, x ∉ ids u := by
  rcases h.link m hm with ⟨_, hneg⟩ | ⟨a, hfd, hpa⟩
  · omega
  · rw [List.find?_eq_some_iff_append] at hfd
    obtain ⟨hka, as, bs, hl, has⟩ := hfd
    have : a = i := by rw [← hpa, hp]
    subst this
    refine ⟨as, bs, ?_, by simpa using hka, fun x hx => by simpa using has x hx⟩
    rw [rootPath_cons_tail (h.sub m hm), hl]
    rfl

theorem Contracts.ids_sub {t u : Table} (h : Contracts t u) {d : Int} (hd : d ∈ ids u) : d ∈ ids t := by
  obtain ⟨m, hm, rfl⟩ := mem_ids.mp hd
  exact h.sub m hm

/-- `d` is the kept node reached from `x` by walking down through dropped nodes (`d = x` when `x` is kept): the root
path of `d` runs into that of `x`, and everything on it after `d` up to and including `x` is dropped. -/
def Below (t u : Table) (x d : Int) : Prop :=
  d ∈ ids u ∧ ∃ W, rootPath t d = W ++ rootPath t x ∧ ∀ y ∈ (W ++ [x]).tail, y ∉ ids u

/-- **Below every node there is exactly one such kept node**: a kept node is its own, a dropped node has one child,
through which every walk down goes on. -/
theorem Contracts.below {t u : Table} (hw : WF t) (h : Contracts t u) :
    ∀ x ∈ t, (∃ d, Below t u x.id d) ∧ ∀ d d', Below t u x.id d → Below t u x.id d' → d = d' := by
  refine WF_induct_down hw _ fun x hx ih => ?_
  obtain ⟨R, hR⟩ := rootPath_cons (mem_ids_of_mem hx)
  -- with nothing in between, the node itself
  have hnil : ∀ d, d ∈ ids u → rootPath t d = [] ++ rootPath t x.id → d = x.id := fun d hd e =>
    rootPath_head (e.trans hR)
  by_cases hk : x.id ∈ ids u
  · have key : ∀ d, Below t u x.id d → d = x.id := by
      rintro d ⟨hd, W, hW, hnk⟩
      cases W with
      | nil => exact hnil d hd hW
      | cons w W => exact absurd hk (hnk x.id (by simp))
    exact ⟨⟨x.id, hk, [], rfl, by simp⟩, fun d d' hd hd' => (key d hd).trans (key d' hd').symm⟩
  · have hone := h.slab x hx hk
    obtain ⟨c, hc, hcp⟩ := exists_child_of_pos (t := t) (i := x.id) (by omega)
    have hrc : rootPath t c.id = c.id :: rootPath t x.id := rootPath_child hw hc hcp
    -- a walk down from `x` passes its one child
    have down : ∀ d, Below t u x.id d → Below t u c.id d := by
      rintro d ⟨hd, W, hW, hnk⟩
      rcases List.eq_nil_or_concat W with rfl | ⟨W0, y, rfl⟩
      · exact absurd (hnil d hd hW ▸ hd) hk
      · rw [List.concat_eq_append] at hW hnk
        have hl := rootPath_linked t d
        rw [hW, hR, List.append_assoc] at hl
        obtain ⟨ny, hfy, hpy, _⟩ := Linked_at W0 y x.id R hl
        obtain ⟨hny, rfl⟩ := find?_some hfy
        obtain rfl : ny = c := child_unique (by omega) hny hc hpy hcp
        refine ⟨hd, W0, by rw [hW, hrc, List.append_assoc]; rfl, fun z hz => hnk z ?_⟩
        rw [List.tail_append_of_ne_nil (by simp)]
        exact List.mem_append_left _ hz
    obtain ⟨⟨d, hd, W, hW, hnk⟩, huniq⟩ := ih c hc hcp
    refine ⟨⟨d, hd, W ++ [c.id], by rw [hW, hrc, List.append_assoc]; rfl, fun z hz => ?_⟩,
      fun d d' hd hd' => huniq d d' (down d hd) (down d' hd')⟩
    rw [List.tail_append_of_ne_nil (by simp)] at hz
    rcases List.mem_append.mp hz with hz | hz
    · exact hnk z hz
    · rw [List.mem_singleton.mp hz]; exact hk

/-- **Contracting single-child nodes preserves every kept node's number of children**: the children of `i` in `u` are
the kept nodes below the children of `i` in `t`, one below each. -/
theorem childCount_contract {t u : Table} (hw : WF t) (h : Contracts t u) {i : Int} (hi : i ∈ ids u) :
    childCount u i = childCount t i := by
  have hit : i ∈ ids t := h.ids_sub hi
  have hi0 : 0 ≤ i := ids_nonneg hw.2.1 hit
  obtain ⟨Ri, hRi⟩ := rootPath_cons hit
  -- the kept node below a child of `i` has `i` as its first kept ancestor
  have hpar : ∀ c ∈ t, c.parent = i → ∀ m ∈ u, Below t u c.id m.id → m.parent = i := by
    rintro c hc hcp m hm ⟨_, W, hW, hnk⟩
    rw [rootPath_child hw hc hcp, hRi] at hW
    have hfind : (rootPath t m.id).tail.find? (fun a => (ids u).contains a) = some i := by
      rw [hW, List.append_cons, List.tail_append_of_ne_nil (by simp)]
      exact find?_append_skip _ _ i Ri (fun y hy => by simpa using hnk y hy) (by simpa using hi)
    rcases h.link m hm with ⟨hnone, _⟩ | ⟨a, hfa, hpa⟩
    · rw [hfind] at hnone; cases hnone
    · rw [hfind] at hfa; rw [hpa]; exact (Option.some.inj hfa).symm
  -- a child of `i` in `u` lies below the child of `i` in `t` its old root path passes
  have hup : ∀ d ∈ u, d.parent = i → ∃ c ∈ t, c.parent = i ∧ Below t u c.id d.id := by
    intro d hd hdp
    obtain ⟨between, above, e1, _, hbt⟩ := h.path hd hdp hi0
    rcases List.eq_nil_or_concat (d.id :: between) with hnil | ⟨L, y, hL⟩
    · simp at hnil
    · rw [List.concat_eq_append] at hL
      rw [hL, List.append_assoc] at e1
      have hl := rootPath_linked t d.id
      rw [e1] at hl
      obtain ⟨ny, hfy, hpy, _⟩ := Linked_at L y i above hl
      obtain ⟨hny, rfl⟩ := find?_some hfy
      refine ⟨ny, hny, hpy, mem_ids_of_mem hd, L, by rw [e1, rootPath_split hw e1]; rfl, fun z hz => hbt z ?_⟩
      rw [← hL] at hz
      exact hz
  unfold childCount
  apply Nat.le_antisymm
  · apply length_le_of_inj (fun (d c : Node) => Below t u c.id d.id) (u.filter fun n => n.parent == i)
      (t.filter fun n => n.parent == i) ((nodup_of_ids_nodup h.nodup).filter _)
    · intro d hdB
      obtain ⟨hd, hdp⟩ := mem_filter_parent.mp hdB
      obtain ⟨c, hc, hcp, hb⟩ := hup d hd hdp
      exact ⟨c, mem_filter_parent.mpr ⟨hc, hcp⟩, hb⟩
    · intro d d' c hdB hdB' hcA hb hb'
      exact node_eq_of_id h.nodup (mem_filter_parent.mp hdB).1 (mem_filter_parent.mp hdB').1
        ((h.below hw c (mem_filter_parent.mp hcA).1).2 _ _ hb hb')
  · apply length_le_of_inj (fun (c d : Node) => Below t u c.id d.id) (t.filter fun n => n.parent == i)
      (u.filter fun n => n.parent == i) ((nodup_of_ids_nodup hw.1).filter _)
    · intro c hcA
      obtain ⟨hc, hcp⟩ := mem_filter_parent.mp hcA
      obtain ⟨⟨d, hb⟩, _⟩ := h.below hw c hc
      obtain ⟨m, hm, rfl⟩ := mem_ids.mp hb.1
      exact ⟨m, mem_filter_parent.mpr ⟨hm, hpar c hc hcp m hm hb⟩, hb⟩
    · -- the old root path of `d` passes one child of `i` only
      rintro c c' d hcA hcA' - ⟨_, W, hW, _⟩ ⟨_, W', hW', _⟩
      obtain ⟨hc, hcp⟩ := mem_filter_parent.mp hcA
      obtain ⟨hc', hcp'⟩ := mem_filter_parent.mp hcA'
      rw [rootPath_child hw hc hcp] at hW
      rw [rootPath_child hw hc' hcp'] at hW'
      have := (List.append_inj' (hW.symm.trans hW') rfl).2
      exact node_eq_of_id hw.1 hc hc' (List.cons.inj this).1

theorem rootPath_contract {t u : Table} (hw : WF t) (hwu : WF u) (h : Contracts t u) {i : Int} (hi : i ∈ ids u) :
    rootPath u i = (rootPath t i).filter (fun a => (ids u).contains a) := by
  -- along the new root paths: the new parent is the next kept node on the old one
  refine WF_induct hwu (fun i => rootPath u i = (rootPath t i).filter fun a => (ids u).contains a) (fun m hm ih => ?_) i hi
  have hfu := find?_of_mem hwu.1 hm
  have hsplit := rootPath_cons_tail (h.sub m hm)
  have hkept : (ids u).contains m.id = true := by simpa using mem_ids_of_mem hm
  rcases h.link m hm with ⟨hnone, hneg⟩ | ⟨a, hfd, hpa⟩
  · rw [rootPath_of_root hfu hneg, hsplit, List.filter_cons, if_pos hkept,
      List.filter_eq_nil_iff.mpr (List.find?_eq_none.mp hnone)]
  · have ha0 : 0 ≤ a := ids_nonneg hwu.2.1 (by simpa using List.find?_some hfd)
    obtain ⟨as, bs, hpath, _, has⟩ := h.path hm hpa ha0
    have hnr : ¬ m.parent < 0 := by omega
    have hias : (m.id :: as).filter (fun a => (ids u).contains a) = [m.id] := by
      rw [List.filter_cons, if_pos hkept, List.filter_eq_nil_iff.mpr fun x hx => by simpa using has x hx]
    rw [rootPath_of_nonroot hwu hfu hnr, ih.resolve_left hnr, hpa, rootPath_split hw hpath, hpath, List.filter_append, hias]
    rfl

end Navis.Forest

namespace Navis.Resample
open Navis.Forest

theorem dropped_one_child {t : Table} (hw : WF t) (hl : labelsOKB t = true) (f : Option Nat) (pres : List Int)
    {n : Node} (hn : n ∈ t) (hdrop : n.id ∉ ids (downsample t f pres)) : childCount t n.id = 1 := by
  have hslab : n.label = .slab := by
    apply Classical.byContradiction
    intro hne
    exact hdrop (downsample_keeps_fixpoints hw f pres hn (Or.inl hne))
  exact ((label_slab_iff hl hn).mp hslab).2

theorem downsample_contracts {t : Table} (hw : WF t) (hl : labelsOKB t = true) (f : Option Nat) (pres : List Int) :
    Contracts t (downsample t f pres) := by
  obtain ⟨h1, _, h3⟩ := downsample_spec hw f pres (one_child_of_labels hw hl pres) [] (by simp)
  refine ⟨(WF_downsample hw f pres).1, ?_, ?_, fun n hn hd => dropped_one_child hw hl f pres hn hd⟩
  · intro m hm
    obtain ⟨n, hn, hid, _⟩ := h1 m hm
    exact hid ▸ mem_ids_of_mem hn
  · intro m hm
    rcases h3 m hm with h | ⟨a, ha, hp, _⟩
    · exact Or.inl h
    · exact Or.inr ⟨a, ha, hp⟩

end Navis.Resample

import NavisModel.Model.Tps
/-! Helper lemmas for C08 (thin plate splines): the top block of the TPS system evaluated with the
kernel matrix of the landmarks IS the spline evaluated at the landmarks; residual bounds carry over;
the cache state machine of `copy()` / `__neg__`.  Core Lean only. -/
namespace Navis.Tps

protected theorem add_comm (p q : Pt) : add p q = add q p := by
  simp only [add, Rat.add_comm]

/-- The two sides add their summands in opposite order (`topRow` is `K·W + P·A`, `eval` is `P·A + U·W`), whence
`Tps.add_comm`. -/
theorem systemTop_kernelMatrix (kern : Pt → Pt → Rat) (src : List Pt) (W : List Pt) (A : AffCoef) :
    systemTop (kernelMatrix kern src) src W A = src.map (eval kern src W A) := by
  unfold systemTop kernelMatrix
  rw [List.zipWith_map_left, List.zipWith_self]
  apply List.map_congr_left
  intro s _
  simp only [topRow, eval]
  exact Tps.add_comm _ _

theorem close_refl {eps : Rat} (he : 0 ≤ eps) (p : Pt) : close eps p p = true := by
  simp [close, absR, Rat.sub_self, he]

theorem closeAll_getElem? {eps : Rat} : ∀ {xs ys : List Pt}, closeAll eps xs ys = true →
    xs.length = ys.length ∧ ∀ (i : Nat) p q, xs[i]? = some p → ys[i]? = some q → close eps p q = true
  | [], [], _ => ⟨rfl, fun i p q h => by simp at h⟩
  | [], _ :: _, h => nomatch h
  | _ :: _, [], h => nomatch h
  | x :: xs, y :: ys, h => by
    simp only [closeAll, Bool.and_eq_true] at h
    obtain ⟨hl, hr⟩ := closeAll_getElem? h.2
    refine ⟨congrArg Nat.succ hl, ?_⟩
    intro i p q hp hq
    cases i with
    | zero => cases hp; cases hq; exact h.1
    | succ i => exact hr i p q hp hq

section Cache
variable {γ : Type}

/-- Cached coefficients, if any, are those of the object's CURRENT landmarks. -/
def Coherent (coefs : Nat → Nat → γ) (o : Obj γ) : Prop :=
  ∀ c, o.cache = some c → c = coefs o.src o.tgt

def proj (o : Obj γ) : Nat × Nat := (o.src, o.tgt)

theorem coherent_mk (coefs : Nat → Nat → γ) (s t : Nat) : Coherent coefs (mk s t) :=
  fun _ h => nomatch h

theorem use_spec (coefs : Nat → Nat → γ) (o : Obj γ) (h : Coherent coefs o) :
    (use coefs o).1 = coefs o.src o.tgt ∧ proj (use coefs o).2 = proj o ∧ Coherent coefs (use coefs o).2 := by
  unfold use
  cases hc : o.cache with
  | some c => exact ⟨h c hc, rfl, h⟩
  | none =>
    refine ⟨rfl, rfl, ?_⟩
    intro c hc'
    simp only [Option.some.injEq] at hc'
    exact hc'.symm

theorem copy_spec (coefs : Nat → Nat → γ) (carries : Bool) (o : Obj γ) (h : Coherent coefs o) :
    proj (copy carries o) = proj o ∧ Coherent coefs (copy carries o) := by
  unfold copy
  cases carries with
  | true => exact ⟨rfl, h⟩
  | false => exact ⟨rfl, coherent_mk coefs _ _⟩

theorem neg_spec (coefs : Nat → Nat → γ) (o : Obj γ) :
    proj (neg true true o) = (o.tgt, o.src) ∧ Coherent coefs (neg true true o) :=
  ⟨rfl, fun _ h => nomatch h⟩

theorem set_self_of_getElem? {α} {l : List α} {i : Nat} {a : α} (h : l[i]? = some a) : l.set i a = l := by
  obtain ⟨hi, rfl⟩ := List.getElem?_eq_some_iff.mp h
  exact List.set_getElem_self hi

/-- With `__neg__` swapping the landmarks and starting without coefficients, every `use` along every
history observes the coefficients of the used object's own (source, target), whatever `copy` does
with the cache. -/
theorem run_eq_runRef (coefs : Nat → Nat → γ) (carries : Bool) (pool : List (Obj γ))
    (hp : ∀ o ∈ pool, Coherent coefs o) (ops : List Op) :
    (run true true carries coefs pool ops).1 = runRef coefs (pool.map proj) ops := by
  induction ops generalizing pool with
  | nil => rfl
  | cons op ops ih =>
    have happ : ∀ o', Coherent coefs o' →
        (run true true carries coefs (pool ++ [o']) ops).1 = runRef coefs (pool.map proj ++ [proj o']) ops :=
      fun o' h => by
        rw [ih _ (List.forall_mem_append.mpr ⟨hp, List.forall_mem_singleton.mpr h⟩), List.map_append]; rfl
    cases op with
    | mk s t => exact happ _ (coherent_mk coefs s t)
    | use i =>
      simp only [run, runRef, List.getElem?_map]
      cases hi : pool[i]? with
      | none => exact ih pool hp
      | some o =>
        obtain ⟨h1, h2, h3⟩ := use_spec coefs o (hp o (List.mem_of_getElem? hi))
        have hpool : (pool.set i (use coefs o).2).map proj = pool.map proj := by
          rw [List.map_set, h2]
          exact set_self_of_getElem? (by rw [List.getElem?_map, hi]; rfl)
        have := ih (pool.set i (use coefs o).2) fun o' ho' =>
          (List.mem_or_eq_of_mem_set ho').elim (hp o') fun e => e ▸ h3
        rw [hpool] at this
        show (use coefs o).1 :: _ = _
        rw [this, h1]
        rfl
    | copy i =>
      simp only [run, runRef, List.getElem?_map]
      cases hi : pool[i]? with
      | none => exact ih pool hp
      | some o =>
        obtain ⟨h1, h2⟩ := copy_spec coefs carries o (hp o (List.mem_of_getElem? hi))
        exact (happ _ h2).trans (by rw [h1]; rfl)
    | neg i =>
      simp only [run, runRef, List.getElem?_map]
      cases hi : pool[i]? with
      | none => exact ih pool hp
      | some o => exact happ _ (neg_spec coefs o).2

end Cache

end Navis.Tps

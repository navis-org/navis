import NavisModel.Model.PruneExt
import NavisModel.Proofs.PathLemmas
import NavisModel.Proofs.ListLemmas
/-!
Helper lemmas for `heightOf` / `exactPrune` / `exactPruneG` (C12, `prune_twigs(exact=True)`): the height
recurrence and its fuel independence (by `children_induct`), monotonicity of the height along parent links, and
the row-by-row description of `exactPruneG` (`exactPrune` is the case where every node is admissible).
Core Lean only.
-/
namespace Navis.ExactPrune
open Navis.Forest Navis.PruneX

theorem foldl_max_le {l : List Nat} {a b : Nat} (ha : a ≤ b) (h : ∀ x ∈ l, x ≤ b) : l.foldl max a ≤ b := by
  rcases List.mem_cons.mp (foldl_max_nat l a).2 with e | hm
  · rw [e]; exact ha
  · exact h _ hm

theorem heightOf_succ (t : Table) (len : Int → Int → Nat) (f : Nat) (i : Int) :
    heightOf t len (f + 1) i = ((children t i).map fun c => len c i + heightOf t len f c).foldl max 0 := rfl

theorem heightOf_leaf (t : Table) (len : Int → Int → Nat) (f : Nat) (i : Int) (h : children t i = []) :
    heightOf t len f i = 0 := by
  cases f with
  | zero => rfl
  | succ f => rw [heightOf_succ, h]; rfl

/-- A node at depth `d` has nothing more than `|t| - d` levels below it: that much fuel is as good as any. -/
theorem heightOf_fuel_dep {t : Table} (hw : WF t) (len : Int → Int → Nat) :
    ∀ i ∈ ids t, ∀ f, t.length < dep t i + f → heightOf t len f i = heightOf t len (t.length + 1) i := by
  refine children_induct hw _ fun i hi ih f hf => ?_
  obtain ⟨f', rfl⟩ : ∃ f', f = f' + 1 :=
    Nat.exists_eq_succ_of_ne_zero fun h0 => Nat.not_lt.mpr (dep_le hw i) (by rw [h0] at hf; exact hf)
  rw [heightOf_succ, heightOf_succ]
  congr 1
  apply List.map_congr_left
  intro c hc
  obtain ⟨hci, hd⟩ := child_facts hw hc
  rw [ih c hc f' (by rw [hd, Nat.add_right_comm]; exact hf), ih c hc t.length (Nat.lt_add_of_pos_left (dep_pos hci))]

theorem heightOf_fuel {t : Table} (hw : WF t) (len : Int → Int → Nat) {i : Int} (hi : i ∈ ids t)
    (f : Nat) (hf : t.length ≤ f) : heightOf t len f i = heightOf t len (t.length + 1) i :=
  heightOf_fuel_dep hw len i hi f (Nat.lt_of_le_of_lt hf (Nat.lt_add_of_pos_left (dep_pos hi)))

/-- The recurrence at the *same* fuel on both sides. -/
theorem heightOf_rec {t : Table} (hw : WF t) (len : Int → Int → Nat) (i : Int) :
    heightOf t len (t.length + 1) i =
      ((children t i).map fun c => len c i + heightOf t len (t.length + 1) c).foldl max 0 := by
  rw [heightOf_succ]
  congr 1
  apply List.map_congr_left
  intro c hcm
  rw [heightOf_fuel hw len (child_facts hw hcm).1 _ (Nat.le_refl _)]

theorem height_bounds {t : Table} (hw : WF t) (len : Int → Int → Nat) (k : Int) :
    (∀ c ∈ children t k, len c k + heightOf t len (t.length + 1) c ≤ heightOf t len (t.length + 1) k) ∧
    (children t k ≠ [] → ∃ c ∈ children t k, heightOf t len (t.length + 1) k = len c k + heightOf t len (t.length + 1) c) := by
  rw [heightOf_rec hw len k]
  have hub : ∀ c ∈ children t k, len c k + heightOf t len (t.length + 1) c ≤
      ((children t k).map fun c => len c k + heightOf t len (t.length + 1) c).foldl max 0 :=
    fun c hc => (foldl_max_nat _ 0).1 _ (List.mem_cons_of_mem _ (List.mem_map.mpr ⟨c, hc, rfl⟩))
  refine ⟨hub, fun hne => ?_⟩
  rcases List.mem_cons.mp
      (foldl_max_nat ((children t k).map fun c => len c k + heightOf t len (t.length + 1) c) 0).2 with h | h
  · obtain ⟨c, hc⟩ := List.exists_mem_of_ne_nil _ hne
    exact ⟨c, hc, Nat.le_antisymm (by rw [h]; exact Nat.zero_le _) (hub c hc)⟩
  · obtain ⟨c, hc, he⟩ := List.mem_map.mp h
    exact ⟨c, hc, he.symm⟩

theorem height_child_le {t : Table} (hw : WF t) (len : Int → Int → Nat) {n : Node} (hn : n ∈ t)
    (_ : ¬ n.parent < 0) :
    heightOf t len (t.length + 1) n.id + len n.id n.parent ≤ heightOf t len (t.length + 1) n.parent := by
  rw [Nat.add_comm]
  exact (height_bounds hw len n.parent).1 n.id (mem_children.mpr ⟨n, hn, rfl, rfl⟩)

/-- Height as a rational, at the fuel `exactPrune` uses. -/
def H (t : Table) (len : Int → Int → Nat) (j : Int) : Rat := (heightOf t len (t.length + 1) j : Nat)

theorem H_le_parent {t : Table} (hw : WF t) (len : Int → Int → Nat) {n : Node} (hn : n ∈ t) (hp : ¬ n.parent < 0) :
    H t len n.id ≤ H t len n.parent :=
  Rat.natCast_le_natCast.mpr (Nat.le_trans (Nat.le_add_right _ _) (height_child_le hw len hn hp))

/-- A node that may be cut away or moved: admissible and within `size` of all its distal tips. -/
abbrev InRange (t : Table) (len : Int → Int → Nat) (size : Rat) (adm : Int → Bool) (i : Int) : Prop :=
  adm i = true ∧ H t len i ≤ size

/-- What `exactPruneG` emits for one row. -/
def exactRow (t : Table) (len : Int → Int → Nat) (size : Rat) (adm : Int → Bool) (n : Node) : Option (Int × Int × Rat) :=
  if !(adm n.id && decide (H t len n.id ≤ size)) then some (n.id, n.parent, 0)
  else if n.parent < 0 then some (n.id, n.parent, 0)
  else if adm n.parent && decide (H t len n.parent ≤ size) then none
  else if ((len n.id n.parent : Nat) : Rat) < size - H t len n.id then none
  else some (n.id, n.parent,
    if ((len n.id n.parent : Nat) : Rat) = 0 then 0 else (size - H t len n.id) / ((len n.id n.parent : Nat) : Rat))

theorem mem_exactPruneG {t : Table} {len : Int → Int → Nat} {size : Rat} {adm : Int → Bool} {r : Int × Int × Rat} :
    r ∈ exactPruneG t len size adm ↔ ∃ n ∈ t, exactRow t len size adm n = some r := List.mem_filterMap

theorem mem_exactPrune {t : Table} {len : Int → Int → Nat} {size : Rat} {r : Int × Int × Rat} :
    r ∈ exactPrune t len size ↔ ∃ n ∈ t, exactRow t len size (fun _ => true) n = some r := List.mem_filterMap

theorem exactRow_of_not_inRange {t : Table} {len : Int → Int → Nat} {size : Rat} {adm : Int → Bool} {n : Node}
    (h : ¬ InRange t len size adm n.id) : exactRow t len size adm n = some (n.id, n.parent, 0) :=
  if_pos (by rw [Bool.not_eq_true', ← Bool.not_eq_true, Bool.and_eq_true, decide_eq_true_eq]; exact h)

theorem exactRow_cases (t : Table) (len : Int → Int → Nat) (size : Rat) (adm : Int → Bool) (n : Node) :
    ((¬ InRange t len size adm n.id ∨ n.parent < 0) ∧ exactRow t len size adm n = some (n.id, n.parent, 0)) ∨
    (InRange t len size adm n.id ∧ ¬ n.parent < 0 ∧
      (InRange t len size adm n.parent ∨ ((len n.id n.parent : Nat) : Rat) < size - H t len n.id) ∧
      exactRow t len size adm n = none) ∨
    (InRange t len size adm n.id ∧ ¬ n.parent < 0 ∧ ¬ InRange t len size adm n.parent ∧
      ¬ ((len n.id n.parent : Nat) : Rat) < size - H t len n.id ∧
      exactRow t len size adm n = some (n.id, n.parent,
        if ((len n.id n.parent : Nat) : Rat) = 0 then 0
        else (size - H t len n.id) / ((len n.id n.parent : Nat) : Rat))) := by
  have hb : ∀ i, (adm i && decide (H t len i ≤ size)) = true ↔ InRange t len size adm i := fun i => by
    rw [Bool.and_eq_true, decide_eq_true_eq]
  by_cases h1 : InRange t len size adm n.id
  · unfold exactRow
    rw [if_neg (by rw [(hb _).mpr h1]; decide)]
    by_cases h2 : n.parent < 0
    · rw [if_pos h2]; exact .inl ⟨.inr h2, rfl⟩
    · rw [if_neg h2]
      by_cases h3 : InRange t len size adm n.parent
      · rw [if_pos ((hb _).mpr h3)]; exact .inr (.inl ⟨h1, h2, .inl h3, rfl⟩)
      · rw [if_neg (fun h => h3 ((hb _).mp h))]
        by_cases h4 : ((len n.id n.parent : Nat) : Rat) < size - H t len n.id
        · rw [if_pos h4]; exact .inr (.inl ⟨h1, h2, .inr h4, rfl⟩)
        · rw [if_neg h4]; exact .inr (.inr ⟨h1, h2, h3, h4, rfl⟩)
  · exact .inl ⟨.inl h1, exactRow_of_not_inRange h1⟩

/-- The fraction `τ` of a surviving tip: in `[0, 1]`, and exactly `size` of cable is left below it. -/
theorem tau_facts {h size L : Rat} (h1 : h ≤ size) (h0 : 0 ≤ L) (h4 : ¬ L < size - h) :
    0 ≤ (if L = 0 then 0 else (size - h) / L) ∧ (if L = 0 then 0 else (size - h) / L) ≤ 1 ∧
    (L ≠ 0 → h + (if L = 0 then 0 else (size - h) / L) * L = size) := by
  by_cases hL : L = 0
  · rw [if_pos hL]
    exact ⟨Rat.le_refl, by decide, fun h => absurd hL h⟩
  · rw [if_neg hL]
    have hpos : 0 < L := Rat.lt_of_le_of_ne h0 (Ne.symm hL)
    have hc : (size - h) / L * L = size - h := Rat.div_mul_cancel hL
    -- compare after multiplying by `L > 0`
    refine ⟨Rat.le_of_mul_le_mul_right ?_ hpos, Rat.le_of_mul_le_mul_right ?_ hpos, fun _ => ?_⟩
    · rw [hc, Rat.zero_mul]; exact (Rat.le_iff_sub_nonneg _ _).mp h1
    · rw [hc, Rat.one_mul]; exact Rat.not_lt.mp h4
    · rw [hc, Rat.add_comm, Rat.sub_add_cancel]

/-- What every output row of `exactPruneG` is, for any admissibility test.  (`InRange` is written out: the third
alternative is flat, in the shape in which `Props/C12.lean` states it for `exactPruneM`.) -/
theorem exactPruneG_row_spec {t : Table} {len : Int → Int → Nat} {size : Rat} {adm : Int → Bool} {i p : Int} {τ : Rat}
    (hr : (i, p, τ) ∈ exactPruneG t len size adm) :
    ∃ n ∈ t, n.id = i ∧ n.parent = p ∧
      ((¬ (adm i = true ∧ H t len i ≤ size) ∧ τ = 0) ∨
       (p < 0 ∧ τ = 0) ∨
       (adm i = true ∧ H t len i ≤ size ∧ ¬ p < 0 ∧ ¬ (adm p = true ∧ H t len p ≤ size) ∧
        0 ≤ τ ∧ τ ≤ 1 ∧ (len i p ≠ 0 → H t len i + τ * (len i p : Nat) = size))) := by
  obtain ⟨n, hn, hrow⟩ := mem_exactPruneG.mp hr
  refine ⟨n, hn, ?_⟩
  rcases exactRow_cases t len size adm n with ⟨h, e⟩ | ⟨_, _, _, e⟩ | ⟨h1, h2, h3, h4, e⟩
  · rw [e] at hrow; cases hrow
    exact ⟨rfl, rfl, h.elim (fun h1 => .inl ⟨h1, rfl⟩) fun h2 => .inr (.inl ⟨h2, rfl⟩)⟩
  · rw [e] at hrow; exact nomatch hrow
  · rw [e] at hrow; cases hrow
    obtain ⟨t0, t1, t2⟩ := tau_facts h1.2 Rat.natCast_nonneg h4
    exact ⟨rfl, rfl, .inr (.inr ⟨h1.1, h1.2, h2, h3, t0, t1, fun hne => t2 fun h0 => hne (Rat.natCast_eq_zero_iff.mp h0)⟩)⟩

theorem exactRow_fst {t : Table} {len : Int → Int → Nat} {size : Rat} {adm : Int → Bool} {n : Node} {r : Int × Int × Rat}
    (h : exactRow t len size adm n = some r) : r.1 = n.id ∧ r.2.1 = n.parent := by
  rcases exactRow_cases t len size adm n with ⟨_, e⟩ | ⟨_, _, _, e⟩ | ⟨_, _, _, _, e⟩
  · rw [e] at h; cases h; exact ⟨rfl, rfl⟩
  · rw [e] at h; exact nomatch h
  · rw [e] at h; cases h; exact ⟨rfl, rfl⟩

theorem filterMap_fst_sublist {α : Type} (f : Node → Option (Int × α)) (hf : ∀ n r, f n = some r → r.1 = n.id)
    (l : Table) : ((l.filterMap f).map (·.1)).Sublist (ids l) := by
  induction l with
  | nil => simp
  | cons a l ih =>
    rw [List.filterMap_cons]
    cases h : f a with
    | none => exact ih.trans (List.sublist_cons_self _ _)
    | some r =>
      simp only [List.map_cons, ids_cons]
      rw [hf a r h]
      exact ih.cons_cons _

theorem exactPrune_ids_sublist (t : Table) (len : Int → Int → Nat) (size : Rat) :
    ((exactPrune t len size).map (·.1)).Sublist (ids t) :=
  filterMap_fst_sublist (exactRow t len size fun _ => true) (fun _ _ h => (exactRow_fst h).1) t

end Navis.ExactPrune

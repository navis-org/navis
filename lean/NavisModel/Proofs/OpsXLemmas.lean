import NavisModel.Model.OpsX
import NavisModel.Proofs.OpsAllLemmas
import NavisModel.Proofs.ResampleSkipLemmas
import NavisModel.Proofs.HealRewireLemmas
import NavisModel.Model.SomaInterp
/-!
The state language of C01 (`Model/OpsX.lean`).

* the soma clean-ups establish `SomaOK` whatever was stored before; under `SomaOK` every id the getter
  reports is a node of the table;
* `applyX` preserves well-formedness and correct labels; a step of the state language preserves both and `SomaOK`;
* the clean-up facts the translator extracts describe the model's clean-up functions.
-/
namespace Navis.Forest

theorem SomaOK_filterSoma (t : Table) (s : Soma) : SomaOK t (filterSoma t s) := by
  cases s with
  | detect => trivial
  | none => trivial
  | one i =>
    show SomaOK t (if (ids t).contains i then Soma.one i else Soma.none)
    split <;> trivial
  | many l =>
    show SomaOK t (if (l.filter fun i => (ids t).contains i).isEmpty then Soma.none
      else Soma.many (l.filter fun i => (ids t).contains i))
    split
    · trivial
    · exact fun i hi => List.contains_iff_mem.mp (List.mem_filter.mp hi).2

theorem SomaOK_stepSoma (s : St) (t' : Table) (nn : Int → Nat) (a : SomaAct) : SomaOK t' (stepSoma s t' nn a) := by
  cases a with
  | filter => exact SomaOK_filterSoma _ _
  | subset => exact SomaOK_filterSoma _ _
  | subsetIfShrunk =>
    show SomaOK t' (if t'.length < s.nodes.length then filterSoma t' (filterSomaSubset t' s.soma) else filterSoma t' s.soma)
    split <;> exact SomaOK_filterSoma _ _
  | pin => exact SomaOK_filterSoma _ _
  | fresh => trivial

theorem report_mem {s : St} (hok : SomaOK s.nodes s.soma) {l : List Int} (h : report s = some l) :
    ∀ i ∈ l, i ∈ ids s.nodes := by
  unfold report at h
  split at h
  · split at h
    · cases h
    · cases h; exact fun i hi => (List.mem_filter.mp hi).1
  · cases h
  · split at h
    · rename_i hc
      cases h
      exact fun i hi => List.mem_singleton.mp hi ▸ List.contains_iff_mem.mp hc
    · cases h
  · rename_i hs
    rw [hs] at hok
    split at h
    · cases h
    · split at h
      · cases h; exact hok
      · cases h

theorem somaOKStoredB_iff (t : Table) (s : Soma) : somaOKStoredB t s = true ↔ SomaOK t s := by
  cases s <;> simp [somaOKStoredB, SomaOK]

/-- Without the invariant the getter can report an id that does not exist (why the clean-up matters). -/
theorem report_stale_example :
    report { nodes := [⟨1, -1, 0, 0, 0, .root⟩], soma := .many [1, 7] } = some [1, 7] := by decide +kernel

theorem ids_isoTable (verts : List Int) : ids (isoTable verts) = verts := by
  simp [ids, isoTable, List.map_map, Function.comp_def]

theorem fromEdges_eq (verts : List Int) (E : List (Int × Int)) (roots : List Int) :
    fromEdges verts E roots =
      classify (Heal.reparent (isoTable verts)
        (Heal.traverse (Heal.inTable (isoTable verts) E) (isoTable verts).length
          (roots.filter (fun r => (ids (isoTable verts)).contains r) ++ ids (isoTable verts)))) := rfl

theorem WF_fromEdges {verts : List Int} (hv : WF (isoTable verts)) (E : List (Int × Int)) (roots : List Int) :
    WF (fromEdges verts E roots) := by
  rw [fromEdges_eq]
  refine WF_classify (Heal.WF_reparent hv (Heal.traverse_table hv.2.1 E fun r hr => ?_).1.ok)
  exact (List.mem_append.mp hr).elim (fun h => List.contains_iff_mem.mp (List.mem_filter.mp h).2) id

theorem labelsOKB_fromEdges (verts : List Int) (E : List (Int × Int)) (roots : List Int) :
    labelsOKB (fromEdges verts E roots) = true := by
  rw [fromEdges_eq]; exact labelsOKB_classify _

theorem ids_fromEdges (verts : List Int) (E : List (Int × Int)) (roots : List Int) :
    ids (fromEdges verts E roots) = verts := by
  rw [fromEdges_eq, ids_classify, Heal.ids_reparent, ids_isoTable]

def OpX.ok : OpX → Prop
  | .base op => op.ok
  | .fromEdges verts _ _ => WF (isoTable verts)
  | .setNodes t' => WF t'
  | _ => True

theorem OpX.okB_iff (op : OpX) : op.okB = true ↔ op.ok := by
  cases op with
  | base op => exact OpAll.okB_iff op
  | fromEdges verts E roots => exact wfB_iff _
  | setNodes t' => exact wfB_iff _
  | resampleSkip acts => simp [OpX.okB, OpX.ok]
  | touch => simp [OpX.okB, OpX.ok]

theorem WF_applyX (len : Int → Int → Nat) {t : Table} (hw : WF t) (op : OpX) (hok : op.ok) : WF (applyX len t op) := by
  cases op with
  | base op => exact WF_applyAll len hw op hok
  | resampleSkip acts => exact Resample.WF_resampleSkip hw _
  | fromEdges verts E roots => exact WF_fromEdges hok E roots
  | setNodes t' => exact WF_classify hok
  | touch => exact hw

/-- Operations of `OpX` that re-classify unconditionally. -/
def OpX.fresh : OpX → Prop
  | .base op => op.alwaysFresh
  | .touch => False
  | _ => True

theorem labelsOKB_applyX (len : Int → Int → Nat) {t : Table} (hw : WF t) (hl : labelsOKB t = true) (op : OpX) :
    labelsOKB (applyX len t op) = true := by
  cases op with
  | base op => exact labelsOKB_applyAll len hw hl op
  | resampleSkip acts => exact labelsOKB_classify _
  | fromEdges verts E roots => exact labelsOKB_fromEdges verts E roots
  | setNodes t' => exact labelsOKB_classify t'
  | touch => exact hl

/-- What the property demands of a state. -/
structure GoodSt (s : St) : Prop where
  wf : WF s.nodes
  labels : labelsOKB s.nodes = true
  soma : SomaOK s.nodes s.soma

def OpS.ok : OpS → Prop
  | .tab op _ _ => op.ok
  | _ => True

theorem OpS.okB_iff (op : OpS) : op.okB = true ↔ op.ok := by
  cases op with
  | tab op nn th => exact OpX.okB_iff op
  | setSoma v => simp [OpS.okB, OpS.ok]
  | clearSoma => simp [OpS.okB, OpS.ok]

theorem GoodSt_stepS (len : Int → Int → Nat) {s : St} (h : GoodSt s) (op : OpS) (hok : op.ok) : GoodSt (stepS len s op) := by
  cases op with
  | tab op nn th =>
    exact ⟨WF_applyX len h.wf op hok, labelsOKB_applyX len h.wf h.labels op, SomaOK_stepSoma s _ nn _⟩
  | setSoma v =>
    show GoodSt (if (ids s.nodes).contains v then { s with soma := .one v } else s)
    split
    · exact ⟨h.wf, h.labels, trivial⟩
    · exact h
  | clearSoma => exact ⟨h.wf, h.labels, trivial⟩

/-! ## The generated facts describe the model's clean-up functions and the `skip_errors` slice (C01 translator tie). -/
open Navis.Gen.SomaSpec

theorem cleanUpBy_eq_filterSoma {c : CleanUp} (h1 : c.skipsCallable = true) (h2 : c.listFiltered = true)
    (h3 : c.listEmptyReset = true) (h4 : c.scalarAbsentReset = true) (t : Table) (s : Soma) :
    cleanUpBy c t s = filterSoma t s := by
  cases s with
  | detect => simp only [cleanUpBy, h1, if_true, filterSoma]
  | none => rfl
  | one i =>
    simp only [cleanUpBy, h4, Bool.true_and, filterSoma]
    cases (ids t).contains i <;> rfl
  | many l => simp only [cleanUpBy, h2, h3, Bool.true_and, if_true, filterSoma]

/-- Both clean-up blocks are one function: `SomaAct.subset` and `.subsetIfShrunk` only say that navis runs the
clean-up twice on that code path. -/
theorem filterSomaSubset_eq (t : Table) (s : Soma) : filterSomaSubset t s = filterSoma t s := by
  cases s <;> rfl

/-- `s[:-1]`. -/
theorem pySlice_none_neg_one (s : List Int) : pySlice (none, some (-1)) s = s.dropLast := by
  show (s.take (normBound s.length (-1))).drop 0 = s.dropLast
  rw [List.drop_zero, List.dropLast_eq_take]
  congr 1
  unfold normBound
  simp only [show ((-1 : Int) < 0) from by decide, if_true]
  omega

end Navis.Forest

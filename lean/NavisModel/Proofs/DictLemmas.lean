import NavisModel.Model.Conn
import NavisModel.Proofs.ListLemmas
/-! Python dicts as association lists: the laws of `Conn.dget` / `Conn.dset` / `Conn.dkeys` for any key type. The String-keyed
copies of the other models are these functions (`Volume.dget_eq` in `VolumeLemmas`; `IoMeta.get_eq`, `set_eq`, `dget_eq` in `IoMetaLemmas`). A lookup is a
`find?` by key (`dget_eq_find?`), so several laws of `dget` are lemmas on `find?` (core's, and `find?_key_of_nodup` of `ListLemmas` for distinct keys). -/
namespace Navis.Conn
variable {κ : Type _} {β : Type _} {γ : Type _} [DecidableEq κ]

theorem dget_eq_find? (d : List (κ × β)) (k : κ) : dget d k = (d.find? fun p => p.1 == k).map (·.2) := by
  induction d with
  | nil => rfl
  | cons p t ih =>
    rw [dget, List.find?_cons, ih]
    by_cases h : p.1 = k
    · rw [if_pos h, beq_iff_eq.mpr h]; rfl
    · rw [if_neg h, beq_false_of_ne h]

theorem dget_isSome_iff (d : List (κ × β)) (k : κ) : (dget d k).isSome ↔ k ∈ dkeys d := by
  rw [dget_eq_find?, Option.isSome_map, List.find?_isSome, dkeys, List.mem_map]
  simp only [beq_iff_eq]

theorem dget_eq_none {d : List (κ × β)} {k : κ} (h : k ∉ dkeys d) : dget d k = none :=
  Option.not_isSome_iff_eq_none.mp (mt (dget_isSome_iff d k).mp h)

theorem dget_of_mem_nodup (d : List (κ × β)) (k : κ) (v : β) (h : (dkeys d).Nodup) (hm : (k, v) ∈ d) :
    dget d k = some v :=
  (dget_eq_find? d k).trans (congrArg (Option.map (·.2)) (find?_key_of_nodup h hm))

theorem mem_of_dget (d : List (κ × β)) (k : κ) (v : β) (h : dget d k = some v) : (k, v) ∈ d := by
  rw [dget_eq_find?, Option.map_eq_some_iff] at h
  obtain ⟨⟨a, b⟩, he, rfl⟩ := h
  have hk : a = k := by simpa using List.find?_some he
  exact hk ▸ List.mem_of_find?_eq_some he

theorem dget_map (f : γ → β) (d : List (κ × γ)) (k : κ) :
    dget (d.map fun kv => (kv.1, f kv.2)) k = (dget d k).map f := by
  rw [dget_eq_find?, dget_eq_find?, List.find?_map, Option.map_map, Option.map_map]
  rfl

theorem dget_filter_key (f : κ → Bool) (d : List (κ × β)) (k : κ) :
    dget (d.filter fun p => f p.1) k = if f k then dget d k else none := by
  induction d with
  | nil => simp [dget]
  | cons p r ih =>
    obtain ⟨k1, v1⟩ := p
    by_cases hk : k1 = k
    · subst hk
      cases hf : f k1 <;> simp [List.filter, hf, dget, ih]
    · cases hf : f k1 <;> simp [List.filter, hf, dget, hk, ih]

theorem dget_dset (d : List (κ × β)) (k k' : κ) (v : β) :
    dget (dset d k v) k' = if k = k' then some v else dget d k' := by
  induction d with
  | nil => rfl
  | cons p t ih =>
    obtain ⟨a, b⟩ := p
    by_cases hk : a = k
    · subst hk
      by_cases h2 : a = k' <;> simp [dset, dget, h2]
    · by_cases h2 : a = k'
      · subst h2; simp [dset, dget, hk, Ne.symm hk]
      · simp [dset, dget, hk, h2, ih]

theorem dset_of_not_mem (d : List (κ × β)) (k : κ) (v : β) (h : k ∉ dkeys d) : dset d k v = d ++ [(k, v)] := by
  induction d with
  | nil => rfl
  | cons p t ih =>
    obtain ⟨a, b⟩ := p
    have ha : ¬ a = k := fun e => h (e ▸ List.mem_cons_self)
    have ht : k ∉ dkeys t := fun e => h (List.mem_cons_of_mem _ e)
    simp only [dset, ha, if_false, ih ht, List.cons_append]

theorem dkeys_dset (d : List (κ × β)) (k : κ) (v : β) :
    dkeys (dset d k v) = if k ∈ dkeys d then dkeys d else dkeys d ++ [k] := by
  induction d with
  | nil => rfl
  | cons p t ih =>
    obtain ⟨a, b⟩ := p
    show dkeys (if a = k then (k, v) :: t else (a, b) :: dset t k v)
      = if k ∈ a :: dkeys t then a :: dkeys t else a :: dkeys t ++ [k]
    by_cases h : a = k
    · subst h
      rw [if_pos rfl, if_pos (List.mem_cons_self ..)]; rfl
    · rw [if_neg h]
      show a :: dkeys (dset t k v) = _
      rw [ih]
      by_cases hk : k ∈ dkeys t
      · rw [if_pos hk, if_pos (List.mem_cons_of_mem _ hk)]
      · rw [if_neg hk, if_neg (fun hm => (List.mem_cons.1 hm).elim (fun e => h e.symm) hk)]; rfl

theorem nodup_dkeys_dset (d : List (κ × β)) (k : κ) (v : β) (h : (dkeys d).Nodup) : (dkeys (dset d k v)).Nodup := by
  rw [dkeys_dset]
  split
  · exact h
  · rename_i hk; exact nodup_concat h hk

/-- `for kv in kvs: d[kv.1] = f kv.2` with fresh, distinct keys appends the entries in order. -/
theorem foldl_dset_fresh (f : γ → β) (kvs : List (κ × γ)) (d : List (κ × β))
    (hn : (dkeys kvs).Nodup) (hd : ∀ kv ∈ kvs, kv.1 ∉ dkeys d) :
    kvs.foldl (fun d kv => dset d kv.1 (f kv.2)) d = d ++ kvs.map fun kv => (kv.1, f kv.2) := by
  induction kvs generalizing d with
  | nil => simp
  | cons kv t ih =>
    rw [dkeys, List.map_cons, List.nodup_cons] at hn
    rw [List.foldl_cons, dset_of_not_mem d kv.1 (f kv.2) (hd kv List.mem_cons_self), ih _ hn.2, List.map_cons,
      List.append_assoc]
    · rfl
    · intro kv' hkv' hm
      simp only [dkeys, List.map_append, List.map_cons, List.map_nil, List.mem_append, List.mem_singleton] at hm
      rcases hm with hm | hm
      · exact hd kv' (List.mem_cons_of_mem _ hkv') hm
      · exact hn.1 (hm ▸ List.mem_map_of_mem hkv')

end Navis.Conn

import NavisModel.Proofs.ResampleNormedLemmas
import NavisModel.Proofs.ResampleGeomLemmas
import Mathlib.Analysis.InnerProductSpace.PiL2
/-! C13: the real-valued resampling model of `ResampleNormedLemmas` (`polyAtR`, any real normed space) restricted to
rational data in Euclidean 3-space **is** the executable model `Resample.polyAt` the harness compares with navis:
casting commutes with interpolation, with the sample list and with the chain length.  Hence the statements about the
executable model — sampled points are never further apart than the piece of cable between them (`sqd_polyAt_le`,
squared, over `Rat`), resampling does not increase cable length (`chainLen`, a sum of square roots) — are the
normed-space theorems read through the cast; `sum_chain_le` adds such bounds up over the segments of a skeleton. -/
namespace Navis.Resample

/-- Euclidean length of the polyline through the points (real-valued). -/
noncomputable def chainLen : List Pt → ℝ
  | a :: b :: rest => Real.sqrt ((sqd a b : Rat) : ℝ) + chainLen (b :: rest)
  | _ => 0

end Navis.Resample

namespace Navis.ResampleR
open Navis.Resample

/-- A model point (rational coordinates) as a point of Euclidean 3-space. -/
noncomputable def toE (p : Pt) : EuclideanSpace ℝ (Fin 3) := !₂[(p.x : ℝ), (p.y : ℝ), (p.z : ℝ)]

theorem toE_lerp (a b : Pt) (τ : Rat) : toE (lerpPt a b τ) = lerpR (toE a) (toE b) (τ : ℝ) := by
  unfold toE lerpR lerpPt
  ext i
  fin_cases i <;> simp

theorem toE_default : toE default = 0 := by
  unfold toE
  ext i
  fin_cases i <;> simp <;> rfl

noncomputable def castK (k : Rat × Pt) : ℝ × EuclideanSpace ℝ (Fin 3) := ((k.1 : ℝ), toE k.2)

theorem polyAtR_cast (ks : List (Rat × Pt)) (s : Rat) : polyAtR (ks.map castK) (s : ℝ) = toE (polyAt ks s) := by
  fun_induction polyAt ks s with
  | case1 => simp [polyAtR, toE_default]
  | case2 => simp [polyAtR, castK]
  | case3 k0 k1 rest s h1 ih =>
    rw [List.map_cons, List.map_cons, polyAtR_cons_cons]
    simp only [castK, Rat.cast_le, if_pos h1]
    exact ih
  | case4 k0 k1 rest s h1 h2 =>
    rw [List.map_cons, List.map_cons, polyAtR_cons_cons]
    simp only [castK, Rat.cast_le, if_neg h1, if_pos h2]
  | case5 k0 k1 rest s h1 h2 =>
    rw [List.map_cons, List.map_cons, polyAtR_cons_cons]
    simp only [castK, Rat.cast_le, if_neg h1, if_neg h2, toE_lerp]
    push_cast
    rfl

theorem dist_toE (a b : Pt) : dist (toE a) (toE b) = Real.sqrt ((sqd a b : Rat) : ℝ) := by
  unfold toE sqd
  rw [EuclideanSpace.dist_eq]
  congr 1
  simp only [Fin.sum_univ_three, Real.dist_eq, sq_abs]
  simp
  ring

theorem chainLenR_map_toE : ∀ l : List Pt, chainLenR (l.map toE) = chainLen l
  | [] => rfl
  | [_] => rfl
  | a :: b :: rest => by
    have ih := chainLenR_map_toE (b :: rest)
    simp only [List.map_cons] at ih ⊢
    rw [chainLenR, chainLen, dist_toE, ih]

theorem samplesR_cast (ks : List (Rat × Pt)) (total : Rat) (k : ℕ) :
    samplesR (ks.map castK) (total : ℝ) k = (samples ks total k).map toE := by
  unfold samplesR samples
  rw [List.map_map]
  apply List.map_congr_left
  intro j _
  simp only [Function.comp]
  rw [← polyAtR_cast]
  congr 1
  unfold samplePos
  push_cast
  rfl

/-- Admissible rational knots stay admissible under the cast: the Euclidean norm of an edge is the square root of
its `sqd`. -/
theorem arcOKR_cast : ∀ ks : List (Rat × Pt), ArcOK ks → ArcOKR (ks.map castK)
  | [], _ => trivial
  | [_], _ => trivial
  | k0 :: k1 :: rest, ⟨hm, he, hr⟩ => by
    refine ⟨Rat.cast_le.mpr hm, ?_, arcOKR_cast (k1 :: rest) hr⟩
    show ‖toE k1.2 - toE k0.2‖ ≤ (k1.1 : ℝ) - (k0.1 : ℝ)
    rw [← dist_eq_norm, dist_comm, dist_toE, ← Rat.cast_sub]
    exact Real.sqrt_le_iff.mpr ⟨Rat.cast_nonneg.mpr (sub_nonneg.mpr hm), by rw [sq]; exact_mod_cast he⟩

theorem dist_le_iff_sqd_le {a b : Pt} {c : Rat} (hc : 0 ≤ c) : dist (toE a) (toE b) ≤ (c : ℝ) ↔ sqd a b ≤ c * c := by
  rw [dist_toE, Real.sqrt_le_left (Rat.cast_nonneg.mpr hc), sq, ← Rat.cast_mul, Rat.cast_le]

theorem sqd_le_of_dist_le {a b : Pt} {c : Rat} (h : dist (toE a) (toE b) ≤ (c : ℝ)) : sqd a b ≤ c * c :=
  (dist_le_iff_sqd_le (Rat.cast_nonneg.mp (dist_nonneg.trans h))).mp h

end Navis.ResampleR

namespace Navis.Resample
open Navis.ResampleR

theorem sqd_first_polyAt (k0 : Rat × Pt) (rest : List (Rat × Pt)) (h : ArcOK (k0 :: rest)) (s : Rat) (hs : k0.1 ≤ s) :
    sqd k0.2 (polyAt (k0 :: rest) s) ≤ (s - k0.1) * (s - k0.1) := by
  have := norm_polyAtR_sub_first (rest.map castK) (castK k0) (arcOKR_cast (k0 :: rest) h) s (Rat.cast_le.mpr hs)
  rw [← List.map_cons, polyAtR_cast, ← dist_eq_norm, dist_comm] at this
  exact sqd_le_of_dist_le (by rw [Rat.cast_sub]; exact this)

/-- **Arc-length parametrisation is 1-Lipschitz** (squared form): two points of the polyline at arc
lengths `s ≤ s'` are at most `s' − s` apart. -/
theorem sqd_polyAt_le (ks : List (Rat × Pt)) (h : ArcOK ks) (s s' : Rat) (hss : s ≤ s') :
    sqd (polyAt ks s) (polyAt ks s') ≤ (s' - s) * (s' - s) := by
  have := norm_polyAtR_sub_le _ (arcOKR_cast ks h) s s' (Rat.cast_le.mpr hss)
  rw [polyAtR_cast, polyAtR_cast, ← dist_eq_norm, dist_comm, ← Rat.cast_sub] at this
  exact sqd_le_of_dist_le this

/-- **Every new edge is no longer than the piece of cable it replaces**: consecutive samples `j`, `j+1`
of a segment are at most `total / (k + 1)` apart (squared form). -/
theorem chord_le_arc (ks : List (Rat × Pt)) (h : ArcOK ks) (total : Rat) (ht : 0 ≤ total) (k j : Nat) :
    sqd (polyAt ks (samplePos total k j)) (polyAt ks (samplePos total k (j + 1))) ≤
      (total / ((k : Rat) + 1)) * (total / ((k : Rat) + 1)) := by
  have hstep := samplePos_step total k j
  have hle : samplePos total k j ≤ samplePos total k (j + 1) :=
    sub_nonneg.mp (hstep ▸ div_nonneg ht (Nat.cast_add_one_pos k).le)
  have := sqd_polyAt_le ks h _ _ hle
  rwa [hstep] at this

/-- **Resampling does not increase cable length**: the chain through the `k + 2` samples of a segment
(first anchor, `k` fresh nodes, last anchor) is at most `total` long, whenever the arc lengths used for the
interpolation do not under-estimate the true edge lengths (`ArcOK`). -/
theorem chainLen_samples_le (ks : List (Rat × Pt)) (h : ArcOK ks) (total : Rat) (ht : 0 ≤ total) (k : Nat) :
    chainLen (samples ks total k) ≤ (total : ℝ) := by
  rw [← chainLenR_map_toE, ← samplesR_cast]
  exact chainLenR_samples_le _ (arcOKR_cast ks h) _ (Rat.cast_nonneg.mpr ht) k

theorem sum_chain_le {α} (F : α → ℝ) (G : α → Nat) (hFG : ∀ s, F s ≤ (G s : ℝ)) (l : List α) :
    (l.map F).sum ≤ (((l.map G).sum : Nat) : ℝ) := by
  rw [Nat.cast_list_sum, List.map_map]
  exact List.sum_le_sum fun s _ => hFG s

end Navis.Resample

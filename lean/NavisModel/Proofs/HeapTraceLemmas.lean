import NavisModel.Proofs.HeapHistLemmas
/-!
The event traces extracted from the source text, run in the heap model (`runTrace` folds `runEv` over the trace; the state is the
store and the object the name `x` holds).  A trace that passes `okTrace` is a history
(`runTrace_eq_runHist`: the guard is the `call` of the empty body with the caller's flag, a write the in-place call of one
statement), so frame, freshness of the result and agreement of the two runs are those of histories.  Conversely a write
before the guard shows in the input's node table, whatever follows (`runTrace_violation`).  At the end: a row of a table of
traces is a row of the table of their `okTrace` verdicts.
-/
namespace Navis.Heap

theorem okTrace_parts {t : List Ev} (h : okTrace t = true) :
    noWriteBeforeGuard t = true ∧ Ev.writeIn ∉ t ∧ Ev.retIn ∉ t ∧ Ev.lostDelegate ∉ t := by
  simp only [okTrace, Bool.and_eq_true, Bool.not_eq_true', List.contains_eq_mem, decide_eq_false_iff_not] at h
  exact ⟨h.1.1.1.1, h.1.1.1.2, h.1.1.2, h.1.2⟩

def evOp (f : Abs → Int) (ip : Bool) : Ev → List Stmt × Bool
  | .guard => ([], ip)
  | .write => ([.wr .nodes f], true)
  | _ => ([], true)

theorem evOp_body (f : Abs → Int) (ip : Bool) (e : Ev) : (evOp f ip e).1 = (evOp f true e).1 := by
  cases e <;> rfl

theorem evOp_writesOwn (f : Abs → Int) (ip : Bool) (e : Ev) : writesOwn true (evOp f ip e).1 = true := by
  cases e <;> rfl

/-- A trace without writes through an alias, early returns of the input and discarded delegations is a history. -/
theorem runTrace_eq_runHist (f : Abs → Int) (x0 : Ref) (ip : Bool) : ∀ (t : List Ev) (st : Store × Ref),
    Ev.writeIn ∉ t → Ev.retIn ∉ t → Ev.lostDelegate ∉ t →
    t.foldl (runEv f x0 ip) st = runHist (t.map (evOp f ip)) st := by
  intro t; induction t with
  | nil => intro st _ _ _; rfl
  | cons e t ih =>
    intro st hw hr hl
    obtain ⟨hnw, hw'⟩ := List.ne_and_not_mem_of_not_mem_cons hw
    obtain ⟨hnr, hr'⟩ := List.ne_and_not_mem_of_not_mem_cons hr
    obtain ⟨hnl, hl'⟩ := List.ne_and_not_mem_of_not_mem_cons hl
    rw [List.foldl_cons, List.map_cons, runHist_cons, ih _ hw' hr' hl']
    cases e with
    | guard => cases ip <;> rfl
    | writeIn => exact absurd rfl hnw
    | retIn => exact absurd rfl hnr
    | lostDelegate => exact absurd rfl hnl
    | write | delegate | branch => rfl

theorem runTrace_ok (f : Abs → Int) {t : List Ev} (h : okTrace t = true) (s : Store) (x : Ref) (ip : Bool) :
    runTrace f t s x ip = runHist (t.map (evOp f ip)) (s, x) :=
  let ⟨_, h2, h3, h4⟩ := okTrace_parts h
  runTrace_eq_runHist f x ip t (s, x) h2 h3 h4

/-- Until the first guard nothing is written and the store stays as it is; the guard is a non-inplace call, after which
the history only touches what it allocated. -/
theorem okHist_frame (f : Abs → Int) (s : Store) (x : Ref) : ∀ (t : List Ev) (u : Store), Ext s u →
    noWriteBeforeGuard t = true → Ext s (runHist (t.map (evOp f false)) (u, x)).1 := by
  intro t; induction t with
  | nil => intro u hu _; exact hu
  | cons e t ih =>
    intro u hu h1
    cases e with
    | guard =>
      exact runHist_frame_after_copy [] _ (u, x) hu rfl fun op hop =>
        let ⟨e, _, he⟩ := List.mem_map.mp hop; he ▸ evOp_writesOwn f false e
    | write => cases h1
    | _ => exact ih u hu h1

theorem runEv_mono (x r : Ref) (st : Store × Ref) (e : Ev) (hr : r < st.1.data.length) :
    r < (runEv bump x false st e).1.data.length ∧ st.1.rd r ≤ (runEv bump x false st e).1.rd r := by
  have grow : ∀ {u : Store}, Ext st.1 u → r < u.data.length ∧ st.1.rd r ≤ u.rd r := fun he =>
    ⟨Nat.lt_of_lt_of_le hr he.dlen, Int.le_of_eq (he.rd hr).symm⟩
  cases e with
  | guard => exact grow (call_ext [] st.1 st.2 false rfl)
  | write => exact step_bump_mono st.1 st.2 r hr
  | writeIn => exact step_bump_mono st.1 x r hr
  | lostDelegate => exact grow (call_ext [.wr .nodes bump] st.1 st.2 false rfl)
  | _ => exact ⟨hr, Int.le_refl _⟩

theorem runTrace_mono (x r : Ref) (t : List Ev) (st : Store × Ref) (hr : r < st.1.data.length) :
    st.1.rd r ≤ (t.foldl (runEv bump x false) st).1.rd r :=
  (List.foldlRecOn (motive := fun u => r < u.1.data.length ∧ st.1.rd r ≤ u.1.rd r) t _ ⟨hr, Int.le_refl _⟩
    fun u ⟨h1, h2⟩ e _ => ⟨(runEv_mono x r u e h1).1, Int.le_trans h2 (runEv_mono x r u e h1).2⟩).2

theorem runTrace_violation (s : Store) (x r : Ref) (hn : (s.obj x).nodes = some r) (hr : r < s.data.length) :
    ∀ (t : List Ev), noWriteBeforeGuard t = false → s.rd r < (runTrace bump t s x false).1.rd r := by
  suffices h : ∀ (t : List Ev) (u : Store), (u.obj x).nodes = some r → r < u.data.length →
      noWriteBeforeGuard t = false → u.rd r < (t.foldl (runEv bump x false) (u, x)).1.rd r from
    fun t ht => h t s hn hr ht
  intro t; induction t with
  | nil => intro u _ _ h; cases h
  | cons e t ih =>
    intro u hnu hru h
    rw [List.foldl_cons]
    -- the write itself adds one; nothing later takes it away
    have hbump : u.rd r < (step u x (.wr .nodes bump)).rd r := by
      rw [step_bump hnu, rd_wr_same hru]; exact Int.lt_add_one_iff.mpr (Int.le_refl _)
    have hlen : r < (step u x (.wr .nodes bump)).data.length := (step_bump_mono u x r hru).1
    cases e with
    | guard => cases h
    | write | writeIn =>
      rw [runEv]; exact Int.lt_of_lt_of_le hbump (runTrace_mono x r t (step u x (.wr .nodes bump), x) hlen)
    | delegate | branch | retIn => exact ih u hnu hru h
    | lostDelegate =>
      have he := call_ext [.wr .nodes bump] u x false rfl
      rw [runEv, ← he.rd hru]
      exact ih (call [.wr .nodes bump] u x false).1 ((congrArg Obj.nodes (he.obj (valid_of_nodes hnu))).trans hnu)
        (Nat.lt_of_lt_of_le hru he.dlen) h

theorem mem_okTable {T : List (String × List Ev)} {e : String × List Ev} (he : e ∈ T) :
    (e.1, okTrace e.2) ∈ T.map fun p => (p.1, okTrace p.2) :=
  List.mem_map.mpr ⟨e, he, rfl⟩

theorem mem_okTable_true {T : List (String × List Ev)} {k : String} {tr : List Ev} (h : (k, tr) ∈ T)
    (hok : okTrace tr = true) : (k, true) ∈ T.map fun p => (p.1, okTrace p.2) :=
  hok ▸ mem_okTable h

end Navis.Heap

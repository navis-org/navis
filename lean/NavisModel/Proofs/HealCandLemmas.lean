import NavisModel.Model.HealCheck
import NavisModel.Proofs.HealConnLemmas
/-!
Candidate edges of the fragment quotient graph (C11): `best` is a minimum for the order of candidate edges; what an edge
of `quotientEdges` is (`IsQuot`) and when there is one; every allowed connection (`Allowed`) is dominated by a quotient edge
between the same fragments; the kd-tree query per node followed by `argmin` (`kdPair`, as `_stitch_mst` is written) finds the
same edge as the minimum over all node pairs.
-/
namespace Navis.Heal
open Navis.Forest

theorem best_spec (l : List CEdge) :
    match best l with
    | none => l = []
    | some m => m ∈ l ∧ ∀ e ∈ l, m.le e := by
  induction l with
  | nil => rfl
  | cons x rest ih =>
    cases hb : best rest with
    | none =>
      rw [hb] at ih
      rw [best, hb, ih]
      exact ⟨List.mem_cons_self, fun e he => List.mem_singleton.mp he ▸ CEdge.le_refl x⟩
    | some b =>
      rw [hb] at ih
      rw [show best (x :: rest) = if b.lt x then some b else some x by rw [best, hb]]
      cases hlt : b.lt x with
      | true =>
        rw [if_pos rfl]
        refine ⟨List.mem_cons_of_mem _ ih.1, fun e he => ?_⟩
        rcases List.mem_cons.mp he with rfl | he
        · exact CEdge.le_of_lt hlt
        · exact ih.2 e he
      | false =>
        rw [if_neg Bool.false_ne_true]
        refine ⟨List.mem_cons_self, fun e he => ?_⟩
        rcases List.mem_cons.mp he with rfl | he
        · exact CEdge.le_refl _
        · exact CEdge.le_trans hlt (ih.2 e he)

theorem best_none {l : List CEdge} (h : best l = none) : l = [] := by
  have := best_spec l
  rwa [h] at this

theorem best_mem {l : List CEdge} {e : CEdge} (h : best l = some e) : e ∈ l := by
  have := best_spec l
  rw [h] at this
  exact this.1

theorem best_le {l : List CEdge} {m : CEdge} (h : best l = some m) : ∀ e ∈ l, m.le e := by
  have := best_spec l
  rw [h] at this
  exact this.2

/-- `best` is THE minimum when all edges join the same two fragments. -/
theorem best_eq_of_min {l : List CEdge} {m : CEdge} {fa fb : Int} (hf : ∀ e ∈ l, e.fa = fa ∧ e.fb = fb)
    (hm : m ∈ l) (hle : ∀ e ∈ l, m.le e) : best l = some m := by
  cases h : best l with
  | none => rw [best_none h] at hm; simp at hm
  | some m' =>
    have h1 := best_mem h
    have h2 := best_le h
    have := CEdge.le_antisymm (h2 m hm) (hle m' h1) (by rw [(hf _ h1).1, (hf _ hm).1]) (by rw [(hf _ h1).2, (hf _ hm).2])
    rw [this]

theorem mem_pairEdges {ca cb : Table} {fa fb : Int} {e : CEdge} :
    e ∈ pairEdges ca cb fa fb ↔ ∃ na ∈ ca, ∃ nb ∈ cb, e = ⟨sqDist na nb, na.id, nb.id, fa, fb⟩ := by
  simp only [pairEdges, List.mem_flatMap, List.mem_map, @eq_comm _ e]

theorem pairEdges_frags {ca cb : Table} {fa fb : Int} : ∀ e ∈ pairEdges ca cb fa fb, e.fa = fa ∧ e.fb = fb := by
  intro e he
  obtain ⟨_, _, _, _, rfl⟩ := mem_pairEdges.mp he
  exact ⟨rfl, rfl⟩

theorem pairs_sub {l : List Int} {p : Int × Int} (h : p ∈ pairs l) : p.1 ∈ l ∧ p.2 ∈ l := by
  induction l with
  | nil => simp [pairs] at h
  | cons x xs ih =>
    unfold pairs at h
    rcases List.mem_append.mp h with h | h
    · obtain ⟨y, hy, rfl⟩ := List.mem_map.mp h
      exact ⟨List.mem_cons_self, List.mem_cons_of_mem _ hy⟩
    · exact ⟨List.mem_cons_of_mem _ (ih h).1, List.mem_cons_of_mem _ (ih h).2⟩

theorem mem_pairs {l : List Int} {a b : Int} (ha : a ∈ l) (hb : b ∈ l) (hne : a ≠ b) :
    (a, b) ∈ pairs l ∨ (b, a) ∈ pairs l := by
  induction l with
  | nil => simp at ha
  | cons x xs ih =>
    unfold pairs
    rcases List.mem_cons.mp ha with ea | ha' <;> rcases List.mem_cons.mp hb with eb | hb'
    · exact absurd (ea.trans eb.symm) hne
    · left; rw [ea]; exact List.mem_append_left _ (List.mem_map.mpr ⟨b, hb', rfl⟩)
    · right; rw [eb]; exact List.mem_append_left _ (List.mem_map.mpr ⟨a, ha', rfl⟩)
    · rcases ih ha' hb' with h | h
      · left; exact List.mem_append_right _ h
      · right; exact List.mem_append_right _ h

theorem pairs_ne : ∀ {l : List Int}, l.Nodup → ∀ p ∈ pairs l, p.1 ≠ p.2
  | [], _, p, h => by simp [pairs] at h
  | x :: xs, hnd, p, h => by
    rw [List.nodup_cons] at hnd
    unfold pairs at h
    rcases List.mem_append.mp h with h | h
    · obtain ⟨y, hy, rfl⟩ := List.mem_map.mp h
      intro heq
      have hxy : x = y := heq
      exact hnd.1 (hxy ▸ hy)
    · exact pairs_ne hnd.2 p h

theorem withinMax_iff {o : Opts} {e : CEdge} : withinMax o e = true ↔ ∀ m, o.maxD2 = some m → e.d2 < m := by
  unfold withinMax
  cases o.maxD2 with
  | none => exact ⟨fun _ _ h => (nomatch h), fun _ => rfl⟩
  | some k => exact ⟨fun h m hm => Option.some.inj hm ▸ of_decide_eq_true h, fun h => decide_eq_true (h k rfl)⟩

theorem withinMax_mono {o : Opts} {e f : CEdge} (h : e.d2 ≤ f.d2) (hf : withinMax o f = true) : withinMax o e = true :=
  withinMax_iff.mpr fun m hm => Nat.lt_of_le_of_lt h (withinMax_iff.mp hf m hm)

/-- What a candidate edge of the quotient graph is. -/
structure IsQuot (t : Table) (o : Opts) (e : CEdge) : Prop where
  frags : (e.fa, e.fb) ∈ pairs (roots t)
  ex : ∃ na ∈ t, ∃ nb ∈ t, isCand t o na = true ∧ isCand t o nb = true ∧
        fragOf t na.id = e.fa ∧ fragOf t nb.id = e.fb ∧ e = ⟨sqDist na nb, na.id, nb.id, e.fa, e.fb⟩
  nearest : ∀ na ∈ t, ∀ nb ∈ t, isCand t o na = true → isCand t o nb = true →
        fragOf t na.id = e.fa → fragOf t nb.id = e.fb → e.d2 ≤ sqDist na nb
  within : withinMax o e = true

abbrev fragCands (t : Table) (o : Opts) (r : Int) : Table := (cands t o).filter fun n => fragOf t n.id == r

theorem mem_cands_frag {t : Table} {o : Opts} {r : Int} {n : Node} :
    n ∈ fragCands t o r ↔ n ∈ t ∧ isCand t o n = true ∧ fragOf t n.id = r := by
  simp only [cands, List.mem_filter, beq_iff_eq, and_assoc]

theorem mem_quotientEdges {t : Table} {o : Opts} {e : CEdge} :
    e ∈ quotientEdges t o ↔ ∃ p ∈ pairs (roots t),
      best (pairEdges (fragCands t o p.1) (fragCands t o p.2) p.1 p.2) = some e ∧ withinMax o e = true := by
  unfold quotientEdges
  simp only [List.mem_filterMap]
  refine exists_congr fun p => and_congr_right fun _ => ?_
  cases best (pairEdges (fragCands t o p.1) (fragCands t o p.2) p.1 p.2) with
  | none => simp
  | some m =>
    simp only [Option.ite_none_right_eq_some, Option.some.injEq]
    exact ⟨fun ⟨h1, h2⟩ => ⟨h2, h2 ▸ h1⟩, fun ⟨h1, h2⟩ => ⟨h1 ▸ h2, h1⟩⟩

theorem quotientEdges_spec {t : Table} {o : Opts} {e : CEdge} (he : e ∈ quotientEdges t o) : IsQuot t o e := by
  obtain ⟨p, hp, hb, hw⟩ := mem_quotientEdges.mp he
  obtain ⟨na, hna, nb, hnb, heq⟩ := mem_pairEdges.mp (best_mem hb)
  obtain ⟨a1, a2, a3⟩ := mem_cands_frag.mp hna
  obtain ⟨b1, b2, b3⟩ := mem_cands_frag.mp hnb
  have hfa : e.fa = p.1 := by rw [heq]
  have hfb : e.fb = p.2 := by rw [heq]
  refine ⟨by rw [hfa, hfb]; exact hp, ⟨na, a1, nb, b1, a2, b2, by rw [hfa]; exact a3, by rw [hfb]; exact b3, ?_⟩, ?_, hw⟩
  · rw [hfa, hfb]; exact heq
  · intro xa hxa xb hxb c1 c2 f1 f2
    exact CEdge.le_d2 (best_le hb _ (mem_pairEdges.mpr ⟨xa, mem_cands_frag.mpr ⟨hxa, c1, by rw [f1, hfa]⟩, xb,
      mem_cands_frag.mpr ⟨hxb, c2, by rw [f2, hfb]⟩, rfl⟩))

theorem IsQuot.valid {t : Table} {o : Opts} {e : CEdge} (h : IsQuot t o e) : Valid t e := by
  obtain ⟨na, ha, nb, hb, _, _, f1, f2, heq⟩ := h.ex
  have h1 : e.a = na.id := by rw [heq]
  have h2 : e.b = nb.id := by rw [heq]
  exact ⟨h1 ▸ mem_ids_of_mem ha, h2 ▸ mem_ids_of_mem hb, h1 ▸ f1, h2 ▸ f2⟩

/-- If two candidate nodes of the two fragments of a pair are within `max_dist`, the quotient graph has an
edge for that pair, and it is at most as long. -/
theorem quotientEdges_exists {t : Table} {o : Opts} {p : Int × Int} (hp : p ∈ pairs (roots t))
    {na nb : Node} (ha : na ∈ t) (hb : nb ∈ t) (ca : isCand t o na = true) (cb : isCand t o nb = true)
    (fa : fragOf t na.id = p.1) (fb : fragOf t nb.id = p.2)
    (hmax : ∀ m, o.maxD2 = some m → sqDist na nb < m) :
    ∃ e ∈ quotientEdges t o, e.fa = p.1 ∧ e.fb = p.2 ∧ e.d2 ≤ sqDist na nb := by
  have hmem : (⟨sqDist na nb, na.id, nb.id, p.1, p.2⟩ : CEdge) ∈ pairEdges (fragCands t o p.1) (fragCands t o p.2) p.1 p.2 :=
    mem_pairEdges.mpr ⟨na, mem_cands_frag.mpr ⟨ha, ca, fa⟩, nb, mem_cands_frag.mpr ⟨hb, cb, fb⟩, rfl⟩
  cases hbest : best (pairEdges (fragCands t o p.1) (fragCands t o p.2) p.1 p.2) with
  | none => rw [best_none hbest] at hmem; cases hmem
  | some m =>
    obtain ⟨xa, _, xb, _, heq⟩ := mem_pairEdges.mp (best_mem hbest)
    have hle : m.d2 ≤ sqDist na nb := CEdge.le_d2 (best_le hbest _ hmem)
    exact ⟨m, mem_quotientEdges.mpr ⟨p, hp, hbest, withinMax_iff.mpr fun k hk => Nat.lt_of_le_of_lt hle (hmax k hk)⟩, by rw [heq], by rw [heq], hle⟩

/-- Two candidate nodes of two different fragments within `max_dist`: the
quotient graph has an edge between the two fragments, listed one way round or the other, that is at most as long. -/
theorem quotientEdges_exists_sym {t : Table} (hw : WF t) {o : Opts} {na nb : Node} (ha : na ∈ t) (hb : nb ∈ t)
    (ca : isCand t o na = true) (cb : isCand t o nb = true) (hne : fragOf t na.id ≠ fragOf t nb.id)
    (hmax : ∀ m, o.maxD2 = some m → sqDist na nb < m) :
    ∃ e ∈ quotientEdges t o, e.d2 ≤ sqDist na nb ∧
      ((e.fa = fragOf t na.id ∧ e.fb = fragOf t nb.id) ∨ (e.fa = fragOf t nb.id ∧ e.fb = fragOf t na.id)) := by
  have hra := fragOf_mem_roots hw (mem_ids_of_mem ha)
  have hrb := fragOf_mem_roots hw (mem_ids_of_mem hb)
  rcases mem_pairs hra hrb hne with hp | hp
  · obtain ⟨q, hq, f1, f2, hle⟩ := quotientEdges_exists hp ha hb ca cb rfl rfl hmax
    exact ⟨q, hq, hle, Or.inl ⟨f1, f2⟩⟩
  · obtain ⟨q, hq, f1, f2, hle⟩ := quotientEdges_exists hp hb ha cb ca rfl rfl (sqDist_comm na nb ▸ hmax)
    exact ⟨q, hq, sqDist_comm nb na ▸ hle, Or.inr ⟨f1, f2⟩⟩

/-- With no size limit, mask or node list every root is a candidate node, so any two fragments have a candidate pair. -/
theorem root_isCand {t : Table} {o : Opts} (hmin : o.minSize = none) (hmask : o.mask = none)
    (hmeth : o.method = .all ∨ o.method = .leafs) {n : Node} (hp : n.parent < 0) : isCand t o n = true := by
  unfold isCand
  rw [hmin, hmask]
  rcases hmeth with h | h <;> rw [h]
  · simp
  · simp [isLeafish, classifyNode, hp]

/-- An allowed connection: two allowed nodes of two different fragments, strictly closer than `max_dist`
(only the length and the two fragments of `e` matter). -/
structure Allowed (t : Table) (o : Opts) (e : CEdge) : Prop where
  ex : ∃ na ∈ t, ∃ nb ∈ t, isCand t o na = true ∧ isCand t o nb = true ∧
        fragOf t na.id = e.fa ∧ fragOf t nb.id = e.fb ∧ e.d2 = sqDist na nb
  ne : e.fa ≠ e.fb
  within : withinMax o e = true

theorem Allowed.to_quot {t : Table} (hw : WF t) {o : Opts} {e : CEdge} (h : Allowed t o e) :
    ∃ q ∈ quotientEdges t o, q.d2 ≤ e.d2 ∧ ((q.fa = e.fa ∧ q.fb = e.fb) ∨ (q.fa = e.fb ∧ q.fb = e.fa)) := by
  obtain ⟨na, ha, nb, hb, ca, cb, fa, fb, hd⟩ := h.ex
  obtain ⟨q, hq, hle, hf⟩ := quotientEdges_exists_sym hw ha hb ca cb (by rw [fa, fb]; exact h.ne)
    (hd ▸ withinMax_iff.mp h.within)
  exact ⟨q, hq, hd ▸ hle, by rw [← fa, ← fb]; exact hf⟩

/-- A list of allowed connections can be replaced, edge by edge, by quotient edges that are at most as
long and join the same fragments. -/
theorem allowed_list_to_quot {t : Table} (hw : WF t) {o : Opts} (w : Nat → Nat) (hmono : ∀ x y, x ≤ y → w x ≤ w y)
    (T' : List CEdge) (hT' : ∀ e ∈ T', Allowed t o e) :
    ∃ T : List CEdge, (∀ q ∈ T, q ∈ quotientEdges t o) ∧
      (∀ x ∈ T', Adj (qE T) x.fa x.fb) ∧
      (T.map fun e => w e.d2).sum ≤ (T'.map fun e => w e.d2).sum := by
  induction T' with
  | nil => exact ⟨[], fun _ h => (nomatch h), fun _ h => (nomatch h), Nat.le_refl _⟩
  | cons e rest ih =>
    obtain ⟨T, h1, h2, h3⟩ := ih (fun x hx => hT' x (List.mem_cons_of_mem _ hx))
    obtain ⟨q, hq, hle, hcase⟩ := (hT' e List.mem_cons_self).to_quot hw
    have hadj : Adj (qE (q :: T)) e.fa e.fb := by
      have := adj_qE_of_mem (l := q :: T) List.mem_cons_self
      rcases hcase with ⟨c1, c2⟩ | ⟨c1, c2⟩
      · rw [← c1, ← c2]; exact this
      · rw [← c1, ← c2]; exact this.symm
    refine ⟨q :: T, List.forall_mem_cons.mpr ⟨hq, h1⟩, List.forall_mem_cons.mpr ⟨hadj, fun x hx => ?_⟩, ?_⟩
    · exact (h2 x hx).imp (List.mem_cons_of_mem _) (List.mem_cons_of_mem _)
    · simp only [List.map_cons, List.sum_cons]
      have := hmono _ _ hle
      omega

/-! ### kd-tree query per node + argmin = minimum over all pairs -/

/-- Every admissible pair with the query node `nb` is answered: the query returns an admissible pair not after it. -/
theorem nnQuery_le {ca : Table} {fa fb : Int} {o : Opts} {na nb : Node} (hna : na ∈ ca)
    (hw : withinMax o ⟨sqDist na nb, na.id, nb.id, fa, fb⟩ = true) :
    ∃ r, nnQuery ca fa fb o nb = some r ∧ r.le ⟨sqDist na nb, na.id, nb.id, fa, fb⟩ := by
  cases hq : nnQuery ca fa fb o nb with
  | none =>
    exact absurd (best_none hq) (List.ne_nil_of_mem (List.mem_filter.mpr ⟨List.mem_map.mpr ⟨na, hna, rfl⟩, hw⟩))
  | some r => exact ⟨r, rfl, best_le hq _ (List.mem_filter.mpr ⟨List.mem_map.mpr ⟨na, hna, rfl⟩, hw⟩)⟩

/-- What `kdPair` returns: an admissible pair that is minimal among ALL admissible pairs. -/
theorem kdPair_some {ca cb : Table} {fa fb : Int} {o : Opts} {r : CEdge} (h : kdPair ca cb fa fb o = some r) :
    r ∈ pairEdges ca cb fa fb ∧ withinMax o r = true ∧
      ∀ e ∈ pairEdges ca cb fa fb, withinMax o e = true → r.le e := by
  unfold kdPair at h
  obtain ⟨nb, hnb, hq⟩ := List.mem_filterMap.mp (best_mem h)
  obtain ⟨hr, hw⟩ := List.mem_filter.mp (best_mem hq)
  obtain ⟨na, hna, rfl⟩ := List.mem_map.mp hr
  refine ⟨mem_pairEdges.mpr ⟨na, hna, nb, hnb, rfl⟩, hw, fun e he hwe => ?_⟩
  obtain ⟨na', hna', nb', hnb', rfl⟩ := mem_pairEdges.mp he
  obtain ⟨r', hr', hle'⟩ := nnQuery_le hna' hwe
  exact CEdge.le_trans (best_le h r' (List.mem_filterMap.mpr ⟨nb', hnb', hr'⟩)) hle'

theorem kdPair_none {ca cb : Table} {fa fb : Int} {o : Opts} (h : kdPair ca cb fa fb o = none) :
    ∀ e ∈ pairEdges ca cb fa fb, withinMax o e = false := by
  intro e he
  obtain ⟨na', hna', nb', hnb', rfl⟩ := mem_pairEdges.mp he
  cases hwe : withinMax o ⟨sqDist na' nb', na'.id, nb'.id, fa, fb⟩ with
  | false => rfl
  | true =>
    obtain ⟨r', hr', _⟩ := nnQuery_le hna' hwe
    have : r' ∈ cb.filterMap (nnQuery ca fa fb o) := List.mem_filterMap.mpr ⟨nb', hnb', hr'⟩
    rw [kdPair] at h
    rw [best_none h] at this
    cases this

/-- **Refinement.** One nearest-neighbour query per node of `b` followed by `argmin` gives the same pair as the
minimum over all node pairs followed by the `max_dist` test. -/
theorem kdPair_eq (ca cb : Table) (fa fb : Int) (o : Opts) :
    kdPair ca cb fa fb o =
      (match best (pairEdges ca cb fa fb) with
        | none => none
        | some e => if withinMax o e then some e else none) := by
  cases hb : best (pairEdges ca cb fa fb) with
  | none =>
    have hnil := best_none hb
    cases hk : kdPair ca cb fa fb o with
    | none => rfl
    | some r =>
      have := (kdPair_some hk).1
      rw [hnil] at this
      simp at this
  | some m =>
    have hm := best_mem hb
    have hle := best_le hb
    cases hk : kdPair ca cb fa fb o with
    | none =>
      have := kdPair_none hk m hm
      simp [this]
    | some r =>
      obtain ⟨h1, h2, h3⟩ := kdPair_some hk
      have hwm : withinMax o m = true := withinMax_mono (CEdge.le_d2 (hle r h1)) h2
      have hbr := best_eq_of_min pairEdges_frags h1 fun e he => CEdge.le_trans (h3 m hm hwm) (hle e he)
      have hrm : r = m := Option.some.inj (hbr.symm.trans hb)
      simp [hwm, hrm]

theorem quotientEdgesKD_eq (t : Table) (o : Opts) : quotientEdgesKD t o = quotientEdges t o := by
  unfold quotientEdgesKD quotientEdges
  simp only [kdPair_eq]
  rfl

end Navis.Heal

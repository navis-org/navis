import NavisModel.Model.Heal
import NavisModel.Proofs.UConnLemmas
import NavisModel.Proofs.SortLemmas
/-!
Kruskal on the fragment quotient graph (C11): lists of candidate edges only, no table.

* union–find invariant: two fragments carry the same label iff the accepted edges connect them;
* the accepted edges are acyclic on the quotient graph;
* every candidate edge ends up inside one class (spanning);
* cut property: every accepted edge is a lightest candidate edge across some cut of the quotient graph.
-/
namespace Navis.Heal
open Navis.Forest

/-- `e` is not after `f` in the order of candidate edges. -/
def CEdge.le (e f : CEdge) : Prop := f.lt e = false

theorem CEdge.lt_iff {e f : CEdge} : e.lt f = true ↔
    e.d2 < f.d2 ∨ (e.d2 = f.d2 ∧ (e.a < f.a ∨ (e.a = f.a ∧ e.b < f.b))) := by
  simp only [CEdge.lt, Bool.or_eq_true, Bool.and_eq_true, decide_eq_true_eq, beq_iff_eq]

theorem CEdge.le_iff {e f : CEdge} : e.le f ↔
    e.d2 < f.d2 ∨ (e.d2 = f.d2 ∧ (e.a < f.a ∨ (e.a = f.a ∧ e.b ≤ f.b))) := by
  rw [CEdge.le, ← Bool.not_eq_true, CEdge.lt_iff]
  omega

theorem CEdge.le_d2 {e f : CEdge} (h : e.le f) : e.d2 ≤ f.d2 := by
  rw [CEdge.le_iff] at h; omega

theorem CEdge.le_refl (e : CEdge) : e.le e := by
  rw [CEdge.le_iff]; omega

theorem CEdge.le_trans {a b c : CEdge} (h1 : a.le b) (h2 : b.le c) : a.le c := by
  rw [CEdge.le_iff] at *; omega

theorem CEdge.le_of_lt {a b : CEdge} (h : a.lt b = true) : a.le b := by
  rw [CEdge.lt_iff] at h; rw [CEdge.le_iff]; omega

theorem CEdge.le_antisymm {a b : CEdge} (h1 : a.le b) (h2 : b.le a) (hfa : a.fa = b.fa) (hfb : a.fb = b.fb) :
    a = b := by
  rw [CEdge.le_iff] at h1 h2
  obtain ⟨d, x, y, fa, fb⟩ := a
  obtain ⟨d', x', y', fa', fb'⟩ := b
  simp only at h1 h2 hfa hfb
  have hd : d = d' := by omega
  have hx : x = x' := by omega
  have hy : y = y' := by omega
  rw [hd, hx, hy, hfa, hfb]

theorem sortEdges_perm (l : List CEdge) : (sortEdges l).Perm l := sortBy_perm _ l

theorem sortEdges_sorted (l : List CEdge) : (sortEdges l).Pairwise CEdge.le :=
  sortBy_pairwise (R := CEdge.le) (fun y x => !x.lt y) (fun _ _ _ => CEdge.le_trans)
    (fun y x h => (Bool.not_eq_true' (x.lt y)).mp h)
    (fun y x h => CEdge.le_of_lt ((Bool.not_eq_false' (x.lt y)).mp h)) l

theorem kStep_skip {s : KState} {e : CEdge} (h : s.comp e.fa = s.comp e.fb) : kStep s e = s := if_pos h

theorem kStep_take {s : KState} {e : CEdge} (h : ¬ s.comp e.fa = s.comp e.fb) :
    kStep s e = ⟨merge s.comp e.fa e.fb, s.added ++ [e]⟩ := if_neg h

theorem merge_pos {c : Int → Int} {x y v : Int} (h : c v = c y) : merge c x y v = c x := if_pos h

theorem merge_neg {c : Int → Int} {x y v : Int} (h : ¬ c v = c y) : merge c x y v = c v := if_neg h

theorem kStep_mono (s : KState) (e : CEdge) {x y : Int} (h : s.comp x = s.comp y) :
    (kStep s e).comp x = (kStep s e).comp y := by
  by_cases hc : s.comp e.fa = s.comp e.fb
  · rw [kStep_skip hc]; exact h
  · rw [kStep_take hc]; simp only [merge]; rw [h]

theorem kStep_joins (s : KState) (e : CEdge) : (kStep s e).comp e.fa = (kStep s e).comp e.fb := by
  by_cases hc : s.comp e.fa = s.comp e.fb
  · rw [kStep_skip hc]; exact hc
  · rw [kStep_take hc]
    exact (merge_neg hc).trans (merge_pos rfl).symm

theorem foldl_kStep_mono (l : List CEdge) (s : KState) {x y : Int} (h : s.comp x = s.comp y) :
    (l.foldl kStep s).comp x = (l.foldl kStep s).comp y :=
  List.foldlRecOn l kStep (motive := fun s => s.comp x = s.comp y) h fun s hs e _ => kStep_mono s e hs

theorem foldl_kStep_joins (l : List CEdge) (s : KState) : ∀ e ∈ l, (l.foldl kStep s).comp e.fa = (l.foldl kStep s).comp e.fb := by
  induction l generalizing s with
  | nil => simp
  | cons x rest ih =>
    intro e he
    rcases List.mem_cons.mp he with rfl | he
    · exact foldl_kStep_mono rest _ (kStep_joins s e)
    · exact ih _ e he

theorem kStep_added (s : KState) (e x : CEdge) (h : x ∈ (kStep s e).added) :
    x ∈ s.added ∨ (x = e ∧ s.comp e.fa ≠ s.comp e.fb) := by
  by_cases hc : s.comp e.fa = s.comp e.fb
  · rw [kStep_skip hc] at h; exact Or.inl h
  · rw [kStep_take hc] at h
    exact (List.mem_append.mp h).imp id fun h => ⟨List.mem_singleton.mp h, hc⟩

/-- Every accepted edge was accepted at some point of the scan, joining two different classes. -/
theorem foldl_kStep_added (l : List CEdge) (s : KState) {x : CEdge} (h : x ∈ (l.foldl kStep s).added) :
    x ∈ s.added ∨ ∃ pre post, l = pre ++ x :: post ∧
      (pre.foldl kStep s).comp x.fa ≠ (pre.foldl kStep s).comp x.fb := by
  induction l generalizing s with
  | nil => exact Or.inl h
  | cons e rest ih =>
    rcases ih (kStep s e) h with h1 | ⟨pre, post, h2, h3⟩
    · rcases kStep_added s e x h1 with h4 | ⟨h4, h5⟩
      · exact Or.inl h4
      · right; exact ⟨[], rest, by rw [h4]; rfl, by rw [h4]; exact h5⟩
    · right; exact ⟨e :: pre, post, by rw [h2]; rfl, h3⟩

theorem mem_kruskal {es : List CEdge} {e : CEdge} (he : e ∈ kruskal es) : ∃ pre post, sortEdges es = pre ++ e :: post ∧
    (pre.foldl kStep kInit).comp e.fa ≠ (pre.foldl kStep kInit).comp e.fb :=
  (foldl_kStep_added _ kInit he).resolve_left List.not_mem_nil

theorem kruskal_sub (es : List CEdge) : ∀ e ∈ kruskal es, e ∈ es := by
  intro e he
  obtain ⟨pre, post, h, _⟩ := mem_kruskal he
  exact (sortEdges_perm es).mem_iff.mp (by rw [h]; exact List.mem_append_right _ List.mem_cons_self)

/-- Quotient edges (fragment pairs) of a list of accepted edges. -/
def qE (l : List CEdge) : EL := l.map fun e => (e.fa, e.fb)

theorem qE_append (a b : List CEdge) : qE (a ++ b) = qE a ++ qE b := by simp [qE]

theorem adj_qE {l : List CEdge} {a b : Int} (h : Adj (qE l) a b) :
    ∃ e ∈ l, (a = e.fa ∧ b = e.fb) ∨ (a = e.fb ∧ b = e.fa) := by
  simp only [Adj, qE, List.mem_map, Prod.mk.injEq] at h
  rcases h with ⟨e, he, h1, h2⟩ | ⟨e, he, h1, h2⟩
  · exact ⟨e, he, Or.inl ⟨h1.symm, h2.symm⟩⟩
  · exact ⟨e, he, Or.inr ⟨h2.symm, h1.symm⟩⟩

theorem adj_qE_of_mem {l : List CEdge} {e : CEdge} (he : e ∈ l) : Adj (qE l) e.fa e.fb :=
  Or.inl (List.mem_map.mpr ⟨e, he, rfl⟩)

/-- Connectivity on the quotient graph of `l` carries over to any edge list that connects the two fragments of
every edge of `l`. -/
theorem Conn.through {l : List CEdge} {E : EL} {a b : Int} (hc : Conn (qE l) a b)
    (h : ∀ e ∈ l, Conn E e.fa e.fb) : Conn E a b := by
  refine hc.bind fun a b hab => ?_
  obtain ⟨e, he, hcase⟩ := adj_qE hab
  rcases hcase with ⟨rfl, rfl⟩ | ⟨rfl, rfl⟩
  · exact h e he
  · exact (h e he).symm

/-- Union–find invariant of the scan: the labels are the components of the accepted edges on the quotient graph, and the
accepted edges are acyclic there. -/
structure QInv (s : KState) : Prop where
  conn : ∀ x y, Conn (qE s.added) x y ↔ s.comp x = s.comp y
  acyc : Acyc (qE s.added)

theorem QInv.init : QInv kInit := by
  refine ⟨?_, by simp [kInit, qE, Acyc.nil]⟩
  intro x y
  simp only [kInit, qE, List.map_nil, id]
  constructor
  · intro h
    induction h with
    | refl => rfl
    | step _ hadj _ => rcases hadj with h | h <;> simp at h
  · rintro rfl; exact .refl _

theorem QInv.step {s : KState} (h : QInv s) (e : CEdge) : QInv (kStep s e) := by
  by_cases hne : s.comp e.fa = s.comp e.fb
  · rw [kStep_skip hne]; exact h
  · have hk := kStep_take hne
    have hadd : qE (kStep s e).added = qE s.added ++ qE [e] := by rw [hk, qE_append]
    have hnc : ¬ Conn (qE s.added) e.fa e.fb := fun hc => hne ((h.conn _ _).mp hc)
    have hnew : Adj (qE s.added ++ qE [e]) e.fa e.fb := adj_append.mpr (Or.inr (adj_qE_of_mem List.mem_cons_self))
    have hold : ∀ {u v}, Conn (qE s.added) u v → Conn (qE s.added ++ qE [e]) u v :=
      fun hc => hc.of_subset fun z hz => List.mem_append_left _ hz
    refine ⟨fun x y => ?_, by rw [hadd]; exact h.acyc.snoc hnc⟩
    rw [hadd]
    refine ⟨fun hxy => ?_, fun heq => ?_⟩
    · -- the new labels agree along the old edges and along the new one
      induction hxy with
      | refl => rfl
      | step _ hadj ih =>
        refine ih.trans ?_
        rcases adj_append.mp hadj with h1 | h1
        · exact kStep_mono s e ((h.conn _ _).mp (.single h1))
        · obtain ⟨e', he', hcase⟩ := adj_qE h1
          rw [List.mem_singleton.mp he'] at hcase
          rcases hcase with ⟨rfl, rfl⟩ | ⟨rfl, rfl⟩
          · exact kStep_joins s e
          · exact (kStep_joins s e).symm
    · -- every node is joined to a node that carried its new label before the step
      have hrep : ∀ i, ∃ j, Conn (qE s.added ++ qE [e]) i j ∧ s.comp j = (kStep s e).comp i := by
        intro i
        rw [hk]
        by_cases hi : s.comp i = s.comp e.fb
        · exact ⟨e.fa, (hold ((h.conn _ _).mpr hi)).trans (.single hnew.symm), (merge_pos hi).symm⟩
        · exact ⟨i, .refl _, (merge_neg hi).symm⟩
      obtain ⟨jx, cx, ex⟩ := hrep x
      obtain ⟨jy, cy, ey⟩ := hrep y
      exact (cx.trans (hold ((h.conn _ _).mpr (ex.trans (heq.trans ey.symm))))).trans cy.symm

theorem QInv.foldl (l : List CEdge) {s : KState} (h : QInv s) : QInv (l.foldl kStep s) :=
  List.foldlRecOn l kStep h fun _ hs e _ => hs.step e

theorem kruskal_QInv (es : List CEdge) : QInv ((sortEdges es).foldl kStep kInit) := QInv.init.foldl _

theorem kruskal_acyc (es : List CEdge) : Acyc (qE (kruskal es)) := (kruskal_QInv es).acyc

theorem kruskal_spans (es : List CEdge) : ∀ c ∈ es, Conn (qE (kruskal es)) c.fa c.fb := fun c hc =>
  ((kruskal_QInv es).conn _ _).mpr (foldl_kStep_joins _ _ c ((sortEdges_perm es).mem_iff.mpr hc))

/-- **Cut property.** Every accepted edge is a lightest candidate edge across a cut of the quotient
graph (the class of one of its ends at the moment it is accepted). -/
theorem kruskal_cut (es : List CEdge) : ∀ e ∈ kruskal es,
    ∃ S : Int → Prop, S e.fa ∧ ¬ S e.fb ∧ ∀ c ∈ es, (S c.fa ↔ ¬ S c.fb) → e.le c := by
  intro e he
  obtain ⟨pre, post, hsplit, hne⟩ := mem_kruskal he
  let sk := pre.foldl kStep kInit
  refine ⟨fun x => sk.comp x = sk.comp e.fa, rfl, fun h => hne h.symm, ?_⟩
  intro c hc hcross
  have hc' : c ∈ pre ++ e :: post := by rw [← hsplit]; exact (sortEdges_perm es).mem_iff.mpr hc
  have hsorted := sortEdges_sorted es
  rw [hsplit, List.pairwise_append] at hsorted
  rcases List.mem_append.mp hc' with hp | hp
  · -- already joined before `e` was scanned: cannot cross the cut
    exfalso
    have hj : sk.comp c.fa = sk.comp c.fb := foldl_kStep_joins pre kInit c hp
    simp only at hcross
    rw [hj] at hcross
    exact (iff_not_self hcross)
  · rcases List.mem_cons.mp hp with rfl | hp
    · exact CEdge.le_refl _
    · exact (List.pairwise_cons.mp hsorted.2.1).1 c hp

end Navis.Heal

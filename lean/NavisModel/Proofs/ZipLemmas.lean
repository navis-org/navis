import NavisModel.Model.Zip
import NavisModel.Proofs.ListLemmas
/-! Lemmas about the `NeuronProcessor` model of C09 (core Lean only): chunked maps, the tail shared by the
serial and parallel branches (`collect`), the zip rule on a sequence, inversion of the wrapper's validation
tests, and the pairing of surviving neurons with their results. -/
namespace Navis.Zip

theorem chunks_flatten {α} (cs : Nat) (xs : List α) : (chunks cs xs).flatten = xs := by
  fun_induction chunks cs xs <;> simp_all

/-- Mapping chunk by chunk and concatenating is mapping: what makes an ordered `imap` equal the serial loop. -/
theorem map_chunks_flatten {α β} (g : α → β) (cs : Nat) (xs : List α) :
    ((chunks cs xs).map fun ch => ch.map g).flatten = xs.map g := by
  rw [← List.map_flatten, chunks_flatten]

theorem parseArgs_length {β} (n : Nat) (args : List (Bool × Arg β)) : (parseArgs n args).length = n := by
  simp [parseArgs]

theorem collect_all_some {γ} {runs : List (Res γ)} {omitF : Bool} {out : List γ}
    (hall : ∀ x ∈ runs, x.isSome) (h : collect runs omitF = some out) : out.map some = runs := by
  unfold collect at h
  rw [if_pos (List.all_eq_true.mpr hall), ite_self] at h
  rw [← Option.some.inj h]
  exact (map_some_filterMap hall).trans (List.map_id runs)

/-- Results come back in the order of the runs: if run `k` is `F k` and none of them fails, result `k`
is `F k`. -/
theorem collect_in_order {γ} {runs : List (Res γ)} {omitF : Bool} {out : List γ} {N : Nat}
    (F : ∀ k, k < N → Res γ) (hlen : runs.length = N) (hget : ∀ k (hk : k < N), runs[k]? = some (F k hk))
    (hall : ∀ k (hk : k < N), (F k hk).isSome) (h : collect runs omitF = some out) :
    out.length = N ∧ ∀ k (hk : k < N), F k hk = out[k]? := by
  have hsome : ∀ x ∈ runs, x.isSome := by
    intro x hx
    obtain ⟨k, hk, rfl⟩ := List.getElem_of_mem hx
    have := hget k (hlen ▸ hk)
    rw [List.getElem?_eq_getElem hk] at this
    rw [Option.some.inj this]
    exact hall k _
  have hmap := collect_all_some hsome h
  refine ⟨by rw [← hlen, ← hmap, List.length_map], fun k hk => ?_⟩
  have := hget k hk
  rw [← hmap, List.getElem?_map] at this
  obtain ⟨v, hv, hF⟩ := Option.map_eq_some_iff.mp this
  rw [hv, hF]

/-! ### The zip rule and the validation in `map_neuronlist` -/

theorem parseVal_seq_match {β} (n i : Nat) (vs : List β) (hlen : vs.length = n) (hi : i < n) :
    parseVal n i false (.seq vs) = some (.atom (vs[i]'(by omega))) := by
  subst hlen
  show (if vs.length ≠ vs.length then _ else (vs[i]?).map Val.atom) = _
  rw [if_neg (fun h => h rfl), List.getElem?_eq_getElem hi]
  rfl

theorem eq_of_ite_ne_none {ε} {l n : Nat} {e : ε} (h : (if l ≠ n then some e else none) = none) : l = n :=
  Decidable.byContradiction fun hne => by rw [if_pos hne] at h; cases h

/-- Stated on its own so that the case split runs on this small term and not on the whole wrapper. -/
theorem ok_of_ite_error {ε α} {c : Prop} [Decidable c] {e : ε} {rest : Except ε α} {a : α}
    (h : (if c then .error e else rest) = .ok a) : rest = .ok a := by
  split at h
  · cases h
  · exact h

theorem zip_map_self {α γ} (l : List α) (g : α → γ) : l.zip (l.map g) = l.map fun x => (x, g x) :=
  List.map_prod_left_eq_zip.symm

/-- The surviving neurons, zipped with the surviving results, pair every neuron with its own result. -/
theorem survivors_zip {ν γ} (f : ν → Res γ) (nl : List ν) :
    (survivors nl (failedFlags (nl.map f))).zip ((nl.map f).filterMap id) =
      nl.filterMap fun x => (f x).map fun v => (x, v) := by
  unfold survivors failedFlags
  induction nl with
  | nil => rfl
  | cons x xs ih =>
    rw [List.map_cons, List.map_cons, List.zip_cons_cons, List.filterMap_cons, List.filterMap_cons,
      List.filterMap_cons]
    cases f x with
    | none => exact ih
    | some v => exact congrArg ((x, v) :: ·) ih

end Navis.Zip

import NavisModel.Proofs.HealKruskalLemmas
import NavisModel.Proofs.ListLemmas
/-!
Optimality of Kruskal's forest (C11).

* `acyclic_le_spanning`: an acyclic edge set whose edges are all connected through a second edge set
  has at most as many edges as the second set (rank of the graphic matroid, by counting union–find
  classes);
* `kruskal_dominates`: for every upward-closed set of lengths, Kruskal's forest has at most as many
  edges in it as any spanning subset of the candidate edges;
* `kruskal_sum_le`: hence its total weight is minimal for every monotone weight of the length.
-/
namespace Navis.Heal
open Navis.Forest

theorem foldl_kStep_added_eq (l : List CEdge) (s : KState) :
    ∃ X, (l.foldl kStep s).added = s.added ++ X ∧ X.Sublist l := by
  induction l generalizing s with
  | nil => exact ⟨[], (List.append_nil _).symm, .slnil⟩
  | cons e rest ih =>
    obtain ⟨X, h1, h2⟩ := ih (kStep s e)
    rw [List.foldl_cons, h1]
    by_cases hc : s.comp e.fa = s.comp e.fb
    · rw [kStep_skip hc]; exact ⟨X, rfl, h2.cons e⟩
    · rw [kStep_take hc]; exact ⟨e :: X, List.append_assoc _ _ _, h2.cons_cons e⟩

theorem foldl_kStep_acyclic (l : List CEdge) : ∀ (s : KState), QInv s → Acyc (qE (s.added ++ l)) →
    (l.foldl kStep s).added = s.added ++ l := by
  induction l with
  | nil => intro s _ _; simp
  | cons e rest ih =>
    intro s hq hac
    have hne : ¬ s.comp e.fa = s.comp e.fb := fun heq => by
      rw [qE_append] at hac
      exact (Acyc.of_cons (hac.perm List.perm_middle)).2
        (((hq.conn _ _).mpr heq).of_subset fun _ => List.mem_append_left _)
    have hstep := kStep_take hne
    rw [List.foldl_cons, ih (kStep s e) (hq.step e) (by rw [hstep]; simpa using hac), hstep]
    simp

def reps (V : List Int) (c : Int → Int) : List Int := V.filter fun v => c v == v

def RepOK (V : List Int) (c : Int → Int) : Prop := ∀ v ∈ V, c v ∈ V ∧ c (c v) = c v

theorem reps_merge {V : List Int} (hnd : V.Nodup) {c : Int → Int} (hok : RepOK V c) {x y : Int}
    (hx : x ∈ V) (hy : y ∈ V) (hne : c x ≠ c y) :
    RepOK V (merge c x y) ∧ (reps V (merge c x y)).length + 1 = (reps V c).length := by
  constructor
  · -- every new label is an old label `c u` outside the class of `y`, and those keep their label
    have key : ∀ u ∈ V, c u ≠ c y → c u ∈ V ∧ merge c x y (c u) = c u := fun u hu hu' =>
      ⟨(hok u hu).1, by rw [merge_neg (by rw [(hok u hu).2]; exact hu'), (hok u hu).2]⟩
    intro v hv
    by_cases h1 : c v = c y
    · rw [merge_pos h1]
      exact key x hx hne
    · rw [merge_neg h1]
      exact key v hv h1
  · have heq : reps V (merge c x y) = (reps V c).erase (c y) := by
      unfold reps
      rw [List.Nodup.erase_eq_filter (l := V.filter fun v => c v == v) (hnd.filter _) (c y), List.filter_filter]
      apply List.filter_congr
      intro v hv
      rw [Bool.eq_iff_iff]
      simp only [beq_iff_eq, bne_iff_ne, ne_eq, Bool.and_eq_true]
      by_cases h1 : c v = c y
      · rw [merge_pos h1]
        constructor
        · intro hxv
          -- `v` fixed under the new labelling would give `c x = c y`
          exfalso
          apply hne
          rw [← h1, ← hxv, (hok x hx).2]
        · rintro ⟨h2, h3⟩
          exact absurd (h3.symm.trans h1) h2
      · rw [merge_neg h1]
        constructor
        · intro h2
          exact ⟨fun h3 => h1 (h2.trans h3), h2⟩
        · intro h; exact h.2
    have hmem : c y ∈ reps V c := by
      unfold reps
      exact List.mem_filter.mpr ⟨(hok y hy).1, by simp [(hok y hy).2]⟩
    rw [heq, List.length_erase_of_mem hmem]
    have := List.length_pos_of_mem hmem
    omega

theorem foldl_kStep_count {V : List Int} (hnd : V.Nodup) (l : List CEdge)
    (hV : ∀ e ∈ l, e.fa ∈ V ∧ e.fb ∈ V) : ∀ s : KState, RepOK V s.comp →
    RepOK V (l.foldl kStep s).comp ∧
    (reps V (l.foldl kStep s).comp).length + (l.foldl kStep s).added.length =
      (reps V s.comp).length + s.added.length := by
  induction l with
  | nil => intro s h; exact ⟨h, rfl⟩
  | cons e rest ih =>
    intro s hok
    have he := hV e List.mem_cons_self
    have hrest : ∀ x ∈ rest, x.fa ∈ V ∧ x.fb ∈ V := fun x hx => hV x (List.mem_cons_of_mem _ hx)
    rw [List.foldl_cons]
    by_cases hc : s.comp e.fa = s.comp e.fb
    · rw [kStep_skip hc]; exact ih hrest s hok
    · have hstep := kStep_take hc
      obtain ⟨h1, h2⟩ := reps_merge hnd hok he.1 he.2 hc
      obtain ⟨g1, g2⟩ := ih hrest (kStep s e) (by rw [hstep]; exact h1)
      refine ⟨g1, ?_⟩
      rw [g2, hstep]
      simp only [List.length_append, List.length_cons, List.length_nil]
      omega

/-- **Rank lemma of the graphic matroid.** An acyclic edge list all of whose edges are connected
through `S` has at most `|S|` edges. -/
theorem acyclic_le_spanning (I S : List CEdge) (hac : Acyc (qE I))
    (hsp : ∀ e ∈ I, Conn (qE S) e.fa e.fb) : I.length ≤ S.length := by
  let V := ((I ++ S).flatMap fun e => [e.fa, e.fb]).eraseDups
  have hVnd : V.Nodup := nodup_eraseDups _
  have hVmem : ∀ e ∈ I ++ S, e.fa ∈ V ∧ e.fb ∈ V := fun e he =>
    ⟨List.mem_eraseDups.mpr (List.mem_flatMap.mpr ⟨e, he, List.mem_cons_self⟩),
      List.mem_eraseDups.mpr (List.mem_flatMap.mpr ⟨e, he, List.mem_cons_of_mem _ List.mem_cons_self⟩)⟩
  have hinit : RepOK V kInit.comp := fun v hv => ⟨hv, rfl⟩
  -- the scan of `I` accepts everything, the scan of `S` at most `|S|` edges
  obtain ⟨okI, cntI⟩ := foldl_kStep_count hVnd I (fun e he => hVmem e (List.mem_append_left _ he)) kInit hinit
  obtain ⟨_, cntS⟩ := foldl_kStep_count hVnd S (fun e he => hVmem e (List.mem_append_right _ he)) kInit hinit
  have haddI : (I.foldl kStep kInit).added = I := foldl_kStep_acyclic I kInit QInv.init hac
  obtain ⟨X, hX, hXsub⟩ := foldl_kStep_added_eq S kInit
  have hXlen := hXsub.length_le
  have hqI := QInv.init.foldl I
  have hqS := QInv.init.foldl S
  have hjoin := foldl_kStep_joins S kInit
  generalize I.foldl kStep kInit = sI at *
  generalize S.foldl kStep kInit = sS at *
  -- classes of the `I`-scan refine classes of the `S`-scan
  have href : ∀ u v, sI.comp u = sI.comp v → sS.comp u = sS.comp v := by
    intro u v h
    have hc : Conn (qE I) u v := haddI ▸ (hqI.conn u v).mpr h
    exact (hqS.conn u v).mp ((hc.through hsp).through fun e he => (hqS.conn _ _).mpr (hjoin e he))
  -- so `sI.comp` maps the representatives of the `S`-scan injectively into those of the `I`-scan
  have hle : (reps V sS.comp).length ≤ (reps V sI.comp).length := by
    have hnd : ((reps V sS.comp).map sI.comp).Nodup := by
      refine nodup_map_of_inj (hVnd.filter _) fun a ha b hb hab => ?_
      have := href a b hab
      rwa [beq_iff_eq.mp (List.mem_filter.mp ha).2, beq_iff_eq.mp (List.mem_filter.mp hb).2] at this
    have hsub : ∀ x ∈ (reps V sS.comp).map sI.comp, x ∈ reps V sI.comp := by
      intro x hx
      obtain ⟨r, hr, rfl⟩ := List.mem_map.mp hx
      have hrV := (List.mem_filter.mp hr).1
      exact List.mem_filter.mpr ⟨(okI r hrV).1, beq_iff_eq.mpr (okI r hrV).2⟩
    have := hnd.length_le_of_subset hsub
    rwa [List.length_map] at this
  rw [haddI] at cntI
  rw [hX, List.length_append] at cntS
  have hk0 : kInit.added.length = 0 := rfl
  omega

/-! ### sorted scan: short edges first -/

/-- A predicate on candidate edges that only depends on the length and is upward closed. -/
def UpClosed (P : CEdge → Bool) : Prop := ∀ e f : CEdge, e.d2 ≤ f.d2 → P e = true → P f = true

theorem sorted_split {L : List CEdge} (hs : L.Pairwise CEdge.le) {P : CEdge → Bool} (hP : UpClosed P) :
    L = L.filter (fun e => !P e) ++ L.filter P := by
  induction L with
  | nil => rfl
  | cons x xs ih =>
    rw [List.pairwise_cons] at hs
    by_cases hx : P x = true
    · have hall : ∀ y ∈ xs, P y = true := fun y hy => hP x y (CEdge.le_d2 (hs.1 y hy)) hx
      have h1 : xs.filter (fun e => !P e) = [] := by
        rw [List.filter_eq_nil_iff]; intro y hy; simp [hall y hy]
      have h2 : xs.filter P = xs := List.filter_eq_self.mpr hall
      simp [hx, h1, h2]
    · have hx' : P x = false := by simpa using hx
      have := ih hs.2
      simp only [List.filter_cons, hx', Bool.not_false, if_true, Bool.false_eq_true, if_false, List.cons_append]
      rw [← this]

/-- **Kruskal's forest dominates every spanning subset**: for every upward-closed set of lengths it has
at most as many edges in that set. -/
theorem kruskal_dominates (es T : List CEdge) (hT : ∀ e ∈ T, e ∈ es)
    (hspan : ∀ c ∈ es, Conn (qE T) c.fa c.fb) {P : CEdge → Bool} (hP : UpClosed P) :
    (kruskal es).countP P ≤ T.countP P := by
  let lo := (sortEdges es).filter (fun e => !P e)
  let hi := (sortEdges es).filter P
  have hL : sortEdges es = lo ++ hi := sorted_split (sortEdges_sorted es) hP
  let s1 := lo.foldl kStep kInit
  have hq1 : QInv s1 := QInv.init.foldl lo
  obtain ⟨A1, hA1, hA1sub⟩ := foldl_kStep_added_eq lo kInit
  obtain ⟨X, hX, hXsub⟩ := foldl_kStep_added_eq hi s1
  have hA1' : s1.added = A1 := hA1.trans (List.nil_append A1)
  have hK : kruskal es = A1 ++ X := by
    unfold kruskal
    rw [hL, List.foldl_append, hX, hA1']
  -- counting in Kruskal's forest: exactly the part accepted during `hi`
  have hA1P : A1.countP P = 0 := by
    rw [List.countP_eq_zero]
    intro x hx
    have := (List.mem_filter.mp (hA1sub.subset hx)).2
    simpa using this
  have hXP : X.countP P = X.length := by
    rw [List.countP_eq_length]
    intro x hx
    exact (List.mem_filter.mp (hXsub.subset hx)).2
  rw [hK, List.countP_append, hA1P, hXP, Nat.zero_add]
  -- rank lemma with I = A1 ++ X and S = A1 ++ T.filter P
  have hac : Acyc (qE (A1 ++ X)) := by rw [← hK]; exact kruskal_acyc es
  have hle := acyclic_le_spanning (A1 ++ X) (A1 ++ T.filter P) hac (by
    intro e he
    have hees : e ∈ es := kruskal_sub es e (hK ▸ he)
    refine (hspan e hees).through fun t ht => ?_
    by_cases hp : P t = true
    · exact Conn.single (adj_qE_of_mem (List.mem_append_right _ (List.mem_filter.mpr ⟨ht, hp⟩)))
    · -- a short edge: already joined by the forest accepted during `lo`
      have htl : t ∈ lo := List.mem_filter.mpr ⟨(sortEdges_perm es).mem_iff.mpr (hT t ht), by simpa using hp⟩
      have hc : Conn (qE s1.added) t.fa t.fb := (hq1.conn _ _).mpr (foldl_kStep_joins lo kInit t htl)
      rw [hA1'] at hc
      exact hc.of_subset fun x hx => by rw [qE_append]; exact List.mem_append_left _ hx)
  simp only [List.length_append] at hle
  have : (T.filter P).length = T.countP P := by rw [List.countP_eq_length_filter]
  omega

/-- **Kruskal's forest has minimal total weight** among the spanning subsets of the candidate edges, for
every monotone weight `w` of the squared length. -/
theorem kruskal_sum_le (es T : List CEdge) (hT : ∀ e ∈ T, e ∈ es)
    (hspan : ∀ c ∈ es, Conn (qE T) c.fa c.fb) (w : Nat → Nat) (hw : ∀ x y, x ≤ y → w x ≤ w y) :
    ((kruskal es).map fun e => w e.d2).sum ≤ (T.map fun e => w e.d2).sum := by
  apply sum_le_of_counts
  intro k
  rw [List.countP_map, List.countP_map]
  apply kruskal_dominates es T hT hspan
  intro e f hef he
  simp only [Function.comp, decide_eq_true_eq] at he ⊢
  have := hw _ _ hef
  omega

end Navis.Heal

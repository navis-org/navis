import NavisModel.Model.OpsAll
import NavisModel.Proofs.OpsWF
import NavisModel.Proofs.RerootEdgesLemmas
import NavisModel.Proofs.PruneLemmas
import NavisModel.Proofs.PruneManyLemmas
import NavisModel.Proofs.HealStitchWfLemmas
import NavisModel.Proofs.ResampleLemmas
/-!
The unified operation language `OpAll` (C01).

Per constructor of `OpAll`: on a well-formed table (and well-formed foreign inputs, `op.ok`) the result of `applyAll` is a
well-formed forest (`WF_applyAll`), and — for every constructor except `reroot` — it is either the unchanged input or
freshly classified (`labels_applyAll`); with `labelsOKB_reroot` correct labels are an invariant of the whole catalogue on
well-formed tables (`labelsOKB_applyAll`).
Well-formedness of the bodies comes from the operations' home files, except for multi-cuts, fragments and stitching
(`WF_cutMany`, the `keepFragment` case, `WF_stitchTables`), which are assembled here.  Proved here is the shape the cutting and
fragment operations share — the result is the input, or a `subset` of it (`getD_inv`, `cut_inv`, `cutMany_inv`: any property
of the input that `subset` preserves or establishes; `Heal.healDrop_inv` says the same of `drop_disc` and the healed table) —
and that cuts and stitching return their input or correct labels (`labels_cut`, `labels_cutMany`, `labels_stitchTables`).  In the names a
`labelsOKB_…` lemma concludes correct labels, a `labels_…` lemma the alternative "the input, or correct labels".
-/
namespace Navis.Forest

theorem insertGuard_iff {t : Table} {E : List (Int × Int)} :
    insertGuard t E = true ↔ ∀ e ∈ E, ∃ n ∈ t, n.id = e.2 ∧ n.parent = e.1 := by
  unfold insertGuard
  simp only [List.all_eq_true, List.any_eq_true, Bool.and_eq_true, beq_iff_eq]

/-- Operations that return their input where navis raises: a property of the input that every proper result has
holds of `o.getD t`. -/
theorem getD_inv {P : Table → Prop} {t : Table} (ht : P t) {o : Option Table} (h : ∀ u, o = some u → P u) :
    P (o.getD t) := by
  cases o with
  | none => exact ht
  | some u => exact h u rfl

/-- A property of the input that every `subset` of it has holds of both halves of a cut (where navis raises the
half is the input itself).  `applyAll` on these two constructors is the same `match`, so the lemma serves it as it stands. -/
theorem cut_inv {P : Table → Prop} {t : Table} (ht : P t) (hsub : ∀ keep, P (subset t keep)) (c : Int) :
    P (applyOp t (.cutDistal c)) ∧ P (applyOp t (.cutProximal c)) := by
  simp only [applyOp]
  cases hc : cut t c with
  | none => exact ⟨ht, ht⟩
  | some dp =>
    obtain ⟨d, p⟩ := dp
    obtain ⟨hd, hp, _⟩ := cut_some hc
    exact ⟨hd ▸ hsub _, hp ▸ hsub _⟩

theorem labels_cut (t : Table) (c : Int) :
    (applyOp t (.cutDistal c) = t ∨ labelsOKB (applyOp t (.cutDistal c)) = true) ∧
    (applyOp t (.cutProximal c) = t ∨ labelsOKB (applyOp t (.cutProximal c)) = true) :=
  cut_inv (P := fun u => u = t ∨ labelsOKB u = true) (Or.inl rfl) (fun k => Or.inr (labelsOKB_subset t k)) c

theorem cutMany_inv {P : Table → Prop} (hsub : ∀ f keep, P f → P (subset f keep)) {t : Table} (ht : P t)
    (cs : List Int) : ∀ f ∈ cutMany t cs, P f := by
  rw [TreeEdit.cutMany_eq_foldl]
  exact List.foldlRecOn cs TreeEdit.cutStep (motive := fun frags => ∀ f ∈ frags, P f) (by simpa using ht)
    fun _ h c _ => TreeEdit.cutStep_inv hsub h c

theorem WF_cutMany {t : Table} (hw : WF t) (cs : List Int) : ∀ f ∈ cutMany t cs, WF f :=
  cutMany_inv (P := WF) (fun _ keep h => WF_subset h keep) hw cs

theorem labels_cutMany (t : Table) (cs : List Int) : ∀ f ∈ cutMany t cs, f = t ∨ labelsOKB f = true :=
  cutMany_inv (P := fun f => f = t ∨ labelsOKB f = true) (fun _ keep _ => Or.inr (labelsOKB_subset _ keep))
    (Or.inl rfl) cs

theorem WF_stitchTables {t : Table} (hw : WF t) {others : List Table} (ho : ∀ u ∈ others, WF u)
    (master : Heal.Master) (o : Option Heal.Opts) : WF (stitchTables t others master o) := by
  have hl : ∀ s ∈ (t :: others).map asSkel, WF s.nodes :=
    List.forall_mem_map.mpr (List.forall_mem_cons.mpr ⟨hw, ho⟩)
  unfold stitchTables
  split
  · exact hw
  · split
    · exact WF_classify (Heal.combine_WF _ _ hl)
    · exact WF_classify (Heal.stitch_WF _ _ hl _)

theorem labels_stitchTables (t : Table) (others : List Table) (master : Heal.Master) (o : Option Heal.Opts) :
    stitchTables t others master o = t ∨ labelsOKB (stitchTables t others master o) = true := by
  unfold stitchTables
  split
  · exact Or.inl rfl
  · split <;> exact Or.inr (labelsOKB_classify _)

/-- Every foreign input skeleton of the operation is a well-formed forest (only `stitchWith` has any). -/
def OpAll.ok (op : OpAll) : Prop := ∀ u ∈ op.operands, WF u

theorem OpAll.okB_iff (op : OpAll) : op.okB = true ↔ op.ok := by
  unfold OpAll.okB OpAll.ok
  simp only [List.all_eq_true]
  exact ⟨fun h u hu => wfB_sound (h u hu), fun h u hu => wfB_complete (h u hu)⟩

/-- Operations whose code path ends in `classify_nodes` (everything except `reroot`, which relabels
incrementally). -/
def OpAll.reclassifies : OpAll → Prop
  | .reroot _ => False
  | _ => True

/-- Operations that return freshly classified nodes on EVERY input (they never return early). -/
def OpAll.alwaysFresh : OpAll → Prop
  | .subset _ | .reclassify | .pruneAtDepth _ _ | .longestNeurite _ _ _ | .rewire _ | .dropFluff _ _
  | .resample _ | .resampleCounts _ => True
  | _ => False

theorem applyAll_ofOp (len : Int → Int → Nat) (t : Table) (op : Op) : applyAll len t (.ofOp op) = applyOp t op := by
  cases op <;> rfl

theorem WF_applyAll (len : Int → Int → Nat) {t : Table} (hw : WF t) (op : OpAll) (hok : op.ok) :
    WF (applyAll len t op) := by
  cases op with
  | subset k => exact WF_subset hw _
  | reroot r => exact WF_reroot hw r
  | cutDistal c => exact (cut_inv hw (WF_subset hw) c).1
  | cutProximal c => exact (cut_inv hw (WF_subset hw) c).2
  | removeNodes w => exact WF_removeNodes hw w
  | downsample f p => exact WF_downsample hw f p
  | reclassify => exact WF_classify hw
  | cutFragment cs k => exact getD_inv hw fun f hf => WF_cutMany hw cs f (List.mem_of_getElem? hf)
  | pruneTwigs size rounds mask => exact WF_pruneTwigs hw len size mask rounds
  | pruneAtDepth src depth => exact WF_pruneAtDepth hw len src depth
  | longestNeurite lo hi inv => exact WF_longestNeurite hw len lo hi inv
  | pruneByStrahler sel => exact getD_inv hw fun _ hs => WF_pruneByStrahler hw hs
  | heal o => exact Heal.WF_heal hw o
  | healDrop o =>
    show WF (Heal.healDrop t o)
    exact Heal.healDrop_inv (Heal.WF_heal hw o) (WF_subset (Heal.WF_heal hw o))
  | rewire E => exact Heal.WF_rewire hw E
  | keepFragment minSize k =>
    refine getD_inv hw fun p hp => ?_
    obtain ⟨f, _, rfl⟩ := List.mem_map.mp (List.mem_of_getElem? hp : p ∈ Heal.breakFragments t minSize)
    exact WF_subset hw _
  | dropFluff keep nLargest => exact WF_subset hw _
  | stitchWith others master o => exact WF_stitchTables hw hok master o
  | resample res => exact Resample.WF_resampleStruct hw _
  | resampleCounts cnts => exact Resample.WF_resampleStruct hw _
  | insertNodes edgesPC coords =>
    simp only [applyAll]
    split
    · rename_i hg; exact WF_insertNodes hw edgesPC coords (insertGuard_iff.mp hg)
    · exact hw

theorem labelsOKB_applyAll_fresh (len : Int → Int → Nat) (t : Table) (op : OpAll) (hop : op.alwaysFresh) :
    labelsOKB (applyAll len t op) = true := by
  cases op with
  | subset k => exact labelsOKB_subset t _
  | reclassify => exact labelsOKB_classify t
  | pruneAtDepth src depth => simp only [applyAll, pruneAtDepth]; exact labelsOKB_subset _ _
  | longestNeurite lo hi inv =>
    simp only [applyAll, longestNeurite]
    split <;> exact labelsOKB_subset _ _
  | rewire E => exact Heal.labelsOKB_rewire t E
  | dropFluff keep nLargest => simp only [applyAll, Heal.dropFluff, subsetIds]; exact labelsOKB_subset _ _
  | resample res => exact labelsOKB_classify _
  | resampleCounts cnts => exact labelsOKB_classify _
  | _ => exact False.elim hop

/-- Every operation that ends in `classify_nodes` returns its input unchanged (where navis raises or
returns early) or a table with correct labels — whatever the labels of the input. -/
theorem labels_applyAll (len : Int → Int → Nat) (t : Table) (op : OpAll) (hop : op.reclassifies) :
    applyAll len t op = t ∨ labelsOKB (applyAll len t op) = true := by
  by_cases hf : op.alwaysFresh
  · exact Or.inr (labelsOKB_applyAll_fresh len t op hf)
  cases op with
  | reroot r => exact False.elim hop
  | cutDistal c => exact (labels_cut t c).1
  | cutProximal c => exact (labels_cut t c).2
  | removeNodes w => exact labels_removeNodes t w
  | downsample f p => exact labels_downsample t f p
  | cutFragment cs k =>
    exact getD_inv (P := fun u => u = t ∨ labelsOKB u = true) (Or.inl rfl) fun f hf =>
      labels_cutMany t cs f (List.mem_of_getElem? hf)
  | pruneTwigs size rounds mask => exact (pruneTwigs_rounds len size mask rounds t).same_or_labels
  | pruneByStrahler sel =>
    refine getD_inv (P := fun u => u = t ∨ labelsOKB u = true) (Or.inl rfl) fun t' hs => ?_
    obtain ⟨s, _, h2⟩ := pruneByStrahler_eq_subset hs
    exact Or.inr (h2 ▸ labelsOKB_subset _ _)
  | heal o => exact Heal.labels_heal t o
  | healDrop o =>
    show Heal.healDrop t o = t ∨ labelsOKB (Heal.healDrop t o) = true
    exact Heal.healDrop_inv (P := fun u => u = t ∨ labelsOKB u = true) (Heal.labels_heal t o) fun k =>
      Or.inr (labelsOKB_subset _ k)
  | keepFragment minSize k =>
    refine getD_inv (P := fun u => u = t ∨ labelsOKB u = true) (Or.inl rfl) fun p hp => ?_
    obtain ⟨f, _, rfl⟩ := List.mem_map.mp (List.mem_of_getElem? hp : p ∈ Heal.breakFragments t minSize)
    exact Or.inr (labelsOKB_subset _ _)
  | stitchWith others master o => exact labels_stitchTables t others master o
  | insertNodes edgesPC coords =>
    simp only [applyAll]
    split
    · exact Or.inr (labelsOKB_insertNodes t edgesPC coords)
    · exact Or.inl rfl
  | _ => exact absurd trivial hf

/-- Correct labels are an invariant of EVERY operation on well-formed forests — `reroot`'s incremental
relabelling included. -/
theorem labelsOKB_applyAll (len : Int → Int → Nat) {t : Table} (hw : WF t) (hl : labelsOKB t = true) (op : OpAll) :
    labelsOKB (applyAll len t op) = true := by
  by_cases hr : op.reclassifies
  · rcases labels_applyAll len t op hr with h | h
    · rw [h]; exact hl
    · exact h
  · cases op with
    | reroot r => exact labelsOKB_reroot hw hl r
    | _ => exact absurd trivial hr

end Navis.Forest

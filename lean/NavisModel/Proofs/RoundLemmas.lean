import Mathlib.Data.Rat.Floor
import Mathlib.Algebra.Order.Field.Basic
/-! Half-to-even rounding `ℚ → ℤ` (numpy's and Python's `round`), once for the three models that each define it.

`Nearest q n` says that `n` is an integer nearest to `q`, and the even one if `q` lies halfway between two integers.  Such
integers are ordered like their arguments (`Nearest.mono`), so there is exactly one for each `q`; `HalfEven r` says that `r`
returns it.  Everything else (distance at most ½, the nearest integer, even on ties, monotone, fixes integers, odd symmetry,
between floor and ceiling) follows from `HalfEven r` alone, for any `r`, so that the statements come out literally about
whichever `roundHalfEven` they are used for and can be rewritten with (a proof-side copy of the function would need a
bridging rewrite at every such use).
`halfEven_ite` proves `HalfEven` of the nested conditional that all three model definitions compute (`Model/Units` names the
floor with a `let` first); each model's `halfEven : HalfEven roundHalfEven` is the bare term `halfEven_ite`, up to
definitional unfolding (which is why `nearest_floor` takes the result as an `n` with `e : n = q.floor`: the `if_pos …` of a
branch can be handed in for `e`). -/
namespace Navis

def Nearest (q : Rat) (n : Int) : Prop :=
  (n : Rat) - q ≤ 1 / 2 ∧ q - (n : Rat) ≤ 1 / 2 ∧ (q - (n : Rat) = 1 / 2 ∨ (n : Rat) - q = 1 / 2 → n % 2 = 0)

def HalfEven (r : Rat → Int) : Prop := ∀ q : Rat, Nearest q (r q)

private theorem zero_lt_half : (0 : Rat) < 1 / 2 := one_div_pos.mpr two_pos

private theorem succ_sub (n : Int) (q : Rat) : ((n + 1 : Int) : Rat) - q = 1 - (q - (n : Rat)) := by
  rw [Int.cast_add, Int.cast_one, sub_sub_eq_add_sub, add_comm]

theorem nearest_floor {q : Rat} {n : Int} (e : n = q.floor) (hd : q - (q.floor : Rat) ≤ 1 / 2)
    (hp : q - (q.floor : Rat) = 1 / 2 → q.floor % 2 = 0) : Nearest q n :=
  have h0 : (q.floor : Rat) - q ≤ 0 := sub_nonpos.mpr (Rat.floor_le q)
  e ▸ ⟨h0.trans zero_lt_half.le, hd, fun h => h.elim hp fun e => absurd e (h0.trans_lt zero_lt_half).ne⟩

theorem nearest_floor_succ {q : Rat} {n : Int} (e : n = q.floor + 1) (hd : 1 / 2 ≤ q - (q.floor : Rat))
    (hp : q - (q.floor : Rat) = 1 / 2 → q.floor % 2 ≠ 0) : Nearest q n := by
  have h1 : q - ((q.floor + 1 : Int) : Rat) < 0 := sub_neg.mpr (Rat.lt_floor_add_one q)
  unfold Nearest
  rw [e, succ_sub]
  refine ⟨sub_le_comm.mp ((sub_half 1).trans_le hd), h1.le.trans zero_lt_half.le, fun h => ?_⟩
  rcases h with e | e
  · exact absurd e (h1.trans zero_lt_half).ne
  · have := hp ((sub_sub_cancel (1 : Rat) _).symm.trans ((congrArg (fun x : Rat => 1 - x) e).trans (sub_half 1)))
    omega

theorem halfEven_ite : HalfEven fun q =>
    if q - (q.floor : Rat) < 1 / 2 then q.floor
    else if 1 / 2 < q - (q.floor : Rat) then q.floor + 1
    else if q.floor % 2 = 0 then q.floor else q.floor + 1 := by
  intro q
  by_cases h1 : q - (q.floor : Rat) < 1 / 2
  · exact nearest_floor (if_pos h1) h1.le fun e => absurd e h1.ne
  · by_cases h2 : 1 / 2 < q - (q.floor : Rat)
    · exact nearest_floor_succ ((if_neg h1).trans (if_pos h2)) h2.le fun e => absurd e.symm h2.ne
    · by_cases h3 : q.floor % 2 = 0
      · exact nearest_floor ((if_neg h1).trans ((if_neg h2).trans (if_pos h3))) (not_lt.mp h2) fun _ => h3
      · exact nearest_floor_succ ((if_neg h1).trans ((if_neg h2).trans (if_neg h3))) (not_lt.mp h1) fun _ => h3

/-- Nearest integers are ordered like their arguments.  Otherwise `n + 1 ≤ m ≤ a + ½ ≤ b + ½ ≤ n + 1`: then `a = b` is a tie
between `n` and `m = n + 1`, and both would be even. -/
theorem Nearest.mono {a b : Rat} {m n : Int} (hm : Nearest a m) (hn : Nearest b n) (h : a ≤ b) : m ≤ n := by
  obtain ⟨um, _, tm⟩ := hm
  obtain ⟨_, ln, tn⟩ := hn
  by_contra hc
  have y : a - (n : Rat) ≤ b - n := sub_le_sub_right h _
  have s := ((sub_add_sub_cancel (m : Rat) a n).symm.le.trans (add_le_add le_rfl y)).trans (add_le_add um ln)
  rw [add_halves, ← Int.cast_sub, ← Int.cast_one, Int.cast_le] at s
  obtain rfl : m = n + 1 := by omega
  rw [succ_sub] at um tm
  have x : 1 / 2 ≤ a - (n : Rat) := (sub_half 1).symm.trans_le (sub_le_comm.mp um)
  have p := tn (Or.inl (le_antisymm ln (x.trans y)))
  have p' := tm (Or.inr (by rw [le_antisymm (y.trans ln) x, sub_half]))
  omega

theorem Nearest.unique {q : Rat} {m n : Int} (hm : Nearest q m) (hn : Nearest q n) : m = n :=
  le_antisymm (hm.mono hn le_rfl) (hn.mono hm le_rfl)

theorem Nearest.neg {q : Rat} {n : Int} (h : Nearest q n) : Nearest (-q) (-n) := by
  unfold Nearest
  rw [Int.cast_neg, neg_sub_neg, neg_sub_neg]
  exact ⟨h.2.1, h.1, fun e => by have := h.2.2 e.symm; omega⟩

theorem Nearest.intCast (n : Int) : Nearest n n :=
  ⟨(sub_self _).trans_le zero_lt_half.le, (sub_self _).trans_le zero_lt_half.le,
    fun h => absurd ((sub_self _).symm.trans (h.elim id id)) zero_lt_half.ne⟩

namespace HalfEven
variable {r : Rat → Int} (hr : HalfEven r)
include hr

theorem upper (q : Rat) : (r q : Rat) - q ≤ 1 / 2 := (hr q).1

theorem lower (q : Rat) : q - (r q : Rat) ≤ 1 / 2 := (hr q).2.1

theorem tie_even (q : Rat) (h : q - (r q : Rat) = 1 / 2 ∨ (r q : Rat) - q = 1 / 2) : r q % 2 = 0 := (hr q).2.2 h

theorem nearest (q : Rat) (n : Int) (h1 : (n : Rat) - q < 1 / 2) (h2 : q - (n : Rat) < 1 / 2) : r q = n :=
  (hr q).unique ⟨h1.le, h2.le, fun h => h.elim (fun e => absurd e h2.ne) fun e => absurd e h1.ne⟩

theorem intCast (n : Int) : r (n : Rat) = n := (hr n).unique (Nearest.intCast n)

theorem neg (q : Rat) : r (-q) = -r q := (hr (-q)).unique (hr q).neg

theorem mono {a b : Rat} (h : a ≤ b) : r a ≤ r b := (hr a).mono (hr b) h

theorem floor_le (q : Rat) : q.floor ≤ r q := (hr.intCast _).ge.trans (hr.mono (Rat.floor_le q))

theorem le_ceil (q : Rat) : r q ≤ q.ceil := (hr.mono Rat.le_ceil).trans_eq (hr.intCast _)

/-- `tie_even` with the tie given at the floor. -/
theorem even_of_tie {q : Rat} (h : q - (q.floor : Rat) = 1 / 2) : r q % 2 = 0 := by
  by_cases he : q.floor % 2 = 0
  · rw [(hr q).unique (nearest_floor rfl h.le fun _ => he)]; exact he
  · rw [(hr q).unique (nearest_floor_succ rfl h.ge fun _ => he)]; omega

end HalfEven
end Navis

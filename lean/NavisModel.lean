import NavisModel.Props.C01
import NavisModel.Props.C02
import NavisModel.Props.C03
import NavisModel.Props.C04
import NavisModel.Props.C05
import NavisModel.Props.C06
import NavisModel.Props.C07
import NavisModel.Props.C08
import NavisModel.Props.C09
import NavisModel.Props.C10
import NavisModel.Props.C11
import NavisModel.Props.C12
import NavisModel.Props.C13
import NavisModel.Props.C14
import NavisModel.Props.C15
import NavisModel.Props.C16
import NavisModel.Props.C17
import NavisModel.Props.C18
import NavisModel.Props.C19
import NavisModel.Props.C20
import NavisModel.Gen.Bridge
import NavisModel.Model.Tps
import NavisModel.Proofs.TpsLemmas
import NavisModel.Model.ResampleSkip
import NavisModel.Model.OpsX
import NavisModel.Model.SomaInterp
import NavisModel.Gen.SomaSpec
import NavisModel.Proofs.ResampleSkipLemmas
import NavisModel.Proofs.OpsXLemmas
import NavisModel.Proofs.CacheTraceLemmas
import NavisModel.Gen.Dist
import NavisModel.Model.DistX
import NavisModel.Model.DistGen
import NavisModel.Model.MeshGeo
import NavisModel.Proofs.DistXLemmas
import NavisModel.Proofs.DistXSegLemmas
import NavisModel.Model.EdgeDtype
import NavisModel.Proofs.EdgeDtypeLemmas
